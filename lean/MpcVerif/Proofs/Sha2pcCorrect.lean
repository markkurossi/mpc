/-
Composition: the four model rounds (Model/Sha2pcRounds.lean) deliver `circuit (a, b)` to the evaluator,
from C01 (garbled evaluation decodes to plain evaluation) and C06
(Chou-Orlandi delivers the chosen label).
-/
import MpcVerif.Proofs.Sha2pcRounds
import MpcVerif.Props.C01
import MpcVerif.Props.C06

namespace Mpc.Sha2pc

variable {G : Type}

theorem encrypt_congr (Γ : Co.Group G) (kdf : G → Nat → Label) (s : Co.SenderSetup G) (n : Nat)
    (p p' : Nat → G) (w : Nat → Label × Label) (h : ∀ i, i < n → p i = p' i) :
    Co.encrypt Γ (fun _ => true) kdf s n p w = Co.encrypt Γ (fun _ => true) kdf s n p' w := by
  rw [Co.encrypt_eq_some _ _ _ _ _ _ _ rfl fun _ _ => rfl, Co.encrypt_eq_some _ _ _ _ _ _ _ rfl fun _ _ => rfl]
  exact congrArg some (List.map_congr_left fun i hi => by rw [h i (List.mem_range.1 hi)])

/-- `p` is not the point at infinity: `IsOnCurve` accepts its coordinates. -/
def Crypto.onCurve (K : Crypto G) (p : G) : Prop := K.ofPt (K.toPt p) = some p

theorem evalStore_eq_encodeInputs (c : Circuit) (Gd : Garbled Label) (bitsA bitsB : List Bool)
    (ha : bitsA.length = nBits) (hb : bitsB.length = nBits) (hnin : c.nIn = nBits + nBits)
    (labels : List Label) (hl : labels.length = nBits)
    (hlab : ∀ i, i < nBits → labels.getD i 0#128 = (Gd.wires.get (nBits + i)).labelFor (bitsB.getD i false)) :
    evalStore c.numWires ((List.range nBits).map fun i => (Gd.wires.get i).labelFor (bitsA.getD i false)) labels =
      encodeInputs c Gd (bitsA ++ bitsB) := by
  unfold evalStore encodeInputs
  refine congrArg (Array.map · _) (funext fun i => ?_)
  simp only [List.getD_eq_getElem?_getD] at hlab ⊢
  by_cases h1 : i < nBits
  · rw [if_pos h1, if_pos (by omega), List.getElem?_map, List.getElem?_range h1, List.getElem?_append_left (by omega)]
    rfl
  · by_cases h2 : i < c.nIn
    · rw [if_neg h1, if_pos h2, List.getElem?_append_right (by omega), ha, hlab _ (by omega),
        show nBits + (i - nBits) = i by omega]
      rfl
    · rw [if_neg h1, if_neg h2, List.getElem?_eq_none (by omega)]
      rfl

theorem decodeOutputs_hints (c : Circuit) (Gd : Garbled Label) (out : Store Label) (x : List Bool)
    (hod : c.outputsDefined = true)
    (hbits : ∀ w, c.defined w = true → (Gd.wires.get w).bitFrom (out.get w) = some ((c.plainEval x).get w)) :
    decodeOutputs ((List.range c.nOut).map fun i =>
        ((Gd.wires.get (c.numWires - c.nOut + i)).l0, (Gd.wires.get (c.numWires - c.nOut + i)).l1)) out
      (c.numWires - c.nOut) = some (c.compute x) := by
  rw [decodeOutputs, Circuit.compute_eq]
  simp only [List.length_map, List.length_range]
  refine mapM_option_map _ _ _ fun i hi => ?_
  rw [getD_range_map, if_pos (List.mem_range.1 hi)]
  exact hbits _ (List.all_eq_true.mp hod i hi)

/-- Stated as `C18_sha2pc_correct_given_circuit_partial` (Props/C18.lean).  `hA`, `hI`, `hP`: none of the points that
occur is the point at infinity. -/
theorem correct_given_circuit (P : Params G) (a b : Bytes) (aS sid : Nat) (scalars : List Nat) (key : Bytes)
    (r0 : Label) (inl : Nat → Label)
    (hwf : P.circ.WF = true) (hnin : P.circ.nIn = nBits + nBits) (hnout : P.circ.nOut = nBits)
    (hod : P.circ.outputsDefined = true) (ha : a.length = 32) (hb : b.length = 32)
    (hA : P.crypto.onCurve (Co.senderSetup P.crypto.Γ P.crypto.g aS).A)
    (hI : P.crypto.onCurve (Co.senderSetup P.crypto.Γ P.crypto.g aS).AaInv)
    (hP : ∀ i, i < nBits → P.crypto.onCurve (Co.choicePoint P.crypto.Γ P.crypto.g
      (Co.senderSetup P.crypto.Γ P.crypto.g aS).A (scalars.getD i 0) ((bytesToBits b).getD i false))) :
    ∃ m2 es m3, round2 P (round1 P aS sid).1 b scalars = .ok (m2, es) ∧
      round3 P (round1 P aS sid).2 a m2 key r0 inl = .ok m3 ∧
      round4 P es m3 = .ok (bitsToBytes (P.circ.compute (bytesToBits a ++ bytesToBits b))) := by
  obtain ⟨curve, K, c, hashOf⟩ := P
  simp only at hwf hnin hnout hod hA hI hP ⊢
  have hbitsA : (bytesToBits a).length = nBits := bytesToBits_length_signBytes ha
  have hbitsB : (bytesToBits b).length = nBits := bytesToBits_length_signBytes hb
  -- C06_co_delivers is stated about `Co.encryptO` / `Co.decryptO`, which make the on-curve checks of `A`, `AaInv`
  -- and the points themselves (`valid`); this model makes those checks itself (`ofPt`: hA, hI, hP) and calls
  -- `Co.encrypt` / `Co.decrypt`.  At `valid := fun _ => true` the two coincide (`Co.encryptO_eq_encrypt`,
  -- `Co.decryptO_eq_decrypt`).  The scalars are given in the form in which the evaluator's session stores them.
  obtain ⟨cts, henc, hclen, _, hdec, _, hdel⟩ := C06_co_delivers K.Γ (fun _ => true) K.kdf K.g aS nBits
    (fun i => ((List.range nBits).map fun i => scalars.getD i 0).getD i 0) (fun i => (bytesToBits b).getD i false)
    (fun i => (((c.garble (hashOf key) (setS r0) inl).wires.get (nBits + i)).l0,
               ((c.garble (hashOf key) (setS r0) inl).wires.get (nBits + i)).l1)) rfl rfl (fun _ _ => rfl)
  rw [Co.encryptO_eq_encrypt _ _ _ _ _ _ _ rfl] at henc
  rw [Co.decryptO_eq_decrypt _ _ _ _ _ _ _ _ rfl] at hdec
  cases hdec
  rw [Co.senderSetupO_ops] at hdel
  refine ⟨_, _, _, round2_eq_ok.mpr ⟨rfl, hbitsB, _, hA, rfl⟩, round3_eq_ok.mpr ⟨rfl, hbitsA, cts,
    encryptCO_eq_ok.mpr ⟨_, _, (List.range nBits).map fun i => Co.choicePoint K.Γ K.g (Co.senderSetup K.Γ K.g aS).A
      (scalars.getD i 0) ((bytesToBits b).getD i false), hA, hI, by rw [List.length_map, List.length_range], ?_, ?_⟩, rfl⟩, ?_⟩
  · rw [List.mapM_map]
    exact mapM_option_map _ _ _ fun i hi => hP i (List.mem_range.1 hi)
  · rw [← henc]
    exact encrypt_congr _ _ _ _ _ _ _ fun i hi => by
      rw [getD_range_map, if_pos hi, getD_range_map, if_pos hi]
      rfl
  · unfold round4
    simp only [round1, List.length_map, List.length_range]
    rw [if_neg (by simp [nBits]), if_neg (by simp)]
    unfold decryptCO
    rw [show K.ofPt _ = _ from hA]
    simp only [List.length_map, List.length_range, hbitsB, hclen, ne_eq, not_true_eq_false, or_self, if_false]
    rw [evalStore_eq_encodeInputs c _ (bytesToBits a) (bytesToBits b) hbitsA hbitsB hnin _
      (by rw [Co.decrypt, List.length_map, List.length_range]) hdel]
    obtain ⟨out, hev, hbits⟩ := C01_decode (hashOf key) c (setS r0) (setS_msb r0) inl
      (bytesToBits a ++ bytesToBits b) hwf
    rw [hev]
    simp only
    rw [decodeOutputs_hints c _ out _ hod hbits]
    simp only
    rw [if_neg (not_not_intro (show _ = 32 from bitsToBytes_length_nBits ?_))]
    simp [hnout]

end Mpc.Sha2pc
