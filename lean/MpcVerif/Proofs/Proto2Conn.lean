/-
C02 over the connection layer (Model/Proto2Conn.lean): a flight of typed protocol messages, whatever its size relative
to the 64 KiB write buffer and the 1 MiB read window, sent under any writer schedule and read under any transport
fragmentation by a receive half with nothing unread, arrives as exactly the same messages (`recvFlight_ok`); the
garbler's first flight is inside the domain of the typed API (`flight1_fits`).
-/
import MpcVerif.Model.Proto2Conn
import MpcVerif.Proofs.ConnSend
import MpcVerif.Proofs.ConnRecv
import MpcVerif.Proofs.Proto2

namespace Mpc
open Conn

theorem Msg.ofVal_toVal (m : Msg (BitVec 128)) : Msg.ofVal m.toVal = some m := by
  cases m with
  | data bs => simp [Msg.toVal, Msg.ofVal]
  | u32 n => rfl
  | label l => simp [Msg.toVal, Msg.ofVal]

theorem Msg.toVal_valid (m : Msg (BitVec 128)) (h : m.Fits) : m.toVal.Valid := by
  cases m with
  | data bs => simpa [Msg.toVal, Val.Valid, Msg.Fits, ByteArray.size] using h
  | u32 n => simpa [Msg.toVal, Val.Valid, Msg.Fits] using h
  | label l => simp [Msg.toVal, Val.Valid]; exact l.isLt

theorem Msg.map_toVal_valid (ms : List (Msg (BitVec 128))) (hfit : ∀ m ∈ ms, m.Fits) :
    ∀ v ∈ ms.map Msg.toVal, v.Valid := by
  intro v hv
  obtain ⟨m, hm, rfl⟩ := List.mem_map.mp hv
  exact Msg.toVal_valid m (hfit m hm)

theorem Msg.mapM_ofVal_toVal (ms : List (Msg (BitVec 128))) :
    (ms.map Msg.toVal).mapM Msg.ofVal = some ms := by
  induction ms with
  | nil => rfl
  | cons m ms ih => simp [List.mapM_cons, Msg.ofVal_toVal, ih]

theorem opsVals_sends (ms : List (Msg (BitVec 128))) :
    opsVals (ms.map fun m => Op.send m.toVal) = ms.map Msg.toVal := by
  induction ms with
  | nil => rfl
  | cons m ms ih => simp only [List.map_cons, opsVals, ih]

theorem flightBytes_eq (sch : Sched) (ms : List (Msg (BitVec 128))) :
    flightBytes sch ms = encodeVals (ms.map Msg.toVal) := by
  rw [flightBytes, (close_spec sch (run_init sch _)).2.2.2, encodeAll_eq_encodeVals, opsVals_sends]

theorem feed_spec (r : Recv) (b : ByteArray) (hi : RInv r) (hu : r.unread = ByteArray.empty) :
    RInv (r.feed b) ∧ (r.feed b).unread = b := by
  have h := append_pend_spec r b hi
  rwa [hu, ByteArray.empty_append] at h

theorem recvFlight_ok (sch : Sched) (frag : Frag) (r : Recv) (ms : List (Msg (BitVec 128)))
    (hfit : ∀ m ∈ ms, m.Fits) (hi : RInv r) (hu : r.unread = ByteArray.empty) :
    ∃ r', recvFlight frag r (flightBytes sch ms) ms = .ok (ms, r') ∧ RInv r' ∧
      r'.unread = ByteArray.empty := by
  obtain ⟨fi, fu⟩ := feed_spec r (flightBytes sch ms) hi hu
  obtain ⟨r', e, i, u, _⟩ := recvAll_spec frag (ms.map Msg.toVal) (Msg.map_toVal_valid ms hfit)
    (r.feed (flightBytes sch ms)) fi
    ByteArray.empty (by rw [fu, flightBytes_eq]; simp)
  refine ⟨r', ?_, i, u⟩
  simp only [List.map_map, Function.comp_def] at e
  simp only [recvFlight, e, Msg.mapM_ofVal_toVal]

theorem natToBytesBE_length_le (k n : Nat) (h : n < 2 ^ k) : (natToBytesBE n).length ≤ k :=
  (natToBytesBE_length_le_iff k n).mpr (Nat.lt_of_lt_of_le h (Nat.pow_le_pow_left (by decide) k))

theorem garble_rows_lt (c : Circuit) (H : Hash (BitVec 128)) (r : BitVec 128) (inl : Nat → BitVec 128) :
    ∀ row ∈ (c.garble H r inl).rows, row.length < 2 ^ 32 := by
  intro row hrow
  have hm : row.length ∈ (c.garble H r inl).rows.map List.length := List.mem_map_of_mem hrow
  rw [garble_rows_lengths] at hm
  obtain ⟨g, _, hg⟩ := List.mem_map.mp hm
  rw [← hg]
  cases g.op <;> simp [Op.rows]

theorem flight1_fits (p : Circuit2) (key : List UInt8) (H : Hash (BitVec 128)) (r : BitVec 128)
    (inl : Nat → BitVec 128) (x : List Bool) (hk : key.length < 2 ^ 32)
    (hg : p.c.gates.length < 2 ^ 32) :
    ∀ m ∈ garblerFlight1 p key (p.c.garble H r inl) x, m.Fits := by
  intro m hm
  simp only [garblerFlight1, tablesMsgs, List.mem_cons, List.mem_append, List.mem_flatMap,
    List.mem_map] at hm
  rcases hm with rfl | (rfl | ⟨row, hrow, rfl | ⟨l, _, rfl⟩⟩) | ⟨l, _, rfl⟩
  · exact hk
  · simp only [Msg.Fits]; rw [garble_rows_count]; exact hg
  · exact garble_rows_lt p.c H r inl row hrow
  · trivial
  · trivial

end Mpc
