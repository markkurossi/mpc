/-
Histories of builder calls on one builder state (Model/BuildersHist.lean, C07).  Every unit of Proofs/Builders*.lean
holds from an ARBITRARY well-formed state, hence after any earlier calls.  A call of a history has a precondition that
may depend on earlier results, so its specification puts the conditions on the VALUES of operand and result wires:
`Sound2` / `Sound3` (`Sound2.of_num`, `Sound2.of_bits`: a unit between named values is one), `SCall`.  These are stated
on `Bnd` / `busVal`; they are applied to buses known through a `Bits` / `Cols` fact (`Sound2.on`, `SCall.Sound.on`), and
the proofs in between carry only such facts.  `runHist_cols` is the fold over a history of calls (`Trace`),
`evalHistory_spec` the circuit the harness builds for a history (inputs, prologue, calls, `ret` of every result).
-/
import MpcVerif.Model.BuildersHist
import MpcVerif.Proofs.BuildersDiv
import MpcVerif.Proofs.EvalBits

namespace Mpc.Bld
open Mpc

/-- The conditions are on VALUES; the quantifiers range over every well-formed state and any existing operand wires. -/
def Sound2 (inp : List Bool) (b : List Nat → List Nat → BM (List Nat))
    (pre : List Bool → List Bool → Prop) (post : List Bool → List Bool → List Bool → Prop) : Prop :=
  ∀ (s : St) (xw yw : List Nat), WF s inp → Bnd s xw → Bnd s yw → pre (busVal s inp xw) (busVal s inp yw) →
    Spec inp s (b xw yw) (fun z s' => Bnd s' z ∧ post (busVal s inp xw) (busVal s inp yw) (busVal s' inp z))

def Sound3 (inp : List Bool) (b : List Nat → List Nat → List Nat → BM (List Nat))
    (pre : List Bool → List Bool → List Bool → Prop)
    (post : List Bool → List Bool → List Bool → List Bool → Prop) : Prop :=
  ∀ (s : St) (xw yw ww : List Nat), WF s inp → Bnd s xw → Bnd s yw → Bnd s ww →
    pre (busVal s inp xw) (busVal s inp yw) (busVal s inp ww) →
    Spec inp s (b xw yw ww) (fun z s' => Bnd s' z ∧
      post (busVal s inp xw) (busVal s inp yw) (busVal s inp ww) (busVal s' inp z))

variable {s : St} {inp : List Bool} {acc : List (List Nat)} {v : List (List Bool)}

theorem Sound2.of_num {b : List Nat → List Nat → BM (List Nat)} {pre : List Bool → List Bool → Prop}
    {n : Nat} {F : List Bool → List Bool → Nat}
    (h : ∀ {s : St} {xw yw : List Nat} {xv yv : List Bool}, WF s inp → Bits s inp xw xv → Bits s inp yw yv → pre xv yv →
      Spec inp s (b xw yw) (fun z s' => Num s' inp z n (F xv yv))) :
    Sound2 inp b pre (fun x y z => z.length = n ∧ toNat z = F x y) :=
  fun _ _ _ hwf hx hy hp => (h hwf (.of hx) (.of hy) hp).mono fun _ _ _ h =>
    ⟨h.bnd, by rw [busVal_length, h.len], h.val⟩

theorem Sound2.of_bits {b : List Nat → List Nat → BM (List Nat)} {pre : List Bool → List Bool → Prop}
    {F : List Bool → List Bool → List Bool}
    (h : ∀ {s : St} {xw yw : List Nat} {xv yv : List Bool}, WF s inp → Bits s inp xw xv → Bits s inp yw yv → pre xv yv →
      Spec inp s (b xw yw) (fun z s' => Bits s' inp z (F xv yv))) :
    Sound2 inp b pre (fun x y z => z = F x y) :=
  fun _ _ _ hwf hx hy hp => (h hwf (.of hx) (.of hy) hp).mono fun _ _ _ h => ⟨h.bnd, h.val⟩

theorem Sound2.on {b : List Nat → List Nat → BM (List Nat)} {pre : List Bool → List Bool → Prop}
    {post : List Bool → List Bool → List Bool → Prop} (h : Sound2 inp b pre post) {xw yw : List Nat}
    {xv yv : List Bool} (hwf : WF s inp) (hx : Bits s inp xw xv) (hy : Bits s inp yw yv) (hp : pre xv yv) :
    Spec inp s (b xw yw) (fun z s' => Bnd s' z ∧ post xv yv (busVal s' inp z)) := by
  obtain ⟨hx, rfl⟩ := hx
  obtain ⟨hy, rfl⟩ := hy
  exact h s xw yw hwf hx hy hp

theorem Sound3.on {b : List Nat → List Nat → List Nat → BM (List Nat)}
    {pre : List Bool → List Bool → List Bool → Prop} {post : List Bool → List Bool → List Bool → List Bool → Prop}
    (h : Sound3 inp b pre post) {xw yw ww : List Nat} {xv yv wv : List Bool} (hwf : WF s inp)
    (hx : Bits s inp xw xv) (hy : Bits s inp yw yv) (hw : Bits s inp ww wv) (hp : pre xv yv wv) :
    Spec inp s (b xw yw ww) (fun z s' => Bnd s' z ∧ post xv yv wv (busVal s' inp z)) := by
  obtain ⟨hx, rfl⟩ := hx
  obtain ⟨hy, rfl⟩ := hy
  obtain ⟨hw, rfl⟩ := hw
  exact h s xw yw ww hwf hx hy hw hp

theorem evalBuilder3_num2 {b : List Nat → List Nat → List Nat → BM (List Nat × List Nat)} {x y w : List Bool}
    {n₁ n₂ V₁ V₂ : Nat}
    (hb : ∀ {s : St} {inp : List Bool} {xw yw ww : List Nat}, WF s inp → Bits s inp xw x → Bits s inp yw y →
      Bits s inp ww w → Spec inp s (b xw yw ww) (fun t s' => Num s' inp t.1 n₁ V₁ ∧ Num s' inp t.2 n₂ V₂))
    (pro : Bool) (hpos : 0 < x.length + y.length + w.length) :
    ((evalBuilder3 (fun x y z => do let d ← b x y z; pure d.1) pro x y w).length = n₁ ∧
      toNat (evalBuilder3 (fun x y z => do let d ← b x y z; pure d.1) pro x y w) = V₁) ∧
    ((evalBuilder3 (fun x y z => do let d ← b x y z; pure d.2) pro x y w).length = n₂ ∧
      toNat (evalBuilder3 (fun x y z => do let d ← b x y z; pure d.2) pro x y w) = V₂) :=
  ⟨evalBuilder3_spec (R := fun z => z.length = n₁ ∧ toNat z = V₁) (fun hwf hx hy hw => (hb hwf hx hy hw).map
      fun _ _ _ ⟨h, _⟩ => ⟨h.bnd, by rw [busVal_length, h.len], h.val⟩) pro hpos,
    evalBuilder3_spec (R := fun z => z.length = n₂ ∧ toNat z = V₂) (fun hwf hx hy hw => (hb hwf hx hy hw).map
      fun _ _ _ ⟨_, h⟩ => ⟨h.bnd, by rw [busVal_length, h.len], h.val⟩) pro hpos⟩

/-- The wire values the harness reads, through `evalBits`: the form in which the kernel runs a circuit whose
result has to be found by evaluation (`simp only [evalBuilder, map_val_bits]; decide +kernel`). -/
theorem map_val_bits (s : St) (inp : List Bool) (ws : List Nat) :
    ws.map (s.val inp) = ws.map (evalBits s.gates.toList (toNat inp) inp.length).testBit :=
  List.map_congr_left fun w _ => St.vals_getD s inp w

def busVals (s : St) (inp : List Bool) (acc : List (List Nat)) : List (List Bool) := acc.map (busVal s inp)

def BndAll (s : St) (acc : List (List Nat)) : Prop := ∀ b ∈ acc, Bnd s b

/-- `BndAll s acc` and `busVals s inp acc = v` are the two fields of `Cols s inp acc v`; the proofs below carry that
fact. -/
theorem Cols.of_all (h : BndAll s acc) : Cols s inp acc (busVals s inp acc) := ⟨h, rfl⟩

theorem Cols.vals (h : Cols s inp acc v) : busVals s inp acc = v := h.val

/-- A call together with its specification: `pre` is a condition on the values
of the buses known before the call (e.g. "the divisor is not zero"), `post`
relates those values to the value of the result. -/
structure SCall where
  call : Call
  pre  : List (List Bool) → Prop
  post : List (List Bool) → List Bool → Prop

def SCall.Sound (inp : List Bool) (c : SCall) : Prop :=
  ∀ (s : St) (acc : List (List Nat)), WF s inp → BndAll s acc → c.pre (busVals s inp acc) →
    Spec inp s (c.call acc) (fun z s' => Bnd s' z ∧ c.post (busVals s inp acc) (busVal s' inp z))

theorem SCall.Sound.of {c : SCall}
    (h : ∀ {s : St} {acc : List (List Nat)} {v : List (List Bool)}, WF s inp → Cols s inp acc v → c.pre v →
      Spec inp s (c.call acc) (fun z s' => Bnd s' z ∧ c.post v (busVal s' inp z))) : c.Sound inp :=
  fun _ _ hwf hb hp => h hwf (.of_all hb) hp

theorem SCall.Sound.on {c : SCall} (h : c.Sound inp) (hwf : WF s inp) (ha : Cols s inp acc v) (hp : c.pre v) :
    Spec inp s (c.call acc) (fun z s' => ∃ zv, Bits s' inp z zv ∧ c.post v zv) := by
  obtain ⟨hb, rfl⟩ := ha
  exact (h s acc hwf hb hp).mono fun z s' _ ⟨hz, hpost⟩ => ⟨_, .of hz, hpost⟩

/-- The preconditions along a history follow from the values at the start and
the postconditions of the earlier calls. -/
def PreOk : List SCall → List (List Bool) → Prop
  | [], _ => True
  | c :: cs, v => c.pre v ∧ ∀ z, c.post v z → PreOk cs (v ++ [z])

/-- `Trace cs v0 v`: `v` extends `v0` by one result value per call and every
call's postcondition holds between the values before it and its result. -/
def Trace : List SCall → List (List Bool) → List (List Bool) → Prop
  | [], v0, v => v = v0
  | c :: cs, v0, v => ∃ z, c.post v0 z ∧ Trace cs (v0 ++ [z]) v

theorem Trace.append : ∀ (cs : List SCall) (v0 v : List (List Bool)), Trace cs v0 v →
    ∃ w, v = v0 ++ w ∧ w.length = cs.length
  | [], v0, v, h => ⟨[], by simpa [Trace] using h, rfl⟩
  | c :: cs, v0, v, ⟨z, _, ht⟩ => by
    obtain ⟨w, rfl, hw⟩ := Trace.append cs _ _ ht
    exact ⟨z :: w, by simp, by simp [hw]⟩

theorem Trace.length : ∀ (cs : List SCall) (v0 v : List (List Bool)), Trace cs v0 v →
    v.length = v0.length + cs.length := fun cs v0 v h => by
  obtain ⟨w, rfl, hw⟩ := Trace.append cs v0 v h
  simp [hw]

theorem Trace.prefix : ∀ (cs : List SCall) (v0 v : List (List Bool)), Trace cs v0 v →
    v.take v0.length = v0 := fun cs v0 v h => by
  obtain ⟨w, rfl, _⟩ := Trace.append cs v0 v h
  simp

theorem runHist_cols {inp : List Bool} : ∀ (cs : List SCall), (∀ c ∈ cs, c.Sound inp) →
    ∀ {s : St} {acc : List (List Nat)} {v : List (List Bool)}, WF s inp → Cols s inp acc v → PreOk cs v →
    Spec inp s (runHist (cs.map (·.call)) acc) (fun out s' => ∃ v', Cols s' inp out v' ∧ Trace cs v v')
  | [], _, s, acc, v, hwf, hc, _ => by
    simp only [List.map_nil, runHist]
    exact Spec.pure hwf ⟨v, hc, rfl⟩
  | c :: cs, hs, s, acc, v, hwf, hc, hpre => by
    simp only [List.map_cons, runHist]
    refine Spec.bind ((hs c (by simp)).on hwf hc hpre.1) ?_
    intro z s1 e1 ⟨zv, hz, hpost⟩
    refine (runHist_cols cs (fun c' hc' => hs c' (List.mem_cons_of_mem _ hc')) e1.wf ((hc.mono e1).snoc hz)
      (hpre.2 _ hpost)).mono ?_
    intro out s2 _ ⟨v', ho, htr⟩
    exact ⟨v', ho, zv, hpost, htr⟩

theorem retBuses_cols {inp : List Bool} : ∀ (bs : List (List Nat)) {cv : List (List Bool)} {s : St}, WF s inp →
    Cols s inp bs cv → Spec inp s (retBuses bs) (fun o s' => Cols s' inp o cv)
  | [], cv, s, hwf, h => by
    obtain rfl := h.of_nil
    simp only [retBuses]; exact Spec.pure hwf .nil
  | b :: bs, cv, s, hwf, h => by
    obtain ⟨bv, cv, rfl, hb, hbs⟩ := h.uncons
    simp only [retBuses]
    refine Spec.bind (retWires_bits b hwf hb) ?_
    intro o s1 e1 ho
    refine Spec.bind (retBuses_cols bs e1.wf (hbs.mono e1)) ?_
    intro r s2 e2 hr
    exact Spec.pure e2.wf (.cons (ho.mono e2) hr)

theorem Cols.inputBuses {s : St} {inp : List Bool} (hwf : WF s inp) : ∀ (ins : List (List Bool)) (pre : List Bool),
    inp = pre ++ ins.flatten → Cols s inp (inputBuses pre.length (ins.map List.length)) ins
  | [], _, _ => .nil
  | x :: xs, pre, hi => by
    subst hi
    have hl : pre.length + x.length ≤ (pre ++ (x :: xs).flatten).length := by simp
    have hx : Bits s (pre ++ (x :: xs).flatten) (inputWires pre.length x.length) x :=
      ⟨inputWires_bnd (Ext.refl hwf) _ _ (hwf.len ▸ hl), by rw [inputWires_val _ _ _ _ hl]; simp⟩
    have h2 := Cols.inputBuses hwf xs (pre ++ x) (by simp)
    rw [List.length_append] at h2
    exact .cons hx h2

theorem inputBuses_length : ∀ (ws : List Nat) (ofs : Nat), (inputBuses ofs ws).length = ws.length
  | [], _ => rfl
  | n :: ns, ofs => by
    simp only [inputBuses, List.length_cons]
    rw [inputBuses_length ns]

theorem evalHistory_spec {ins : List (List Bool)} (cs : List SCall)
    (hs : ∀ c ∈ cs, c.Sound ins.flatten) (hpre : PreOk cs ins) (pro : Bool) (hpos : 0 < ins.flatten.length) :
    Trace cs ins (ins ++ evalHistory pro ins (cs.map (·.call))) := by
  have hl : ins.flatten.length = (ins.map List.length).sum := List.length_flatten
  have e0 := initSt_ext hl (by omega) pro
  obtain ⟨e1, v', hout, htr⟩ := runHist_cols cs hs e0.wf (Cols.inputBuses e0.wf ins [] rfl) hpre
  obtain ⟨w, rfl, _⟩ := Trace.append _ _ _ htr
  simp only [evalHistory, runHistory]
  generalize runHist (cs.map (·.call)) (inputBuses 0 (ins.map List.length))
    (initSt (ins.map List.length).sum pro) = R at e1 hout ⊢
  -- the outputs are `ret` of the buses after the inputs, and those carry the trace after `ins`
  obtain ⟨_, hov⟩ := retBuses_cols (R.1.drop (ins.map List.length).length) e1.wf (hout.drop _)
  change Trace cs ins (ins ++ List.map (busVal _ ins.flatten) _)
  rw [hov.val, List.length_map, List.drop_left]
  exact htr

theorem evalHistory_one {ins : List (List Bool)} (c : SCall) (hs : c.Sound ins.flatten) (hpre : c.pre ins)
    (pro : Bool) (hpos : 0 < ins.flatten.length) : ∃ z, evalHistory pro ins [c.call] = [z] ∧ c.post ins z := by
  obtain ⟨z, hz, heq⟩ := evalHistory_spec [c] (by simpa using hs) ⟨hpre, fun _ _ => trivial⟩ pro hpos
  exact ⟨z, List.append_cancel_left heq, hz⟩

theorem evalHistory_two {ins : List (List Bool)} (c₁ c₂ : SCall) (h₁ : c₁.Sound ins.flatten)
    (h₂ : c₂.Sound ins.flatten) (hp₁ : c₁.pre ins) (hp₂ : ∀ z, c₁.post ins z → c₂.pre (ins ++ [z]))
    (pro : Bool) (hpos : 0 < ins.flatten.length) :
    ∃ z₁ z₂, evalHistory pro ins [c₁.call, c₂.call] = [z₁, z₂] ∧ c₁.post ins z₁ ∧ c₂.post (ins ++ [z₁]) z₂ := by
  obtain ⟨z₁, hz₁, z₂, hz₂, heq⟩ := evalHistory_spec [c₁, c₂] (by simp [h₁, h₂])
    ⟨hp₁, fun z hz => ⟨hp₂ z hz, fun _ _ => trivial⟩⟩ pro hpos
  exact ⟨z₁, z₂, List.append_cancel_left (heq.trans (List.append_assoc ins [z₁] [z₂])), hz₁, hz₂⟩

def pickV (v : List (List Bool)) (x : Nat × Nat × Nat) : List Bool := ((v.getD x.1 []).drop x.2.1).take x.2.2

theorem pickV_zero (x : List Bool) (v : List (List Bool)) : pickV (x :: v) (0, 0, x.length) = x := by simp [pickV]

theorem pickV_succ (x : List Bool) (v : List (List Bool)) (k lo len : Nat) :
    pickV (x :: v) (k + 1, lo, len) = pickV v (k, lo, len) := rfl

theorem Cols.pick (h : Cols s inp acc v) (k lo len : Nat) : Bits s inp (pick acc k lo len) (pickV v (k, lo, len)) :=
  ((h.getD .nil k).drop lo).take len

/-- `x`, `y` = (bus, first wire, length): the slices `pick` takes of the known buses. -/
def SCall.of2 (b : List Nat → List Nat → BM (List Nat)) (x y : Nat × Nat × Nat)
    (pre : List Bool → List Bool → Prop) (post : List Bool → List Bool → List Bool → Prop) : SCall :=
  { call := fun acc => b (pick acc x.1 x.2.1 x.2.2) (pick acc y.1 y.2.1 y.2.2)
    pre := fun v => pre (pickV v x) (pickV v y)
    post := fun v z => post (pickV v x) (pickV v y) z }

theorem SCall.of2_sound {inp : List Bool} {b : List Nat → List Nat → BM (List Nat)} (x y : Nat × Nat × Nat)
    {pre : List Bool → List Bool → Prop} {post : List Bool → List Bool → List Bool → Prop}
    (hb : Sound2 inp b pre post) : (SCall.of2 b x y pre post).Sound inp :=
  .of fun hwf hc hpre => hb.on hwf (hc.pick ..) (hc.pick ..) hpre

def udivLongCall (gmw : Bool) (nq : Nat) (x y : Nat × Nat × Nat) : SCall :=
  SCall.of2 (fun a b => do let d ← uDividerLong gmw a b nq 0; pure d.1) x y
    (fun xv yv => 0 < max xv.length yv.length ∧ toNat yv ≠ 0)
    (fun xv yv z => z.length = nq ∧ toNat z = (toNat xv / toNat yv) % 2 ^ nq)

theorem udivLongCall_sound (inp : List Bool) (gmw : Bool) (nq : Nat) (x y : Nat × Nat × Nat) :
    (udivLongCall gmw nq x y).Sound inp :=
  SCall.of2_sound x y (.of_num fun hwf hx hy h =>
    (uDividerLong_num hwf gmw nq 0 hx.num hy.num h.1 (by omega)).map fun _ _ _ h => h.1)

def rippleAdderCall (nz : Nat) (x y : Nat × Nat × Nat) : SCall :=
  SCall.of2 (fun a b => rippleAdder a b nz) x y
    (fun xv yv => 0 < max xv.length yv.length ∧ 0 < nz)
    (fun xv yv z => z.length = nz ∧ toNat z = (toNat xv + toNat yv) % 2 ^ nz)

theorem rippleAdder_sound (inp : List Bool) (nz : Nat) :
    Sound2 inp (fun a b => rippleAdder a b nz) (fun xv yv => 0 < max xv.length yv.length ∧ 0 < nz)
      (fun xv yv z => z.length = nz ∧ toNat z = (toNat xv + toNat yv) % 2 ^ nz) :=
  .of_num fun hwf hx hy h => rippleAdder_num hwf nz hx.num hy.num h.1 h.2

theorem rippleAdderCall_sound (inp : List Bool) (nz : Nat) (x y : Nat × Nat × Nat) :
    (rippleAdderCall nz x y).Sound inp :=
  SCall.of2_sound x y (rippleAdder_sound inp nz)

def goldCall (nq : Nat) (x y : Nat × Nat × Nat) : Call := fun acc => do
  let d ← goldschmidt (pick acc x.1 x.2.1 x.2.2) (pick acc y.1 y.2.1 y.2.2) nq 0
  pure d.1

end Mpc.Bld
