/-
`wfArr` (Model/StreamDef.lean, what the driver op `c04def` runs) is `wfFrom`
(Model/Circuit.lean, the hypothesis of the streaming theorems of C04).
-/
import MpcVerif.Model.StreamDef

namespace Mpc

theorem wfArr_eq_wfFrom_aux (n : Nat) (gs : List Gate) :
    ∀ (d : Array Bool) (D : Nat → Bool), d.size = n → (∀ w, w < n → d.getD w false = D w) →
      wfArr n gs d = wfFrom n gs D := by
  induction gs with
  | nil => intro d D _ _; rfl
  | cons g gs ih =>
    intro d D hsz hd
    have ih' := ih (d.setIfInBounds g.out true) (fun w => w == g.out || D w) (by simp [hsz]) fun w hw => by
      show Store.get (Store.set d g.out true) w = _
      by_cases hwo : g.out = w
      · subst hwo
        rw [Store.get_set_eq _ _ _ (by omega), beq_self_eq_true, Bool.true_or]
      · rw [Store.get_set_ne _ _ _ _ hwo, beq_eq_false_iff_ne.2 (Ne.symm hwo), Bool.false_or]
        exact hd w hw
    simp only [wfArr, wfFrom, ih']
    -- the flags agree below `n`, and an input from `n` on fails the range test on both sides
    by_cases h0 : g.in0 < n
    · rw [hd _ h0]
      by_cases h1 : g.in1 < n
      · rw [hd _ h1]
      · cases g.op.binary <;> simp [h1]
    · simp [h0]

theorem wfArr_eq_wfFrom (n nIn : Nat) (gates : List Gate) :
    streamDefined n nIn gates = wfFrom n gates (fun w => decide (w < nIn)) := by
  apply wfArr_eq_wfFrom_aux
  · simp [inputFlags]
  · intro w hw
    simp [inputFlags, Array.getD, hw]

end Mpc
