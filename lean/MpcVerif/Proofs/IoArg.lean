/-
C13, on Model/IoArg.lean.  `Set` of a leaf, and `Set` and `Parse` of a list of
leaf members, are each one `writeBits` of a bit function that specifies the wires
(`setLeaf_eq`, `setMembers_eq` with `encLeaf` / `encMembers` for Go values;
`parseMembers_eq` with `concatWires` for parsed numbers), so that the two agree
where the bit functions do (`concat_eq_enc`); `Parse` of an array literal is
`packElems` of the shifted number (`parseLeaf_elem`), with its bits per element in
`testBit_packElems_lsh`.  Props/C13.lean states the encoding
in these terms.  Also the definitions of the code before the fix commits
(`bitLenOld`, `setIntOld`, `resultIntOld`) that the `C13_old_…` theorems are
about.  The `DecidableEq (Except ..)` instance is what `decide` in
Props/C13.lean compares results with.
-/
import MpcVerif.Model.IoArg
import MpcVerif.Proofs.ListLemmas

namespace Mpc.IoArg

instance {ε α : Type} [DecidableEq ε] [DecidableEq α] : DecidableEq (Except ε α)
  | .ok a, .ok b => if h : a = b then isTrue (by rw [h]) else isFalse (by intro e; cases e; exact h rfl)
  | .error a, .error b => if h : a = b then isTrue (by rw [h]) else isFalse (by intro e; cases e; exact h rfl)
  | .ok _, .error _ => isFalse (by intro e; cases e)
  | .error _, .ok _ => isFalse (by intro e; cases e)

theorem testBit_setBit (n i : Nat) (b : Bool) (j : Nat) :
    (setBit n i b).testBit j = if j = i then b else n.testBit j := by
  unfold setBit
  by_cases hj : j = i
  · subst hj
    split
    · simp [*]
    · cases hb : n.testBit j <;> cases b <;> simp_all [Nat.one_shiftLeft]
  · split <;> simp [Nat.one_shiftLeft, Ne.symm hj]

theorem testBit_writeBits (r off n : Nat) (f : Nat → Bool) (j : Nat) :
    (writeBits r off n f).testBit j =
      if off ≤ j ∧ j < off + n then f (j - off) else r.testBit j := by
  unfold writeBits
  induction n with
  | zero => simp; omega
  | succ n ih =>
    rw [List.range_succ, List.foldl_append]
    simp only [List.foldl_cons, List.foldl_nil, testBit_setBit, ih]
    by_cases h1 : j = off + n
    · subst h1; simp
    · have : (off ≤ j ∧ j < off + (n + 1)) ↔ (off ≤ j ∧ j < off + n) := by omega
      simp only [h1, if_false, this]

theorem testBit_writeBits_lt {r off n : Nat} {f : Nat → Bool} {j : Nat} (h : j < off) :
    (writeBits r off n f).testBit j = r.testBit j := by
  rw [testBit_writeBits, if_neg (by omega)]

theorem testBit_writeBits_ge {r off n : Nat} {f : Nat → Bool} {j : Nat} (h : off + n ≤ j) :
    (writeBits r off n f).testBit j = r.testBit j := by
  rw [testBit_writeBits, if_neg (by omega)]

theorem testBit_writeBits_add {r off n : Nat} {f : Nat → Bool} {i : Nat} (h : i < n) :
    (writeBits r off n f).testBit (off + i) = f i := by
  rw [testBit_writeBits, if_pos (by omega), Nat.add_sub_cancel_left]

/-- `Set` starts from 0 and every member writes only its own wires, so the
wires of the members still to come are zero -/
def Clean (r o : Nat) : Prop := ∀ j, o ≤ j → r.testBit j = false

theorem clean_zero (o : Nat) : Clean 0 o := by intro j _; simp

theorem testBit_writeBits_zero (n : Nat) (f : Nat → Bool) (j : Nat) :
    (writeBits 0 0 n f).testBit j = (decide (j < n) && f j) := by
  rw [testBit_writeBits]
  by_cases h : j < n <;> simp [h]

theorem writeBits_congr {r o n : Nat} {f g : Nat → Bool} (h : ∀ i, i < n → f i = g i) :
    writeBits r o n f = writeBits r o n g :=
  Nat.eq_of_testBit_eq fun j => by
    simp only [testBit_writeBits]
    split
    · exact h _ (by omega)
    · rfl

theorem writeBits_writeBits (r o n m : Nat) (f g : Nat → Bool) :
    writeBits (writeBits r o n f) (o + n) m g =
      writeBits r o (n + m) (fun i => if i < n then f i else g (i - n)) :=
  Nat.eq_of_testBit_eq fun j => by
    simp only [testBit_writeBits]
    grind

theorem writeBits_pad {r o n m : Nat} {f : Nat → Bool} (hc : Clean r o) (hf : ∀ i, n ≤ i → f i = false)
    (hnm : n ≤ m) : writeBits r o n f = writeBits r o m f :=
  Nat.eq_of_testBit_eq fun j => by
    simp only [testBit_writeBits]
    -- between `o + n` and `o + m` the left side reads a clean wire, the right side a zero of `f`
    have := hc j
    have := hf (j - o)
    grind

theorem Clean.writeBits {r o : Nat} (hc : Clean r o) (n : Nat) (f : Nat → Bool) :
    Clean (writeBits r o n f) (o + n) := fun j hj => by
  rw [testBit_writeBits_ge hj]; exact hc j (by omega)

theorem ibit_ofNat (n i : Nat) : ibit (n : Int) i = n.testBit i := rfl

theorem testBit_lowBits (z : Int) (w i : Nat) :
    (lowBits z w).testBit i = (decide (i < w) && ibit z i) := by
  cases z with
  | ofNat n => simp [lowBits, ibit, Nat.testBit_mod_two_pow]
  | negSucc n =>
    simp only [lowBits, ibit]
    have hlt : n % 2 ^ w < 2 ^ w := Nat.mod_lt _ (Nat.two_pow_pos w)
    rw [Nat.sub_sub, Nat.add_comm, Nat.testBit_two_pow_sub_succ hlt, Nat.testBit_mod_two_pow]
    by_cases h : i < w <;> simp [h]

theorem lowBits_lt (z : Int) (w : Nat) : lowBits z w < 2 ^ w :=
  Nat.lt_pow_two_of_testBit _ fun i hi => by simp [testBit_lowBits, Nat.not_lt.2 hi]

theorem ibit_nonneg_lt {v : Int} {k j : Nat} (h0 : 0 ≤ v) (h : v < (2 ^ k : Nat)) (hj : k ≤ j) :
    ibit v j = false := by
  cases v with
  | ofNat n => exact testBit_of_lt_two_pow (Int.ofNat_lt.mp h) hj
  | negSucc n => exact absurd h0 (by simp)

theorem ibit_neg_ge {v : Int} {k j : Nat} (h0 : v < 0) (hlo : -((2 ^ k : Nat) : Int) ≤ v) (hj : k ≤ j) :
    ibit v j = true := by
  cases v with
  | ofNat n => exact absurd h0 (by simp)
  | negSucc n =>
    have hn : n < 2 ^ k := by rw [Int.negSucc_eq] at hlo; omega
    exact congrArg (!·) (testBit_of_lt_two_pow hn hj)

/-- the hypotheses: `v` is a value of an `int8…uint64` kind (`s`: signed kind) -/
theorem setIntBit_eq (s : Bool) (v : Int) (hhi : v < (2 ^ 64 : Nat)) (hlo : -((2 ^ 63 : Nat) : Int) ≤ v)
    (hs : v < 0 → s = true) (i : Nat) :
    setIntBit (ival v) (s && decide (v < 0)) i = ibit v i := by
  unfold setIntBit
  by_cases h : i < 64
  · simp [h, ival, testBit_lowBits]
  · simp only [h, if_false]
    by_cases hneg : v < 0
    · simp [hneg, hs hneg, ibit_neg_ge hneg hlo (by omega : 63 ≤ i)]
    · simp [hneg, ibit_nonneg_lt (by omega : 0 ≤ v) hhi (by omega : 64 ≤ i)]

theorem wire_eq_iff (a b : Int) (n : Nat) :
    wire a n = wire b n ↔ ∀ j, j < n → ibit a j = ibit b j := by
  simp [wire, List.map_inj_left]

theorem ibit_rsh (z : Int) (s b : Nat) : ibit (rsh z s) b = ibit z (s + b) := by
  cases z with
  | ofNat n => exact Nat.testBit_shiftRight n
  | negSucc n => exact congrArg (!·) (Nat.testBit_shiftRight n)

theorem ibit_lsh_ofNat (N s j : Nat) : ibit (lsh (N : Int) s) j = (decide (s ≤ j) && N.testBit (j - s)) := by
  have : lsh (N : Int) s = ((N <<< s : Nat) : Int) := by simp [lsh, Nat.shiftLeft_eq]
  rw [this, ibit_ofNat, Nat.testBit_shiftLeft]

theorem mul_add_lt {i m w b : Nat} (hi : i < m) (hb : b < w) : i * w + b < m * w :=
  calc i * w + b < (i + 1) * w := by rw [Nat.succ_mul]; omega
    _ ≤ m * w := Nat.mul_le_mul_right w hi

/-- partial element loop of `Parse` (first `m` iterations, total `c`) -/
def packFold (val : Int) (c w m : Nat) : Nat :=
  (List.range m).foldl
    (fun r i => r ||| (lowBits (rsh val ((c - i - 1) * w)) w <<< (i * w))) 0

theorem packFold_spec (val : Int) (c w m : Nat) :
    (∀ i b, i < m → b < w → (packFold val c w m).testBit (i * w + b) = ibit val ((c - i - 1) * w + b)) ∧
    (∀ j, m * w ≤ j → (packFold val c w m).testBit j = false) := by
  induction m with
  | zero => simp [packFold]
  | succ m ih =>
    obtain ⟨ih1, ih2⟩ := ih
    have hstep : ∀ j, (packFold val c w (m + 1)).testBit j = ((packFold val c w m).testBit j ||
        (decide (m * w ≤ j) && (decide (j - m * w < w) && ibit val ((c - m - 1) * w + (j - m * w))))) := by
      intro j
      simp [packFold, List.range_succ, List.foldl_append, Nat.testBit_shiftLeft, testBit_lowBits, ibit_rsh]
    constructor
    · intro i b hi hb
      rw [hstep]
      by_cases him : i < m
      · simp [ih1 i b him hb, Nat.not_le.2 (mul_add_lt him hb)]
      · obtain rfl : i = m := by omega
        simp [ih2 (i * w + b) (by omega), hb]
    · intro j hj
      rw [Nat.succ_mul] at hj
      rw [hstep, ih2 j (by omega)]
      simp [show ¬ (j - m * w < w) by omega]

/-- number of bits `Parse` takes as written: 4 per hex digit after `0x`,
else the bit length of the number -/
def writtenBits (st : StrFacts) (N : Nat) : Nat :=
  if st.hex0x then (st.len - 2) * 4 else natBitLen N

theorem lt_two_pow_natBitLen (N : Nat) : N < 2 ^ natBitLen N := by
  unfold natBitLen
  split
  · simp [*]
  · exact Nat.lt_log2_self

theorem lt_two_pow_writtenBits {st : StrFacts} {N : Nat} (hhex : st.hex0x = true → N < 2 ^ ((st.len - 2) * 4)) :
    N < 2 ^ writtenBits st N := by
  unfold writtenBits
  split
  · exact hhex ‹_›
  · exact lt_two_pow_natBitLen N

theorem inputSize1_written {st : StrFacts} {N : Nat} (hu : st.underscore = false) (hb : st.boolLit = none)
    (hre : st.hex0x = false → st.reHex = none) (hnum : st.num = some (N : Int)) :
    inputSize1 st = .ok (writtenBits st N) := by
  cases hx : st.hex0x
  · simp [inputSize1, hu, hb, hx, hre hx, hnum, writtenBits, bitLength]
  · simp [inputSize1, hu, hb, hx, writtenBits]

theorem le_ceilDiv_mul (L w : Nat) (hw : 0 < w) : L ≤ ceilDiv L w * w := by
  unfold ceilDiv
  have h := Nat.div_add_mod L w
  have hm : L % w < w := Nat.mod_lt _ hw
  rw [Nat.add_mul, Nat.mul_comm]
  split <;> omega

theorem parseLeaf_elem (tag : Tag) (htag : tag = .array ∨ tag = .slice) (bits arraySize : Nat) (el : Info)
    (st : StrFacts) (N : Nat) (hnum : st.num = some (N : Int)) (hw : 0 < el.bits) {k count : Nat}
    (hk : k = ceilDiv (writtenBits st N) el.bits) (hc : count = if tag = .slice then k else arraySize)
    (hle : k ≤ count) :
    parseLeaf (.elem tag bits arraySize el) st = .ok (packElems (lsh N ((count - k) * el.bits)) count el.bits : Nat) := by
  have hbl : bitLength (N : Int) = natBitLen N := by simp [bitLength]
  have hw0 : el.bits ≠ 0 := by omega
  subst hc hk
  unfold writtenBits ceilDiv at *
  rcases htag with rfl | rfl
  · by_cases h0 : arraySize = 0
    · subst h0; simp [parseLeaf, Info.tag]; rfl
    · simp [parseLeaf, Info.tag, h0, hnum, hbl, hw0] at hle ⊢
      exact hle
  · simp [parseLeaf, Info.tag, hnum, hbl, hw0]

theorem testBit_packElems_lsh (N k count w : Nat) (hk : k ≤ count) :
    (∀ i b, i < count → b < w → (packElems (lsh N ((count - k) * w)) count w).testBit (i * w + b) =
        (decide (i < k) && N.testBit ((k - i - 1) * w + b))) ∧
    (∀ j, count * w ≤ j → (packElems (lsh N ((count - k) * w)) count w).testBit j = false) := by
  refine ⟨fun i b hi hb => ?_, (packFold_spec _ count w count).2⟩
  rw [show packElems _ count w = packFold _ count w count from rfl, (packFold_spec _ count w count).1 i b hi hb,
    ibit_lsh_ofNat]
  by_cases hik : i < k
  · have e : (count - i - 1) * w = (count - k) * w + (k - i - 1) * w := by
      rw [← Nat.add_mul]; congr 1; omega
    simp [hik, e, Nat.add_assoc]
  · simp [hik, Nat.not_le.2 (mul_add_lt (show count - i - 1 < count - k by omega) hb)]

theorem setIntBit_byte (x c : Nat) (hx : x < 256) : setIntBit x false c = x.testBit c := by
  unfold setIntBit
  by_cases h : c < 64
  · simp [h]
  · simp [h, testBit_of_lt_two_pow (k := 8) (j := c) hx (by omega)]

theorem setBytes_cons (el : Info) (r : Nat) (b : Nat) (bs : List Nat) (ofs : Nat) :
    setBytes el r (b :: bs) ofs =
      setBytes el (writeBits r ofs el.bits (setIntBit (b % 256) false)) bs (ofs + el.bits) := by
  simp [setBytes]

@[simp] theorem Info.tag_base (t : Tag) (b n : Nat) : (Info.base t b n).tag = t := rfl
@[simp] theorem Info.tag_elem (t : Tag) (b n : Nat) (e : Info) : (Info.elem t b n e).tag = t := rfl
@[simp] theorem Info.bits_base (t : Tag) (b n : Nat) : (Info.base t b n).bits = b := rfl
@[simp] theorem Info.bits_elem (t : Tag) (b n : Nat) (e : Info) : (Info.elem t b n e).bits = b := rfl
@[simp] theorem Info.arraySize_base (t : Tag) (b n : Nat) : (Info.base t b n).arraySize = n := rfl
@[simp] theorem Info.arraySize_elem (t : Tag) (b n : Nat) (e : Info) : (Info.elem t b n e).arraySize = n := rfl

theorem parseLeaf_num {t : Info} {st : StrFacts} {v : Int} (ht : t.tag = .int ∨ t.tag = .uint)
    (hnum : st.num = some v) : parseLeaf t st = .ok v := by
  rcases ht with h | h <;> simp [parseLeaf, h, hnum]

theorem setLeaf_num {t : Info} (ht : t.tag = .int ∨ t.tag = .uint) (s : Bool) (w : Nat) {z : Int}
    (hz : z < (2 ^ 64 : Nat)) (hlo : -((2 ^ 63 : Nat) : Int) ≤ z) (hs : z < 0 → s = true) (r o : Nat) :
    setLeaf t r (.num s w z) o = .ok (writeBits r o t.bits (ibit z), o + t.bits) := by
  have h : setLeaf t r (.num s w z) o = setInt t r (.num s w z) o := by rcases ht with h | h <;> simp [setLeaf, h]
  rw [h, setInt, writeBits_congr fun i _ => setIntBit_eq s z hz hlo hs i]

/-- Specification of the wires of one leaf argument for a Go-typed value:
little-endian two's complement per element, elements in order, short arrays
padded with zeros. -/
def encLeaf (t : Info) (v : GoVal) (i : Nat) : Bool :=
  match v with
  | .num _ _ z => ibit z i
  | .bool b => decide (i = 0) && b
  | .bytes bs =>
    match t with
    | .elem _ _ _ el => (bs.getD (i / el.bits) 0 % 256).testBit (i % el.bits)
    | _ => false
  | _ => false

/-- `(t, v)`: `v` is a value of type `t` in a form `Set` accepts: an
`int8…uint64` value (`s`: signed kind) for an integer type of ANY width, a
bool, a `[]byte` no longer than the array (element width ≥ 8) or `nil`. -/
inductive Fits : Info → GoVal → Prop
  | num (tag : Tag) (bits n : Nat) (s : Bool) (w : Nat) (z : Int) :
      (tag = .int ∨ tag = .uint) → z < (2 ^ 64 : Nat) → -((2 ^ 63 : Nat) : Int) ≤ z → (z < 0 → s = true) →
      Fits (.base tag bits n) (.num s w z)
  | bool (n : Nat) (b : Bool) : Fits (.base .bool 1 n) (.bool b)
  | arrayBytes (count : Nat) (el : Info) (bs : List Nat) :
      (el.tag = .int ∨ el.tag = .uint) → 8 ≤ el.bits → bs.length ≤ count →
      Fits (.elem .array (count * el.bits) count el) (.bytes bs)
  | arrayNil (count : Nat) (el : Info) : (el.tag = .int ∨ el.tag = .uint) →
      Fits (.elem .array (count * el.bits) count el) .nil
  | sliceBytes (el : Info) (bs : List Nat) :
      (el.tag = .int ∨ el.tag = .uint) → 8 ≤ el.bits →
      Fits (.elem .slice (bs.length * el.bits) bs.length el) (.bytes bs)
  | sliceNil (el : Info) : (el.tag = .int ∨ el.tag = .uint) → Fits (.elem .slice 0 0 el) .nil

theorem setBytes_eq (el : Info) (hw : 0 < el.bits) (tag : Tag) (bits count : Nat) (bs : List Nat) :
    ∀ r ofs, setBytes el r bs ofs =
      (writeBits r ofs (bs.length * el.bits) (encLeaf (.elem tag bits count el) (.bytes bs)),
        ofs + bs.length * el.bits) := by
  induction bs with
  | nil => intro r ofs; simp [setBytes, writeBits]
  | cons b bs ih =>
    intro r ofs
    rw [setBytes_cons, ih, writeBits_writeBits, Nat.add_assoc,
      show (b :: bs).length * el.bits = el.bits + bs.length * el.bits by
        rw [List.length_cons, Nat.succ_mul, Nat.add_comm]]
    congr 1
    apply writeBits_congr
    intro i _
    simp only [encLeaf]
    by_cases h : i < el.bits
    · simp [h, Nat.div_eq_of_lt h, Nat.mod_eq_of_lt h, setIntBit_byte _ _ (Nat.mod_lt b (by omega))]
    · rw [if_neg h, Nat.div_eq_sub_div hw (Nat.not_lt.1 h), Nat.mod_eq_sub_mod (Nat.not_lt.1 h),
        List.getD_cons_succ]

theorem encLeaf_bytes_ge {tag : Tag} {bits count : Nat} {el : Info} {bs : List Nat} {i : Nat} (hw : 0 < el.bits)
    (h : bs.length * el.bits ≤ i) : encLeaf (.elem tag bits count el) (.bytes bs) i = false := by
  have : bs.length ≤ i / el.bits := (Nat.le_div_iff_mul_le hw).2 h
  simp [encLeaf, List.getD_eq_getElem?_getD, List.getElem?_eq_none this]

theorem setLeaf_eq (t : Info) (v : GoVal) (hf : Fits t v) (r o : Nat) (hc : Clean r o) :
    setLeaf t r v o = .ok (writeBits r o t.bits (encLeaf t v), o + t.bits) := by
  cases hf with
  | num tag bits n s w z htag hz hlo hs => exact setLeaf_num (t := .base tag bits n) htag s w hz hlo hs r o
  | bool n b => simp [setLeaf, setBool, writeBits, encLeaf]
  | arrayBytes count el bs htag hw hk =>
    by_cases h0 : count = 0
    · subst h0; simp [setLeaf, writeBits]
    · have h8 : ¬ el.bits < 8 := by omega
      have hk' : ¬ bs.length > count := by omega
      have hpad := writeBits_pad hc (fun i => encLeaf_bytes_ge (tag := .array) (bits := count * el.bits)
        (count := count) (bs := bs) (i := i) (by omega)) (Nat.mul_le_mul_right el.bits hk)
      rcases htag with h | h <;>
        simp [setLeaf, h0, setArray, h, h8, hk', setBytes_eq el (by omega) .array (count * el.bits) count, hpad]
  | arrayNil count el htag =>
    have hpad : r = writeBits r o (count * el.bits) (encLeaf (.elem .array (count * el.bits) count el) .nil) :=
      writeBits_pad hc (fun _ _ => rfl) (Nat.zero_le _)
    by_cases h0 : count = 0
    · subst h0; simp [setLeaf, writeBits]
    · rcases htag with h | h <;> simp [setLeaf, h0, setArray, h, ← hpad]
  | sliceBytes el bs htag hw =>
    have h8 : ¬ el.bits < 8 := by omega
    rcases htag with h | h <;>
      simp [setLeaf, setArray, h, h8, setBytes_eq el (by omega) .slice (bs.length * el.bits) bs.length]
  | sliceNil el htag => rcases htag with h | h <;> simp [setLeaf, setArray, h, writeBits]

def leaf (t : Info) : Arg := .mk t []

theorem Arg.setAt_leaf (t : Info) (r : Nat) (v : GoVal) (o : Nat) : (Arg.mk t []).setAt r [v] o = setLeaf t r v o := rfl

theorem Arg.set_leaf {t : Info} {v : GoVal} {r o : Nat} (h : setLeaf t 0 v 0 = .ok (r, o)) :
    (Arg.mk t []).set [v] = .ok r := by
  rw [Arg.set, Arg.setAt_leaf, h]

theorem Arg.parse_leaf (t : Info) (st : StrFacts) : (Arg.mk t []).parse [st] = parseLeaf t st := rfl

def encMembers : List (Info × GoVal) → Nat → Bool
  | [], _ => false
  | (t, v) :: rest, j => if j < t.bits then encLeaf t v j else encMembers rest (j - t.bits)

def totalBits : List (Info × GoVal) → Nat
  | [] => 0
  | (t, _) :: rest => t.bits + totalBits rest

theorem setMembers_eq (ms : List (Info × GoVal)) (hf : ∀ m, m ∈ ms → Fits m.1 m.2) :
    ∀ r o, Clean r o → setMembers (ms.map fun m => leaf m.1) r (ms.map (·.2)) o =
      .ok (writeBits r o (totalBits ms) (encMembers ms), o + totalBits ms) := by
  induction ms with
  | nil => intro r o _; rfl
  | cons m ms ih =>
    intro r o hc
    obtain ⟨t, v⟩ := m
    have h1 := setLeaf_eq t v (hf (t, v) (by simp)) r o hc
    have h2 := ih (fun m hm => hf m (by simp [hm])) _ _ (hc.writeBits t.bits (encLeaf t v))
    simp only [List.map_cons, setMembers, leaf, List.take, Arg.setAt_leaf, h1]
    simp only [leaf] at h2
    simp only [List.drop, h2, writeBits_writeBits, totalBits, Nat.add_assoc]
    -- `encMembers ((t, v) :: ms)` is by definition the concatenation that `writeBits_writeBits` produced
    rfl

theorem Arg.set_leaves (t : Info) (ms : List (Info × GoVal)) (hne : ms ≠ [])
    (hf : ∀ m, m ∈ ms → Fits m.1 m.2) :
    (Arg.mk t (ms.map fun m => leaf m.1)).set (ms.map (·.2)) =
      .ok (writeBits 0 0 (totalBits ms) (encMembers ms)) := by
  have h1 := setMembers_eq ms hf 0 0 (clean_zero 0)
  cases ms with
  | nil => exact absurd rfl hne
  | cons m ms =>
    simp only [List.map_cons] at h1
    simp only [Arg.set, List.map_cons, Arg.setAt, List.length_cons, List.length_map, ne_eq, not_true_eq_false,
      if_false, h1]

def concatWires : List (Nat × Int) → Nat → Bool
  | [], _ => false
  | (w, x) :: rest, j => if j < w then ibit x j else concatWires rest (j - w)

def widthSum : List (Nat × Int) → Nat
  | [] => 0
  | (w, _) :: rest => w + widthSum rest

theorem parseMembers_eq (ms : List (Info × StrFacts × Int))
    (h : ∀ m, m ∈ ms → parseLeaf m.1 m.2.1 = .ok m.2.2) :
    ∀ r o, parseMembers (ms.map fun m => leaf m.1) (ms.map fun m => m.2.1) o r =
      .ok (writeBits r o (widthSum (ms.map fun m => (m.1.bits, m.2.2)))
        (concatWires (ms.map fun m => (m.1.bits, m.2.2)))) := by
  induction ms with
  | nil => intro r o; rfl
  | cons m ms ih =>
    intro r o
    obtain ⟨t, st, x⟩ := m
    have hp : parseLeaf t st = .ok x := h (t, st, x) (by simp)
    have h2 := ih (fun m hm => h m (by simp [hm])) (copyBits r x o t.bits) (o + t.bits)
    simp only [leaf, copyBits] at h2
    simp only [List.map_cons, parseMembers, leaf, List.take, Arg.parse_leaf, hp, List.drop, Arg.ty, copyBits, h2,
      writeBits_writeBits, widthSum]
    rfl

theorem concatWires_ge : ∀ (l : List (Nat × Int)) (j : Nat), widthSum l ≤ j → concatWires l j = false
  | [], _, _ => rfl
  | (w, x) :: l, j, h => by
    simp only [widthSum] at h
    rw [concatWires, if_neg (by omega), concatWires_ge l _ (by omega)]

theorem testBit_concatWires (l : List (Nat × Int)) (j : Nat) :
    (writeBits 0 0 (widthSum l) (concatWires l)).testBit j = concatWires l j := by
  rw [testBit_writeBits_zero]
  by_cases hj : j < widthSum l
  · simp [hj]
  · simp [hj, concatWires_ge l j (Nat.not_lt.1 hj)]

theorem Arg.parse_leaves (t : Info) (ms : List (Info × StrFacts × Int)) (hne : ms ≠ [])
    (h : ∀ m, m ∈ ms → parseLeaf m.1 m.2.1 = .ok m.2.2) :
    (Arg.mk t (ms.map fun m => leaf m.1)).parse (ms.map fun m => m.2.1) =
      .ok ((writeBits 0 0 (widthSum (ms.map fun m => (m.1.bits, m.2.2)))
        (concatWires (ms.map fun m => (m.1.bits, m.2.2))) : Nat) : Int) := by
  have h1 := parseMembers_eq ms h 0 0
  cases ms with
  | nil => exact absurd rfl hne
  | cons m ms =>
    simp only [List.map_cons] at h1
    simp only [List.map_cons, Arg.parse, List.length_cons, List.length_map, ne_eq, not_true_eq_false, if_false, h1]

theorem concatWires_append (A B : List (Nat × Int)) (j : Nat) :
    concatWires (A ++ B) j =
      if j < widthSum A then concatWires A j else concatWires B (j - widthSum A) := by
  induction A generalizing j with
  | nil => rfl
  | cons a A ih =>
    obtain ⟨w, x⟩ := a
    simp only [List.cons_append, concatWires, widthSum, ih]
    by_cases h : j < w
    · simp [h, show j < w + widthSum A by omega]
    · simp [h, show (j - w < widthSum A ↔ j < w + widthSum A) by omega, Nat.sub_add_eq]

theorem totalBits_append (A B : List (Info × GoVal)) : totalBits (A ++ B) = totalBits A + totalBits B := by
  induction A with
  | nil => simp [totalBits]
  | cons a A ih => obtain ⟨t, v⟩ := a; simp [totalBits, ih, Nat.add_assoc]

theorem encMembers_append (A B : List (Info × GoVal)) (j : Nat) :
    encMembers (A ++ B) j = if j < totalBits A then encMembers A j else encMembers B (j - totalBits A) := by
  induction A generalizing j with
  | nil => rfl
  | cons a A ih =>
    obtain ⟨t, v⟩ := a
    simp only [List.cons_append, encMembers, totalBits, ih]
    by_cases h : j < t.bits
    · simp [h, show j < t.bits + totalBits A by omega]
    · simp [h, show (j - t.bits < totalBits A ↔ j < t.bits + totalBits A) by omega, Nat.sub_add_eq]

theorem concat_eq_enc (ms : List (Info × StrFacts × Int × GoVal))
    (hag : ∀ m, m ∈ ms → ∀ i, i < m.1.bits → ibit m.2.2.1 i = encLeaf m.1 m.2.2.2 i) :
    ∀ j, concatWires (ms.map fun m => (m.1.bits, m.2.2.1)) j = encMembers (ms.map fun m => (m.1, m.2.2.2)) j := by
  induction ms with
  | nil => intro j; rfl
  | cons m ms ih =>
    intro j
    simp only [List.map_cons, concatWires, encMembers]
    by_cases h : j < m.1.bits
    · simp only [h, if_true]
      exact hag m (by simp) j h
    · simp only [h, if_false]
      exact ih (fun m' hm' => hag m' (by simp [hm'])) (j - m.1.bits)

theorem bitLenFrom_spec (v : Nat) (h1 : 1 ≤ v) :
    ∀ i, (∀ j, i < j → v.testBit j = false) → bitLenFrom v i = v.log2 + 1 := by
  have hv0 : v ≠ 0 := by omega
  intro i
  induction i with
  | zero =>
    intro h
    have : v < 2 ^ 1 := Nat.lt_pow_two_of_testBit v (fun j hj => h j (by omega))
    obtain rfl : v = 1 := by omega
    rfl
  | succ m ih =>
    intro h
    rw [bitLenFrom]
    split
    · next hb =>
      rw [(Nat.log2_eq_iff hv0).2 ⟨Nat.ge_two_pow_of_testBit hb,
        Nat.lt_pow_two_of_testBit v (fun j hj => h j (by omega))⟩]
    · next hb =>
      refine ih fun j hj => ?_
      by_cases hj2 : j = m + 1
      · subst hj2; simpa using hb
      · exact h j (by omega)

theorem bitLen_spec (v : Nat) (hv : v < 2 ^ 64) (h1 : 1 ≤ v) : bitLen v = natBitLen v := by
  have hv0 : v ≠ 0 := by omega
  simp only [bitLen, natBitLen, hv0, if_false]
  apply bitLenFrom_spec v h1
  exact fun j hj => testBit_of_lt_two_pow hv (by omega)

theorem bitLen_zero : bitLen 0 = 1 := by decide

/-! ### Definitions of the code BEFORE the fix commits (kept only to state
what was wrong; nothing in the model uses them) -/

/-- `bitLen` before commit 485d3fb: `for i := 63; i > 1; i--` -/
def bitLenFromOld (v : Nat) : Nat → Nat
  | 0 => 1
  | 1 => 1
  | i + 2 => if v.testBit (i + 2) then i + 3 else bitLenFromOld v (i + 1)

def bitLenOld (v : Nat) : Nat := bitLenFromOld v 63

/-- `setInt` before commit 95af76e: a fixed 64-bit window at `ofs`, whatever
the width of the type -/
def setIntOld (r : Nat) (v : Int) (ofs : Nat) : Nat := writeBits r ofs 64 ((ival v).testBit)

/-- the `TInt` branch of `mpc.Result` before commit 66e4e03
(`result.Sub(tmp, result); result.Neg(result)` in place): returned value and
content of the caller's `*big.Int` afterwards -/
def resultIntOld (bits : Nat) (z : Int) : RVal × Int :=
  let z' := if ibit z (bits - 1) then -((2 ^ bits : Nat) - z) else z
  if widthClass bits = 0 then (.big z', z') else (.i (widthClass bits) (toIntW (widthClass bits) z'), z')

theorem ival_ofNat (n : Nat) (hn : n < 2 ^ 64) : ival (n : Int) = n := by
  show n % 2 ^ 64 = n
  exact Nat.mod_eq_of_lt hn

theorem widthClass_le {n : Nat} (h : n ≤ 64) : n ≤ widthClass n ∧ widthClass n ≤ 64 ∧ 8 ≤ widthClass n := by
  unfold widthClass
  repeat' split
  all_goals omega

theorem widthClass_gt {n : Nat} (h : 64 < n) : widthClass n = 0 := by
  simp [widthClass, show ¬ n ≤ 8 by omega, show ¬ n ≤ 16 by omega, show ¬ n ≤ 32 by omega, show ¬ n ≤ 64 by omega]

theorem toSigned_range (w g : Nat) (hw : 1 ≤ w) (hg : g < 2 ^ w) :
    -((2 ^ (w - 1) : Nat) : Int) ≤ toSigned w g ∧ toSigned w g < ((2 ^ (w - 1) : Nat) : Int) := by
  have h2 := Nat.two_pow_pred_mul_two hw
  unfold toSigned
  split <;> omega

/-- in Go: `intW(x.Int64())` returns a value that already fits `w` bits unchanged -/
theorem toSigned_lowBits (w : Nat) (hw : 1 ≤ w) (v : Int) (hlo : -((2 ^ (w - 1) : Nat) : Int) ≤ v)
    (hhi : v < ((2 ^ (w - 1) : Nat) : Int)) : toSigned w (lowBits v w) = v := by
  have h2 := Nat.two_pow_pred_mul_two hw
  unfold toSigned
  cases v with
  | ofNat m =>
    have hm : m < 2 ^ (w - 1) := Int.ofNat_lt.mp hhi
    simp only [lowBits, Nat.mod_eq_of_lt (show m < 2 ^ w by omega), hm, if_true]; rfl
  | negSucc m =>
    have hm : m < 2 ^ (w - 1) := by rw [Int.negSucc_eq] at hlo; omega
    simp only [lowBits, Nat.mod_eq_of_lt (show m < 2 ^ w by omega)]
    rw [if_neg (by omega), Int.negSucc_eq]
    omega

theorem testBit_pred_of_lt {w g : Nat} (hw : 1 ≤ w) (hg : g < 2 ^ w) :
    g.testBit (w - 1) = !decide (g < 2 ^ (w - 1)) := by
  have h2 := Nat.two_pow_pred_mul_two hw
  by_cases h : g < 2 ^ (w - 1)
  · simp [h, Nat.testBit_lt_two_pow h]
  · obtain ⟨g', rfl⟩ : ∃ g', g = 2 ^ (w - 1) + g' := ⟨g - 2 ^ (w - 1), by omega⟩
    rw [Nat.testBit_two_pow_add_eq, Nat.testBit_lt_two_pow (by omega)]
    simp [h]

theorem result_int_pattern (n a : Nat) (hn : 1 ≤ n) (g : Nat) (hg : g < 2 ^ n) :
    result (.base .int n a) (g : Int) =
      .ok (if n ≤ 64 then .i (widthClass n) (toSigned n g) else .big (toSigned n g), (g : Int)) := by
  have hz : (if ibit (g : Int) (n - 1) then -(((2 ^ n : Nat) : Int) - g) else (g : Int)) = toSigned n g := by
    rw [ibit_ofNat, testBit_pred_of_lt hn hg, toSigned]
    by_cases h : g < 2 ^ (n - 1) <;> simp [h]
    omega
  rw [result.eq_def]
  dsimp +instances only [Info.tag_base, Info.bits_base]
  simp only [show n ≠ 0 by omega, if_false, hz]
  by_cases h : n ≤ 64
  · obtain ⟨h1, h2, h3⟩ := widthClass_le h
    obtain ⟨hlo, hhi⟩ := toSigned_range n g hn hg
    have hpow : 2 ^ (n - 1) ≤ 2 ^ (widthClass n - 1) := Nat.pow_le_pow_right (by omega) (by omega)
    have hfit : toIntW (widthClass n) (toSigned n g) = toSigned n g :=
      toSigned_lowBits _ (by omega) _ (by omega) (by omega)
    simp only [show widthClass n ≠ 0 by omega, h, if_true, if_false, hfit]
  · simp only [widthClass_gt (Nat.not_le.1 h), h, if_true, if_false]

theorem mapM_ok {α β : Type} (l : List α) (f : α → Except Err β) (g : α → β)
    (h : ∀ a, a ∈ l → f a = .ok (g a)) : l.mapM f = .ok (l.map g) := by
  induction l with
  | nil => rfl
  | cons a l ih =>
    rw [List.mapM_cons, h a (by simp), ih (fun b hb => h b (by simp [hb]))]
    rfl

theorem result_array (tag : Tag) (htag : tag = .array ∨ tag = .slice) (bits count : Nat) (el : Info)
    (name : String) (hname : elemName el (result el 0) = .ok name) (z : Int) (vs : Nat → RVal)
    (h : ∀ i, i < count → ∃ c, result el ((lowBits (rsh z (i * el.bits)) el.bits : Nat) : Int) = .ok (vs i, c)) :
    result (.elem tag bits count el) z = .ok (.slice name ((List.range count).map vs), z) := by
  have hm : (List.range count).mapM (fun i =>
      dropCell (result el ((lowBits (rsh z (i * el.bits)) el.bits : Nat) : Int))) =
        .ok ((List.range count).map vs) := by
    apply mapM_ok
    intro i hi
    obtain ⟨c, hc⟩ := h i (by simpa using hi)
    simp [hc, dropCell]
  rcases htag with ht | ht <;> subst ht <;>
    (rw [result.eq_def]; simp only [Info.tag_elem, hname, hm])

theorem result_cell (t : Info) (z : Int) (rv : RVal) (c : Int) (h : result t z = .ok (rv, c)) : c = z := by
  rw [result.eq_def] at h
  dsimp only at h
  -- one goal per branch of `Result`; every returning branch pairs its value with `z` itself
  repeat' split at h
  all_goals cases h
  all_goals rfl

theorem elemName_explicit (el : Info) (n : String) (x : Except Err (RVal × Int))
    (h : elemTypeName el = some n) : elemName el x = .ok n := by
  simp [elemName, h]

theorem elemName_default (el : Info) (v : RVal) (c : Int)
    (h : elemTypeName el = none) (hz : result el 0 = .ok (v, c)) :
    elemName el (result el 0) = .ok (rvalTypeName v) := by
  simp [elemName, h, hz]

theorem split_spec : ∀ (ns : List Nat) (z : Int) (bit k : Nat) (hk : k < ns.length) (i : Nat),
    ((split ns z bit).getD k 0).testBit i =
      (decide (i < ns[k]) && ibit z (bit + (ns.take k).sum + i))
  | n :: ns, z, bit, 0, _, i => by simp [split, testBit_writeBits_zero]
  | n :: ns, z, bit, k + 1, hk, i => by
    simpa [split, Nat.add_assoc] using split_spec ns z (bit + n) k (by simpa using hk) i

end Mpc.IoArg
