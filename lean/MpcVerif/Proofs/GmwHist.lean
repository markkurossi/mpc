/-
C10: histories of `Network.Run` calls on one Network (`Model/GmwHist.lean`).

`runFrom_sim`: from ANY state between two runs (ids in order, `nw.triples`
cleared, pools with `L` valid words, arbitrary stale wire stores of one common
size) a run of a single-assignment circuit without OR gates returns, leaves
such a state again with `needW` words fewer, and on every wire the shares
reconstruct to the schedule of `Network.run` evaluated on the start store
(this call's inputs, elsewhere what the earlier calls left).  Stale bits do
not reach a wire the circuit defines (`schedule_defined`), hence
`runFrom_correct` and, folded over a list of calls, `hist_correct`; a fresh
Network holds none, hence `run_correct` (`Gmw.run`) on every wire.
-/
import MpcVerif.Proofs.GmwRun

namespace Mpc.Gmw
open Mpc

theorem growWires_size (w : Store Bool) (n : Nat) : (growWires w n).size = max w.size n := by
  unfold growWires
  split
  · next h => omega
  · next h => rw [mkA_size]; omega

theorem growWires_get (w : Store Bool) (n i : Nat) : (growWires w n).get i = w.get i := by
  unfold growWires
  split
  · rfl
  · next h =>
    rw [sget_mkA]
    split
    · rfl
    · next hi => exact (Store.get_of_size_le w i (by omega)).symm

/-- The wires of `ps0` in `runFrom`. -/
def startWires (c : Circuit) (sizes : List Nat) (x : Nat → Nat) (rnd : Nat → Nat → Nat) (p : Party) : Store Bool :=
  shareInputsFrom (growWires p.wires c.numWires) sizes x rnd p.id

theorem startWires_inputs (c : Circuit) (sizes : List Nat) (x : Nat → Nat) (rnd : Nat → Nat → Nat)
    (ps : List Party) (xs : List Bool) (hid : Ids sizes.length ps) (hx : InputsOf sizes x xs)
    (hN : sizes.sum ≤ c.numWires) (w : Nat) (hw : w < sizes.sum) :
    xorB (ps.map fun p => (startWires c sizes x rnd p).get w) = xs.getD w false := by
  obtain ⟨q, i, hq, hi, rfl⟩ := argOfs_locate sizes sizes.length (Nat.le_refl _) w (by rw [argOfs_length]; exact hw)
  rw [hx q i hq hi]
  have e : (ps.map fun p => (startWires c sizes x rnd p).get (argOfs sizes q + i)) =
      (List.range sizes.length).map fun p =>
        if p = q then (sharedOf sizes rnd q ^^^ x q).testBit i else (rnd q p).testBit i := by
    rw [← hid, List.map_map]
    apply List.map_congr_left
    intro p hp
    simp only [Function.comp, startWires]
    rw [shareInputsFrom_get _ sizes x rnd p.id (ids_lt hid p hp)
      (by rw [growWires_size]; omega) q i hq hi]
    by_cases h : p.id = q
    · subst h; simp
    · have : ¬ q = p.id := fun e => h e.symm
      simp [h, this]
  rw [e, xorB_range_split _ _ q _ hq, Nat.testBit_xor, testBit_sharedOf]
  cases xorB ((List.range sizes.length).map fun p => if p = q then false else (rnd q p).testBit i) <;>
    cases (x q).testBit i <;> rfl

theorem startWires_frame (c : Circuit) (sizes : List Nat) (x : Nat → Nat) (rnd : Nat → Nat → Nat)
    (ps : List Party) (hid : Ids sizes.length ps) (w : Nat) (hw : sizes.sum ≤ w) :
    xorB (ps.map fun p => (startWires c sizes x rnd p).get w) = recon ps w :=
  congrArg xorB (List.map_congr_left fun p hp => by
    rw [startWires, shareInputsFrom_frame _ sizes x rnd p.id (ids_lt hid p hp) w hw, growWires_get])

/-- `S0` may be longer than `numWires` and hold anything outside the input wires: the stale bits of earlier runs. -/
theorem schedule_defined (c : Circuit) (hssa : SSA c.numWires c.gates c.inputDefined) (hfit : c.nIn ≤ c.numWires)
    (xs : List Bool) (S0 : Store Bool) (hS : c.numWires ≤ S0.size)
    (hin : ∀ w, w < c.nIn → S0.get w = xs.getD w false) :
    ∀ w, c.defined w = true → (evalPlainGates (schedule c) S0).get w = (c.plainEval xs).get w := by
  have hs := schedule_ssa c hssa
  have hsol := c.sol hfit hssa xs
  -- both stores satisfy the gate equations; on the input wires both carry the inputs
  have hsem : Sem (evalPlainGates (schedule c) S0) (schedule c) :=
    evalPlainGates_sem S0.size _ S0 rfl hs.2.1
      (fun g hg => Nat.lt_of_lt_of_le (wf_bounds _ _ _ hs.1 g hg).2 hS) hs.weakTopo
  refine sem_agree c.numWires _ _ c.gates c.inputDefined hssa.1
    (fun g hg => hsem g ((schedule_perm c).mem_iff.mpr hg)) hsol.sem fun w hw => ?_
  have hlt : w < c.nIn := (c.inputDefined_eq_true w).mp hw
  have hno : ∀ g ∈ schedule c, g.out ≠ w := fun g hg e => by
    have := hs.2.2 g hg
    rw [e, hw] at this
    cases this
  rw [evalPlainGates_frame _ w S0 hno, hin w hlt, hsol.inp w hlt]
  simp only [List.getD_eq_getElem?_getD, List.getElem?_take_of_lt hlt]

theorem runFrom_eq (c : Circuit) (sizes : List Nat) (x : Nat → Nat) (rnd : Nat → Nat → Nat) (ps ps1 : List Party)
    (hsup : c.gates.all supported = true)
    (h : runBlocks (blocks c) (ps.map fun p => { p with wires := startWires c sizes x rnd p }) = some ps1) :
    runFrom c sizes x rnd ps =
      .ok ps1 (ps1.map fun p => outOpen p.id (c.outputs p.wires) (ps1.map fun p => (p.id, c.outputs p.wires))) := by
  unfold runFrom
  simp only [hsup, Bool.not_true, Bool.false_eq_true, if_false]
  unfold startWires at h
  rw [h]

theorem runFrom_sim (c : Circuit) (sizes : List Nat) (x : Nat → Nat) (rnd : Nat → Nat → Nat) (ps : List Party)
    (xs : List Bool) (L M : Nat) (hok : RunOK c sizes) (hx : InputsOf sizes x xs) (hst : St sizes.length L ps)
    (hsz : ∀ p ∈ ps, p.wires.size = M) (hL : needW (blocks c) ≤ L) :
    ∃ ps' outs S0, runFrom c sizes x rnd ps = .ok ps' outs ∧ St sizes.length (L - needW (blocks c)) ps' ∧
      S0.size = max M c.numWires ∧ (∀ w, w < sizes.sum → S0.get w = xs.getD w false) ∧
      (∀ w, sizes.sum ≤ w → S0.get w = recon ps w) ∧
      Sim (max M c.numWires) ps' (evalPlainGates (schedule c) S0) ∧ outs.length = sizes.length ∧
      (∀ o ∈ outs, o = c.outputs (evalPlainGates (schedule c) S0)) ∧
      poolViews ps' = (poolViews ps).map (·.drop (needW (blocks c))) := by
  have hsup : c.gates.all supported = true := by
    simp only [List.all_eq_true, supported, bne_iff_ne]
    exact hok.noOr
  -- the start store: what the shares after input sharing reconstruct to
  have hsh := shares_reconStore (max M c.numWires) ps (startWires c sizes x rnd) fun p hp => by
    rw [startWires, shareInputsFrom_size, growWires_size, hsz p hp]
  have hblk := blocks_ok c sizes hok (max M c.numWires) (Nat.le_max_right _ _)
  obtain ⟨ps1, hrun, hst1, hsim1, hpv⟩ := sim_blocks hok.parties (blocks c) _ _ L (St_wires hst _)
    (hsh.sim (fun p => { p with wires := startWires c sizes x rnd p }) fun _ => rfl) hblk hL
  rw [poolViews_map] at hpv
  refine ⟨ps1, _, _, runFrom_eq c sizes x rnd ps ps1 hsup hrun, hst1, hsh.1,
    fun w hw => (hsh.2.2 w).symm.trans
      (startWires_inputs c sizes x rnd ps xs hst.ids hx (by rw [← hok.nIn]; exact hok.fits) w hw),
    fun w hw => (hsh.2.2 w).symm.trans (startWires_frame c sizes x rnd ps hst.ids w hw),
    hsim1, by simp [ids_length hst1.ids], ?_, hpv⟩
  intro o ho
  obtain ⟨p, hp, rfl⟩ := List.mem_map.mp ho
  exact (out_all hst1.ids (List.range c.nOut) (fun q i => q.wires.get (c.numWires - c.nOut + i)) p hp).trans
    (List.map_congr_left fun i _ => hsim1.2.2 _)

theorem runFrom_correct (c : Circuit) (sizes : List Nat) (x : Nat → Nat) (rnd : Nat → Nat → Nat) (ps : List Party)
    (xs : List Bool) (L M : Nat) (hok : RunOK c sizes) (hx : InputsOf sizes x xs)
    (hst : St sizes.length L ps) (hsz : ∀ p ∈ ps, p.wires.size = M) (hL : needW (blocks c) ≤ L) :
    ∃ ps' outs, runFrom c sizes x rnd ps = .ok ps' outs ∧ St sizes.length (L - needW (blocks c)) ps' ∧
      (∀ p ∈ ps', p.wires.size = max M c.numWires) ∧ outs.length = sizes.length ∧
      (∀ w, c.defined w = true → recon ps' w = (c.plainEval xs).get w) ∧
      (c.outputsDefined = true → ∀ o ∈ outs, o = c.compute xs) ∧
      poolViews ps' = (poolViews ps).map (·.drop (needW (blocks c))) := by
  obtain ⟨ps1, outs, S0, hrun, hst1, hS, hin, _, hsim1, hlen, hout, hpv⟩ :=
    runFrom_sim c sizes x rnd ps xs L M hok hx hst hsz hL
  -- stale bits do not reach a wire the circuit defines
  have hdef := schedule_defined c hok.ssa hok.fits xs S0 (hS ▸ Nat.le_max_right _ _) fun w hw =>
    hin w (hok.nIn ▸ hw)
  refine ⟨ps1, outs, hrun, hst1, hsim1.2.1, hlen, fun w hw => by rw [hsim1.2.2 w, hdef w hw], ?_, hpv⟩
  intro hod o ho
  simp only [Circuit.outputsDefined, List.all_eq_true] at hod
  exact (hout o ho).trans (List.map_congr_left fun i hi => hdef _ (hod i hi))

structure Between (n L M : Nat) (ps : List Party) : Prop where
  st : St n L ps
  wsz : ∀ p ∈ ps, p.wires.size = M

theorem map_fresh {β : Type} (n : Nat) (pools : Nat → Triples) (f : Party → β) :
    (fresh n pools).map f = (List.range n).map fun p => f { id := p, wires := #[], pool := pools p, trip := Triples.empty } :=
  List.map_map ..

theorem between_fresh (n L : Nat) (pools : Nat → Triples) (hp : PoolsValid n L pools) :
    Between n L 0 (fresh n pools) := by
  refine ⟨⟨?_, fun q hq => ?_, fun q hq => ?_, fun k hk => ?_⟩, fun q hq => ?_⟩
  · exact (map_fresh n pools _).trans (List.map_id _)
  · obtain ⟨p, _, rfl⟩ := List.mem_map.mp hq
    exact ⟨rfl, empty_WF⟩
  · obtain ⟨p, hp', rfl⟩ := List.mem_map.mp hq
    exact hp.1 p (List.mem_range.mp hp')
  · simp only [map_fresh]
    exact hp.2 k hk
  · obtain ⟨p, _, rfl⟩ := List.mem_map.mp hq
    rfl

/-- What C10 demands of a history.  `L`, `views`: how many words every pool holds before the call and what
they are, in stream order; every pool loses the same first `needW` words, so the next call starts at the same
stream position at every party. -/
def HistOK (n : Nat) : List Call → Nat → List (List (Word × Word × Word)) → List RunResult → Prop
  | [], _, _, rs => rs = []
  | k :: ks, L, views, rs =>
    ∃ ps outs rest, rs = .ok ps outs :: rest ∧ outs.length = n ∧
      (∀ o ∈ outs, o = k.c.compute (inputBits k.sizes k.x)) ∧
      (∀ w, k.c.defined w = true → recon ps w = (k.c.plainEval (inputBits k.sizes k.x)).get w) ∧
      (∀ p ∈ ps, p.pool.words = L - needW (blocks k.c)) ∧
      poolViews ps = views.map (·.drop (needW (blocks k.c))) ∧
      HistOK n ks (L - needW (blocks k.c)) (views.map (·.drop (needW (blocks k.c)))) rest

/-- Triple words a history consumes. -/
def needHist (ks : List Call) : Nat := (ks.map fun k => needW (blocks k.c)).sum

/-- A call the property speaks about, on an `n`-party network. -/
structure CallOK (n : Nat) (k : Call) : Prop where
  run : RunOK k.c k.sizes
  parties : k.sizes.length = n
  outs : k.c.outputsDefined = true

theorem runHist_cons (k : Call) (ks : List Call) (ps : List Party) :
    runHist (k :: ks) ps =
      match runFrom k.c k.sizes k.x k.rnd ps with
      | .ok ps' outs => .ok ps' outs :: runHist ks ps'
      | r => [r] := rfl

theorem hist_correct (n : Nat) : ∀ (ks : List Call) (ps : List Party) (L M : Nat),
    (∀ k ∈ ks, CallOK n k) → Between n L M ps → needHist ks ≤ L →
    HistOK n ks L (poolViews ps) (runHist ks ps) := by
  intro ks
  induction ks with
  | nil => intro ps L M _ _ _; rfl
  | cons k ks ih =>
    intro ps L M hks hb hL
    have hk := hks k List.mem_cons_self
    have hL' : needW (blocks k.c) + needHist ks ≤ L := by simpa [needHist] using hL
    have hst : St k.sizes.length L ps := by rw [hk.parties]; exact hb.st
    obtain ⟨ps', outs, hrun, hst', hsz', hlen, hrec, hout, hpv⟩ :=
      runFrom_correct k.c k.sizes k.x k.rnd ps (inputBits k.sizes k.x) L M hk.run
        (inputsOf_inputBits k.sizes k.x) hst hb.wsz (by omega)
    rw [hk.parties] at hst' hlen
    have hb' : Between n (L - needW (blocks k.c)) (max M k.c.numWires) ps' := ⟨hst', hsz'⟩
    rw [runHist_cons, hrun]
    refine ⟨ps', outs, _, rfl, hlen, hout hk.outs, hrec, fun p hp => (hst'.pwf p hp).2, hpv, ?_⟩
    rw [← hpv]
    exact ih ps' _ _ (fun k' hk' => hks k' (List.mem_cons_of_mem _ hk')) hb' (by omega)

theorem growWires_empty (N : Nat) : growWires #[] N = Array.replicate N false := by
  unfold growWires
  split
  · next h =>
    have : N = 0 := by simpa using h
    subst this; rfl
  · exact Array.ext (by simp [mkA]) fun i h1 h2 => by simp [mkA, Store.get]

theorem run_eq_runFrom (c : Circuit) (sizes : List Nat) (x : Nat → Nat) (rnd : Nat → Nat → Nat)
    (pools : Nat → Triples) : run c sizes x rnd pools = runFrom c sizes x rnd (fresh sizes.length pools) := by
  unfold run runFrom fresh
  simp only [List.map_map, Function.comp_def, growWires_empty]
  rfl

theorem run_correct (c : Circuit) (sizes : List Nat) (x : Nat → Nat) (rnd : Nat → Nat → Nat) (pools : Nat → Triples)
    (xs : List Bool) (L : Nat) (hok : RunOK c sizes) (hx : InputsOf sizes x xs)
    (hpools : PoolsValid sizes.length L pools) (hL : needW (blocks c) ≤ L) :
    ∃ ps outs, run c sizes x rnd pools = .ok ps outs ∧ ps.length = sizes.length ∧ outs.length = sizes.length ∧
      (∀ w, recon ps w = (c.plainEval xs).get w) ∧ (∀ o ∈ outs, o = c.compute xs) ∧
      (∀ p ∈ ps, p.pool.words = L - needW (blocks c)) := by
  have hb := between_fresh sizes.length L pools hpools
  obtain ⟨ps, outs, S0, hrun, hst, hS, hin, hfr, hsim, hlen, hout, _⟩ :=
    runFrom_sim c sizes x rnd (fresh sizes.length pools) xs L 0 hok hx hb.st hb.wsz hL
  -- a fresh Network holds no stale bits: the start store is the initial store of `plainEval`
  have e : S0 = initStore c.numWires false (xs.take c.nIn) := by
    apply Array.ext
    · simp [hS]
    · intro i h1 h2
      have hi : i < c.numWires := by simpa using h2
      have e : ∀ (a b : Store Bool) (ha : i < a.size) (hb : i < b.size), a.get i = b.get i → a[i] = b[i] :=
        fun a b ha hb h => by simpa [Store.get, Array.getD, ha, hb] using h
      apply e
      rw [get_initStore _ _ _ hi, List.getD_eq_getElem?_getD]
      by_cases hw : i < sizes.sum
      · rw [hin i hw, List.getElem?_take_of_lt (by rw [hok.nIn]; exact hw), List.getD_eq_getElem?_getD]
      · rw [hfr i (by omega), List.getElem?_eq_none (by have := hok.nIn; simp; omega), recon_def, map_fresh]
        exact xorB_map_false _
  subst e
  have hrec : ∀ w, recon ps w = (c.plainEval xs).get w := fun w => by
    rw [hsim.2.2 w]; exact gmw_level_schedule c hok.ssa xs w
  exact ⟨ps, outs, by rw [run_eq_runFrom]; exact hrun, ids_length hst.ids, hlen, hrec,
    fun o ho => (hout o ho).trans (List.map_congr_left fun i _ => gmw_level_schedule c hok.ssa xs _),
    fun p hp => (hst.pwf p hp).2⟩

end Mpc.Gmw
