/-
The inductive invariant `Inv` of the mesh system (Model/Mesh.lean, the events `Ev.real` of the code as it is) for
property C19.  It has a part per party (`LeaderInv`, `PeerInv`) and a part per connection (`LinkInv`); a step that
touches one party (`OnlyAt`) or one connection (`OnlyLink`) leaves the parts of the others standing.
-/
import MpcVerif.Model.Mesh

namespace Mpc.Mesh

variable {c : Cfg} {s s' : State}

@[simp] theorem upd_same {α : Type} (f : Nat → α) (a : Nat) (v : α) : upd f a v a = v := by
  simp [upd]

theorem upd_ne {α : Type} (f : Nat → α) (a : Nat) (v : α) (x : Nat) (h : x ≠ a) : upd f a v x = f x := by
  simp [upd, h]

theorem upd_apply {α : Type} (f : Nat → α) (a : Nat) (v : α) (x : Nat) :
    upd f a v x = if x = a then v else f x := rfl

theorem upd2_apply {α : Type} (f : Nat → Nat → α) (a b : Nat) (v : α) (x y : Nat) :
    upd2 f a b v x y = if x = a ∧ y = b then v else f x y := rfl

theorem upd3_apply {α : Type} (f : Nat → Nat → Nat → α) (a b c : Nat) (v : α) (x y z : Nat) :
    upd3 f a b c v x y z = if x = a ∧ y = b ∧ z = c then v else f x y z := rfl

theorem upd2_ne_fst {α : Type} {f : Nat → Nat → α} {a b : Nat} {v : α} {x : Nat} (h : x ≠ a) :
    upd2 f a b v x = f x :=
  funext fun _ => if_neg fun e => h e.1

theorem upd3_ne_fst {α : Type} {f : Nat → Nat → Nat → α} {a b c : Nat} {v : α} {x : Nat} (h : x ≠ a) :
    upd3 f a b c v x = f x :=
  funext fun _ => funext fun _ => if_neg fun e => h e.1

theorem upd3_ne_snd {α : Type} {f : Nat → Nat → Nat → α} {a b c : Nat} {v : α} {x y z : Nat} (h : y ≠ b) :
    upd3 f a b c v x y z = f x y z :=
  if_neg fun e => h e.2.1

theorem mem_ins (a x : Nat) (l : List Nat) : x ∈ ins a l ↔ x = a ∨ x ∈ l := by
  induction l with
  | nil => simp [ins]
  | cons b l ih => grind [ins]

theorem nodup_ins (a : Nat) (l : List Nat) (h : l.Nodup) (ha : a ∉ l) : (ins a l).Nodup := by
  induction l with
  | nil => simp [ins]
  | cons b l ih => grind [ins, mem_ins]

theorem length_ins (a : Nat) (l : List Nat) (ha : a ∉ l) : (ins a l).length = l.length + 1 := by
  induction l with
  | nil => simp [ins]
  | cons b l ih => grind [ins]

theorem mem_foldl_ins (l kn : List Nat) (x : Nat) :
    x ∈ l.foldl (fun kn q => ins q kn) kn ↔ x ∈ l ∨ x ∈ kn := by
  induction l generalizing kn with
  | nil => simp
  | cons a l ih =>
    simp only [List.foldl_cons, ih, mem_ins, List.mem_cons]
    grind

theorem nodup_foldl_ins (l kn : List Nat) (hl : l.Nodup) (hd : ∀ q ∈ l, q ∉ kn) (hk : kn.Nodup) :
    (l.foldl (fun kn q => ins q kn) kn).Nodup := by
  induction l generalizing kn with
  | nil => simpa using hk
  | cons a l ih =>
    have ha := List.nodup_cons.mp hl
    simp only [List.foldl_cons]
    apply ih _ ha.2
    · intro q hq
      rw [mem_ins]
      rintro (e | e)
      · subst e; exact ha.1 hq
      · exact hd q (by simp [hq]) e
    · exact nodup_ins a kn hk (hd a (by simp))

theorem length_filter_pos_range (b : Nat) :
    ((List.range b).filter (fun x => decide (0 < x))).length = b - 1 := by
  induction b with
  | zero => simp
  | succ b ih =>
    rw [List.range_succ, List.filter_append, List.length_append, ih]
    cases b <;> simp

theorem length_eq_of_mem_iff {l l' : List Nat} (hn : l.Nodup) (hn' : l'.Nodup) (h : ∀ x, x ∈ l ↔ x ∈ l') :
    l.length = l'.length :=
  ((List.perm_ext_iff_of_nodup hn hn').mpr h).length_eq

theorem length_of_mem_iff (l : List Nat) (hn : l.Nodup) (b : Nat) (h : ∀ x, x ∈ l ↔ 0 < x ∧ x < b) :
    l.length = b - 1 := by
  rw [← length_filter_pos_range]
  exact length_eq_of_mem_iff hn (List.Nodup.sublist List.filter_sublist List.nodup_range) fun a => by
    simp [h, List.mem_filter, And.comm]

theorem length_known_of_mem (l : List Nat) (hn : l.Nodup) (n : Nat) (h : ∀ x, x ∈ l ↔ x < n) :
    l.length = n :=
  (length_eq_of_mem_iff hn List.nodup_range fun a => by simp [h]).trans List.length_range

def missing (s : State) (p b k : Nat) : Nat :=
  ((List.range b).filter fun x => decide (0 < x) && (s.conn p x k).isNone).length

theorem length_filter_flip (l : List Nat) (hn : l.Nodup) (f g : Nat → Bool) (a : Nat) (ha : a ∈ l)
    (hfa : f a = true) (hga : g a = false) (hrest : ∀ x, x ≠ a → g x = f x) :
    (l.filter g).length + 1 = (l.filter f).length := by
  induction l with
  | nil => simp at ha
  | cons b l ih =>
    have hb := List.nodup_cons.mp hn
    by_cases hba : b = a
    · subst hba
      have : l.filter g = l.filter f := by
        apply List.filter_congr
        intro x hx
        exact hrest x (fun e => hb.1 (e ▸ hx))
      simp [hfa, hga, this]
    · have ha' : a ∈ l := by
        rcases List.mem_cons.mp ha with e | e
        · exact absurd e.symm hba
        · exact e
      have := ih hb.2 ha'
      simp only [List.filter_cons, hrest b hba]
      split
      · simp only [List.length_cons]; omega
      · exact this

theorem length_filter_ne (l : List Nat) (hn : l.Nodup) (a : Nat) (ha : a ∈ l) :
    (l.filter (fun x => decide (x ≠ a))).length + 1 = l.length := by
  have := length_filter_flip l hn (fun _ => true) (fun x => decide (x ≠ a)) a ha rfl (by simp)
    (by intro x hx; simp [hx])
  rwa [List.filter_eq_self.mpr fun _ _ => rfl] at this

theorem missing_store (s s' : State) (p b k x : Nat) (hx0 : 0 < x) (hxb : x < b)
    (hold : s.conn p x k = none) (hnew : (s'.conn p x k).isSome)
    (hrest : ∀ y, y ≠ x → s'.conn p y k = s.conn p y k) :
    missing s' p b k + 1 = missing s p b k := by
  unfold missing
  apply length_filter_flip _ List.nodup_range _ _ x (List.mem_range.mpr hxb)
  · simp [hx0, hold]
  · simp [hx0]
    cases h : s'.conn p x k <;> simp_all
  · intro y hy
    simp [hrest y hy]

theorem missing_congr (s s' : State) (p b k : Nat)
    (h : ∀ y, 0 < y → y < b → s'.conn p y k = s.conn p y k) :
    missing s' p b k = missing s p b k := by
  unfold missing
  refine congrArg List.length (List.filter_congr fun x hx => ?_)
  by_cases h0 : 0 < x
  · simp [h x h0 (List.mem_range.mp hx)]
  · simp [h0]

theorem missing_pos_iff (s : State) (p b k : Nat) :
    0 < missing s p b k ↔ ∃ x, 0 < x ∧ x < b ∧ s.conn p x k = none := by
  unfold missing
  rw [List.length_pos_iff_exists_mem]
  simp only [List.mem_filter, List.mem_range, Bool.and_eq_true, decide_eq_true_eq, Option.isNone_iff_eq_none]
  exact exists_congr fun x => ⟨fun h => ⟨h.2.1, h.1, h.2.2⟩, fun h => ⟨h.2.1, h.1, h.2.2⟩⟩

theorem missing_zero (s : State) (p b k : Nat) (h : missing s p b k = 0) (x : Nat) (hx0 : 0 < x) (hxb : x < b) :
    (s.conn p x k).isSome := by
  cases hc : s.conn p x k with
  | some _ => rfl
  | none => have := (missing_pos_iff s p b k).mpr ⟨x, hx0, hxb, hc⟩; omega

theorem missing_all_none (s : State) (p b k : Nat) (h : ∀ x, 0 < x → s.conn p x k = none) :
    missing s p b k = b - 1 := by
  unfold missing
  rw [← length_filter_pos_range b]
  refine congrArg List.length (List.filter_congr fun x _ => ?_)
  by_cases h0 : 0 < x
  · simp [h x h0]
  · simp [h0]

def sbit (s : State) (j k : Nat) : Nat :=
  match s.infl j with
  | .stored _ k' => if k' = k then 1 else 0
  | _ => 0

theorem sbit_congr (s s' : State) (j k : Nat) (h : s'.infl j = s.infl j) : sbit s' j k = sbit s j k := by
  simp [sbit, h]

theorem sbit_none {s : State} {j : Nat} (h : s.infl j = .none) (k : Nat) : sbit s j k = 0 := by
  simp [sbit, h]

theorem sbit_stored {s : State} {j i k : Nat} (h : s.infl j = .stored i k) (k' : Nat) :
    sbit s j k' = if k = k' then 1 else 0 := by
  simp [sbit, h]

theorem sbit_of_not_stored (s : State) (j k : Nat) (h : ∀ i, s.infl j ≠ .stored i k) : sbit s j k = 0 := by
  unfold sbit
  cases hi : s.infl j with
  | stored i k' =>
    by_cases e : k' = k
    · subst e; exact absurd hi (h i)
    · simp [e]
  | _ => rfl

def Dials (i j : Nat) : Prop := 0 < i ∧ (j = 0 ∨ i < j)

theorem wire_dials {i j : Nat} (k : Nat) (hd : Dials i j) : wire i j k = ⟨i, j, k⟩ ∧ wire j i k = ⟨i, j, k⟩ := by
  unfold Dials at hd
  unfold wire
  grind

theorem dials_total {p q : Nat} (h : p ≠ q) : Dials p q ∨ Dials q p := by
  unfold Dials; omega

/-- The ids whose slots the counters of party j count (every peer at the leader, the lower peers at a peer) are
those that dial j. -/
theorem missing_pos_dials (s : State) {j : Nat} (hjn : j < c.n) (k : Nat) :
    0 < missing s j (if j = 0 then c.n else j) k ↔ ∃ i, Dials i j ∧ i < c.n ∧ s.conn j i k = none := by
  rw [missing_pos_iff]
  refine exists_congr fun i => ?_
  rw [← and_assoc, ← and_assoc]
  refine and_congr_left' ?_
  by_cases hj : j = 0
  · rw [if_pos hj]; exact ⟨fun h => ⟨⟨h.1, Or.inl hj⟩, h.2⟩, fun h => ⟨h.1.1, h.2⟩⟩
  · rw [if_neg hj]
    exact ⟨fun h => ⟨⟨h.1, Or.inr h.2⟩, Nat.lt_trans h.2 hjn⟩, fun h => ⟨h.1.1, h.1.2.resolve_left hj⟩⟩

theorem wire_comm (p q k : Nat) (h : p ≠ q) : wire q p k = wire p q k := by
  rcases dials_total h with hd | hd
  · rw [(wire_dials k hd).1, (wire_dials k hd).2]
  · rw [(wire_dials k hd).1, (wire_dials k hd).2]

theorem dials_of_wire {p q k : Nat} (hpq : p ≠ q) :
    ((wire p q k).dst = p → Dials q p) ∧ ((wire p q k).src = p → Dials p q) := by
  rcases dials_total hpq with hd | hd
  · rw [(wire_dials k hd).1]; exact ⟨fun e => absurd e.symm hpq, fun _ => hd⟩
  · rw [(wire_dials k hd).2]; exact ⟨fun _ => hd, fun e => absurd e.symm hpq⟩

theorem wire_sum (p q k : Nat) : (wire p q k).src + (wire p q k).dst = p + q ∧ (wire p q k).k = k := by
  unfold wire
  grind

theorem wire_inj (p q q' k k' : Nat) (h : wire p q k = wire p q' k') :
    q = q' ∧ k = k' := by
  have h1 := wire_sum p q k
  have h2 := wire_sum p q' k'
  rw [h] at h1
  omega

/-- Number of wait loops the party has been through. -/
def roundsDone (c : Cfg) : Phase → Nat
  | .run k _ => k
  | .info _ => 1
  | .done => c.m
  | _ => 0

/-- The leader has sent (or, not having it in `rest`, will not send) the info to i. -/
def infoSentTo (ph0 : Phase) (i : Nat) : Prop :=
  match ph0 with
  | .info r => i ∉ r
  | .run (_ + 1) _ => True
  | .done => True
  | _ => False

/-- `Connect` of a peer past `connectPeerToLeader`: current round and what is left to dial. -/
def prog (c : Cfg) : Phase → Option (Nat × List Nat)
  | .run k todo => some (k, todo)
  | .done => some (c.m, [])
  | _ => none

def GoodMail (c : Cfg) (i : Nat) (l : List Nat) : Prop :=
  l.Nodup ∧ (∀ x, x ∈ l ↔ (0 < x ∧ x < c.n ∧ x ≠ i)) ∧ l.length + 2 = c.n

def joinTable (i : Nat) : Nat → Nat → Option Conn :=
  fun q k => if q = 0 ∧ k = 0 then some ⟨i, 0, 0⟩ else none

@[simp] theorem joinTable_isSome (i q k : Nat) : (joinTable i q k).isSome ↔ q = 0 ∧ k = 0 := by
  unfold joinTable; split <;> simp [*]

theorem joinTable_eq_none {i q k : Nat} (h : ¬(q = 0 ∧ k = 0)) : joinTable i q k = none :=
  if_neg h

structure LeaderInv (c : Cfg) (s : State) : Prop where
  shape : s.phase 0 = .init ∨ (∃ k, k < c.m ∧ s.phase 0 = .run k []) ∨
    (∃ r, r ≠ [] ∧ s.phase 0 = .info r) ∨ s.phase 0 = .done
  np0 : s.np 0 = c.n
  knownMem : ∀ x, x ∈ s.known 0 ↔ x = 0 ∨ (s.conn 0 x 0).isSome
  knownNodup : (s.known 0).Nodup
  lenKnown : (s.known 0).length + missing s 0 c.n 0 = c.n
  initial : s.phase 0 = .init → s.acc 0 = false ∧ ∀ q k, s.conn 0 q k = none
  started : s.phase 0 ≠ .init → s.acc 0 = true ∧ ∀ k, k < c.m → s.need 0 k = missing s 0 c.n k + sbit s 0 k
  waited : ∀ k, k < roundsDone c (s.phase 0) → k < c.m → s.need 0 k = 0
  infoRest : ∀ r, s.phase 0 = .info r → r.Nodup ∧ ∀ x ∈ r, 0 < x ∧ x < c.n
  mail0 : s.mail 0 = none

structure ActiveInv (c : Cfg) (s : State) (i k : Nat) (todo : List Nat) : Prop where
  kle : k ≤ c.m
  sent : infoSentTo (s.phase 0) i
  nomail : s.mail i = none
  acc : s.acc i = true
  np : s.np i = c.n
  knownMem : ∀ x, x ∈ s.known i ↔ x < c.n
  knownNodup : (s.known i).Nodup
  dialed : ∃ pre, (k < c.m → targets s i k = pre ++ todo) ∧
    ∀ j k', Dials i j → ((s.conn i j k').isSome ↔
      (j < c.n ∧ ((j = 0 ∧ k' = 0) ∨ (k' < k ∧ k' < c.m) ∨ (k' = k ∧ k < c.m ∧ j ∈ pre))))
  need : ∀ k', k' < c.m → s.need i k' = missing s i i k' + sbit s i k'
  waited : ∀ k', k' < k → k' < c.m → s.need i k' = 0

structure PeerInv (c : Cfg) (s : State) (i : Nat) : Prop where
  init : s.phase i = .init → (∀ q k, s.conn i q k = none) ∧ (∀ j k, s.pend j i k = false) ∧
    s.mail i = none ∧ s.acc i = false ∧ ¬ infoSentTo (s.phase 0) i
  joined : s.phase i = .joined → (∀ q k, s.conn i q k = joinTable i q k) ∧ (∀ j k, s.pend j i k = false) ∧
    s.conn 0 i 0 = none ∧ s.mail i = none ∧ s.acc i = false ∧ s.known i = [0, i] ∧
    ¬ infoSentTo (s.phase 0) i
  hello : s.phase i = .hello → (∀ q k, s.conn i q k = joinTable i q k) ∧
    (∀ j k, s.pend j i k = true ↔ (j = 0 ∧ k = 0 ∧ s.conn 0 i 0 = none ∧ s.infl 0 ≠ .taken i 0)) ∧
    s.acc i = false ∧ s.known i = [0, i] ∧
    (s.mail i ≠ none ↔ infoSentTo (s.phase 0) i) ∧ (∀ l, s.mail i = some l → GoodMail c i l)
  notInfo : ∀ r, s.phase i ≠ .info r
  runLt : ∀ k todo, s.phase i = .run k todo → k < c.m
  active : ∀ k todo, prog c (s.phase i) = some (k, todo) → ActiveInv c s i k todo

def InflInv (c : Cfg) (s : State) (j : Nat) : Prop :=
  match s.infl j with
  | .none => True
  | .taken i k => Dials i j ∧ (s.conn i j k).isSome ∧ s.conn j i k = none ∧ s.pend j i k = false ∧
      j < c.n ∧ s.acc j = true ∧ (j = 0 → k = 0 → s.phase i ≠ .joined)
  | .stored i k => Dials i j ∧ (s.conn j i k).isSome ∧ j < c.n ∧ s.acc j = true

structure Inv (c : Cfg) (s : State) : Prop where
  notBad : s.bad = false
  infl : ∀ j, InflInv c s j
  outside : ∀ p, c.n ≤ p → s.phase p = .init
  slot : ∀ p q k cn, s.conn p q k = some cn → cn = wire p q k ∧ p ≠ q ∧ p < c.n ∧ q < c.n ∧ k < c.m
  accSlot : ∀ i j k, Dials i j → (s.conn j i k).isSome → (s.conn i j k).isSome ∧ s.pend j i k = false
  pendSlot : ∀ i j k, s.pend j i k = true →
    Dials i j ∧ (s.conn i j k).isSome ∧ s.conn j i k = none ∧ j < c.n
  /-- no connection is lost; third case: `Join` has dialled connection 0 to the leader, its hello goes out in
  `connectPeerToLeader` -/
  dialSlot : ∀ i j k, Dials i j → (s.conn i j k).isSome →
    s.pend j i k = true ∨ (s.conn j i k).isSome ∨ (j = 0 ∧ k = 0 ∧ s.phase i = .joined) ∨
      s.infl j = .taken i k
  leader : LeaderInv c s
  peer : ∀ i, 0 < i → i < c.n → PeerInv c s i

/-- Standing assumptions on the configuration: `Create` rejects `n < 2` and
`m < 1`; `dial` rejects connection ids above 0xff. -/
structure Cfg.Ok (c : Cfg) : Prop where
  n2 : 2 ≤ c.n
  m1 : 1 ≤ c.m
  m256 : c.m ≤ 256

theorem PeerInv.active_run {i k : Nat} {todo : List Nat} (h : PeerInv c s i) (hph : s.phase i = .run k todo) :
    ActiveInv c s i k todo :=
  h.active k todo (by rw [hph]; rfl)

theorem PeerInv.active_done {i : Nat} (h : PeerInv c s i) (hph : s.phase i = .done) : ActiveInv c s i c.m [] :=
  h.active c.m [] (by rw [hph]; rfl)

theorem PeerInv.cases {i : Nat} (h : PeerInv c s i) :
    s.phase i = .init ∨ s.phase i = .joined ∨ s.phase i = .hello ∨
      ∃ k todo, prog c (s.phase i) = some (k, todo) ∧ ActiveInv c s i k todo := by
  cases hph : s.phase i with
  | init => exact Or.inl rfl
  | joined => exact Or.inr (Or.inl rfl)
  | hello => exact Or.inr (Or.inr (Or.inl rfl))
  | run k t => exact Or.inr (Or.inr (Or.inr ⟨k, t, rfl, h.active_run hph⟩))
  | info r => exact absurd hph (h.notInfo r)
  | done => exact Or.inr (Or.inr (Or.inr ⟨c.m, [], rfl, h.active_done hph⟩))

theorem Inv.accSlot_none (h : Inv c s) {i j k : Nat} (hd : Dials i j)
    (hn : s.conn i j k = none) : s.conn j i k = none := by
  cases hc : s.conn j i k with
  | none => rfl
  | some v =>
    have := (h.accSlot i j k hd (by simp [hc])).1
    simp [hn] at this

theorem Inv.slot_isSome (h : Inv c s) {p q k : Nat} (hs : (s.conn p q k).isSome) :
    s.conn p q k = some (wire p q k) ∧ p ≠ q ∧ p < c.n ∧ q < c.n ∧ k < c.m := by
  obtain ⟨cn, hcn⟩ := Option.isSome_iff_exists.mp hs
  obtain ⟨rfl, h'⟩ := h.slot p q k cn hcn
  exact ⟨hcn, h'⟩

theorem Inv.lt_n (h : Inv c s) {p : Nat} (hph : s.phase p ≠ .init) : p < c.n :=
  Decidable.byContradiction fun hn => hph (h.outside p (by omega))

theorem Inv.peer_of_phase (h : Inv c s) {i : Nat}
    (hph : s.phase i = .joined ∨ s.phase i = .hello ∨ ∃ k j rest, s.phase i = .run k (j :: rest)) :
    0 < i ∧ i < c.n := by
  refine ⟨Nat.pos_of_ne_zero ?_, h.lt_n ?_⟩
  · rintro rfl
    rcases h.leader.shape with e | ⟨k, _, e⟩ | ⟨r, _, e⟩ | e <;> rw [e] at hph <;>
      rcases hph with e' | e' | ⟨_, _, _, e'⟩ <;> cases e'
  · intro e; rw [e] at hph
    rcases hph with e' | e' | ⟨_, _, _, e'⟩ <;> cases e'

theorem Inv.run_lt (h : Inv c s) {p k : Nat} {t : List Nat}
    (hph : s.phase p = .run k t) : k < c.m := by
  by_cases hp0 : p = 0
  · subst hp0
    rcases h.leader.shape with e | ⟨k', hk', e⟩ | ⟨r, _, e⟩ | e <;> rw [hph] at e <;> cases e
    exact hk'
  · exact (h.peer p (Nat.pos_of_ne_zero hp0) (h.lt_n (by rw [hph]; simp))).runLt k t hph

theorem Inv.slot_upd3 (h : Inv c s) {p q k : Nat} {v : Conn}
    (hv : v = wire p q k ∧ p ≠ q ∧ p < c.n ∧ q < c.n ∧ k < c.m) (p' q' k' : Nat) (cn : Conn)
    (hcn : upd3 s.conn p q k (some v) p' q' k' = some cn) :
    cn = wire p' q' k' ∧ p' ≠ q' ∧ p' < c.n ∧ q' < c.n ∧ k' < c.m := by
  rw [upd3_apply] at hcn
  split at hcn
  · rename_i e; obtain ⟨rfl, rfl, rfl⟩ := e
    cases hcn; exact hv
  · exact h.slot p' q' k' cn hcn

theorem Inv.conn0_of_infoSent (h : Inv c s) (hc : c.Ok) {i : Nat}
    (hs : infoSentTo (s.phase 0) i) (q : Nat) (hq : 0 < q) (hqn : q < c.n) : (s.conn 0 q 0).isSome := by
  have hm1 := hc.m1
  have hL := h.leader
  have hne : s.phase 0 ≠ .init := by intro e; simp [e, infoSentTo] at hs
  have hr : 0 < roundsDone c (s.phase 0) := by
    revert hs
    cases s.phase 0 with
    | run k t => cases k <;> simp [infoSentTo, roundsDone]
    | info r => simp [roundsDone]
    | done => simp [roundsDone]; omega
    | _ => simp [infoSentTo]
  have h0 := hL.waited 0 hr (by omega)
  rw [(hL.started hne).2 0 (by omega)] at h0
  exact missing_zero s 0 c.n 0 (by omega) q hq hqn

theorem Inv.peer_started (h : Inv c s) {q : Nat} (hq : 0 < q) (hqn : q < c.n)
    (hs : (s.conn 0 q 0).isSome) : s.phase q ≠ .init ∧ s.phase q ≠ .joined := by
  have hP := h.peer q hq hqn
  constructor
  · intro e
    have := (h.accSlot q 0 0 ⟨hq, Or.inl rfl⟩ hs).1
    simp [(hP.init e).1] at this
  · intro e
    simp [(hP.joined e).2.2.1] at hs

theorem Inv.leader_all (h : Inv c s) (hc : c.Ok) (h0 : s.need 0 0 = 0)
    (hne : s.phase 0 ≠ .init) :
    (∀ x, x ∈ s.known 0 ↔ x < c.n) ∧ (s.known 0).length = c.n ∧
      ∀ q, 0 < q → q < c.n → (s.conn 0 q 0).isSome := by
  have hm1 := hc.m1
  have hn2 := hc.n2
  have hL := h.leader
  have hm : missing s 0 c.n 0 = 0 := by have := (hL.started hne).2 0 (by omega); omega
  have hall : ∀ q, 0 < q → q < c.n → (s.conn 0 q 0).isSome := missing_zero s 0 c.n 0 hm
  refine ⟨?_, ?_, hall⟩
  · intro x
    rw [hL.knownMem]
    constructor
    · rintro (e | e)
      · omega
      · exact (h.slot_isSome e).2.2.2.1
    · intro hx
      by_cases hx0 : x = 0
      · exact Or.inl hx0
      · exact Or.inr (hall x (by omega) hx)
  · have := hL.lenKnown; omega

theorem Inv.peer_waiting (h : Inv c s) {q : Nat} (hq : 0 < q) (hqn : q < c.n)
    (hs : (s.conn 0 q 0).isSome) (hns : ¬ infoSentTo (s.phase 0) q) :
    s.phase q = .hello ∧ s.mail q = none := by
  have hP := h.peer q hq hqn
  have hst := h.peer_started hq hqn hs
  rcases hP.cases with e | e | e | ⟨k, t, -, hA⟩
  · exact absurd e hst.1
  · exact absurd e hst.2
  · refine ⟨e, ?_⟩
    cases hm : s.mail q with
    | none => rfl
    | some l => exact absurd ((hP.hello e).2.2.2.2.1.mp (by rw [hm]; simp)) hns
  · exact absurd hA.sent hns

theorem targets_leader (s : State) (k : Nat) : targets s 0 k = [] :=
  if_pos rfl

theorem targets_peer (s : State) {p : Nat} (hp : p ≠ 0) (k : Nat) :
    targets s p k = (s.known p).filter fun q => if q = 0 then decide (k ≠ 0) else decide (p < q) :=
  if_neg hp

theorem targets_congr (s s' : State) (p k : Nat) (h : s'.known p = s.known p) :
    targets s' p k = targets s p k := by
  simp only [targets, h]

theorem ActiveInv.mem_targets {i k : Nat} {todo : List Nat}
    (h : ActiveInv c s i k todo) (hi : 0 < i) (j : Nat) :
    j ∈ targets s i k ↔ j < c.n ∧ (if j = 0 then k ≠ 0 else i < j) := by
  rw [targets_peer s (Nat.ne_of_gt hi), List.mem_filter, h.knownMem]
  split <;> simp

theorem ActiveInv.targets_nodup {i k : Nat} {todo : List Nat}
    (h : ActiveInv c s i k todo) : (targets s i k).Nodup := by
  by_cases hi : i = 0
  · rw [hi, targets_leader]; exact List.nodup_nil
  · rw [targets_peer s hi]; exact List.Nodup.sublist List.filter_sublist h.knownNodup

theorem ActiveInv.dialed_waiting {i k j k' : Nat} (h : ActiveInv c s i k []) (hd : Dials i j) :
    (s.conn i j k').isSome ↔ j < c.n ∧ (j = 0 ∧ k' = 0 ∨ k' ≤ k ∧ k' < c.m) := by
  obtain ⟨pre, hpre, hdial⟩ := h.dialed
  rw [hdial j k' hd]
  refine and_congr_right fun hj => ⟨?_, ?_⟩
  · rintro (h1 | ⟨h1, h2⟩ | ⟨rfl, h2, -⟩)
    · exact Or.inl h1
    · exact Or.inr ⟨Nat.le_of_lt h1, h2⟩
    · exact Or.inr ⟨Nat.le_refl _, h2⟩
  · rintro (h1 | ⟨h1, h2⟩)
    · exact Or.inl h1
    · rcases Nat.lt_or_eq_of_le h1 with h3 | rfl
      · exact Or.inr (Or.inl ⟨h3, h2⟩)
      · -- round k' itself: everything but connection 0 to the leader is among its targets, all dialled
        by_cases h00 : j = 0 ∧ k' = 0
        · exact Or.inl h00
        · refine Or.inr (Or.inr ⟨rfl, h2, ?_⟩)
          rw [← List.append_nil pre, ← hpre h2, h.mem_targets hd.1]
          refine ⟨hj, ?_⟩
          split
          · exact fun e => h00 ⟨‹j = 0›, e⟩
          · exact hd.2.resolve_left ‹¬ j = 0›

inductive Reach (c : Cfg) : State → Prop where
  | init : Reach c (init c)
  | step {s s' : State} (e : Ev) : Reach c s → e.real = true → step c s e = some s' → Reach c s'

inductive ReachOld (c : Cfg) : State → Prop where
  | init : ReachOld c (init c)
  | step {s s' : State} (e : Ev) : ReachOld c s → e.old = true → step c s e = some s' → ReachOld c s'

theorem LeaderInv.congr (h : LeaderInv c s)
    (hph : s'.phase 0 = s.phase 0) (hnp : s'.np 0 = s.np 0) (hk : s'.known 0 = s.known 0)
    (hconn : s'.conn 0 = s.conn 0) (hacc : s'.acc 0 = s.acc 0)
    (hneed : s'.need 0 = s.need 0) (hmail : s'.mail 0 = s.mail 0)
    (hsb : ∀ k, sbit s' 0 k = sbit s 0 k) : LeaderInv c s' := by
  have hm : ∀ k, missing s' 0 c.n k = missing s 0 c.n k := fun k => missing_congr _ _ _ _ _ fun _ _ _ => by rw [hconn]
  obtain ⟨h1, h2, h3, h4, h5, h6, h7, h8, h9, h10⟩ := h
  constructor <;> simp only [hph, hnp, hk, hconn, hacc, hneed, hmail, hm, hsb] <;> assumption

theorem ActiveInv.congr {i k : Nat} {todo : List Nat} (h : ActiveInv c s i k todo)
    (hsent : infoSentTo (s.phase 0) i → infoSentTo (s'.phase 0) i)
    (hmail : s'.mail i = s.mail i) (hacc : s'.acc i = s.acc i) (hnp : s'.np i = s.np i)
    (hk : s'.known i = s.known i) (hconn : s'.conn i = s.conn i)
    (hneed : s'.need i = s.need i) (hsb : ∀ k, sbit s' i k = sbit s i k) :
    ActiveInv c s' i k todo := by
  have hm : ∀ k, missing s' i i k = missing s i i k := fun k => missing_congr _ _ _ _ _ fun _ _ _ => by rw [hconn]
  obtain ⟨h1, h2, h3, h4, h5, h6, h7, h8, h9, h10⟩ := h
  refine ⟨h1, hsent h2, ?_, ?_, ?_, ?_, ?_, ?_, ?_, ?_⟩ <;>
    simp only [hmail, hacc, hnp, hk, hconn, hneed, hm, hsb, targets_congr s s' i k hk] <;> assumption

/-- What the invariant says of one connection `(i, j, k)`, dialled by i to j: how its stages (slot at the
dialler, hello pending at the listener, held by the accept goroutine of j, slot at the acceptor) hang
together. -/
structure LinkInv (c : Cfg) (s : State) (i j k : Nat) : Prop where
  accSlot : Dials i j → (s.conn j i k).isSome → (s.conn i j k).isSome ∧ s.pend j i k = false
  pendSlot : s.pend j i k = true → Dials i j ∧ (s.conn i j k).isSome ∧ s.conn j i k = none ∧ j < c.n
  dialSlot : Dials i j → (s.conn i j k).isSome →
    s.pend j i k = true ∨ (s.conn j i k).isSome ∨ (j = 0 ∧ k = 0 ∧ s.phase i = .joined) ∨ s.infl j = .taken i k
  taken : s.infl j = .taken i k → Dials i j ∧ (s.conn i j k).isSome ∧ s.conn j i k = none ∧ s.pend j i k = false ∧
    j < c.n ∧ s.acc j = true ∧ (j = 0 → k = 0 → s.phase i ≠ .joined)
  stored : s.infl j = .stored i k → Dials i j ∧ (s.conn j i k).isSome ∧ j < c.n ∧ s.acc j = true

theorem Inv.link (h : Inv c s) (i j k : Nat) : LinkInv c s i j k := by
  refine ⟨h.accSlot i j k, h.pendSlot i j k, h.dialSlot i j k, ?_, ?_⟩
  all_goals
    intro e
    have := h.infl j
    unfold InflInv at this
    rw [e] at this
    exact this

/-- A connection `(i, j, k)` that has been dialled and that the acceptor has not stored. -/
structure PendFacts (c : Cfg) (s : State) (j i k : Nat) : Prop where
  dials : Dials i j
  dset : (s.conn i j k).isSome
  anone : s.conn j i k = none
  jn : j < c.n
  inn : i < c.n
  km : k < c.m
  ij : i ≠ j

theorem Inv.pendFacts_of_dialled (h : Inv c s) {j i k : Nat} (hd : Dials i j)
    (hset : (s.conn i j k).isSome) (hnone : s.conn j i k = none) : PendFacts c s j i k :=
  have hs := h.slot_isSome hset
  ⟨hd, hset, hnone, hs.2.2.2.1, hs.2.2.1, hs.2.2.2.2, hs.2.1⟩

theorem Inv.pendFacts (h : Inv c s) {j i k : Nat} (hp : s.pend j i k = true) :
    PendFacts c s j i k := by
  obtain ⟨hd, hset, hnone, -⟩ := h.pendSlot i j k hp
  exact h.pendFacts_of_dialled hd hset hnone

structure TakenFacts (c : Cfg) (s : State) (j i k : Nat) : Prop extends PendFacts c s j i k where
  pnone : s.pend j i k = false
  acc : s.acc j = true
  notJoined : j = 0 → k = 0 → s.phase i ≠ .joined

theorem Inv.takenFacts (h : Inv c s) {j i k : Nat} (ht : s.infl j = .taken i k) :
    TakenFacts c s j i k := by
  obtain ⟨h1, h2, h3, h4, -, h6, h7⟩ := (h.link i j k).taken ht
  exact ⟨h.pendFacts_of_dialled h1 h2 h3, h4, h6, h7⟩

structure StoredFacts (c : Cfg) (s : State) (j i k : Nat) : Prop where
  dials : Dials i j
  aset : (s.conn j i k).isSome
  jn : j < c.n
  acc : s.acc j = true
  km : k < c.m

theorem Inv.storedFacts (h : Inv c s) {j i k : Nat} (ht : s.infl j = .stored i k) :
    StoredFacts c s j i k := by
  obtain ⟨h1, h2, h3, h4⟩ := (h.link i j k).stored ht
  exact ⟨h1, h2, h3, h4, (h.slot_isSome h2).2.2.2.2⟩

theorem Inv.infl_none (h : Inv c s) {j : Nat} (ha : s.acc j = false) : s.infl j = .none := by
  cases hi : s.infl j with
  | none => rfl
  | taken i k => simpa [ha] using (h.takenFacts hi).acc
  | stored i k => simpa [ha] using (h.storedFacts hi).acc

theorem Inv.of_links (hlink : ∀ i j k, LinkInv c s i j k) (hbad : s.bad = false)
    (hout : ∀ p, c.n ≤ p → s.phase p = .init)
    (hslot : ∀ p q k cn, s.conn p q k = some cn → cn = wire p q k ∧ p ≠ q ∧ p < c.n ∧ q < c.n ∧ k < c.m)
    (hL : LeaderInv c s) (hP : ∀ i, 0 < i → i < c.n → PeerInv c s i) : Inv c s := by
  refine ⟨hbad, fun j => ?_, hout, hslot, fun i j k => (hlink i j k).accSlot, fun i j k => (hlink i j k).pendSlot,
    fun i j k => (hlink i j k).dialSlot, hL, hP⟩
  unfold InflInv
  cases hi : s.infl j with
  | none => trivial
  | taken i k => exact (hlink i j k).taken hi
  | stored i k => exact (hlink i j k).stored hi

theorem LinkInv.congr {i j k : Nat} (h : LinkInv c s i j k)
    (hd : Dials i j → s'.conn i j k = s.conn i j k) (ha : Dials i j → s'.conn j i k = s.conn j i k)
    (hp : s'.pend j i k = s.pend j i k)
    (ht : s'.infl j = .taken i k ↔ s.infl j = .taken i k) (hs : s'.infl j = .stored i k → s.infl j = .stored i k)
    (hacc : s.acc j = true → s'.acc j = true)
    (hj : j = 0 → k = 0 → (s'.phase i = .joined ↔ s.phase i = .joined)) : LinkInv c s' i j k := by
  constructor
  · intro hD; rw [hd hD, ha hD, hp]; exact h.accSlot hD
  · rw [hp]
    intro e
    have := h.pendSlot e
    rw [hd this.1, ha this.1]; exact this
  · intro hD
    rw [hd hD, ha hD, hp, ht]
    exact fun e => (h.dialSlot hD e).imp_right (Or.imp_right (Or.imp_left fun ⟨e1, e2, e3⟩ => ⟨e1, e2, (hj e1 e2).mpr e3⟩))
  · rw [ht, hp]
    intro e
    obtain ⟨h0, h1, h2, h3, h4, h5, h6⟩ := h.taken e
    exact ⟨h0, hd h0 ▸ h1, ha h0 ▸ h2, h3, h4, hacc h5, fun e1 e2 e3 => h6 e1 e2 ((hj e1 e2).mp e3)⟩
  · intro e
    obtain ⟨h0, h1, h2, h3⟩ := h.stored (hs e)
    exact ⟨h0, ha h0 ▸ h1, h2, hacc h3⟩

theorem Dials.asymm {i j : Nat} (h : Dials i j) : ¬ Dials j i := by
  unfold Dials at *; omega

/-- `s'` differs from `s`, as far as the two ends of connections go, only in the stage of connection
`(i, j, k)`; accept goroutines keep running. -/
structure OnlyLink (i j k : Nat) (s s' : State) : Prop where
  conn : ∀ p q k', ¬(p = i ∧ q = j ∧ k' = k) → ¬(p = j ∧ q = i ∧ k' = k) → s'.conn p q k' = s.conn p q k' := by
    intros; rfl
  pend : ∀ b a k', ¬(b = j ∧ a = i ∧ k' = k) → s'.pend b a k' = s.pend b a k' := by intros; rfl
  infl : ∀ b, b ≠ j → s'.infl b = s.infl b := by intros; rfl
  held : ∀ a k', ¬(a = i ∧ k' = k) → (s'.infl j = .taken a k' ↔ s.infl j = .taken a k') ∧
    (s'.infl j = .stored a k' ↔ s.infl j = .stored a k') := by intros; exact ⟨Iff.rfl, Iff.rfl⟩
  phase : ∀ a, a ≠ i → s'.phase a = s.phase a := by intros; rfl
  joined : ¬(j = 0 ∧ k = 0) → (s'.phase i = .joined ↔ s.phase i = .joined) := by intros; exact Iff.rfl
  acc : ∀ b, s.acc b = true → s'.acc b = true := by intros; assumption

theorem Inv.links_of_link {i j k : Nat} (h : Inv c s) (hd : Dials i j)
    (ho : OnlyLink i j k s s') (hl : LinkInv c s' i j k) (a b k' : Nat) : LinkInv c s' a b k' := by
  by_cases e : a = i ∧ b = j ∧ k' = k
  · obtain ⟨rfl, rfl, rfl⟩ := e; exact hl
  have hx : Dials a b → ¬(a = j ∧ b = i ∧ k' = k) := fun hd' e' => hd.asymm (e'.1 ▸ e'.2.1 ▸ hd')
  have hb : b = j → ¬(a = i ∧ k' = k) := fun e1 e2 => e ⟨e2.1, e1, e2.2⟩
  refine (h.link a b k').congr (fun hd' => ho.conn a b k' e (hx hd'))
    (fun hd' => ho.conn b a k' (fun e' => hx hd' ⟨e'.2.1, e'.1, e'.2.2⟩) (fun e' => e ⟨e'.2.1, e'.1, e'.2.2⟩))
    (ho.pend b a k' (fun e' => e ⟨e'.2.1, e'.1, e'.2.2⟩)) ?_ ?_ (ho.acc b) ?_
  · by_cases ej : b = j
    · subst ej; exact (ho.held a k' (hb rfl)).1
    · rw [ho.infl b ej]
  · by_cases ej : b = j
    · subst ej; exact (ho.held a k' (hb rfl)).2.mp
    · rw [ho.infl b ej]; exact id
  · intro e1 e2
    by_cases ea : a = i
    · subst ea; exact ho.joined fun e' => e ⟨rfl, e1.trans e'.1.symm, e2.trans e'.2.symm⟩
    · rw [ho.phase a ea]

theorem Inv.links_of_parties {p : Nat} (h : Inv c s)
    (hph : ∀ q, q ≠ p → s'.phase q = s.phase q) (hacc' : ∀ q, q ≠ p → s'.acc q = s.acc q)
    (hconn : s'.conn = s.conn) (hpend : s'.pend = s.pend) (hinfl : s'.infl = s.infl)
    (hacc : s.acc p = true → s'.acc p = true) (hj : s.phase p ≠ .joined) (hj' : s'.phase p ≠ .joined)
    (i j k : Nat) : LinkInv c s' i j k := by
  refine (h.link i j k).congr (by rw [hconn]; exact fun _ => rfl) (by rw [hconn]; exact fun _ => rfl) (by rw [hpend])
    (by rw [hinfl]) (by rw [hinfl]; exact id) ?_ fun _ _ => ?_
  · by_cases ej : j = p
    · subst ej; exact hacc
    · rw [hacc' j ej]; exact id
  · by_cases ei : i = p
    · subst ei; exact iff_of_false hj' hj
    · rw [hph i ei]

theorem Inv.outside_of {p : Nat} (h : Inv c s) (hp : p < c.n) (hph : ∀ q, q ≠ p → s'.phase q = s.phase q)
    (q : Nat) (hq : c.n ≤ q) : s'.phase q = .init :=
  (hph q (by omega)).trans (h.outside q hq)

theorem PeerInv.of_active {i k : Nat} {todo : List Nat}
    (hpr : prog c (s.phase i) = some (k, todo)) (hlt : ∀ k t, s.phase i = .run k t → k < c.m)
    (hA : ActiveInv c s i k todo) : PeerInv c s i := by
  have hne : ∀ ph, prog c ph = none → s.phase i ≠ ph := fun ph e1 e2 => by rw [e2, e1] at hpr; cases hpr
  refine ⟨fun e => absurd e (hne _ rfl), fun e => absurd e (hne _ rfl), fun e => absurd e (hne _ rfl),
    fun r => hne _ rfl, hlt, fun k' todo' e => ?_⟩
  rw [hpr] at e
  cases e
  exact hA

theorem PeerInv.of_hello {i : Nat} (hph : s.phase i = .hello)
    (hh : (∀ q k, s.conn i q k = joinTable i q k) ∧
      (∀ j k, s.pend j i k = true ↔ (j = 0 ∧ k = 0 ∧ s.conn 0 i 0 = none ∧ s.infl 0 ≠ .taken i 0)) ∧
      s.acc i = false ∧ s.known i = [0, i] ∧
      (s.mail i ≠ none ↔ infoSentTo (s.phase 0) i) ∧ (∀ l, s.mail i = some l → GoodMail c i l)) :
    PeerInv c s i := by
  refine ⟨?_, ?_, fun _ => hh, ?_, ?_, ?_⟩
  · intro e; rw [hph] at e; cases e
  · intro e; rw [hph] at e; cases e
  · intro r e; rw [hph] at e; cases e
  · intro k t e; rw [hph] at e; cases e
  · intro k t e; rw [hph] at e; simp [prog] at e

/-- The `pend` clause of `PeerInv.hello` follows from the invariants of the peer's connections. -/
theorem pend_of_hello {i : Nat} (hl : ∀ j k, LinkInv c s i j k) (hi : 0 < i) (hph : s.phase i = .hello)
    (ht : ∀ q k, s.conn i q k = joinTable i q k) (j k : Nat) :
    s.pend j i k = true ↔ (j = 0 ∧ k = 0 ∧ s.conn 0 i 0 = none ∧ s.infl 0 ≠ .taken i 0) := by
  constructor
  · intro hp
    obtain ⟨-, hset, hnone, -⟩ := (hl j k).pendSlot hp
    obtain ⟨rfl, rfl⟩ : j = 0 ∧ k = 0 := (joinTable_isSome i j k).mp (ht j k ▸ hset)
    exact ⟨rfl, rfl, hnone, fun e => by simpa [hp] using ((hl 0 0).taken e).2.2.2.1⟩
  · rintro ⟨rfl, rfl, hnone, hnt⟩
    rcases (hl 0 0).dialSlot ⟨hi, Or.inl rfl⟩ (by simp [ht]) with e | e | ⟨-, -, e⟩ | e
    · exact e
    · simp [hnone] at e
    · rw [hph] at e; cases e
    · exact absurd e hnt

/-- No hypothesis on `pend`: which hellos of `i` are pending follows from `hl` (`pend_of_hello`); only of a peer
in `joined` it has to be said (`hj`) that connection 0 to the leader is still neither pending nor stored. -/
theorem PeerInv.congr {i : Nat} (h : PeerInv c s i) (hi : 0 < i)
    (hph : s'.phase i = s.phase i)
    (hsent : infoSentTo (s'.phase 0) i ↔ infoSentTo (s.phase 0) i)
    (hmail : s'.mail i = s.mail i) (hacc : s'.acc i = s.acc i) (hnp : s'.np i = s.np i)
    (hk : s'.known i = s.known i) (hconn : s'.conn i = s.conn i)
    (hneed : s'.need i = s.need i) (hsb : ∀ k, sbit s' i k = sbit s i k)
    (hl : ∀ j k, LinkInv c s' i j k)
    (hj : s.phase i = .joined → s'.pend 0 i 0 = false ∧ s'.conn 0 i 0 = none) : PeerInv c s' i := by
  -- a pending hello has been dialled
  have hnp' : ∀ j k, s.conn i j k = none → s'.pend j i k = false := fun j k hn =>
    Bool.eq_false_iff.mpr fun hp => by simpa [hconn, hn] using ((hl j k).pendSlot hp).2.1
  refine ⟨fun e => ?_, fun e => ?_, fun e => ?_, fun r => hph ▸ h.notInfo r, fun k t e => h.runLt k t (hph ▸ e),
    fun k todo hp => (h.active k todo (hph ▸ hp)).congr hsent.mpr hmail hacc hnp hk hconn hneed hsb⟩
  · obtain ⟨h1, -, h3, h4, h5⟩ := h.init (hph ▸ e)
    exact ⟨fun q k => hconn ▸ h1 q k, fun j k => hnp' j k (h1 j k), hmail ▸ h3, hacc ▸ h4, (not_congr hsent).mpr h5⟩
  · obtain ⟨h1, -, -, h4, h5, h6, h7⟩ := h.joined (hph ▸ e)
    refine ⟨fun q k => hconn ▸ h1 q k, fun j k => ?_, (hj (hph ▸ e)).2, hmail ▸ h4, hacc ▸ h5, hk ▸ h6,
      (not_congr hsent).mpr h7⟩
    by_cases e0 : j = 0 ∧ k = 0
    · rw [e0.1, e0.2]; exact (hj (hph ▸ e)).1
    · exact hnp' j k ((h1 j k).trans (joinTable_eq_none e0))
  · obtain ⟨h1, -, h3, h4, h5, h6⟩ := h.hello (hph ▸ e)
    exact ⟨fun q k => hconn ▸ h1 q k, pend_of_hello hl hi e (fun q k => hconn ▸ h1 q k), hacc ▸ h3, hk ▸ h4,
      by rw [hmail, hsent]; exact h5, fun l hl' => h6 l (hmail ▸ hl')⟩

/-- `s'` differs from `s` only in what belongs to party `p`; of `pend`, that is the hellos `p` has sent, not those
sent to it. -/
structure OnlyAt (p : Nat) (s s' : State) : Prop where
  phase : ∀ q, q ≠ p → s'.phase q = s.phase q := by intros; rfl
  need : ∀ q, q ≠ p → s'.need q = s.need q := by intros; rfl
  known : ∀ q, q ≠ p → s'.known q = s.known q := by intros; rfl
  np : ∀ q, q ≠ p → s'.np q = s.np q := by intros; rfl
  conn : ∀ q, q ≠ p → s'.conn q = s.conn q := by intros; rfl
  acc : ∀ q, q ≠ p → s'.acc q = s.acc q := by intros; rfl
  infl : ∀ q, q ≠ p → s'.infl q = s.infl q := by intros; rfl
  pend : ∀ q, q ≠ p → ∀ j k, s'.pend j q k = s.pend j q k := by intros; rfl
  mail : ∀ q, q ≠ p → s'.mail q = s.mail q := by intros; rfl

theorem LeaderInv.onlyAt {p : Nat} (h : LeaderInv c s) (ho : OnlyAt p s s')
    (hp : 0 ≠ p) : LeaderInv c s' :=
  h.congr (ho.phase 0 hp) (ho.np 0 hp) (ho.known 0 hp) (ho.conn 0 hp) (ho.acc 0 hp) (ho.need 0 hp)
    (ho.mail 0 hp) (fun _ => sbit_congr _ _ _ _ (ho.infl 0 hp))

/-- A peer reads, besides what is its own and its connections, the leader's phase (has the info been sent?) and,
while it is in `joined`, the leader's slot for its connection 0. -/
theorem PeerInv.onlyAt_leader {q : Nat} (h : PeerInv c s q) (ho : OnlyAt 0 s s')
    (hq : 0 < q) (hsent : infoSentTo (s'.phase 0) q ↔ infoSentTo (s.phase 0) q)
    (hl : ∀ j k, LinkInv c s' q j k) (hconn0 : s.phase q = .joined → s'.conn 0 q 0 = s.conn 0 q 0) :
    PeerInv c s' q :=
  have hq0 : q ≠ 0 := by omega
  h.congr hq (ho.phase q hq0) hsent (ho.mail q hq0) (ho.acc q hq0) (ho.np q hq0) (ho.known q hq0)
    (ho.conn q hq0) (ho.need q hq0) (fun _ => sbit_congr _ _ _ _ (ho.infl q hq0)) hl
    fun e => ⟨(ho.pend q hq0 0 0).trans ((h.joined e).2.1 0 0), (hconn0 e).trans (h.joined e).2.2.1⟩

theorem PeerInv.onlyAt {p q : Nat} (h : PeerInv c s q) (ho : OnlyAt p s s')
    (hq : 0 < q) (hqp : q ≠ p) (hp : 0 ≠ p) (hl : ∀ j k, LinkInv c s' q j k) : PeerInv c s' q :=
  h.congr hq (ho.phase q hqp) (by rw [ho.phase 0 hp]) (ho.mail q hqp) (ho.acc q hqp) (ho.np q hqp)
    (ho.known q hqp) (ho.conn q hqp) (ho.need q hqp) (fun _ => sbit_congr _ _ _ _ (ho.infl q hqp)) hl
    fun e => ⟨(ho.pend q hqp 0 0).trans ((h.joined e).2.1 0 0), (by rw [ho.conn 0 hp]; exact (h.joined e).2.2.1)⟩

theorem Inv.parties_of_peer_step {p : Nat} (h : Inv c s) (ho : OnlyAt p s s')
    (hp : 0 ≠ p) (hl : ∀ i j k, LinkInv c s' i j k) (hP : PeerInv c s' p) :
    LeaderInv c s' ∧ ∀ i, 0 < i → i < c.n → PeerInv c s' i := by
  refine ⟨h.leader.onlyAt ho hp, fun i hi hin => ?_⟩
  by_cases e : i = p
  · exact e ▸ hP
  · exact (h.peer i hi hin).onlyAt ho hi e hp (hl i)

theorem inv_init (c : Cfg) (h : c.Ok) : Inv c (init c) := by
  have := h.n2
  refine { notBad := rfl, infl := fun _ => trivial, outside := fun _ _ => rfl, slot := nofun, accSlot := nofun,
           pendSlot := nofun, dialSlot := nofun, leader := ?_, peer := fun i hi hin => ?_ }
  · refine { shape := Or.inl rfl, np0 := by simp [init], knownMem := fun x => by simp [init],
             knownNodup := by simp [init], lenKnown := ?_, initial := fun _ => ⟨rfl, fun _ _ => rfl⟩,
             started := fun hn => absurd rfl hn, waited := nofun, infoRest := nofun, mail0 := rfl }
    rw [missing_all_none _ _ _ _ (fun _ _ => rfl)]; simp [init]; omega
  · exact { init := fun _ => ⟨fun _ _ => rfl, fun _ _ => rfl, rfl, rfl, by simp [init, infoSentTo]⟩, joined := nofun,
            hello := nofun, notInfo := nofun, runLt := nofun, active := nofun }

end Mpc.Mesh
