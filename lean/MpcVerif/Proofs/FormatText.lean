/-
C14, on Model/Format.lean: decimal numerals (`dec`, `digitsVal`) and the type text.  The round trip
`typeParse (typeString t) = some t.norm` holds on `Info.inGrammar`; both file formats write their
numbers with `dec`, the native one its types with `typeString`.
-/
import MpcVerif.Model.Format

namespace Mpc
namespace Fmt

def digitCh (d : Nat) : UInt8 := UInt8.ofNat (48 + d % 10)

theorem digitCh_toNat (d : Nat) : (digitCh d).toNat = 48 + d % 10 := by
  simp only [digitCh, UInt8.toNat_ofNat']
  omega

theorem isDigit_iff (b : UInt8) : isDigit b = true ↔ 48 ≤ b.toNat ∧ b.toNat ≤ 57 := by
  simp only [isDigit, Bool.and_eq_true, decide_eq_true_eq, UInt8.le_iff_toNat_le]
  simp

theorem isAlpha_iff (b : UInt8) : isAlpha b = true ↔
    (65 ≤ b.toNat ∧ b.toNat ≤ 90) ∨ (97 ≤ b.toNat ∧ b.toNat ≤ 122) := by
  simp only [isAlpha, Bool.or_eq_true, Bool.and_eq_true, decide_eq_true_eq, UInt8.le_iff_toNat_le]
  simp

theorem isDigit_digitCh (d : Nat) : isDigit (digitCh d) = true := by
  rw [isDigit_iff, digitCh_toNat]; omega

theorem digitsVal_foldl (ds : Bytes) (a : Nat) :
    ds.foldl (fun acc d => acc * 10 + (d.toNat - 48)) a = a * 10 ^ ds.length + digitsVal ds := by
  induction ds generalizing a with
  | nil => simp [digitsVal]
  | cons d ds ih =>
    simp only [List.foldl_cons, digitsVal, List.length_cons]
    rw [ih, ih (0 * 10 + (d.toNat - 48))]
    rw [Nat.pow_succ]
    simp only [Nat.zero_mul, Nat.zero_add, Nat.add_mul]
    rw [Nat.mul_assoc, Nat.mul_comm (10 ^ ds.length) 10, Nat.add_assoc]

theorem digitsVal_cons (d : UInt8) (ds : Bytes) :
    digitsVal (d :: ds) = (d.toNat - 48) * 10 ^ ds.length + digitsVal ds := by
  simp only [digitsVal, List.foldl_cons]
  rw [digitsVal_foldl]
  simp [digitsVal]

theorem decAux_spec : ∀ (f n : Nat) (acc : Bytes), n < f →
    digitsVal (decAux f n acc) = n * 10 ^ acc.length + digitsVal acc ∧
    (acc.all isDigit = true → (decAux f n acc).all isDigit = true) ∧ decAux f n acc ≠ [] := by
  intro f
  induction f with
  | zero => intro n acc h; omega
  | succ f ih =>
    intro n acc hn
    simp only [decAux]
    have hd : (UInt8.ofNat (48 + n % 10)) = digitCh n := rfl
    rw [hd]
    by_cases h0 : n / 10 = 0
    · simp only [h0, if_true]
      refine ⟨?_, ?_, by simp⟩
      · rw [digitsVal_cons, digitCh_toNat]
        have : n % 10 = n := by omega
        rw [this]; simp
      · intro ha; simp [isDigit_digitCh, ha]
    · simp only [h0, if_false]
      obtain ⟨i1, i2, i3⟩ := ih (n / 10) (digitCh n :: acc) (by omega)
      refine ⟨?_, ?_, i3⟩
      · rw [i1, digitsVal_cons, digitCh_toNat, List.length_cons, Nat.pow_succ]
        have hdm := Nat.div_add_mod n 10
        have : 48 + n % 10 - 48 = n % 10 := by omega
        rw [this]
        generalize 10 ^ acc.length = X
        calc n / 10 * (X * 10) + (n % 10 * X + digitsVal acc)
            = (10 * (n / 10) + n % 10) * X + digitsVal acc := by
              rw [Nat.add_mul, Nat.mul_comm X 10, ← Nat.mul_assoc, Nat.mul_comm (n / 10) 10, Nat.add_assoc]
          _ = n * X + digitsVal acc := by rw [hdm]
      · intro ha; exact i2 (by simp [isDigit_digitCh, ha])

theorem digitsVal_dec (n : Nat) : digitsVal (dec n) = n := by
  have := (decAux_spec (n + 1) n [] (by omega)).1
  simpa [dec, digitsVal] using this

theorem dec_all_digits (n : Nat) : (dec n).all isDigit = true :=
  (decAux_spec (n + 1) n [] (by omega)).2.1 (by simp)

theorem dec_ne_nil (n : Nat) : dec n ≠ [] :=
  (decAux_spec (n + 1) n [] (by omega)).2.2

theorem parseDigits31_dec (n : Nat) (h : n < 2147483648) : parseDigits31 (dec n) = some n := by
  simp [parseDigits31, digitsVal_dec, h]

theorem takeWhile_append {α : Type} (p : α → Bool) (a c : List α) (ha : a.all p = true)
    (hc : ∀ x ∈ c.head?, p x = false) :
    (a ++ c).takeWhile p = a ∧ (a ++ c).dropWhile p = c := by
  rw [List.takeWhile_append_of_pos (List.all_eq_true.1 ha),
    List.dropWhile_append_of_pos (List.all_eq_true.1 ha)]
  cases c with
  | nil => simp
  | cons b c => simp [hc b rfl]

theorem digit_not_alpha (b : UInt8) (h : isDigit b = true) : isAlpha b = false := by
  rw [isDigit_iff] at h
  cases ha : isAlpha b with
  | false => rfl
  | true => rw [isAlpha_iff] at ha; omega

theorem alpha_not_digit (b : UInt8) (h : isAlpha b = true) : isDigit b = false := by
  cases hd : isDigit b with
  | false => rfl
  | true => rw [digit_not_alpha b hd] at h; cases h

/-- The kinds `types.Parse` knows by name. -/
def TKind.named : TKind → Bool
  | .bool | .int | .uint | .string | .struct => true
  | _ => false

theorem kindName_alpha (k : TKind) (hk : k.named = true) :
    (kindName k).all isAlpha = true ∧ kindName k ≠ [] ∧ kindOfName (kindName k) = some k := by
  cases k <;> simp [TKind.named] at hk <;> decide

theorem sizedParts_kind_digits (k : TKind) (hk : k.named = true) (ds : Bytes) (hd : ds.all isDigit = true) :
    sizedParts (kindName k ++ ds) = some (kindName k, ds) := by
  obtain ⟨ka, kn, _⟩ := kindName_alpha k hk
  obtain ⟨t1, t2⟩ := takeWhile_append isAlpha (kindName k) ds ka fun x hx =>
    digit_not_alpha x (List.all_eq_true.1 hd x (List.mem_of_mem_head? hx))
  simp [sizedParts, t1, t2, kn, hd]

theorem splitNL_no_nl : ∀ (s acc : Bytes), 10 ∉ s → splitNL s acc = [acc.reverse ++ s]
  | [], acc, _ => by simp [splitNL]
  | b :: t, acc, h => by
    simp only [List.mem_cons, not_or] at h
    simp only [splitNL, Ne.symm h.1, if_false]
    rw [splitNL_no_nl t (b :: acc) h.2]
    simp

theorem not_mem_of_all {p : UInt8 → Bool} {l : Bytes} (h : l.all p = true) {c : UInt8}
    (hc : p c = false) : c ∉ l := fun hm => by
  rw [List.all_eq_true.1 h c hm] at hc; cases hc

theorem dec_no_nl (n : Nat) : 10 ∉ dec n := not_mem_of_all (dec_all_digits n) (by decide)

theorem typeString_no_nl : ∀ t : Info, 10 ∉ typeString t
  | .base k c b => by
    have hk : 10 ∉ kindName k := by cases k <;> simp [kindName]
    have hd : 10 ∉ decInt b := by unfold decInt; split <;> simp [dec_no_nl]
    unfold typeString; split <;> simp [hk, hd]
  | .arr false n _ e => by simp [typeString, dec_no_nl, typeString_no_nl e]
  | .arr true _ _ e => by simp [typeString, typeString_no_nl e]
  | .ptr _ e => by simp [typeString, typeString_no_nl e]

theorem splitNL_typeString (t : Info) : splitNL (typeString t) [] = [typeString t] :=
  splitNL_no_nl _ [] (typeString_no_nl t)

theorem typeString_ne_nil : ∀ t : Info, typeString t ≠ []
  | .base k c b => by
    have : kindName k ≠ [] := by cases k <;> decide
    unfold typeString; split <;> simp [this]
  | .arr sl _ _ _ => by cases sl <;> simp [typeString]
  | .ptr _ _ => by simp [typeString]

/-- The I/O type grammar: what `Info.String` prints in a form `types.Parse`
reads back — sized bool/int/uint/string/struct, unsized int/uint/string,
arrays and slices of those; sizes below 2^31. -/
def Info.inGrammar : Info → Bool
  | .base k c b => k.named && decide (0 ≤ b) && decide (b < 2147483648) &&
      (c || (k != .bool && k != .struct))
  | .arr _ n _ e => decide (n < 2147483648) && e.inGrammar
  | .ptr _ _ => false

/-- What `types.Parse` makes of the text: an unsized type has `Bits = 0`, a
slice `ArraySize = 0`, an array `Bits = ArraySize * element Bits` (int32). -/
def Info.norm : Info → Info
  | .base k true b => .base k true b
  | .base k false _ => .base k false 0
  | .arr false n _ e => .arr false n (wrap32 (n * e.norm.bits)) e.norm
  | .arr true _ _ e => .arr true 0 0 e.norm
  | .ptr b e => .ptr b e

theorem decInt_nonneg (b : Int) (h : 0 ≤ b) : decInt b = dec b.toNat := by
  unfold decInt
  have : ¬ b < 0 := by omega
  simp only [this, if_false]
  congr 1
  omega

theorem ends_digit_ne (p ds c : Bytes) (hds : ds.all isDigit = true) (hne : ds ≠ [])
    (hc : ∀ x, c.getLast? = some x → isDigit x = false) : p ++ ds ≠ c := by
  intro h
  obtain ⟨x, hx⟩ := Option.isSome_iff_exists.1 (List.getLast?_isSome.2 hne)
  have := hc x (by rw [← h, List.getLast?_append, hx]; rfl)
  rw [List.all_eq_true.1 hds x (List.mem_of_getLast? hx)] at this
  cases this

/-- The bound is the one `typeParse` starts with: the element text is shorter. -/
theorem typeParseAux_typeString (t : Info) (h : t.inGrammar = true) :
    ∀ f, (typeString t).length < f → typeParseAux f (typeString t) = some t.norm := by
  induction t with
  | base k c b =>
    intro f hf
    cases f with
    | zero => omega
    | succ f =>
      have hsplit := splitNL_typeString (.base k c b)
      simp only [Info.inGrammar, Bool.and_eq_true, decide_eq_true_eq, Bool.or_eq_true] at h
      obtain ⟨⟨⟨hk, hb0⟩, hb1⟩, hc⟩ := h
      obtain ⟨ka, kn, kk⟩ := kindName_alpha k hk
      cases c with
      | true =>
        have hval : typeString (.base k true b) = kindName k ++ dec b.toNat := by
          simp [typeString, decInt_nonneg b hb0]
        rw [hval] at hsplit ⊢
        have hn := fun c hc => ends_digit_ne (kindName k) (dec b.toNat) c (dec_all_digits _) (dec_ne_nil _) hc
        simp only [typeParseAux, hn [98] (by decide), hn [98, 111, 111, 108] (by decide),
          hn [98, 121, 116, 101] (by decide), hn [114, 117, 110, 101] (by decide), or_self, if_false, hsplit,
          List.findSome?_cons, sizedParts_kind_digits k hk _ (dec_all_digits _), kk,
          dec_ne_nil, parseDigits31_dec _ (show b.toNat < 2147483648 by omega), Info.norm]
        congr 2
        omega
      | false =>
        simp only [Bool.false_eq_true, false_or, bne_iff_ne, ne_eq] at hc
        have hval : typeString (.base k false b) = kindName k := by simp [typeString]
        rw [hval]
        cases k <;> simp [TKind.named] at hk <;> simp at hc <;> rfl
  | arr sl n bits e ih =>
    intro f hf
    cases f with
    | zero => omega
    | succ f =>
      have hsplit := splitNL_typeString (.arr sl n bits e)
      simp only [Info.inGrammar, Bool.and_eq_true, decide_eq_true_eq] at h
      obtain ⟨hn, he⟩ := h
      have hts := typeString_ne_nil e
      cases sl with
      | false =>
        simp only [typeString, List.length_cons, List.length_append] at hsplit hf ⊢
        have hrec := ih he f (by omega)
        have hsz : sizedParts (91 :: (dec n ++ 93 :: typeString e)) = none := by
          simp [sizedParts, List.takeWhile, isAlpha]
        obtain ⟨t1, t2⟩ := takeWhile_append isDigit (dec n) (93 :: typeString e) (dec_all_digits n) (by simp; decide)
        have har : arrParts (91 :: (dec n ++ 93 :: typeString e)) = some (dec n, typeString e) := by
          simp only [arrParts, t1, t2]
          simp [hts]
        simp only [typeParseAux]
        rw [hsplit]
        simp only [List.findSome?_cons, List.findSome?_nil, hsz, har, hrec, dec_ne_nil, if_false]
        rw [parseDigits31_dec _ hn]
        simp [Info.norm]
      | true =>
        simp only [typeString, List.length_cons] at hsplit hf ⊢
        have hrec := ih he f (by omega)
        have hsz : sizedParts (91 :: 93 :: typeString e) = none := by
          simp [sizedParts, List.takeWhile, isAlpha]
        have har : arrParts (91 :: 93 :: typeString e) = some ([], typeString e) := by
          simp [arrParts, List.takeWhile, List.dropWhile, isDigit, hts]
        simp only [typeParseAux]
        rw [hsplit]
        simp [hsz, har, hrec, Info.norm]
  | ptr b e _ => simp [Info.inGrammar] at h

theorem typeParse_typeString (t : Info) (h : t.inGrammar = true) :
    typeParse (typeString t) = some t.norm :=
  typeParseAux_typeString t h _ (Nat.lt_succ_self _)

theorem typeString_norm (t : Info) : typeString t.norm = typeString t := by
  induction t with
  | base k c b => cases c <;> simp [Info.norm, typeString]
  | arr sl n bits e ih => cases sl <;> simp [Info.norm, typeString, ih]
  | ptr b e ih => simp [Info.norm]

theorem typeString_setBits_arr (t : Info) (b : Int) (h : ∀ k c b', t ≠ .base k c b') :
    typeString (t.setBits b) = typeString t := by
  cases t with
  | base k c b' => exact absurd rfl (h k c b')
  | arr sl n bits e => cases sl <;> simp [Info.setBits, typeString]
  | ptr b' e => simp [Info.setBits, typeString]

theorem typeString_norm_setBits (t : Info) : typeString (t.norm.setBits t.bits) = typeString t := by
  cases t with
  | base k c b => cases c <;> simp [Info.norm, Info.setBits, Info.bits, typeString]
  | arr sl n bits e => cases sl <;> simp [Info.norm, Info.setBits, typeString, typeString_norm]
  | ptr b e => simp [Info.norm, Info.setBits, typeString]

end Fmt
end Mpc
