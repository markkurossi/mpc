/-
Lemmas behind Props/C12.lean, about Model/Fold.lean.  `Binary.evalConst` on two integer constants is read off its
definition once (`evalBin_int`) and specialised per operator class (`evalBin_arith`, `evalBin_shift`): it is
`Generator.Constant` of what one `mpa` method returns on the receiver `mpa.New(Bits)` of the left type.  What the methods
compute is said apart from it: on a receiver of at most 64 bits Go's `int64` operation masked to the receiver
(`mpaArith_small`, `mpaShift_small`), on a wider one and non-negative operands a natural number (`mpaArith_wrap_large`,
`lsh_large`, `rsh_large`, `div_mod_large`).  Small path (left type of at most 64 bits): the low `n` wires of the result
are the low `n` bits of the `int64` operation (`fold_small`), which leaves each operator with a fact about `BitVec 64`.
Large path: a result whose big image is a natural number `r` shows `BitVec.ofNat n r` (`fold_large`), which leaves each
operator with a fact about `BitVec.ofNat`.  Comparisons on both paths rest on `cmp_of_cmpAgrees`: `Cmp` compares the
typed values.
-/
import MpcVerif.Model.Fold
import MpcVerif.Proofs.MpaLemmas
import MpcVerif.Proofs.ListLemmas
namespace Mpc.Fold
open Mpc.Mpa

instance {α} [DecidableEq α] : DecidableEq (Res α) := fun a b =>
  match a, b with
  | .ok x, .ok y => if h : x = y then isTrue (by rw [h]) else isFalse (by intro h'; cases h'; exact h rfl)
  | .error x, .error y => if h : x = y then isTrue (by rw [h]) else isFalse (by intro h'; cases h'; exact h rfl)
  | .ok _, .error _ => isFalse (by intro h; cases h)
  | .error _, .ok _ => isFalse (by intro h; cases h)

theorem bind_eq_ok {α β : Type} {x : Res α} {f : α → Res β} {b : β} :
    (x >>= f) = .ok b ↔ ∃ a, x = .ok a ∧ f a = .ok b := by
  cases x with
  | error e => exact ⟨nofun, fun ⟨_, h, _⟩ => nomatch h⟩
  | ok a => exact ⟨fun h => ⟨a, rfl, h⟩, fun ⟨_, h, h'⟩ => by cases h; exact h'⟩

theorem getLsbD_mask (B i : Nat) (hB : B ≤ 64) : (mask B).getLsbD i = decide (i < B) := by
  unfold mask
  rw [BitVec.getLsbD_ushiftRight, BitVec.getLsbD_allOnes]
  by_cases h : i < B <;> simp [h] <;> omega

theorem setSmall_eq (B : Nat) (x : BitVec 64) (hB : B ≤ 64) :
    setSmall B x = some { bits := B, i64 := x &&& mask B, big := none } := by
  unfold setSmall
  simp
  omega

theorem constSize_spec (b : Nat) : b ≤ constSize b ∧ 32 ≤ constSize b ∧ (b ≤ 64 → constSize b ≤ 64) := by
  unfold constSize
  split
  · omega
  · split <;> omega

/-- `Generator.Constant` never takes its panic branch `MinBits > Bits`: it first widens the type to the value's
32 / 64 / n size, which is at least `MinBits`. -/
theorem constantMpa_ok (val : MInt) (t : TInfo) :
    constantMpa val (some t) =
      .ok (.int ⟨t.kind, if t.bits < constSize val.bitLen then constSize val.bitLen else t.bits, val.bitLen⟩
        { val with bits := constSize val.bitLen }) := by
  unfold constantMpa
  have := (constSize_spec val.bitLen).1
  simp only []
  split
  · rw [if_neg (by omega)]
  · rw [if_neg (by omega)]

theorem constantMpa_spec (val : MInt) (t : TInfo) :
    ∃ t', constantMpa val (some t) = .ok (.int t' { val with bits := constSize val.bitLen }) ∧
      t'.kind = t.kind ∧ t'.minBits = val.bitLen ∧ t.bits ≤ t'.bits ∧ constSize val.bitLen ≤ t'.bits := by
  rw [constantMpa_ok]
  refine ⟨_, rfl, rfl, rfl, ?_, ?_⟩ <;> show _ ≤ ite _ _ _ <;> split
  · exact Nat.le_of_lt ‹_›
  · exact Nat.le_refl _
  · exact Nat.le_refl _
  · exact Nat.le_of_not_lt ‹_›

theorem seenBV_small (n : Nat) (t : TInfo) (v : MInt) (hs : v.bits ≤ 64) (hn : n ≤ t.bits) :
    seenBV n (.int t v) = v.small.setWidth n := by
  unfold seenBV constWires
  simp only [isSmall_of_le hs, if_true]
  apply BitVec.eq_of_toNat_eq
  simp only [BitVec.toNat_ofNat, BitVec.toNat_setWidth]
  exact mod_two_pow_mod _ hn

/-- What the small path of `z.Op(x, y)` hands to `setSmall`: Go's `int64` operation on `x.small`, `y.small` (`c` the
shift count; `/` and `%` by zero as `Div` / `Mod` special-case them). -/
def op64 (op : Op) (x y : BitVec 64) (c : Nat) : BitVec 64 :=
  match op with
  | .add => x + y
  | .sub => x - y
  | .mul => x * y
  | .div => if y = 0#64 then BitVec.allOnes 64 else x.sdiv y
  | .mod => if y = 0#64 then x else x.srem y
  | .band => x &&& y
  | .bor => x ||| y
  | .bxor => x ^^^ y
  | .bclr => x &&& ~~~y
  | .shl => x <<< c
  | _ => x.sshiftRight c

def Op.isWrap : Op → Bool
  | .add | .sub | .mul | .band | .bor | .bxor | .bclr => true
  | _ => false

theorem Op.isWrap_spec {op : Op} (h : op.isWrap = true) :
    op.isArith = true ∧ op.isCmp = false ∧ op.isShift = false ∧ op ≠ .neg := by
  cases op with
  | add | sub | mul | band | bor | bxor | bclr => exact ⟨rfl, rfl, rfl, nofun⟩
  | _ => cases h

theorem Op.ne_of_isWrap {op o : Op} (hop : op.isWrap = true) (ho : o.isWrap = false) : op ≠ o :=
  fun h => by rw [h, ho] at hop; cases hop

theorem setWidth_sub' {w i : Nat} (x y : BitVec w) (h : i ≤ w) :
    (x - y).setWidth i = x.setWidth i - y.setWidth i := by
  rw [BitVec.sub_eq_add_neg, BitVec.setWidth_add _ _ h, BitVec.setWidth_neg_of_le h, ← BitVec.sub_eq_add_neg]

theorem setWidth_op64 (op : Op) (hop : op.isWrap = true) (signed : Bool) (x y : BitVec 64) (n c cnt : Nat) (hn : n ≤ 64) :
    (op64 op x y c).setWidth n = circuitOp op signed (x.setWidth n) (y.setWidth n) cnt := by
  cases op with
  | add => exact BitVec.setWidth_add x y hn
  | sub => exact setWidth_sub' x y hn
  | mul => exact BitVec.setWidth_mul x y hn
  | band => exact BitVec.setWidth_and
  | bor => exact BitVec.setWidth_or
  | bxor => exact BitVec.setWidth_xor
  | bclr => exact BitVec.setWidth_and.trans (congrArg _ (BitVec.setWidth_not hn))
  | _ => cases hop

/-- The `mpa` method `Binary.evalConst` calls for an arithmetic operator: its `z := mpa.New(Bits); z.Op(l, r);
gen.Constant(z, type)` is `Mpa.new`, this, `constantMpa`.  The `match` is the inner one of `evalBin`, arm for arm, so that
`evalBin_int` holds by `rfl`. -/
def mpaArith (op : Op) (z x y : MInt) : Option MInt :=
  match op with
  | .add => Mpa.add z x y
  | .sub => Mpa.sub z x y
  | .mul => Mpa.mul z x y
  | .div => Mpa.div z x y
  | .mod => Mpa.mod z x y
  | .band => Mpa.and z x y
  | .bor => Mpa.or z x y
  | .bxor => Mpa.xor z x y
  | _ => Mpa.andNot z x y

/-- … and for a shift (the `if` of `evalBin`). -/
def mpaShift (op : Op) (z x : MInt) (cnt : Nat) : Option MInt :=
  if op == .shl then Mpa.lsh z x cnt else Mpa.rsh z x cnt false

theorem Op.isArith_spec {op : Op} (h : op.isArith = true) : op.isCmp = false ∧ op.isShift = false := by
  cases op with
  | add | sub | mul | div | mod | band | bor | bxor | bclr => exact ⟨rfl, rfl⟩
  | _ => cases h

theorem Op.isShift_spec {op : Op} (h : op.isShift = true) : op.isCmp = false := by
  cases op with
  | shl | shr => rfl
  | _ => cases h

theorem evalBin_int (op : Op) (lt rt : TInfo) (lv rv : MInt) :
    evalBin op (.int lt lv) (.int rt rv) =
    if op.isCmp then liftP (Mpa.cmp lv rv) >>= fun c => .ok (.bool (cmpResult op c))
    else if op.isShift then
      liftP (Mpa.new lt.bits) >>= fun z => liftP rv.int64 >>= fun cnt =>
        liftP (mpaShift op z lv cnt.toNat) >>= (constantMpa · (some lt))
    else if op.isArith then
      if lt.kind ≠ rt.kind then .error .compileError
      else liftP (Mpa.new lt.bits) >>= fun z => liftP (mpaArith op z lv rv) >>= (constantMpa · (some lt))
    else .error .compileError := rfl

theorem new_of_ne_zero {b : Nat} (h : b ≠ 0) : Mpa.new b = some { bits := b } := if_neg h

theorem evalBin_arith (op : Op) (lt rt : TInfo) (lv rv m : MInt) (ha : op.isArith = true) (hk : lt.kind = rt.kind)
    (h0 : lt.bits ≠ 0) (hm : mpaArith op { bits := lt.bits } lv rv = some m) :
    evalBin op (.int lt lv) (.int rt rv) = constantMpa m (some lt) := by
  obtain ⟨hc, hs⟩ := Op.isArith_spec ha
  rw [evalBin_int, hc, hs, ha, if_neg nofun, if_neg nofun, if_pos rfl, if_neg (not_not_intro hk), new_of_ne_zero h0]
  show liftP (mpaArith op { bits := lt.bits } lv rv) >>= (constantMpa · (some lt)) = _
  rw [hm]
  rfl

theorem evalBin_shift (op : Op) (lt rt : TInfo) (lv rv m : MInt) (c : BitVec 64) (hs : op.isShift = true)
    (hc : rv.int64 = some c) (h0 : lt.bits ≠ 0) (hm : mpaShift op { bits := lt.bits } lv c.toNat = some m) :
    evalBin op (.int lt lv) (.int rt rv) = constantMpa m (some lt) := by
  rw [evalBin_int, Op.isShift_spec hs, hs, if_neg nofun, if_pos rfl, new_of_ne_zero h0, hc]
  show liftP (mpaShift op { bits := lt.bits } lv c.toNat) >>= (constantMpa · (some lt)) = _
  rw [hm]
  rfl

theorem mpaArith_small (op : Op) (hop : op.isArith = true) (z x y : MInt) (c : Nat) (hz : z.bits ≤ 64) :
    mpaArith op z x y = setSmall z.bits (op64 op x.small y.small c) := by
  have hs := isSmall_of_le hz
  cases op with
  | add | sub | mul | band | bor | bxor | bclr => exact if_pos hs
  | div | mod =>
    refine (if_pos hs).trans ?_
    simp only [op64]
    split <;> rfl
  | _ => cases hop

theorem mpaShift_small (op : Op) (hop : op.isShift = true) (z x y : MInt) (c : Nat) (hz : z.bits ≤ 64) :
    mpaShift op z x c = setSmall z.bits (op64 op x.small y.small c) := by
  have hs := isSmall_of_le hz
  cases op with
  | shl | shr => exact if_pos hs
  | _ => cases hop

theorem mpaArith_some (op : Op) (hop : op.isArith = true) (z x y : MInt) : ∃ m, mpaArith op z x y = some m := by
  by_cases hz : z.bits ≤ 64
  · exact ⟨_, (mpaArith_small op hop z x y 0 hz).trans (setSmall_eq _ _ hz)⟩
  · have hns := not_isSmall_of_lt (Nat.lt_of_not_le hz)
    cases op with
    | add | sub | mul | div | mod | band | bor | bxor | bclr => exact ⟨_, if_neg hns⟩
    | _ => cases hop

theorem lsh_rsh_some (z x : MInt) (n : Nat) (a : Bool) : (∃ m, Mpa.lsh z x n = some m) ∧ (∃ m, Mpa.rsh z x n a = some m) := by
  by_cases hs : z.isSmall = true
  · have h64 := le_of_isSmall hs
    simp only [Mpa.lsh, Mpa.rsh, hs, if_true]
    exact ⟨⟨_, setSmall_eq _ _ h64⟩, ⟨_, setSmall_eq _ _ h64⟩⟩
  · simp only [Mpa.lsh, Mpa.rsh, hs, Bool.false_eq_true, if_false]
    refine ⟨?_, ⟨_, rfl⟩⟩
    split <;> exact ⟨_, rfl⟩

theorem mpaShift_some (op : Op) (z x : MInt) (c : Nat) : ∃ m, mpaShift op z x c = some m := by
  unfold mpaShift
  split
  · exact (lsh_rsh_some z x c false).1
  · exact (lsh_rsh_some z x c false).2

theorem and_mask_eq (x : BitVec 64) (B : Nat) (hB : B ≤ 64) : x &&& mask B = (x.setWidth B).setWidth 64 := by
  apply BitVec.eq_of_getLsbD_eq
  intro i hi
  rw [BitVec.getLsbD_and, getLsbD_mask B i hB, BitVec.getLsbD_setWidth, BitVec.getLsbD_setWidth]
  by_cases h : i < B <;> simp [h, hi]

theorem setWidth_and_mask (x : BitVec 64) (n B : Nat) (hn : n ≤ B) (hB : B ≤ 64) :
    (x &&& mask B).setWidth n = x.setWidth n := by
  rw [and_mask_eq x B hB, BitVec.setWidth_setWidth_of_le _ (by omega), BitVec.setWidth_setWidth_of_le _ hn]

theorem and_mask_lt (x : BitVec 64) (B : Nat) (hB : B ≤ 64) : (x &&& mask B).toNat < 2 ^ B := by
  rw [and_mask_eq x B hB]
  simp only [BitVec.toNat_setWidth]
  exact Nat.lt_of_le_of_lt (Nat.mod_le _ _) (Nat.mod_lt _ (Nat.two_pow_pos B))

theorem seen_const_masked (n B : Nat) (t : TInfo) (x : BitVec 64) (hB : B ≤ 64) (hn : n ≤ B) (hnt : n ≤ t.bits) :
    ∃ t' v, constantMpa { bits := B, i64 := x &&& mask B, big := none } (some t) = .ok (.int t' v) ∧
      t'.kind = t.kind ∧ t.bits ≤ t'.bits ∧ (0 < B → t'.minBits ≤ B) ∧ v.bits ≤ 64 ∧
      seenBV n (.int t' v) = x.setWidth n := by
  obtain ⟨t', he, hk, hm, hb, _⟩ := constantMpa_spec { bits := B, i64 := x &&& mask B, big := none } t
  rw [bitLen_of_le _ hB] at he hm
  have h64 : constSize (bitLen64 (x &&& mask B)) ≤ 64 := (constSize_spec _).2.2 (bitLen64_le _)
  refine ⟨t', _, he, hk, hb, fun h0 => ?_, h64, ?_⟩
  · rw [hm]
    exact (bitLen64_le_iff _ h0).2 (and_mask_lt _ _ hB)
  · rw [seenBV_small n t' _ h64 (Nat.le_trans hnt hb)]
    exact setWidth_and_mask x n B hn hB

/-- `t.minBits ≤ lt.bits` makes the result assignable to the declared type when `lt.bits = n` (`retSeen` asks
`MinBits ≤ n`). -/
theorem fold_small (op : Op) (n : Nat) (lt rt : TInfo) (lv rv : MInt) (c : BitVec 64)
    (hop : op.isArith = true ∧ lt.kind = rt.kind ∨ op.isShift = true ∧ rv.int64 = some c)
    (h0 : 0 < lt.bits) (h64 : lt.bits ≤ 64) (hn : n ≤ lt.bits) :
    ∃ t v, evalBin op (.int lt lv) (.int rt rv) = .ok (.int t v) ∧ t.kind = lt.kind ∧ lt.bits ≤ t.bits ∧
      t.minBits ≤ lt.bits ∧ v.bits ≤ 64 ∧ seenBV n (.int t v) = (op64 op lv.small rv.small c.toNat).setWidth n := by
  obtain ⟨t, v, he, hk, hb, hm, hv, hs⟩ := seen_const_masked n lt.bits lt (op64 op lv.small rv.small c.toNat) h64 hn hn
  refine ⟨t, v, ?_, hk, hb, hm h0, hv, hs⟩
  have hne : lt.bits ≠ 0 := Nat.ne_of_gt h0
  rw [← he]
  rcases hop with ⟨ha, hk⟩ | ⟨hs, hc⟩
  · exact evalBin_arith op lt rt lv rv _ ha hk hne ((mpaArith_small op ha _ lv rv c.toNat h64).trans (setSmall_eq _ _ h64))
  · exact evalBin_shift op lt rt lv rv _ c hs hc hne ((mpaShift_small op hs _ lv rv c.toNat h64).trans (setSmall_eq _ _ h64))

theorem fold_wrap (op : Op) (hop : op.isWrap = true) (signed : Bool) (n cnt : Nat) (lt rt : TInfo) (lv rv : MInt)
    (hk : lt.kind = rt.kind) (h0 : 0 < lt.bits) (h64 : lt.bits ≤ 64) (hn : n ≤ lt.bits) (hnr : n ≤ rt.bits)
    (hlv : lv.bits ≤ 64) (hrv : rv.bits ≤ 64) :
    ∃ t v, evalBin op (.int lt lv) (.int rt rv) = .ok (.int t v) ∧ t.kind = lt.kind ∧ lt.bits ≤ t.bits ∧
      t.minBits ≤ lt.bits ∧ v.bits ≤ 64 ∧
      seenBV n (.int t v) = circuitOp op signed (seenBV n (.int lt lv)) (seenBV n (.int rt rv)) cnt := by
  obtain ⟨t, v, he, hk', hb, hm, hv, hs⟩ :=
    fold_small op n lt rt lv rv 0#64 (.inl ⟨(Op.isWrap_spec hop).1, hk⟩) h0 h64 hn
  refine ⟨t, v, he, hk', hb, hm, hv, ?_⟩
  rw [hs, seenBV_small n lt lv hlv hn, seenBV_small n rt rv hrv hnr]
  exact setWidth_op64 op hop signed _ _ n _ cnt (by omega)

theorem setWidth_ofInt {n m : Nat} (i : Int) (h : n ≤ m) : (BitVec.ofInt m i).setWidth n = BitVec.ofInt n i := by
  apply BitVec.eq_of_toNat_eq
  rw [BitVec.toNat_setWidth, BitVec.toNat_ofInt, BitVec.toNat_ofInt,
    ← Int.emod_emod_of_dvd i (Int.natCast_dvd_natCast.2 (Nat.pow_dvd_pow 2 h)),
    Int.toNat_emod (Int.emod_nonneg _ (by exact_mod_cast (Nat.pos_iff_ne_zero.1 (Nat.two_pow_pos m)))) (Int.natCast_nonneg _)]
  rfl

theorem setWidth_sshiftRight_signExtend (n c : Nat) (s : BitVec n) (hn : n ≤ 64) :
    ((s.signExtend 64).sshiftRight c).setWidth n = s.sshiftRight c := by
  rw [← BitVec.ofInt_toInt (x := (s.signExtend 64).sshiftRight c), BitVec.toInt_sshiftRight, BitVec.toInt_signExtend_of_le hn,
    setWidth_ofInt _ hn, ← BitVec.toInt_sshiftRight, BitVec.ofInt_toInt]

theorem setWidth_ushiftRight_zeroExtend (n c : Nat) (s : BitVec n) (hn : n ≤ 64) :
    ((s.setWidth 64) >>> c).setWidth n = s >>> c := by
  rw [← BitVec.setWidth_ushiftRight hn, BitVec.setWidth_setWidth_of_le _ hn, BitVec.setWidth_eq]

theorem setWidth_allOnes64 (n : Nat) (hn : n ≤ 64) : (BitVec.allOnes 64).setWidth n = BitVec.allOnes n := by
  apply BitVec.eq_of_getLsbD_eq
  intro i hi
  rw [BitVec.getLsbD_setWidth, BitVec.getLsbD_allOnes, BitVec.getLsbD_allOnes]
  have : i < 64 := by omega
  simp [hi, this]

theorem zext_toNat {n : Nat} (s : BitVec n) (hn : n ≤ 64) : (s.setWidth 64).toNat = s.toNat :=
  BitVec.toNat_setWidth_of_le hn

theorem zext_eq_zero {n : Nat} (s : BitVec n) (hn : n ≤ 64) : s.setWidth 64 = 0#64 ↔ s = 0#n := by
  rw [← BitVec.toNat_inj, ← BitVec.toNat_inj, zext_toNat s hn]
  rfl

theorem setWidth_udiv_zext {n : Nat} (a b : BitVec n) (hn : n ≤ 64) :
    ((a.setWidth 64) / (b.setWidth 64)).setWidth n = a / b := by
  apply BitVec.eq_of_toNat_eq
  rw [BitVec.toNat_setWidth, BitVec.toNat_udiv, zext_toNat a hn, zext_toNat b hn, BitVec.toNat_udiv]
  exact Nat.mod_eq_of_lt (Nat.lt_of_le_of_lt (Nat.div_le_self _ _) a.isLt)

theorem setWidth_umod_zext {n : Nat} (a b : BitVec n) (hn : n ≤ 64) :
    ((a.setWidth 64) % (b.setWidth 64)).setWidth n = a % b := by
  apply BitVec.eq_of_toNat_eq
  rw [BitVec.toNat_setWidth, BitVec.toNat_umod, zext_toNat a hn, zext_toNat b hn, BitVec.toNat_umod]
  exact Nat.mod_eq_of_lt (Nat.lt_of_le_of_lt (Nat.mod_le _ _) a.isLt)

theorem sdiv_nonneg (x y : BitVec 64) (hx : x.msb = false) (hy : y.msb = false) : x.sdiv y = x / y := by
  rw [BitVec.sdiv_eq, hx, hy]; simp [BitVec.udiv_eq]

theorem srem_nonneg (x y : BitVec 64) (hx : x.msb = false) (hy : y.msb = false) : x.srem y = x % y := by
  rw [BitVec.srem_eq, hx, hy]

theorem circuit_div_nonneg {n : Nat} (signed : Bool) (a b : BitVec n) (ha : signed = false ∨ a.msb = false)
    (hb : signed = false ∨ b.msb = false) (cnt : Nat) :
    circuitOp .div signed a b cnt = udivBV a b ∧ circuitOp .mod signed a b cnt = umodBV a b := by
  cases signed
  · simp [circuitOp]
  · simp [circuitOp, idivBV, imodBV, absBV, ha.resolve_left nofun, hb.resolve_left nofun]

theorem div_core {n : Nat} (a b : BitVec n) (c : Nat) (hn : n ≤ 64) (ha : (a.setWidth 64).msb = false)
    (hb : (b.setWidth 64).msb = false) :
    (op64 .div (a.setWidth 64) (b.setWidth 64) c).setWidth n = udivBV a b ∧
    (op64 .mod (a.setWidth 64) (b.setWidth 64) c).setWidth n = umodBV a b := by
  simp only [op64, udivBV, umodBV]
  by_cases hz : b = 0#n
  · have h0 : b.setWidth 64 = 0#64 := (zext_eq_zero b hn).2 hz
    rw [if_pos h0, if_pos hz, if_pos h0, if_pos hz]
    refine ⟨setWidth_allOnes64 n hn, ?_⟩
    rw [BitVec.setWidth_setWidth_of_le a (by omega : n ≤ 64), BitVec.setWidth_eq]
  · have h0 : ¬ b.setWidth 64 = 0#64 := fun h => hz ((zext_eq_zero b hn).1 h)
    rw [if_neg h0, if_neg hz, if_neg h0, if_neg hz]
    rw [sdiv_nonneg _ _ ha hb, srem_nonneg _ _ ha hb]
    exact ⟨setWidth_udiv_zext a b hn, setWidth_umod_zext a b hn⟩

theorem cmpInt_lt (a b : Int) : (cmpInt a b == -1) = decide (a < b) := by
  unfold cmpInt; by_cases h : a < b <;> simp [h]; split <;> simp
theorem cmpInt_gt (a b : Int) : (cmpInt a b == 1) = decide (b < a) := by
  unfold cmpInt
  by_cases h : a < b
  · have : ¬ b < a := by omega
    simp [h, this]
  · by_cases h2 : b < a <;> simp [h, h2]
theorem cmpInt_eq (a b : Int) : (cmpInt a b == 0) = decide (a = b) := by
  unfold cmpInt
  by_cases h : a < b
  · have : ¬ a = b := by omega
    simp [h, this]
  · by_cases h2 : b < a
    · have : ¬ a = b := by omega
      simp [h, h2, this]
    · have : a = b := by omega
      simp [this]

theorem cmpResult_eq (op : Op) (a b : Int) :
    cmpResult op (cmpInt a b) =
      match op with
      | .eq => decide (a = b) | .ne => !decide (a = b) | .lt => decide (a < b) | .le => !decide (b < a)
      | .gt => decide (b < a) | .ge => !decide (a < b) | _ => false := by
  cases op <;> simp only [cmpResult, cmpInt_lt, cmpInt_gt, cmpInt_eq, bne]

def typedInt (signed : Bool) {n : Nat} (x : BitVec n) : Int := if signed then x.toInt else (x.toNat : Int)

theorem cmpResult_typed {n : Nat} (op : Op) (hop : op.isCmp = true) (signed : Bool) (a b : BitVec n) :
    cmpResult op (cmpInt (typedInt signed a) (typedInt signed b)) = circuitCmp op signed a b := by
  rw [cmpResult_eq]
  cases signed
  · cases op with
    | lt | gt => simp only [typedInt, circuitCmp, Bool.false_eq_true, if_false, BitVec.ult_eq_decide, Int.ofNat_lt]
    | le | ge =>
      simp only [typedInt, circuitCmp, Bool.false_eq_true, if_false, BitVec.ule_eq_not_ult, BitVec.ult_eq_decide, Int.ofNat_lt]
    | eq | ne =>
      simp only [typedInt, circuitCmp, Bool.false_eq_true, if_false, Int.ofNat_inj, BitVec.toNat_inj, Bool.beq_eq_decide_eq, bne]
    | _ => cases hop
  · cases op with
    | lt | gt => simp only [typedInt, circuitCmp, if_true, BitVec.slt_eq_decide]
    | le | ge => simp only [typedInt, circuitCmp, if_true, BitVec.sle_eq_not_slt, BitVec.slt_eq_decide]
    | eq | ne => simp only [typedInt, circuitCmp, if_true, BitVec.toInt_inj, Bool.beq_eq_decide_eq, bne]
    | _ => cases hop

/-- Unary minus is the subtraction from the zero constant of the operand's type (`NewInt(0, Bits)` is what
`mpa.New(Bits)` returns). -/
theorem negate_eq_sub (t : TInfo) (v : MInt) (h0 : t.bits ≠ 0) :
    negate (.int t v) = evalBin .sub (.int t { bits := t.bits }) (.int t v) := by
  obtain ⟨m, hm⟩ := mpaArith_some .sub rfl { bits := t.bits } { bits := t.bits } v
  rw [evalBin_arith .sub t t _ v m rfl rfl h0 hm]
  simp only [negate, newInt, h0, if_false]
  exact congrArg (liftP · >>= (constantMpa · (some t))) hm

theorem seenBV_zero (n : Nat) (t : TInfo) (B : Nat) : seenBV n (.int t { bits := B }) = 0#n := by
  simp [seenBV, constWires, MInt.small, MInt.bigv, MInt.bitLen, wires]

theorem constantMpa_none (val : MInt) :
    constantMpa val none =
      .ok (.int ⟨.int, constSize val.bitLen, val.bitLen⟩ { val with bits := constSize val.bitLen }) := by
  unfold constantMpa
  obtain ⟨h1, h2, _⟩ := constSize_spec val.bitLen
  have hp : 0 < constSize val.bitLen := by omega
  simp only []
  rw [if_pos hp, if_neg (by omega)]

theorem constantMpa_none_small (val : MInt) (hbl : val.bitLen ≤ 64) :
    ∃ t v, constantMpa val none = .ok (.int t v) ∧ t.kind = .int ∧ 0 < v.bits ∧ v.bits ≤ 64 ∧ v.small = val.small := by
  rw [constantMpa_none]
  obtain ⟨_, h2, h3⟩ := constSize_spec val.bitLen
  exact ⟨_, _, rfl, rfl, by show 0 < constSize _; omega, h3 hbl, rfl⟩

theorem setBig_nat (a : Nat) (ha : a < 2 ^ 64) : (setBig (a : Int)).bitLen ≤ 64 ∧ (setBig (a : Int)).small.toNat = a := by
  constructor
  · by_cases h : (setBig (a : Int)).bits ≤ 64
    · rw [bitLen_of_le _ h]; exact bitLen64_le _
    · rw [bitLen_of_lt _ (Nat.lt_of_not_le h), bigv_setBig, Int.natAbs_natCast]; exact natBitLen_le_of_lt ha
  · rw [small_eq_ofInt_bigv, bigv_setBig, BitVec.ofInt_natCast, BitVec.toNat_ofNat]
    exact Nat.mod_eq_of_lt ha

theorem literal_small (a : Nat) (ha : a < 2 ^ 64) :
    ∃ t v, literal a = .ok (.int t v) ∧ t.kind = .int ∧ 0 < v.bits ∧ v.bits ≤ 64 ∧ v.small.toNat = a := by
  obtain ⟨h1, h2⟩ := setBig_nat a ha
  obtain ⟨t, v, e, hk, h0, h64, hs⟩ := constantMpa_none_small _ h1
  exact ⟨t, v, e, hk, h0, h64, by rw [hs]; exact h2⟩

theorem typedConst_pos (k : Kind) (n a : Nat) (hn : n ≤ 64) (ha : a < 2 ^ n) :
    ∃ t v, typedConst k n (a : Int) .pos = .ok (.int t v) ∧ t.kind = k ∧ t.bits = n ∧ 0 < v.bits ∧ v.bits ≤ 64 ∧
      v.small.toNat = a ∧ seenBV n (.int t v) = BitVec.ofNat n a := by
  obtain ⟨t, v, e, _, h0, h64, hs⟩ := literal_small a (lt_two_pow_of_le ha hn)
  have e' : literal (a : Int).natAbs = .ok (.int t v) := by rw [Int.natAbs_natCast]; exact e
  refine ⟨⟨k, n, if t.minBits > n then n else t.minBits⟩, v, ?_, rfl, rfl, h0, h64, hs, ?_⟩
  · unfold typedConst
    simp only []
    rw [e']
    rfl
  · rw [seenBV_small n _ v h64 (Nat.le_refl n)]
    apply BitVec.eq_of_toNat_eq
    rw [BitVec.toNat_setWidth, hs, BitVec.toNat_ofNat]

theorem ofNat_mod_two_pow (n m a : Nat) (h : n ≤ m) : BitVec.ofNat n (a % 2 ^ m) = BitVec.ofNat n a := by
  apply BitVec.eq_of_toNat_eq
  simp only [BitVec.toNat_ofNat]
  exact mod_two_pow_mod _ h

theorem ofInt_emod_two_pow (n m : Nat) (a : Int) (h : n ≤ m) :
    BitVec.ofInt n (a % ((2 ^ m : Nat) : Int)) = BitVec.ofInt n a := by
  apply BitVec.eq_of_toNat_eq
  simp only [BitVec.toNat_ofInt]
  congr 1
  apply Int.emod_emod_of_dvd
  exact Int.natCast_dvd_natCast.2 (Nat.pow_dvd_pow 2 h)

theorem wires_nonneg (x : Int) (w : Nat) (hx : 0 ≤ x) : wires x w = x.toNat % 2 ^ w := by
  unfold wires
  rw [Int.toNat_emod hx (Int.natCast_nonneg _)]
  rfl

theorem ofNat_toNat_eq_ofInt (n : Nat) (x : Int) (hx : 0 ≤ x) : BitVec.ofNat n x.toNat = BitVec.ofInt n x := by
  rw [← BitVec.ofInt_natCast, Int.toNat_of_nonneg hx]

theorem natAbs_eq_toNat {x : Int} (hx : 0 ≤ x) : x.natAbs = x.toNat :=
  Int.ofNat_inj.1 ((Int.natAbs_of_nonneg hx).trans (Int.toNat_of_nonneg hx).symm)

theorem imageExact_spec {t : TInfo} {v : MInt} (h : imageExact (.int t v) = true) :
    0 ≤ v.bigv ∧ v.bigv.toNat < 2 ^ v.bits := by
  simp only [imageExact, decide_eq_true_eq] at h
  exact ⟨h.1, (Int.toNat_lt h.1).2 h.2⟩

theorem imageExact_of {t : TInfo} {v : MInt} (h0 : 0 ≤ v.bigv) (h : v.bigv.toNat < 2 ^ v.bits) :
    imageExact (.int t v) = true :=
  decide_eq_true ⟨h0, (Int.toNat_lt h0).1 h⟩

theorem imageExact_zero (t : TInfo) (B : Nat) : imageExact (.int t { bits := B }) = true :=
  imageExact_of (Int.le_refl 0) (Nat.two_pow_pos B)

theorem seen_of_imageExact (n : Nat) (t : TInfo) (v : MInt) (hi : imageExact (.int t v) = true) (hn : n ≤ t.bits) :
    seenBV n (.int t v) = BitVec.ofNat n v.bigv.toNat := by
  obtain ⟨h0, hlt⟩ := imageExact_spec hi
  show BitVec.ofNat n ((if v.isSmall = true then v.small.toNat else wires v.bigv v.bitLen) % 2 ^ t.bits) = _
  rw [ofNat_mod_two_pow _ _ _ hn]
  congr 1
  split
  · rename_i hs
    rw [small_eq_ofInt_bigv, ← ofNat_toNat_eq_ofInt 64 _ h0, BitVec.toNat_ofNat]
    exact Nat.mod_eq_of_lt (lt_two_pow_of_le hlt (le_of_isSmall hs))
  · rename_i hs
    rw [wires_nonneg _ _ h0, bitLen_of_lt v (Nat.lt_of_not_le fun h => hs (isSmall_of_le h)), natAbs_eq_toNat h0]
    exact Nat.mod_eq_of_lt (lt_two_pow_natBitLen _)

theorem const_exact (n : Nat) (val : MInt) (t : TInfo) (r : Nat) (hv : val.bigv = r) (hr : r < 2 ^ val.bitLen)
    (hn : n ≤ t.bits) :
    ∃ t' v, constantMpa val (some t) = .ok (.int t' v) ∧ t'.kind = t.kind ∧ t.bits ≤ t'.bits ∧
      imageExact (.int t' v) = true ∧ seenBV n (.int t' v) = BitVec.ofNat n r := by
  obtain ⟨t', he, hk, _, hb, _⟩ := constantMpa_spec val t
  have hv' : MInt.bigv { val with bits := constSize val.bitLen } = r := hv
  have himg : imageExact (.int t' { val with bits := constSize val.bitLen }) = true :=
    imageExact_of (hv' ▸ Int.natCast_nonneg r)
      (by rw [hv']; exact lt_two_pow_of_le hr (constSize_spec _).1)
  refine ⟨t', _, he, hk, hb, himg, ?_⟩
  rw [seen_of_imageExact n _ _ himg (Nat.le_trans hn hb), hv', Int.toNat_natCast]

/-- `e` is a variable so that the equation `evalBin_arith` / `evalBin_shift` delivers is `he` as it stands. -/
theorem fold_large (n B : Nat) (t : TInfo) (i : BitVec 64) (r : Nat) {e : Res CV}
    (he : e = constantMpa { bits := B, i64 := i, big := some (r : Int) } (some t)) (hr : 64 < B ∨ r < 2 ^ B)
    (hn : n ≤ t.bits) :
    ∃ t' v, e = .ok (.int t' v) ∧ t'.kind = t.kind ∧ t.bits ≤ t'.bits ∧ imageExact (.int t' v) = true ∧
      seenBV n (.int t' v) = BitVec.ofNat n r := by
  subst he
  refine const_exact n _ t r rfl ?_ hn
  by_cases hB : 64 < B
  · rw [bitLen_of_lt _ hB]; exact lt_two_pow_natBitLen r
  · have hr64 : r < 2 ^ 64 := lt_two_pow_of_le (hr.resolve_left hB) (Nat.le_of_not_lt hB)
    rw [bitLen_of_le _ (Nat.le_of_not_lt hB), small_eq_ofInt_bigv]
    have := lt_two_pow_bitLen64 (BitVec.ofNat 64 r)
    rwa [BitVec.toNat_ofNat, Nat.mod_eq_of_lt hr64] at this

theorem ofNat_wires (n nz : Nat) (x : Int) (hx : 0 ≤ x) (h : n ≤ nz) :
    BitVec.ofNat n (wires x nz) = BitVec.ofNat n x.toNat := by
  rw [wires_nonneg x nz hx, ofNat_mod_two_pow _ _ _ h]

theorem ofInt_sub' (n : Nat) (a b : Int) : BitVec.ofInt n (a - b) = BitVec.ofInt n a - BitVec.ofInt n b := by
  rw [Int.sub_eq_add_neg, BitVec.ofInt_add, BitVec.ofInt_neg, BitVec.sub_eq_add_neg]

theorem intBitwise_nonneg (f : Nat → Nat → Nat) (hf : ∀ a b k, a < 2 ^ k → b < 2 ^ k → f a b < 2 ^ k)
    (x y : Int) (hx : 0 ≤ x) (hy : 0 ≤ y) : intBitwise f x y = ((f x.toNat y.toNat : Nat) : Int) := by
  unfold intBitwise
  rw [natAbs_eq_toNat hx, natAbs_eq_toNat hy]
  -- both operands, hence the result, are below `2 ^ m`: bit `m`, the sign bit of the `m + 1` wires, stays clear
  have h1 := lt_two_pow_of_le (lt_two_pow_natBitLen x.toNat) (Nat.le_max_left _ (natBitLen y.toNat))
  have h2 := lt_two_pow_of_le (lt_two_pow_natBitLen y.toNat) (Nat.le_max_right (natBitLen x.toNat) _)
  generalize max (natBitLen x.toNat) (natBitLen y.toNat) = m at h1 h2 ⊢
  have hm : 2 ^ m < 2 ^ (m + 1) := Nat.pow_lt_pow_succ (by decide)
  have hr : f x.toNat y.toNat < 2 ^ m := hf _ _ _ h1 h2
  have hwx : wires x (m + 1) = x.toNat := by
    rw [wires_nonneg x _ hx]; exact Nat.mod_eq_of_lt (Nat.lt_trans h1 hm)
  have hwy : wires y (m + 1) = y.toNat := by
    rw [wires_nonneg y _ hy]; exact Nat.mod_eq_of_lt (Nat.lt_trans h2 hm)
  simp only [hwx, hwy, Nat.add_sub_cancel]
  rw [Nat.mod_eq_of_lt (Nat.lt_trans hr hm), if_neg (Nat.not_le.2 hr)]

theorem bv_andnot {n : Nat} (a b : BitVec n) : a ^^^ (a &&& b) = a &&& ~~~b := by
  apply BitVec.eq_of_getLsbD_eq
  intro i hi
  simp only [BitVec.getLsbD_xor, BitVec.getLsbD_and, BitVec.getLsbD_not, hi, decide_true, Bool.true_and]
  cases a.getLsbD i <;> cases b.getLsbD i <;> rfl

/-- What the large path stores for a wrap operator on non-negative operands (`mpaArith_wrap_large`): a natural number
congruent to `x op y` modulo `2 ^ nz` (`wrapNat_spec`). -/
def wrapNat (op : Op) (nz : Nat) (x y : Int) : Nat :=
  match op with
  | .add => (wires x nz + wires y nz) % 2 ^ nz
  | .sub => ((((wires x nz : Nat) : Int) - (wires y nz : Nat)) % ((2 ^ nz : Nat) : Int)).toNat
  | .mul => (wires x nz * wires y nz) % 2 ^ nz
  | .band => x.toNat &&& y.toNat
  | .bor => x.toNat ||| y.toNat
  | .bxor => x.toNat ^^^ y.toNat
  | _ => x.toNat ^^^ (x.toNat &&& y.toNat)

theorem bitwise_large (f64 : BitVec 64 → BitVec 64 → BitVec 64) (fnat : Nat → Nat → Nat)
    (hf : ∀ a b k, a < 2 ^ k → b < 2 ^ k → fnat a b < 2 ^ k) (z x y : MInt) (hz : 64 < z.bits)
    (hx : 0 ≤ x.bigv) (hy : 0 ≤ y.bigv) :
    Mpa.bitwise f64 fnat z x y = some { z with big := some ((fnat x.bigv.toNat y.bigv.toNat : Nat) : Int) } := by
  rw [Mpa.bitwise, if_neg (not_isSmall_of_lt hz), intBitwise_nonneg fnat hf _ _ hx hy]

/-- `B` is `max(x.bits, y.bits, z.bits)` for `+ - *`, the width of the circuit `bin` evaluates, and the receiver's size
for the four math/big operations. -/
theorem mpaArith_wrap_large (op : Op) (hop : op.isWrap = true) (z x y : MInt) (hz : 64 < z.bits)
    (hx : 0 ≤ x.bigv) (hy : 0 ≤ y.bigv) :
    ∃ B i, 64 < B ∧
      mpaArith op z x y = some { bits := B, i64 := i, big := some ((wrapNat op (max (max x.bits y.bits) z.bits) x.bigv y.bigv : Nat) : Int) } := by
  have hns := not_isSmall_of_lt hz
  cases op with
  | add | mul => exact ⟨max (max x.bits y.bits) z.bits, 0#64, by omega, if_neg hns⟩
  | sub =>
    refine ⟨max (max x.bits y.bits) z.bits, 0#64, by omega, (if_neg hns).trans ?_⟩
    simp only [largeSub, wrapNat]
    rw [Int.toNat_of_nonneg (Int.emod_nonneg _ (by exact_mod_cast (Nat.pos_iff_ne_zero.1 (Nat.two_pow_pos _))))]
  | band => exact ⟨z.bits, z.i64, hz, bitwise_large _ _ (fun a _ _ _ hb => Nat.and_lt_two_pow a hb) z x y hz hx hy⟩
  | bor => exact ⟨z.bits, z.i64, hz, bitwise_large _ _ (fun _ _ _ ha hb => Nat.or_lt_two_pow ha hb) z x y hz hx hy⟩
  | bxor => exact ⟨z.bits, z.i64, hz, bitwise_large _ _ (fun _ _ _ ha hb => Nat.xor_lt_two_pow ha hb) z x y hz hx hy⟩
  | bclr =>
    exact ⟨z.bits, z.i64, hz, bitwise_large (fun a b => a &&& ~~~b) _
      (fun a _ _ ha hb => Nat.xor_lt_two_pow ha (Nat.and_lt_two_pow a hb)) z x y hz hx hy⟩
  | _ => cases hop

theorem wrapNat_spec (op : Op) (hop : op.isWrap = true) (signed : Bool) (n nz cnt : Nat) (x y : Int) (hx : 0 ≤ x) (hy : 0 ≤ y)
    (h : n ≤ nz) :
    BitVec.ofNat n (wrapNat op nz x y) = circuitOp op signed (BitVec.ofNat n x.toNat) (BitVec.ofNat n y.toNat) cnt := by
  have hwx := ofNat_wires n nz x hx h
  have hwy := ofNat_wires n nz y hy h
  cases op with
  | add => exact (ofNat_mod_two_pow _ _ _ h).trans (by rw [BitVec.ofNat_add, hwx, hwy]; rfl)
  | mul => exact (ofNat_mod_two_pow _ _ _ h).trans (by rw [BitVec.ofNat_mul, hwx, hwy]; rfl)
  | sub =>
    have hnn : 0 ≤ (((wires x nz : Nat) : Int) - (wires y nz : Nat)) % ((2 ^ nz : Nat) : Int) :=
      Int.emod_nonneg _ (by exact_mod_cast (Nat.pos_iff_ne_zero.1 (Nat.two_pow_pos nz)))
    show BitVec.ofNat n (Int.toNat _) = _
    rw [ofNat_toNat_eq_ofInt n _ hnn, ofInt_emod_two_pow n nz _ h, ofInt_sub', BitVec.ofInt_natCast,
      BitVec.ofInt_natCast, hwx, hwy]
    rfl
  | band => exact BitVec.ofNat_and
  | bor => exact BitVec.ofNat_or
  | bxor => exact BitVec.ofNat_xor
  | bclr => exact BitVec.ofNat_xor.trans ((congrArg _ BitVec.ofNat_and).trans (bv_andnot _ _))
  | _ => cases hop

theorem fold_wrap_wide (op : Op) (hop : op.isWrap = true) (signed : Bool) (n cnt : Nat) (lt rt : TInfo) (lv rv : MInt)
    (hk : lt.kind = rt.kind) (hL : 64 < lt.bits) (hn : n ≤ lt.bits) (hnr : n ≤ rt.bits)
    (hil : imageExact (.int lt lv) = true) (hir : imageExact (.int rt rv) = true) :
    ∃ t v, evalBin op (.int lt lv) (.int rt rv) = .ok (.int t v) ∧ t.kind = lt.kind ∧ lt.bits ≤ t.bits ∧
      imageExact (.int t v) = true ∧
      seenBV n (.int t v) = circuitOp op signed (seenBV n (.int lt lv)) (seenBV n (.int rt rv)) cnt := by
  have hx := (imageExact_spec hil).1
  have hy := (imageExact_spec hir).1
  obtain ⟨B, i, hB, hm⟩ := mpaArith_wrap_large op hop { bits := lt.bits } lv rv hL hx hy
  obtain ⟨t, v, h1, h2, h3, h4, h6⟩ := fold_large n B lt i _
    (evalBin_arith op lt rt lv rv _ (Op.isWrap_spec hop).1 hk (Nat.ne_of_gt (Nat.zero_lt_of_lt hL)) hm) (.inl hB) hn
  refine ⟨t, v, h1, h2, h3, h4, ?_⟩
  rw [h6, seen_of_imageExact n lt lv hil hn, seen_of_imageExact n rt rv hir hnr]
  exact wrapNat_spec op hop signed n _ cnt _ _ hx hy (Nat.le_trans hn (Nat.le_max_right _ _))

theorem ofNat_shl (n x c : Nat) : BitVec.ofNat n (x * 2 ^ c) = BitVec.ofNat n x <<< c := by
  apply BitVec.eq_of_toNat_eq
  simp [BitVec.toNat_shiftLeft, Nat.shiftLeft_eq, Nat.mul_mod]

theorem lsh_large (z x : MInt) (c : Nat) (hz : 64 < z.bits) (hx : 0 ≤ x.bigv) :
    Mpa.lsh z x c = some { z with big := some (((x.bigv.toNat * 2 ^ c) % 2 ^ z.bits : Nat) : Int) } := by
  have hv : x.bigv <<< c = ((x.bigv.toNat * 2 ^ c : Nat) : Int) := by
    rw [Int.shiftLeft_eq]; push_cast; rw [Int.toNat_of_nonneg hx]
  refine (if_neg (not_isSmall_of_lt hz)).trans ?_
  simp only [hv, Int.natCast_nonneg, if_true, Int.natCast_emod]

theorem fold_shl_wide (signed : Bool) (n : Nat) (lt rt : TInfo) (lv rv : MInt) (c : BitVec 64) (hc : rv.int64 = some c)
    (hL : 64 < lt.bits) (hn : n ≤ lt.bits) (hil : imageExact (.int lt lv) = true) :
    ∃ t v, evalBin .shl (.int lt lv) (.int rt rv) = .ok (.int t v) ∧ t.kind = lt.kind ∧ lt.bits ≤ t.bits ∧
      imageExact (.int t v) = true ∧
      seenBV n (.int t v) = circuitOp .shl signed (seenBV n (.int lt lv)) (seenBV n (.int rt rv)) c.toNat := by
  obtain ⟨t, v, h1, h2, h3, h4, h6⟩ := fold_large n lt.bits lt 0#64 _
    (evalBin_shift .shl lt rt lv rv _ c rfl hc (by omega) (lsh_large { bits := lt.bits } lv c.toNat hL (imageExact_spec hil).1))
    (.inl hL) hn
  refine ⟨t, v, h1, h2, h3, h4, ?_⟩
  rw [h6, seen_of_imageExact n lt lv hil hn, ofNat_mod_two_pow _ _ _ hn]
  exact ofNat_shl _ _ _

theorem fold_neg_wide (signed : Bool) (n cnt : Nat) (t : TInfo) (v : MInt) (hL : 64 < t.bits) (hn : n ≤ t.bits)
    (hi : imageExact (.int t v) = true) :
    ∃ t' v', negate (.int t v) = .ok (.int t' v') ∧ t'.kind = t.kind ∧ t.bits ≤ t'.bits ∧
      imageExact (.int t' v') = true ∧
      seenBV n (.int t' v') = circuitOp .neg signed (seenBV n (.int t v)) (seenBV n (.int t v)) cnt := by
  rw [negate_eq_sub t v (by omega)]
  have h := fold_wrap_wide .sub rfl signed n cnt t t { bits := t.bits } v rfl hL hn hn (imageExact_zero t _) hi
  rwa [seenBV_zero] at h

theorem int64Agrees_spec {signed : Bool} {n : Nat} {t : TInfo} {v : MInt} (h : int64Agrees signed n (.int t v) = true) :
    ∃ i, v.int64 = some i ∧ i.toInt = typedInt signed (seenBV n (.int t v)) := by
  simp only [int64Agrees] at h
  cases hi : v.int64 with
  | none => rw [hi] at h; cases h
  | some i =>
    rw [hi] at h
    refine ⟨i, rfl, ?_⟩
    cases signed <;> exact beq_iff_eq.1 h

theorem cmp_of_cmpAgrees {signed : Bool} {n : Nat} {lt rt : TInfo} {lv rv : MInt}
    (h : cmpAgrees signed n (.int lt lv) (.int rt rv) = true) :
    Mpa.cmp lv rv =
      some (cmpInt (typedInt signed (seenBV n (.int lt lv))) (typedInt signed (seenBV n (.int rt rv)))) := by
  unfold Mpa.cmp
  by_cases hs : (lv.isSmall && rv.isSmall) = true
  · simp only [cmpAgrees, mpaOf, hs, if_true] at h
    obtain ⟨hl, hr⟩ := Bool.and_eq_true_iff.1 h
    obtain ⟨a, ha, ha'⟩ := int64Agrees_spec hl
    obtain ⟨b, hb, hb'⟩ := int64Agrees_spec hr
    rw [if_pos (Bool.and_eq_true_iff.1 hs), ha, hb, ← ha', ← hb']
    rfl
  · simp only [cmpAgrees, mpaOf, hs, Bool.false_eq_true, if_false] at h
    obtain ⟨hl, hr⟩ := Bool.and_eq_true_iff.1 h
    rw [if_neg (fun h' => hs (Bool.and_eq_true_iff.2 h')), beq_iff_eq.1 hl, beq_iff_eq.1 hr]
    rfl

theorem fold_cmp_all (op : Op) (hop : op.isCmp = true) (signed : Bool) (n : Nat) (lt rt : TInfo) (lv rv : MInt)
    (h : cmpAgrees signed n (.int lt lv) (.int rt rv) = true) :
    evalBin op (.int lt lv) (.int rt rv) =
      .ok (.bool (circuitCmp op signed (seenBV n (.int lt lv)) (seenBV n (.int rt rv)))) := by
  rw [evalBin_int, if_pos hop, cmp_of_cmpAgrees h, ← cmpResult_typed op hop]
  rfl

theorem ofNat_ushr (n x c : Nat) (hx : x < 2 ^ n) : BitVec.ofNat n (x / 2 ^ c) = BitVec.ofNat n x >>> c := by
  apply BitVec.eq_of_toNat_eq
  simp only [BitVec.toNat_ofNat, BitVec.toNat_ushiftRight, Nat.shiftRight_eq_div_pow, Nat.mod_eq_of_lt hx]
  exact Nat.mod_eq_of_lt (Nat.lt_of_le_of_lt (Nat.div_le_self _ _) hx)

theorem rsh_large (z x : MInt) (c : Nat) (hz : 64 < z.bits) (hx : 0 ≤ x.bigv) :
    Mpa.rsh z x c false = some { bits := x.bits, i64 := z.i64, big := some ((x.bigv.toNat / 2 ^ c : Nat) : Int) } := by
  refine (if_neg (not_isSmall_of_lt hz)).trans ?_
  rw [Int.shiftRight_eq_div_pow, Int.natCast_ediv, Int.toNat_of_nonneg hx]
  rfl

theorem fold_shr_wide (signed : Bool) (n : Nat) (lt rt : TInfo) (lv rv : MInt) (c : BitVec 64) (hc : rv.int64 = some c)
    (hL : 64 < lt.bits) (hn : n ≤ lt.bits) (he : extendedWide signed n (.int lt lv) = true) :
    ∃ t v, evalBin .shr (.int lt lv) (.int rt rv) = .ok (.int t v) ∧ t.kind = lt.kind ∧
      seenBV n (.int t v) = circuitOp .shr signed (seenBV n (.int lt lv)) (seenBV n (.int rt rv)) c.toNat := by
  simp only [extendedWide, Bool.and_eq_true, decide_eq_true_eq, Bool.or_eq_true, Bool.not_eq_true'] at he
  obtain ⟨⟨hil, hfit⟩, hsg⟩ := he
  obtain ⟨hx, hXb⟩ := imageExact_spec hil
  have hXn := (Int.toNat_lt hx).2 hfit
  obtain ⟨t, v, h1, h2, _, _, h5⟩ := fold_large n _ lt _ _
    (evalBin_shift .shr lt rt lv rv _ c rfl hc (by omega) (rsh_large { bits := lt.bits } lv c.toNat hL hx))
    (.inr (Nat.lt_of_le_of_lt (Nat.div_le_self _ _) hXb)) hn
  refine ⟨t, v, h1, h2, ?_⟩
  rw [h5, seen_of_imageExact n lt lv hil hn, ofNat_ushr n _ _ hXn]
  simp only [circuitOp]
  cases signed
  · simp
  · have hm := hsg.resolve_left nofun
    rw [seen_of_imageExact n lt lv hil hn] at hm
    simp [BitVec.sshiftRight_eq_of_msb_false hm]

theorem idivC_nonneg (m a b : Nat) (ha : a < 2 ^ (m - 1)) (hb : b < 2 ^ (m - 1)) (hb0 : b ≠ 0) :
    idivC m a b = (a / b, a % b) := by
  unfold idivC
  simp [Nat.testBit_lt_two_pow ha, Nat.testBit_lt_two_pow hb, udivC, umodC, hb0]

theorem padOperand_nonneg (a xb m : Nat) (h : a < 2 ^ (xb - 1)) : padOperand a xb m = a := by
  unfold padOperand signPad
  by_cases hp : idivSignPads = true
  · rw [if_pos hp, if_neg]
    intro h'
    rw [Nat.testBit_lt_two_pow h] at h'
    exact absurd h'.2 (by decide)
  · rw [if_neg hp]

/-- Below half its own size an operand has its top wire clear: neither padding of `NewIDivider` (`padOperand`) changes it
and the signed divider of `max xb yb` bits sees a non-negative number. -/
theorem largeDivMod_nonneg (xb yb : Nat) (x y : Int) (hx : 0 ≤ x) (hy : 0 ≤ y) (hxb : x.toNat < 2 ^ (xb - 1))
    (hyb : y.toNat < 2 ^ (yb - 1)) (hy0 : y.toNat ≠ 0) :
    largeDivMod xb yb x y = (max xb yb, x.toNat / y.toNat, x.toNat % y.toNat) := by
  have hwx : wires x xb = x.toNat := by
    rw [wires_nonneg _ _ hx]; exact Nat.mod_eq_of_lt (lt_two_pow_of_le hxb (Nat.sub_le _ _))
  have hwy : wires y yb = y.toNat := by
    rw [wires_nonneg _ _ hy]; exact Nat.mod_eq_of_lt (lt_two_pow_of_le hyb (Nat.sub_le _ _))
  unfold largeDivMod
  simp only [hwx, hwy, padOperand_nonneg _ _ _ hxb, padOperand_nonneg _ _ _ hyb,
    idivC_nonneg _ _ _ (lt_two_pow_of_le hxb (Nat.sub_le_sub_right (Nat.le_max_left _ _) 1))
      (lt_two_pow_of_le hyb (Nat.sub_le_sub_right (Nat.le_max_right _ _) 1)) hy0]

theorem ofNat_udiv (n a b : Nat) (ha : a < 2 ^ n) (hb : b < 2 ^ n) (hb0 : b ≠ 0) :
    BitVec.ofNat n (a / b) = udivBV (BitVec.ofNat n a) (BitVec.ofNat n b) ∧
    BitVec.ofNat n (a % b) = umodBV (BitVec.ofNat n a) (BitVec.ofNat n b) := by
  have hne : BitVec.ofNat n b ≠ 0#n := by
    intro h
    have := congrArg BitVec.toNat h
    simp [Nat.mod_eq_of_lt hb] at this
    exact hb0 this
  unfold udivBV umodBV
  rw [if_neg hne, if_neg hne]
  constructor <;> apply BitVec.eq_of_toNat_eq
  · simp only [BitVec.toNat_ofNat, BitVec.toNat_udiv, Nat.mod_eq_of_lt ha, Nat.mod_eq_of_lt hb]
    exact Nat.mod_eq_of_lt (Nat.lt_of_le_of_lt (Nat.div_le_self _ _) ha)
  · simp only [BitVec.toNat_ofNat, BitVec.toNat_umod, Nat.mod_eq_of_lt ha, Nat.mod_eq_of_lt hb]
    exact Nat.mod_eq_of_lt (Nat.lt_of_le_of_lt (Nat.mod_le _ _) ha)

theorem div_mod_large (z x y : MInt) (hz : 64 < z.bits) (hx : 0 ≤ x.bigv) (hy : 0 ≤ y.bigv)
    (hxb : x.bigv.toNat < 2 ^ (x.bits - 1)) (hyb : y.bigv.toNat < 2 ^ (y.bits - 1)) (hy0 : y.bigv.toNat ≠ 0) :
    Mpa.div z x y = some ⟨max x.bits y.bits, z.i64, some ((x.bigv.toNat / y.bigv.toNat : Nat) : Int)⟩ ∧
    Mpa.mod z x y = some ⟨max x.bits y.bits, z.i64, some ((x.bigv.toNat % y.bigv.toNat : Nat) : Int)⟩ := by
  have hns := not_isSmall_of_lt hz
  constructor <;> refine (if_neg hns).trans ?_ <;> rw [largeDivMod_nonneg _ _ _ _ hx hy hxb hyb hy0]

theorem fold_div_mod_wide (op : Op) (hop : op = .div ∨ op = .mod) (signed : Bool) (n cnt : Nat) (lt rt : TInfo)
    (lv rv : MInt) (hk : lt.kind = rt.kind) (hL : 64 < lt.bits) (hn : n ≤ lt.bits) (hnr : n ≤ rt.bits)
    (hd : divWide signed n (.int lt lv) (.int rt rv) = true) :
    ∃ t v, evalBin op (.int lt lv) (.int rt rv) = .ok (.int t v) ∧ t.kind = lt.kind ∧
      seenBV n (.int t v) = circuitOp op signed (seenBV n (.int lt lv)) (seenBV n (.int rt rv)) cnt := by
  simp only [divWide, mpaOf, Bool.and_eq_true, Bool.or_eq_true, Bool.not_eq_true'] at hd
  obtain ⟨⟨⟨hil, hir⟩, hdec⟩, hsg⟩ := hd
  obtain ⟨hxm, hym, hy0, hxn, hyn⟩ := of_decide_eq_true hdec
  obtain ⟨hx, hXb⟩ := imageExact_spec hil
  obtain ⟨hy, _⟩ := imageExact_spec hir
  have hY0 : rv.bigv.toNat ≠ 0 := fun h => hy0 (by rw [← Int.toNat_of_nonneg hy, h]; rfl)
  obtain ⟨hdiv, hmod⟩ := div_mod_large { bits := lt.bits } lv rv hL hx hy ((Int.toNat_lt hx).2 hxm) ((Int.toNat_lt hy).2 hym) hY0
  have hXmax : lv.bigv.toNat < 2 ^ max lv.bits rv.bits := lt_two_pow_of_le hXb (Nat.le_max_left _ _)
  obtain ⟨hcd, hcm⟩ := circuit_div_nonneg signed (seenBV n (CV.int lt lv)) (seenBV n (CV.int rt rv))
    (hsg.imp_right (·.1)) (hsg.imp_right (·.2)) cnt
  obtain ⟨hud, hum⟩ := ofNat_udiv n _ _ ((Int.toNat_lt hx).2 hxn) ((Int.toNat_lt hy).2 hyn) hY0
  have hm : mpaArith op { bits := lt.bits } lv rv = some ⟨max lv.bits rv.bits, 0#64,
      some ((if op = .div then lv.bigv.toNat / rv.bigv.toNat else lv.bigv.toNat % rv.bigv.toNat : Nat) : Int)⟩ := by
    rcases hop with rfl | rfl
    · exact hdiv
    · exact hmod
  have heq := evalBin_arith op lt rt lv rv _ (by rcases hop with rfl | rfl <;> rfl) hk (Nat.ne_of_gt (Nat.zero_lt_of_lt hL)) hm
  obtain ⟨t, v, h1, h2, _, _, h5⟩ := fold_large n _ lt _ _ heq (.inr (by
    split
    · exact Nat.lt_of_le_of_lt (Nat.div_le_self _ _) hXmax
    · exact Nat.lt_of_le_of_lt (Nat.mod_le _ _) hXmax)) hn
  refine ⟨t, v, h1, h2, ?_⟩
  rw [h5]
  rcases hop with rfl | rfl
  · rw [if_pos rfl, hcd, seen_of_imageExact n lt lv hil hn, seen_of_imageExact n rt rv hir hnr]; exact hud
  · rw [if_neg (by decide), hcm, seen_of_imageExact n lt lv hil hn, seen_of_imageExact n rt rv hir hnr]; exact hum

end Mpc.Fold
