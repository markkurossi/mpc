/-
T1 tie (DESIGN.md 1.3) of `ot.xor` (ot/co_helpers.go; the column masking of the IKNP sender
and receiver) to `Mpc.Iknp.xorBytes` of the C06 model Model/Iknp.lean: the definition of
MpcVerif/Gen/LeafC06.lean, regenerated from the current Go source by `gofacts translate
-group C06` on every run of checks/C06.py, leaves `xorBytes dst src` in `dst` and returns its
first `min len(dst) len(src)` bytes.
-/
import MpcVerif.Gen.LeafC06
import MpcVerif.Proofs.GenTieLib
import MpcVerif.Model.Iknp

namespace Mpc.GenTie
open Mpc Mpc.Gen Mpc.Gen.C06

theorem tie_xor (dst src : Array (BitVec 8)) (hd : dst.size < 2^63) (hs : src.size < 2^63) :
    Gen.C06.xor dst src =
      some ((Iknp.xorBytes dst src).extract 0 (min dst.size src.size), Iknp.xorBytes dst src) := by
  have hm : min dst.size src.size < 2^63 := by omega
  have hmin : (if src.size < dst.size then BitVec.ofNat 64 src.size else BitVec.ofNat 64 dst.size) =
      BitVec.ofNat 64 (min dst.size src.size) := by
    split <;> congr 1 <;> omega
  have hx : ((Array.range dst.size).map fun i =>
      if i < min dst.size src.size then dst.getD i 0#8 ^^^ src.getD i 0#8 else dst.getD i 0#8) = Iknp.xorBytes dst src :=
    Array.map_congr_left fun i hi => by
      have : i < min dst.size src.size ↔ i < src.size := by rw [Array.mem_range] at hi; omega
      simp only [this, Iknp.bget]
  have hsz : (Iknp.xorBytes dst src).size = dst.size := by simp [Iknp.xorBytes, Iknp.mk]
  unfold Gen.C06.xor
  dsimp only
  -- the rewrites of `int_norm`, with the side conditions given as the hypotheses `hd hs hm` (its `omega` discharger
  -- would be tried, and fail, at every index expression of the loop body)
  simp only [slt_toNat, slt_zero, ofNat_size, BitVec.sub_zero, ite_pos_self, Nat.zero_add, decide_eq_true_eq,
    Nat.two_pow_pos, hd, hs, hm, hmin]
  rw [foldl_range_update 0#8 (fun k x => x ^^^ src.getD k 0#8) dst _ _ fun k s hk hs => by
        -- `guard_norm` closes `dst[i] ^= src[i]`; the `rw` is for a source that writes `src[i] ^ dst[i]`
        guard_norm <;> rw [BitVec.xor_comm],
    hx, Option.elim_some, if_neg (by omega), if_neg (by rw [hsz]; omega)]

example : Gen.C06.xor #[1#8, 2#8, 3#8] #[3#8, 3#8] = some (#[2#8, 1#8], #[2#8, 1#8, 3#8]) := by decide

end Mpc.GenTie
