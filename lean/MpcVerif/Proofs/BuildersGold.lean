/-
Goldschmidt divider (C07).  `goldCorrE_num`: which numbers the correction step of `NewUDividerGoldschmidtFast`
puts out for EVERY quotient estimate and either width of the product `q·b` (selections by the comparisons
`a < q·b` and `r < b`); `gold_corr`: they are quotient and remainder PROVIDED the estimate is within ±1 of the
true quotient.  The estimate itself (MSB normalisation, ROM seed, iterations) is only tied gate for gate and
validated by evaluation, so the divider stands under that hypothesis: `EstWithinOne`, `dividerWith_num`, and
`exactEstimator`, which meets it from every state.
-/
import MpcVerif.Model.BuildersHist
import MpcVerif.Proofs.BuildersWallace
import MpcVerif.Proofs.BuildersDiv

namespace Mpc.Bld
open Mpc

variable {s : St} {inp : List Bool} {n : Nat}

/-- The selection logic of the correction step on numbers, with the product on `n + 1` wires.  `QB` is that
product, `rn` the low `n` bits of `a - q·b` (wrapped by `2^(n+1)` where it is negative), `Qm = q - 1`.  The
estimate is one too big iff `A < QB`, one too small iff `B ≤ rn`. -/
theorem gold_corr {A B Q Qm QB rn : Nat} (hA : A < 2 ^ n) (hB0 : 0 < B) (hB : B < 2 ^ n) (hQ : Q < 2 ^ n)
    (hest : Q ≤ A / B + 1 ∧ A / B ≤ Q + 1) (hQm : Qm < 2 ^ n) (hqm : (Qm + 1) % 2 ^ n = Q % 2 ^ n)
    (hQB : QB = Q * B % 2 ^ (n + 1)) (hrn : rn = (if A < QB then A + 2 ^ (n + 1) - QB else A - QB) % 2 ^ n) :
    (if A < QB then Qm else if rn < B then Q else (Q + 1) % 2 ^ n) = A / B ∧
    (if A < QB then (rn + B) % 2 ^ n else if rn < B then rn else rn - B) = A % B := by
  -- q * b < 2^(n+1), so `n + 1` wires of the product hold all of it
  have hQBlt : Q * B < 2 ^ (n + 1) := by
    have h1 : Q * B ≤ (A / B + 1) * B := Nat.mul_le_mul_right B hest.1
    have h3 := Nat.div_mul_le_self A B
    rw [Nat.add_mul, Nat.one_mul] at h1
    rw [Nat.pow_succ]
    omega
  rw [Nat.mod_eq_of_lt hQBlt] at hQB
  clear hQBlt
  have hdiv := Nat.div_add_mod A B
  have hmod := Nat.mod_lt A hB0
  rw [Nat.pow_succ] at hrn
  generalize 2 ^ n = P at *
  generalize A / B = q0 at *
  generalize A % B = R0 at *
  have hq0 : q0 ≤ A := by have := Nat.le_mul_of_pos_left q0 hB0; omega
  -- `q·b` is linear in each of the three cases of the estimate
  have hc : (Q = q0 + 1 ∧ QB = B * q0 + B) ∨ (Q = q0 ∧ QB = B * q0) ∨ (Q + 1 = q0 ∧ QB + B = B * q0) := by
    have hc : Q = q0 + 1 ∨ Q = q0 ∨ Q + 1 = q0 := by omega
    rcases hc with h | h | h
    · exact .inl ⟨h, by rw [hQB, h, Nat.add_mul, Nat.one_mul, Nat.mul_comm]⟩
    · exact .inr (.inl ⟨h, by rw [hQB, h, Nat.mul_comm]⟩)
    · exact .inr (.inr ⟨h, by rw [hQB, ← h, Nat.mul_succ, Nat.mul_comm]⟩)
  clear hQB hest
  rcases hc with ⟨hq, hqb⟩ | ⟨hq, hqb⟩ | ⟨hq, hqb⟩
  · -- one too big: `A < Q·B`, and `A - Q·B + B` is the remainder
    have ht : A < QB := by omega
    rcases mod_sub_cases Qm Q 1 P hQm hQ (by omega) hqm with ⟨_, h⟩ | ⟨h, _⟩
    · rw [if_pos ht, if_pos ht]
      refine ⟨by omega, ?_⟩
      rw [hrn, if_pos ht, Nat.mod_add_mod, show A + P * 2 - QB + B = R0 + P * 2 by omega, Nat.add_mul_mod_self_left,
        Nat.mod_eq_of_lt (by omega)]
    · omega
  · have ht : ¬ A < QB := by omega
    have hr : rn = R0 := by rw [hrn, if_neg ht, show A - QB = R0 by omega, Nat.mod_eq_of_lt (by omega)]
    rw [if_neg ht, if_neg ht, hr, if_pos hmod, if_pos hmod]
    exact ⟨hq, rfl⟩
  · -- one too small: `A - Q·B = R0 + B` still fits `n` bits since `B ≤ A`
    have ht : ¬ A < QB := by omega
    have hr : rn = R0 + B := by rw [hrn, if_neg ht, show A - QB = R0 + B by omega, Nat.mod_eq_of_lt (by omega)]
    have hq1 : (Q + 1) % P = q0 := by rw [hq]; exact Nat.mod_eq_of_lt (by omega)
    rw [if_neg ht, if_neg ht, hr, if_neg (by omega), if_neg (by omega), hq1]
    exact ⟨rfl, by omega⟩

theorem muxResult_num (hwf : WF s inp) {t f : List Nat} {cond T F : Nat} {c : Bool} (nout : Nat)
    (hc : Holds s inp cond c) (ht : Num s inp t n T) (hf : Num s inp f n F) :
    Spec inp s (muxResult cond t f nout) (fun z s' => Num s' inp z nout ((if c then T else F) % 2 ^ nout)) := by
  unfold muxResult
  simp only
  rw [ht.len]
  refine Spec.bind (muxBus_num hwf hc ((ht.take (min nout n)).cast (Nat.min_eq_left (Nat.min_le_right ..)) rfl)
    ((hf.take (min nout n)).cast (Nat.min_eq_left (Nat.min_le_right ..)) rfl)) ?_
  intro m s1 e1 hm
  refine (zeros_num e1.wf _).map ?_
  intro z s2 e2 hz
  refine ((hm.mono e2).append hz).cast (by omega) ?_
  rw [Nat.mul_zero, Nat.add_zero, ← apply_ite (· % 2 ^ min nout n)]
  exact mod_min_pow _ n nout (by split; exact ht.lt; exact hf.lt)

/-- The correction step with the width of the product as a parameter: `q·b` is kept on `n + e` wires, `r = a - q·b`
on `n + e + 1`, and the sign of `r` is read from its top wire.  `e = 1` is `goldCorrection` (the code), `e = 0` is
`goldCorrectionOld` (the step before 776d360); both model functions are this one by `rfl`. -/
def goldCorrE (e : Nat) (a b q : List Nat) (nq nr : Nat) : BM (List Nat × List Nat) := do
  let n := a.length
  let qbLong ← wallace q b (2 * n)
  let qb := qbLong.take (n + e)
  let r ← ksSubtractor a qb (n + e + 1)
  let o1 ← oneWire
  let qMinus1 ← ksSubtractor q [o1] n
  let o2 ← oneWire
  let qPlus1 ← ksAdder q [o2] n
  let rPlusB ← ksAdder (r.take n) b n
  let rMinusB ← ksSubtractor (r.take n) b (n + 1)
  let isNeg := r.getD (n + e) 0
  let isGe ← inv (rMinusB.getD n 0)
  let qHigh ← muxBits isGe (qPlus1.zip q)
  let rHigh ← muxBits isGe ((rMinusB.take n).zip (r.take n))
  let qF ← muxResult isNeg qMinus1 qHigh nq
  let rF ← muxResult isNeg rPlusB rHigh nr
  pure (qF, rF)

theorem goldCorrection_eq : goldCorrection = goldCorrE 1 := rfl
theorem goldCorrectionOld_eq : goldCorrectionOld = goldCorrE 0 := rfl

/-- For EVERY estimate `Q`: no hypothesis ties it to `A / B`.  `QB`, `rn`, `Qm` are those of `gold_corr`, with the
product on `n + e` wires. -/
theorem goldCorrE_num (hwf : WF s inp) (e : Nat) {a b q : List Nat} {A B Q : Nat} (nq nr : Nat)
    (hA : Num s inp a n A) (hB : Num s inp b n B) (hQ : Num s inp q n Q) (hn : 0 < n) (he : e ≤ n)
    {QB rn : Nat} (hQB : QB = Q * B % 2 ^ (n + e))
    (hrn : rn = (if A < QB then A + 2 ^ (n + e) - QB else A - QB) % 2 ^ n) :
    Spec inp s (goldCorrE e a b q nq nr) (fun z s' => ∃ Qm, Qm < 2 ^ n ∧ (Qm + 1) % 2 ^ n = Q % 2 ^ n ∧
      Num s' inp z.1 nq ((if A < QB then Qm else if rn < B then Q else (Q + 1) % 2 ^ n) % 2 ^ nq) ∧
      Num s' inp z.2 nr ((if A < QB then (rn + B) % 2 ^ n else if rn < B then rn else rn - B) % 2 ^ nr)) := by
  unfold goldCorrE
  simp only
  rw [hA.len]
  have hAlt : A < 2 ^ (n + e) := lt_two_pow_of_le hA.lt (Nat.le_add_right n e)
  have hQBlt : QB < 2 ^ (n + e) := hQB ▸ Nat.mod_lt _ (Nat.two_pow_pos _)
  refine Spec.bind (wallace_num hwf (2 * n) hQ hB (by omega)) ?_
  intro qbLong s1 e1 hqb
  have hqb := (hqb.take (n + e)).cast (Nat.min_eq_left (by omega))
    ((mod_two_pow_mod _ (by omega : n + e ≤ 2 * n)).trans hQB.symm)
  -- r = a - q*b: its sign, and its low bits
  refine Spec.bind (subCmp_num e1.wf true (n + e) (hA.mono e1) hqb hAlt hQBlt) ?_
  intro r s2 e2 ⟨_, hneg, hr⟩
  have hr := (hr.take n).cast (Nat.min_eq_left (Nat.le_add_right n e)) hrn.symm
  rw [List.take_take, Nat.min_eq_left (Nat.le_add_right n e)] at hr
  clear hAlt hQBlt hrn hqb
  refine Spec.bind (oneWire_spec e2.wf) ?_
  intro o1 s3 e3 ho1
  have e03 := (e1.trans e2).trans e3
  refine Spec.bind (ksSubtractor_num e3.wf n (hQ.mono e03) (.one ho1) hn) ?_
  intro qm s4 e4 ⟨Qm, hqm, vQm⟩
  refine Spec.bind (oneWire_spec e4.wf) ?_
  intro o2 s5 e5 ho2
  have e05 := (e03.trans e4).trans e5
  refine Spec.bind (ksAdder_num e5.wf n (hQ.mono e05) (.one ho2) hn) ?_
  intro qp s6 e6 hqp
  have e26 := ((e3.trans e4).trans e5).trans e6
  have e06 := e05.trans e6
  refine Spec.bind (ksAdder_num e6.wf n (hr.mono e26) (hB.mono e06) hn) ?_
  intro rpb s7 e7 hrpb
  refine Spec.bind (subCmp_num e7.wf true n (hr.mono (e26.trans e7)) (hB.mono (e06.trans e7)) hr.lt hB.lt) ?_
  intro rmb s8 e8 ⟨_, hlt, hrml⟩
  refine Spec.bind (inv_spec e8.wf hlt) ?_
  intro isGe s9 e9 hge
  have e29 := ((e26.trans e7).trans e8).trans e9
  refine Spec.bind (muxBus_num e9.wf hge (hqp.mono ((e7.trans e8).trans e9))
    (hQ.mono (((e06.trans e7).trans e8).trans e9))) ?_
  intro qHigh s10 e10 hqh
  refine Spec.bind (muxBus_num e10.wf (hge.mono e10) (hrml.mono (e9.trans e10)) (hr.mono (e29.trans e10))) ?_
  intro rHigh s11 e11 hrh
  have e2_11 := (e29.trans e10).trans e11
  refine Spec.bind (muxResult_num e11.wf nq (hneg.mono e2_11)
    (hqm.mono ((((((e5.trans e6).trans e7).trans e8).trans e9).trans e10).trans e11)) (hqh.mono e11)) ?_
  intro qF s12 e12 hqF
  refine (muxResult_num e12.wf nr (hneg.mono (e2_11.trans e12))
    (hrpb.mono ((((e8.trans e9).trans e10).trans e11).trans e12)) (hrh.mono e12)).map ?_
  intro rF s13 e13 hrF
  refine ⟨Qm, hqm.lt, vQm, (hqF.mono e13).cast rfl ?_, hrF.cast rfl ?_⟩
  · by_cases h1 : A < QB <;> by_cases h2 : rn < B <;> simp [h1, h2]
  · by_cases h1 : A < QB <;> by_cases h2 : rn < B <;> simp [h1, h2]

/-- The correction step of `NewUDividerGoldschmidtFast` (as of 776d360) between named numbers: IF the estimate `Q`
is within ±1 of `⌊A / B⌋` THEN the outputs are exactly the quotient and the remainder, for every operand width
`n ≥ 1` and all result widths. -/
theorem goldCorrection_num (hwf : WF s inp) {a b q : List Nat} {A B Q : Nat} (nq nr : Nat) (hA : Num s inp a n A)
    (hB : Num s inp b n B) (hQ : Num s inp q n Q) (hn : 0 < n) (hB0 : 0 < B) (hest : Q ≤ A / B + 1 ∧ A / B ≤ Q + 1) :
    Spec inp s (goldCorrection a b q nq nr) (fun t s' =>
      Num s' inp t.1 nq ((A / B) % 2 ^ nq) ∧ Num s' inp t.2 nr ((A % B) % 2 ^ nr)) := by
  rw [goldCorrection_eq]
  refine (goldCorrE_num hwf 1 nq nr hA hB hQ hn hn rfl rfl).mono ?_
  intro z s' _ ⟨Qm, hQm, vQm, h1, h2⟩
  obtain ⟨k1, k2⟩ := gold_corr hA.lt hB0 hB.lt hQ.lt hest hQm vQm rfl rfl
  rw [k1] at h1
  rw [k2] at h2
  exact ⟨h1, h2⟩

theorem goldschmidt_eq_dividerWith (a b : List Nat) (nq nr : Nat) (h : a.length = b.length) :
    goldschmidt a b nq nr = dividerWith goldEstimate a b nq nr := by
  funext s
  simp [goldschmidt, dividerWith, zeroPad, h]

/-- Hypothesis `goldschmidt-estimate-within-one` for an estimator `est` run
from the state `s` on the operand buses `a`, `b`: it extends the state and its
result is within ±1 of `⌊a / b⌋`. -/
def EstWithinOne (est : List Nat → List Nat → BM (List Nat)) (inp : List Bool) (s : St) (a b : List Nat) : Prop :=
  Spec inp s (est a b) (fun q s' => Bnd s' q ∧ q.length = a.length ∧
    toNat (busVal s' inp q) ≤ toNat (busVal s inp a) / toNat (busVal s inp b) + 1 ∧
    toNat (busVal s inp a) / toNat (busVal s inp b) ≤ toNat (busVal s' inp q) + 1)

theorem dividerWith_num {est : List Nat → List Nat → BM (List Nat)} {a b : List Nat} {A B : Nat} (nq nr : Nat)
    (hA : Num s inp a n A) (hB : Num s inp b n B) (hn : 0 < n) (hB0 : 0 < B) (hest : EstWithinOne est inp s a b) :
    Spec inp s (dividerWith est a b nq nr) (fun t s' =>
      Num s' inp t.1 nq ((A / B) % 2 ^ nq) ∧ Num s' inp t.2 nr ((A % B) % 2 ^ nr)) := by
  unfold dividerWith
  refine Spec.bind hest ?_
  intro q s1 e1 ⟨hq, hql, hq1⟩
  rw [hA.val, hB.val] at hq1
  exact goldCorrection_num e1.wf nq nr (hA.mono e1) (hB.mono e1) ⟨hq, hql.trans hA.len, rfl⟩ hn hB0 hq1

/-- An estimator that satisfies the hypothesis of `Mpc.C07_history_divider_pair` from
EVERY state (non-vacuity of that hypothesis): the exact long-division quotient. -/
def exactEstimator (a b : List Nat) : BM (List Nat) := do
  let d ← uDividerLong false a b a.length 0
  pure d.1

theorem exactEstimator_withinOne {s : St} {inp : List Bool} (hwf : WF s inp) {a b : List Nat}
    (ha : Bnd s a) (hb : Bnd s b) (hna : 0 < a.length) (hB : 0 < toNat (busVal s inp b)) :
    EstWithinOne exactEstimator inp s a b := by
  unfold EstWithinOne exactEstimator
  refine (uDividerLong_num hwf false a.length 0 (.of ha) (.of hb) (by omega) hB).map ?_
  intro t s' _ ⟨h1, _⟩
  have hq := h1.val
  rw [Nat.mod_eq_of_lt (Nat.lt_of_le_of_lt (Nat.div_le_self _ _) (Num.of (inp := inp) ha).lt)] at hq
  exact ⟨h1.bnd, h1.len, by omega, by omega⟩

end Mpc.Bld
