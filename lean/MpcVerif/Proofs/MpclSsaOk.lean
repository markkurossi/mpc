/-
The shape of the code `lower` emits (Model/MpclLower.lean), by a second induction on
the fuel that looks at no store: the instructions define the value ids in order,
each from operands defined before it, and each has a result and the right number of
operands (`Wf`, so that a run makes all their equations true: `Wf.run`); without
`/ %` in the source none of them can fail, so the code is total (`ssaSteps_total`).
-/
import MpcVerif.Proofs.MpclSsaStmt

namespace Mpc.Mpcl.Ssa
open Mpc.Mpcl

theorem instrOk_mov (d : Bool) (a : SArg) (id w : Nat) : instrOk d (movI a id w) = true := rfl

theorem instrOk_phi (d : Bool) (a b c : SArg) (o : Nat × Nat) : instrOk d ⟨.phi, [a, b, c], some o⟩ = true := rfl

theorem instrOk_slice (d : Bool) (a : SArg) (off w id : Nat) : instrOk d (sliceI a off w id) = true := rfl

theorem instrOk_ite {d : Bool} {c : Prop} [Decidable c] {o1 o2 : SOp} {ins : List SArg} {out : Option (Nat × Nat)}
    (h1 : instrOk d ⟨o1, ins, out⟩ = true) (h2 : instrOk d ⟨o2, ins, out⟩ = true) :
    instrOk d ⟨if c then o1 else o2, ins, out⟩ = true := by
  split <;> assumption

theorem instrOk_mono {d d' : Bool} {i : SInstr} (h : instrOk d i = true) (hd : d = true → d' = true) :
    instrOk d' i = true := by
  cases d
  · simp only [instrOk, Bool.false_and, Bool.or_false] at h
    simp [instrOk, h]
  · rw [hd rfl]; exact h

theorem lowerBin_total {op : BinOp} {t : Ty} {sop : SOp} {tr : Ty} (a b : SArg) (o : Nat × Nat)
    (h : lowerBin op t = some (sop, tr)) : instrOk (op == .div || op == .mod) ⟨sop, [a, b], some o⟩ = true := by
  cases t <;> cases op <;> cases h <;> rfl

theorem lowerBin_ok {d : Bool} {op : BinOp} {t : Ty} {sop : SOp} {tr : Ty} (a b : SArg) (o : Nat × Nat)
    (h : lowerBin op t = some (sop, tr)) (hdiv : (d || op != .div) = true) (hmod : (d || op != .mod) = true) :
    instrOk d ⟨sop, [a, b], some o⟩ = true := by
  refine instrOk_mono (lowerBin_total a b o h) ?_
  cases d
  · revert hdiv hmod; cases op <;> decide
  · exact fun _ => rfl

theorem ArgBelow.k (n m : Nat) : ArgBelow n (.k m) := trivial
theorem ArgBelow.var {n id : Nat} (w : Nat) (h : id < n) : ArgBelow n (.var id w) := h

section
variable {α : Type} {p : α → Prop} {a b c e : α}
theorem forall_mem1 (ha : p a) : ∀ x ∈ [a], p x := List.forall_mem_cons.2 ⟨ha, nofun⟩
theorem forall_mem2 (ha : p a) (hb : p b) : ∀ x ∈ [a, b], p x := List.forall_mem_cons.2 ⟨ha, forall_mem1 hb⟩
theorem forall_mem3 (ha : p a) (hb : p b) (hc : p c) : ∀ x ∈ [a, b, c], p x := List.forall_mem_cons.2 ⟨ha, forall_mem2 hb hc⟩
theorem forall_mem4 (ha : p a) (hb : p b) (hc : p c) (he : p e) : ∀ x ∈ [a, b, c, e], p x :=
  List.forall_mem_cons.2 ⟨ha, forall_mem3 hb hc he⟩
end

theorem Wf.snoc {d : Bool} {ca : List SInstr} {k n1 w w' : Nat} {op : SOp} {ins : List SArg} (ha : Wf d k ca n1)
    (hok : instrOk d ⟨op, ins, some (n1, w)⟩ = true) (h : ∀ a ∈ ins, ArgBelow n1 a) :
    Wf d k (ca ++ [⟨op, ins, some (n1, w)⟩]) (n1 + 1) ∧ ArgBelow (n1 + 1) (.var n1 w') :=
  ⟨ha.append (Wf.one hok h), Nat.lt_succ_self n1⟩

theorem Wf.mov {d : Bool} {ca : List SInstr} {k n1 : Nat} {a : SArg} (w : Nat) (ha : Wf d k ca n1) (h : ArgBelow n1 a) :
    Wf d k (ca ++ [movI a n1 w]) (n1 + 1) :=
  ha.append (Wf.one (instrOk_mov d _ _ _) (forall_mem1 h))

theorem Wf.cons {d : Bool} {op : SOp} {ins : List SArg} {c : List SInstr} {k k' w : Nat}
    (hok : instrOk d ⟨op, ins, some (k, w)⟩ = true) (h : ∀ a ∈ ins, ArgBelow k a) (hc : Wf d (k + 1) c k') :
    Wf d k (⟨op, ins, some (k, w)⟩ :: c) k' := (Wf.one hok h).append (a := [_]) hc

theorem Wf.movCons {d : Bool} {a : SArg} {c : List SInstr} {k k' : Nat} (w : Nat) (h : ArgBelow k a)
    (hc : Wf d (k + 1) c k') : Wf d k (movI a k w :: c) k' := Wf.cons (instrOk_mov d _ _ _) (forall_mem1 h) hc

def RTree.Below (k : Nat) : RTree → Prop
  | .fall => True
  | .ret rs => ∀ p ∈ rs, p.1 < k
  | .br c t f => c < k ∧ t.Below k ∧ f.Below k

theorem RTree.Below.mono {k k' : Nat} : ∀ {t : RTree}, t.Below k → k ≤ k' → t.Below k'
  | .fall, _, _ => trivial
  | .ret _, h, hk => fun p hp => Nat.lt_of_lt_of_le (h p hp) hk
  | .br _ _ _, h, hk => ⟨Nat.lt_of_lt_of_le h.1 hk, h.2.1.mono hk, h.2.2.mono hk⟩

theorem RTree.Below.seq {k : Nat} : ∀ {t1 t2 : RTree}, t1.Below k → t2.Below k → (t1.seq t2).Below k
  | .fall, _, _, h2 => h2
  | .ret _, _, h1, _ => h1
  | .br _ _ _, _, h1, h2 => ⟨h1.1, RTree.Below.seq h1.2.1 h2, RTree.Below.seq h1.2.2 h2⟩

theorem matPhis_ok (d : Bool) {c : Nat} {rt rf : List (Nat × Ty)} {k : Nat} {rs : List (Nat × Ty)}
    {code : List SInstr} {k' : Nat} : matPhis c rt rf k = some (rs, code, k') → c < k → (∀ p ∈ rt, p.1 < k) →
    (∀ p ∈ rf, p.1 < k) → Wf d k code k' ∧ ∀ p ∈ rs, p.1 < k' := by
  fun_induction matPhis c rt rf k generalizing rs code k' <;> intro h <;> cases h <;> intro hc ht hf
  · exact ⟨Wf.nil _ _, nofun⟩
  · rename_i hm ih
    obtain ⟨hi, ht⟩ := List.forall_mem_cons.1 ht
    obtain ⟨hj, hf⟩ := List.forall_mem_cons.1 hf
    obtain ⟨w, hrs⟩ := ih hm (Nat.lt_succ_of_lt hc) (fun p hp => Nat.lt_succ_of_lt (ht p hp))
      (fun p hp => Nat.lt_succ_of_lt (hf p hp))
    exact ⟨Wf.cons (instrOk_phi d _ _ _ _) (forall_mem3 (.var _ hc) (.var _ hi) (.var _ hj)) w,
      List.forall_mem_cons.2 ⟨w.le, hrs⟩⟩

theorem mat_ok (d : Bool) {t : RTree} {k : Nat} {rs : List (Nat × Ty)} {code : List SInstr} {k' : Nat} :
    t.mat k = some (rs, code, k') → t.Below k → Wf d k code k' ∧ ∀ p ∈ rs, p.1 < k' := by
  fun_induction RTree.mat t k generalizing rs code k' <;> intro h <;> cases h <;> intro hb
  · exact ⟨Wf.nil _ _, hb⟩
  · rename_i ht _ _ _ hf _ _ _ hp iht ihf
    obtain ⟨wt, hrt⟩ := iht ht hb.2.1
    obtain ⟨wf, hrf⟩ := ihf hf (hb.2.2.mono wt.le)
    obtain ⟨wp, hrs⟩ := matPhis_ok d hp (Nat.lt_of_lt_of_le hb.1 (Nat.le_trans wt.le wf.le))
      (fun p hp => Nat.lt_of_lt_of_le (hrt p hp) wf.le) hrf
    exact ⟨(wt.append wf).append wp, hrs⟩

theorem mergeB_ok (d : Bool) {c : Nat} {b b' : Bind} {k : Nat} {b2 : Bind} {code : List SInstr} {k' : Nat} :
    mergeB c b b' k = some (b2, code, k') → c < k → BelowB k b → BelowB k b' → Wf d k code k' ∧ BelowB k' b2 := by
  fun_cases mergeB c b b' k <;> intro h <;> cases h <;> intro hc hb hb'
  · exact ⟨Wf.nil _ _, hb⟩
  · exact ⟨Wf.one (instrOk_phi d _ _ _ _) (forall_mem3 (.var _ hc) (.var _ hb) (.var _ hb')), Nat.lt_succ_self k⟩
  · exact ⟨Wf.nil _ _, trivial⟩

theorem mergeS_ok (d : Bool) {c : Nat} {s s' : NScope} {k : Nat} {s2 : NScope} {code : List SInstr} {k' : Nat} :
    mergeS c s s' k = some (s2, code, k') → c < k → BelowS k s → BelowS k s' → Wf d k code k' ∧ BelowS k' s2 := by
  fun_induction mergeS c s s' k generalizing s2 code k' <;> intro h <;> cases h <;> intro hc hb hb'
  · exact ⟨Wf.nil _ _, NScope.All.nil _⟩
  · rename_i hm _ _ _ hr ih
    obtain ⟨hb0, hbr⟩ := List.forall_mem_cons.1 hb
    obtain ⟨hb0', hbr'⟩ := List.forall_mem_cons.1 hb'
    obtain ⟨w1, h1⟩ := mergeB_ok d hm hc hb0 hb0'
    obtain ⟨w2, h2⟩ := ih hr (Nat.lt_of_lt_of_le hc w1.le) (fun p hp => (hbr p hp).mono w1.le)
      (fun p hp => (hbr' p hp).mono w1.le)
    exact ⟨w1.append w2, NScope.All.cons (h1.mono w2.le) h2⟩

theorem mergeE_ok (d : Bool) {c : Nat} {n n' : NEnv} {k : Nat} {n2 : NEnv} {code : List SInstr} {k' : Nat} :
    mergeE c n n' k = some (n2, code, k') → c < k → Below k n → Below k n' → Wf d k code k' ∧ Below k' n2 := by
  fun_induction mergeE c n n' k generalizing n2 code k' <;> intro h <;> cases h <;> intro hc hb hb'
  · exact ⟨Wf.nil _ _, nofun⟩
  · rename_i hm _ _ _ hr ih
    obtain ⟨w1, h1⟩ := mergeS_ok d hm hc hb.head hb'.head
    obtain ⟨w2, h2⟩ := ih hr (Nat.lt_of_lt_of_le hc w1.le) (Below.mono hb.tail w1.le) (Below.mono hb'.tail w1.le)
    exact ⟨w1.append w2, NEnv.All.cons (fun p hp => (h1 p hp).mono w2.le) h2⟩

theorem joinN_ok (d : Bool) {c : Nat} {nt nf : Option NEnv} {k : Nat} {nms : Option NEnv} {code : List SInstr}
    {k' : Nat} : joinN c nt nf k = some (nms, code, k') → c < k → (∀ n, nt = some n → Below k n) →
    (∀ n, nf = some n → Below k n) → Wf d k code k' ∧ ∀ n, nms = some n → Below k' n := by
  fun_cases joinN c nt nf k <;> intro h <;> cases h <;> intro hc ht hf
  · obtain ⟨w, hb⟩ := mergeE_ok d ‹_› hc (ht _ rfl) (hf _ rfl)
    exact ⟨w, fun n hn => by cases hn; exact hb⟩
  · exact ⟨Wf.nil _ _, ht⟩
  · exact ⟨Wf.nil _ _, hf⟩
  · exact ⟨Wf.nil _ _, nofun⟩

theorem bindArgs_ok (d : Bool) {ps : List (String × Ty)} {avs : List (SArg × Ty)} {next : Nat} {sc : NScope}
    {code : List SInstr} {next' : Nat} : bindArgs ps avs next = some (sc, code, next') →
    (∀ p ∈ avs, ArgBelow next p.1) → Wf d next code next' ∧ BelowS next' sc := by
  fun_induction bindArgs ps avs next generalizing sc code next' <;> intro h <;> cases h <;> intro hb
  · exact ⟨Wf.nil _ _, NScope.All.nil _⟩
  · rename_i hr ih
    obtain ⟨ha, hb⟩ := List.forall_mem_cons.1 hb
    obtain ⟨w, hs⟩ := ih hr fun p hp => (hb p hp).mono (Nat.le_succ _)
    exact ⟨Wf.movCons _ ha w,
      NScope.All.cons (Nat.lt_of_lt_of_le (Nat.lt_succ_self _) w.le) hs⟩

theorem storeCode_ok (d : Bool) (path : List Acc) {va root : SArg} (off w bits : Nat) {next : Nat}
    (hv : ArgBelow next va) (hr : ArgBelow next root) :
    Wf d next (storeCode path va root off w bits next).1 ((storeCode path va root off w bits next).2 + 1) := by
  rcases path with _ | ⟨_ | _, p⟩ <;> simp only [storeCode]
  · exact Wf.one (instrOk_mov d _ _ _) (forall_mem1 hv)
  · exact Wf.cons rfl (forall_mem4 hv hr (.k _ _) (.k _ _))
      ((Wf.nil d _).mov _ (.var _ (Nat.lt_succ_self next)))
  · exact Wf.one rfl (forall_mem4 hv hr (.k _ _) (.k _ _))

theorem assignVal_ok (d : Bool) {nm nm' : NEnv} {lv : LVal} {va : SArg} {tv : Ty} {next n2 : Nat}
    {code : List SInstr} : assignVal nm lv va tv next = some (nm', code, n2) → Below next nm → ArgBelow next va →
    Wf d next code n2 ∧ Below n2 nm' := by
  fun_cases assignVal nm lv va tv next <;> intro h <;> cases h <;> intro hb hv
  rename_i hf _ _ _ _ sc hset
  refine ⟨storeCode_ok d lv.path _ _ _ hv (.var _ (NEnv.All.find hb hf)), ?_⟩
  exact NEnv.All.set (hb.mono (storeCode_ok d lv.path _ _ _ hv (.var _ (NEnv.All.find hb hf))).le)
    (Nat.lt_succ_self _ : BelowB _ (.val _ _)) hset

theorem assignAllVals_ok (d : Bool) {lvs : List LVal} {rs : List (Nat × Ty)} {nm nm' : NEnv} {next n2 : Nat}
    {code : List SInstr} : assignAllVals nm lvs rs next = some (nm', code, n2) → Below next nm →
    (∀ p ∈ rs, p.1 < next) → Wf d next code n2 ∧ Below n2 nm' := by
  fun_induction assignAllVals nm lvs rs next generalizing nm' code n2 <;> intro h <;> cases h <;> intro hb hrs
  · exact ⟨Wf.nil _ _, hb⟩
  · rename_i h1 _ _ _ h2 ih
    obtain ⟨hid, hrs⟩ := List.forall_mem_cons.1 hrs
    obtain ⟨w1, hb1⟩ := assignVal_ok d h1 hb hid
    obtain ⟨w2, hb2⟩ := ih h2 hb1 fun p hp => Nat.lt_of_lt_of_le (hrs p hp) w1.le
    exact ⟨w1.append w2, hb2⟩

theorem defineAllVals_ok (d : Bool) {xs : List String} {rs : List (Nat × Ty)} {nm nm' : NEnv} {next n2 : Nat}
    {code : List SInstr} : defineAllVals nm xs rs next = some (nm', code, n2) → Below next nm →
    (∀ p ∈ rs, p.1 < next) → Wf d next code n2 ∧ Below n2 nm' := by
  fun_induction defineAllVals nm xs rs next generalizing nm' code n2 <;> intro h <;> cases h <;> intro hb hrs
  · exact ⟨Wf.nil _ _, hb⟩
  · rename_i h2 ih
    obtain ⟨hid, hrs⟩ := List.forall_mem_cons.1 hrs
    obtain ⟨w, hb2⟩ := ih h2 (hb.declare_val (Nat.le_refl _) _ _)
      fun p hp => Nat.lt_succ_of_lt (hrs p hp)
    exact ⟨Wf.movCons _ (.var _ hid) w, hb2⟩

theorem retMovs_ok (d : Bool) : ∀ (rs : List (Nat × Ty)) (next : Nat), (∀ p ∈ rs, p.1 < next) →
    Wf d next (retMovs rs next).2.1 (retMovs rs next).2.2 ∧ ∀ p ∈ (retMovs rs next).1, p.1 < (retMovs rs next).2.2
  | [], _, _ => ⟨Wf.nil _ _, nofun⟩
  | (id, t) :: rs, next, hrs => by
    obtain ⟨hid, hrs⟩ := List.forall_mem_cons.1 hrs
    obtain ⟨w, h⟩ := retMovs_ok d rs (next + 1) fun p hp => Nat.lt_succ_of_lt (hrs p hp)
    exact ⟨Wf.movCons _ (.var _ hid) w,
      List.forall_mem_cons.2 ⟨Nat.lt_of_lt_of_le (Nat.lt_succ_self _) w.le, h⟩⟩

theorem noDivP_get {d : Bool} {P : Prog} {g : Nat} {fn : Func} (h : (d || noDivP P) = true) (hg : P[g]? = some fn) :
    (d || noDivB fn.body) = true := by
  cases d
  · simp only [Bool.false_or, noDivP, List.all_eq_true] at h ⊢
    exact h fn (List.mem_of_getElem? hg)
  · rfl

structure LOk (d : Bool) (next : Nat) (r : LRes) : Prop where
  code : Wf d next r.code r.next
  tree : r.tree.Below r.next
  nms : ∀ n', r.nms = some n' → Below r.next n'

theorem LOk.basic {d : Bool} {next n1 : Nat} {nm' : NEnv} {code : List SInstr} (w : Wf d next code n1)
    (hb : Below n1 nm') : LOk d next ⟨some nm', .fall, code, n1⟩ :=
  ⟨w, trivial, fun _ e => by cases e; exact hb⟩

/-- `d`: whether divisions may occur.  `(d || noDiv..) = true` asks for a source without `/ %` only when they may
not, so that one induction gives `Wf true` of every program (for `Wf.run`) and `Wf false` of a division-free one (for
`ssaSteps_total`). -/
structure OkAt (d : Bool) (P : Prog) (f : Nat) : Prop where
  expr : ∀ {nm e next aa t code next'}, lowerE P f nm e next = some (aa, t, code, next') → Below next nm →
    (d || noDivE e) = true → Wf d next code next' ∧ ArgBelow next' aa
  args : ∀ {nm es next avs code next'}, lowerArgs P f nm es next = some (avs, code, next') → Below next nm →
    (d || noDivEs es) = true → Wf d next code next' ∧ ∀ p ∈ avs, ArgBelow next' p.1
  call : ∀ {nm g args next rs code next'}, lowerCall P f nm g args next = some (rs, code, next') → Below next nm →
    (d || noDivEs args) = true → Wf d next code next' ∧ ∀ p ∈ rs, p.1 < next'
  ret : ∀ {nm es next rs code next'}, lowerRet P f nm es next = some (rs, code, next') → Below next nm →
    (d || noDivEs es) = true → Wf d next code next' ∧ ∀ p ∈ rs, p.1 < next'
  stmt : ∀ {nm next s r}, lowerS P f nm next s = some r → Below next nm → (d || noDivS s) = true → LOk d next r
  block : ∀ {nm next ss r}, lowerB P f nm next ss = some r → Below next nm → (d || noDivB ss) = true → LOk d next r
  loop : ∀ {i cur c hi stp body nm next r}, lowerFor P f i cur c hi stp body nm next = some r → Below next nm →
    (d || noDivB body) = true → LOk d next r

section
variable {d : Bool} {P : Prog} {n : Nat} (ih : ∀ f, f < n → OkAt d P f)
include ih

theorem expr_ok {nm : NEnv} {e : Expr} {next : Nat} {aa : SArg} {t : Ty} {code : List SInstr} {next' : Nat} :
    lowerE P n nm e next = some (aa, t, code, next') → Below next nm → (d || noDivE e) = true →
    Wf d next code next' ∧ ArgBelow next' aa := by
  fun_cases lowerE P n nm e next <;> intro h <;> cases h <;> have ih := ih _ (Nat.lt_succ_self _) <;> intro hb hd <;>
    simp only [noDivE, Bool.or_and_distrib_left, Bool.and_eq_true] at hd
  · exact ⟨Wf.nil _ _, trivial⟩
  · exact ⟨Wf.nil _ _, constArg_below _ _ _ _⟩
  · exact ⟨Wf.nil _ _, constArg_below _ _ _ _⟩
  · exact ⟨Wf.nil _ _, (NEnv.All.find hb ‹_› : BelowB next (.val _ _))⟩
  · exact ⟨Wf.nil _ _, constArg_below _ _ _ _⟩
  · obtain ⟨wa, ba⟩ := ih.expr ‹_› hb hd.1.2
    obtain ⟨wb, bb⟩ := ih.expr ‹_› (hb.mono wa.le) hd.2
    exact (wa.append wb).snoc (lowerBin_ok _ _ _ ‹_› hd.1.1.1 hd.1.1.2)
      (forall_mem2 (ba.mono wb.le) bb)
  · obtain ⟨wa, ba⟩ := ih.expr ‹_› hb hd
    exact wa.snoc (instrOk_ite rfl (instrOk_ite rfl rfl)) (forall_mem2 ba (.k _ _))
  · obtain ⟨wa, ba⟩ := ih.expr ‹_› hb hd
    exact wa.snoc rfl (forall_mem1 ba)
  · obtain ⟨wa, ba⟩ := ih.expr ‹_› hb hd
    exact wa.snoc rfl (forall_mem2 (by trivial) ba)
  · exact ⟨(ih.expr ‹_› hb hd).1, constArg_below _ _ _ _⟩
  · obtain ⟨wa, ba⟩ := ih.expr ‹_› hb hd
    exact wa.snoc (instrOk_ite rfl rfl) (forall_mem1 ba)
  · obtain ⟨wa, ba⟩ := ih.expr ‹_› hb hd.1
    exact wa.snoc (instrOk_slice d _ _ _ _)
      (forall_mem3 ba (.k _ _) (.k _ _))
  · obtain ⟨wa, ba⟩ := ih.expr ‹_› hb hd.1
    obtain ⟨wi, bi⟩ := ih.expr ‹_› (hb.mono wa.le) hd.2
    exact (wa.append wi).snoc rfl (forall_mem4 (ba.mono wi.le) (.k _ _) bi (.k _ _))
  · obtain ⟨wa, ba⟩ := ih.expr ‹_› hb hd
    exact wa.snoc (instrOk_slice d _ _ _ _)
      (forall_mem3 ba (.k _ _) (.k _ _))
  · obtain ⟨wc, hrs⟩ := ih.call ‹_› hb hd
    exact ⟨wc, hrs _ (List.mem_singleton_self _)⟩

theorem args_ok {nm : NEnv} {es : List Expr} {next : Nat} {avs : List (SArg × Ty)} {code : List SInstr} {next' : Nat} :
    lowerArgs P n nm es next = some (avs, code, next') → Below next nm → (d || noDivEs es) = true →
    Wf d next code next' ∧ ∀ p ∈ avs, ArgBelow next' p.1 := by
  fun_cases lowerArgs P n nm es next <;> intro h <;> cases h <;> have ih := ih _ (Nat.lt_succ_self _) <;> intro hb hd <;>
    simp only [noDivEs, Bool.or_and_distrib_left, Bool.and_eq_true] at hd
  · exact ⟨Wf.nil _ _, nofun⟩
  · obtain ⟨w1, ha⟩ := ih.expr ‹_› hb hd.1
    obtain ⟨w2, has⟩ := ih.args ‹_› (hb.mono w1.le) hd.2
    exact ⟨w1.append w2, List.forall_mem_cons.2 ⟨ha.mono w2.le, has⟩⟩

theorem ret_ok {nm : NEnv} {es : List Expr} {next : Nat} {rs : List (Nat × Ty)} {code : List SInstr} {next' : Nat} :
    lowerRet P n nm es next = some (rs, code, next') → Below next nm → (d || noDivEs es) = true →
    Wf d next code next' ∧ ∀ p ∈ rs, p.1 < next' := by
  fun_cases lowerRet P n nm es next <;> intro h <;> cases h <;> have ih := ih _ (Nat.lt_succ_self _) <;> intro hb hd <;>
    simp only [noDivEs, Bool.or_and_distrib_left, Bool.and_eq_true] at hd
  · exact ⟨Wf.nil _ _, nofun⟩
  · obtain ⟨w1, ha⟩ := ih.expr ‹_› hb hd.1
    have w1' := w1.mov (a := _) (‹Ty›).bits ha
    obtain ⟨w2, hrs⟩ := ih.ret ‹_› (hb.mono w1'.le) hd.2
    exact ⟨w1'.append w2, List.forall_mem_cons.2 ⟨Nat.lt_of_lt_of_le (Nat.lt_succ_self _) w2.le, hrs⟩⟩

theorem call_ok (hP : (d || noDivP P) = true) {nm : NEnv} {g : Nat} {args : List Expr} {next : Nat}
    {rs : List (Nat × Ty)} {code : List SInstr} {next' : Nat} :
    lowerCall P n nm g args next = some (rs, code, next') → Below next nm → (d || noDivEs args) = true →
    Wf d next code next' ∧ ∀ p ∈ rs, p.1 < next' := by
  fun_cases lowerCall P n nm g args next <;> intro h <;> cases h <;> have ih := ih _ (Nat.lt_succ_self _) <;> intro hb hd
  rename_i hg _ _ _
  obtain ⟨w1, has⟩ := ih.args ‹_› hb hd
  obtain ⟨w2, hsc⟩ := bindArgs_ok d ‹_› has
  -- the callee's body: division-free when the program is
  obtain ⟨w3, htb, _⟩ := ih.block ‹_› (NEnv.All.cons hsc (fun _ h => by cases h)) (noDivP_get hP hg)
  obtain ⟨w4, hrs⟩ := mat_ok d ‹_› htb
  exact ⟨((w1.append w2).append w3).append w4, hrs⟩

theorem stmt_ok {nm : NEnv} {next : Nat} {s : Stmt} {r : LRes} :
    lowerS P n nm next s = some r → Below next nm → (d || noDivS s) = true → LOk d next r := by
  fun_cases lowerS P n nm next s <;> intro h <;> (try cases h) <;> have ih := ih _ (Nat.lt_succ_self _) <;> intro hb hd <;>
    simp only [noDivS, noDivE, Bool.or_and_distrib_left, Bool.and_eq_true] at hd
  · exact .basic ((Wf.nil d next).mov _ (zeroArg_below _ _)) (hb.declare_val (Nat.le_refl _) _ _)
  · obtain ⟨w, ha⟩ := ih.expr ‹_› hb hd
    exact .basic (w.mov _ ha) (hb.declare_val w.le _ _)
  · obtain ⟨w, ha⟩ := ih.expr ‹_› hb hd
    exact .basic (w.mov _ ha) (hb.declare_val w.le _ _)
  · obtain ⟨w1, hrs⟩ := ih.call ‹_› hb hd
    obtain ⟨w2, hb2⟩ := defineAllVals_ok d ‹_› (hb.mono w1.le) hrs
    exact .basic (w1.append w2) hb2
  · obtain ⟨w1, ha⟩ := ih.expr ‹_› hb hd
    obtain ⟨w2, hb2⟩ := assignVal_ok d ‹_› (hb.mono w1.le) ha
    exact .basic (w1.append w2) hb2
  · obtain ⟨w1, hrs⟩ := ih.call ‹_› hb hd
    obtain ⟨w2, hb2⟩ := assignAllVals_ok d ‹_› (hb.mono w1.le) hrs
    exact .basic (w1.append w2) hb2
  · obtain ⟨w1, hc⟩ := ih.expr ‹_› hb hd.1.1
    obtain ⟨w2, ht2, hn2⟩ := ih.block ‹_› (NEnv.All.cons (NScope.All.nil _) (hb.mono w1.le)) hd.1.2
    obtain ⟨w3, ht3, hn3⟩ := ih.block ‹_›
      (NEnv.All.cons (NScope.All.nil _) (hb.mono (Nat.le_trans w1.le w2.le))) hd.2
    obtain ⟨w4, hn4⟩ := joinN_ok d ‹_› (Nat.lt_of_lt_of_le hc (Nat.le_trans w2.le w3.le)) (fun _ => NEnv.All.popN fun n' e => (hn2 n' e).mono w3.le) (fun _ => NEnv.All.popN hn3)
    exact ⟨((w1.append w2).append w3).append w4,
      ⟨Nat.lt_of_lt_of_le hc (Nat.le_trans w2.le (Nat.le_trans w3.le w4.le)), ht2.mono (Nat.le_trans w3.le w4.le),
        ht3.mono w4.le⟩, hn4⟩
  · exact ih.loop h hb hd
  · have := retCallOf_some ‹_›
    subst this
    simp only [noDivEs, noDivE, Bool.and_true] at hd
    obtain ⟨w1, hrs⟩ := ih.call ‹_› hb hd
    obtain ⟨w2, hrs2⟩ := retMovs_ok d _ _ hrs
    exact ⟨w1.append w2, hrs2, nofun⟩
  · obtain ⟨w, hrs⟩ := ih.ret ‹_› hb hd
    exact ⟨w, hrs, nofun⟩

theorem block_ok {nm : NEnv} {next : Nat} {ss : List Stmt} {r : LRes} :
    lowerB P n nm next ss = some r → Below next nm → (d || noDivB ss) = true → LOk d next r := by
  fun_cases lowerB P n nm next ss <;> intro h <;> cases h <;> have ih := ih _ (Nat.lt_succ_self _) <;> intro hb hd <;>
    simp only [noDivB, Bool.or_and_distrib_left, Bool.and_eq_true] at hd
  · exact .basic (Wf.nil _ _) hb
  · obtain ⟨w1, ht1, hn1⟩ := ih.stmt ‹_› hb hd.1
    obtain ⟨w2, ht2, hn2⟩ := ih.block ‹_› (hn1 _ ‹_›) hd.2
    exact ⟨w1.append w2, RTree.Below.seq (ht1.mono w2.le) ht2, hn2⟩
  · exact ih.stmt ‹_› hb hd.1

theorem for_ok {i : String} {cur : Int} {c : Cmp} {hi stp : Int} {body : List Stmt} {nm : NEnv} {next : Nat} {r : LRes} :
    lowerFor P n i cur c hi stp body nm next = some r → Below next nm → (d || noDivB body) = true → LOk d next r := by
  fun_cases lowerFor P n i cur c hi stp body nm next <;> intro h <;> cases h <;> have ih := ih _ (Nat.lt_succ_self _) <;>
    intro hb hd <;> have hb0 : Below next ([(i, .konst cur.toNat)] :: nm) := NEnv.All.cons (NScope.All.cons trivial (NScope.All.nil _)) hb
  · rename_i r1 nm1 hrn r2 _ _ _ hl2 hlb
    obtain ⟨w1, ht1, hn1⟩ := ih.block hlb hb0 hd
    obtain ⟨w2, ht2, hn2⟩ := ih.loop hl2 (NEnv.All.popN hn1 hrn) hd
    exact ⟨w1.append w2, RTree.Below.seq (ht1.mono w2.le) ht2, hn2⟩
  · obtain ⟨w1, ht1, _⟩ := ih.block ‹_› hb0 hd
    exact ⟨w1, ht1, nofun⟩
  · exact .basic (Wf.nil _ _) hb

end

theorem lower_all_ok (d : Bool) (P : Prog) (hP : (d || noDivP P) = true) (n : Nat) : OkAt d P n := by
  induction n using Nat.strongRecOn with
  | ind n ih => exact ⟨expr_ok ih, args_ok ih, call_ok ih hP, ret_ok ih, stmt_ok ih, block_ok ih, for_ok ih⟩

/-- `instrTotal` lists the operator with its operand count: `evalOp` has a clause for each. -/
theorem instrTotal_evalOp {op : SOp} {ins : List SArg} {o : Nat × Nat} (h : instrOk false ⟨op, ins, some o⟩ = true)
    (st : Nat → Nat) : ∃ v, evalOp op (ins.map (argVal st)) o.2 = some v := by
  simp only [instrOk, Bool.false_and, Bool.or_false, instrTotal, Option.isSome_some, Bool.true_and] at h
  split at h <;> first | exact ⟨_, rfl⟩ | cases h

theorem ssaSteps_total : ∀ (code : List SInstr) {k k' : Nat}, Wf false k code k' → ∀ st : Nat → Nat,
    ∃ st', ssaSteps code st = some st'
  | [], _, _, _, st => ⟨st, rfl⟩
  | ⟨op, ins, out⟩ :: rest, _, _, h, st => by
    obtain ⟨⟨w, rfl⟩, _, hok, hr⟩ := h
    obtain ⟨v, hv⟩ := instrTotal_evalOp hok st
    rw [ssaSteps_cons, hv]
    exact ssaSteps_total rest hr _

end Mpc.Mpcl.Ssa
