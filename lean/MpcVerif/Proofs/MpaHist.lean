/-
Helper lemmas for the operand-purity theorems of Props/C12.lean about histories of `mpa.Int` calls
(Model/MpaHist.lean): what one step does to the registers, and the frame of a step and of a history.
-/
import MpcVerif.Model.MpaHist

namespace Mpc.MpaHist
open Mpc.Mpa

theorem step_cases {regs regs' : List MInt} {s : Step} (h : step regs s = some regs') :
    (s.op = .cmp ∧ regs' = regs) ∨
    (s.op ≠ .cmp ∧ ∃ b r, s.z = .fresh b ∧ regs' = regs ++ [r]) ∨
    (s.op ≠ .cmp ∧ ∃ i r, s.z = .reg i ∧ regs' = regs.set i r) := by
  simp only [step, Option.bind_eq_bind, Option.bind_eq_some_iff] at h
  obtain ⟨x, _, y, _, h⟩ := h
  split at h
  · obtain ⟨_, _, h⟩ := Option.bind_eq_some_iff.1 h
    exact Or.inl ⟨‹_›, (Option.some.inj h).symm⟩
  · split at h
    · simp only [Option.bind_eq_some_iff] at h
      obtain ⟨_, _, r, _, h⟩ := h
      exact Or.inr (Or.inl ⟨‹_›, _, r, ‹_›, (Option.some.inj h).symm⟩)
    · simp only [Option.bind_eq_some_iff] at h
      obtain ⟨_, _, r, _, h⟩ := h
      exact Or.inr (Or.inr ⟨‹_›, _, r, ‹_›, (Option.some.inj h).symm⟩)

theorem step_length {regs regs' : List MInt} {s : Step} (h : step regs s = some regs') :
    regs.length ≤ regs'.length := by
  rcases step_cases h with ⟨_, h⟩ | ⟨_, _, _, _, h⟩ | ⟨_, _, _, _, h⟩ <;> subst h <;> simp

theorem step_frame {regs regs' : List MInt} {s : Step} (h : step regs s = some regs')
    (j : Nat) (hj : j < regs.length) (hw : s.writes j = false) : regs'[j]? = regs[j]? := by
  rcases step_cases h with ⟨_, h⟩ | ⟨_, _, _, _, h⟩ | ⟨hop, i, _, hz, h⟩ <;> subst h
  · rfl
  · exact List.getElem?_append_left hj
  · have hne : i ≠ j := by
      intro hij
      subst hij
      simp [Step.writes, hop, hz] at hw
    exact List.getElem?_set_ne hne

theorem run_grows_frame : ∀ {ss : List Step} {regs regs' : List MInt}, run regs ss = some regs' →
    regs.length ≤ regs'.length ∧
      ∀ j, j < regs.length → (∀ s ∈ ss, s.writes j = false) → regs'[j]? = regs[j]? := by
  intro ss
  induction ss with
  | nil => intro regs regs' h; cases h; exact ⟨Nat.le_refl _, fun _ _ _ => rfl⟩
  | cons s rest ih =>
    intro regs regs' h
    obtain ⟨r1, hs, h⟩ := Option.bind_eq_some_iff.1 h
    obtain ⟨hl, hf⟩ := ih h
    exact ⟨Nat.le_trans (step_length hs) hl, fun j hj hw =>
      (hf j (Nat.lt_of_lt_of_le hj (step_length hs)) fun s' hs' => hw s' (List.mem_cons_of_mem _ hs')).trans
        (step_frame hs j hj (hw s List.mem_cons_self))⟩

theorem run_length : ∀ {ss : List Step} {regs regs' : List MInt}, run regs ss = some regs' → regs.length ≤ regs'.length :=
  fun h => (run_grows_frame h).1

theorem run_frame : ∀ {ss : List Step} {regs regs' : List MInt}, run regs ss = some regs' →
    ∀ j, j < regs.length → (∀ s ∈ ss, s.writes j = false) → regs'[j]? = regs[j]? :=
  fun h => (run_grows_frame h).2

end Mpc.MpaHist
