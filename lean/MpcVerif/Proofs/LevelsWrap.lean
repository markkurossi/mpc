/-
C09: the level sort with a bounded level field (`Model/LevelsWrap.lean`), and
two cheaper ways to run `Circuit.compute` (array-built initial store for the
driver, bit-mask store for evaluation by the kernel).
-/
import MpcVerif.Proofs.Levels
import MpcVerif.Model.LevelsWrap
import MpcVerif.Proofs.BitsLemmas

namespace Mpc

theorem initStoreArr_eq {α : Type} (n : Nat) (d : α) (l : List α) : initStoreArr n d l = initStore n d l := by
  apply Array.ext
  · simp [initStoreArr, initStore]; omega
  · intro i h1 h2
    have hn : i < n := by simpa using h2
    simp only [initStoreArr, initStore, Array.getElem_map, Array.getElem_range, Array.getElem_append,
      List.size_toArray, List.length_take, List.getElem_toArray, List.getElem_take, Array.getElem_replicate]
    by_cases hl : i < l.length
    · have : i < min n l.length := by omega
      simp [this, hl, List.getD_eq_getElem?_getD]
    · have : ¬ i < min n l.length := by omega
      simp [this, hl, List.getD_eq_getElem?_getD]

theorem computeArr_eq (c : Circuit) (x : List Bool) : c.computeArr x = c.compute x := by
  simp [Circuit.computeArr, Circuit.compute, Circuit.plainEval, initStoreArr_eq]

/-! The kernel evaluates `Array` updates slowly and `Nat` bit operations fast, so
concrete circuits are evaluated on a wire store held as one number. -/

def maskSet (m w : Nat) (b : Bool) : Nat := if m.testBit w = b then m else m ^^^ 2 ^ w

theorem testBit_maskSet (m w w' : Nat) (b : Bool) :
    (maskSet m w b).testBit w' = if w = w' then b else m.testBit w' := by
  unfold maskSet
  by_cases e : w = w'
  · subst e
    split
    · simpa
    · rw [Nat.testBit_xor, Nat.testBit_two_pow_self]
      cases b <;> cases h : m.testBit w <;> simp_all
  · split
    · simp
    · simp [Nat.testBit_xor, e]

def evalMask (n : Nat) : List Gate → Nat → Nat
  | [], m => m
  | g :: gs, m =>
    evalMask n gs (if g.out < n then maskSet m g.out (g.op.eval (m.testBit g.in0) (m.testBit g.in1)) else m)

theorem evalMask_spec (n : Nat) : ∀ (gs : List Gate) (s : Store Bool) (m : Nat), s.size = n →
    (∀ w, s.get w = m.testBit w) → ∀ w, (evalPlainGates gs s).get w = (evalMask n gs m).testBit w
  | [], _, _, _, h => h
  | g :: gs, s, m, hs, h => by
    rw [evalPlainGates_cons]
    refine evalMask_spec n gs _ _ (by rw [Gate.evalPlain_size, hs]) (fun w => ?_)
    simp only [Gate.evalPlain, h]
    split
    · rename_i ho
      rw [testBit_maskSet]
      split
      · rename_i e; subst e; exact Store.get_set_eq _ _ _ (hs ▸ ho)
      · rename_i e; rw [Store.get_set_ne _ _ _ _ e, h]
    · rw [Store.set, Array.setIfInBounds_eq_of_size_le (by omega), h]

theorem compute_eq_mask (c : Circuit) (x : List Bool) (hn : c.nIn ≤ c.numWires) :
    c.compute x = (List.range c.nOut).map fun i =>
      (evalMask c.numWires c.gates (BitList.val (x.take c.nIn))).testBit (c.numWires - c.nOut + i) := by
  refine List.map_congr_left fun i _ =>
    evalMask_spec _ _ _ _ (initStore_size _ _ _) (fun w => ?_) _
  rw [BitList.testBit_val]
  by_cases hw : w < c.numWires
  · exact get_initStore _ _ _ hw
  · rw [getD_of_le _ _ _ (by rw [List.length_take]; omega)]
    exact get_initStore_ge _ _ _ (by rw [List.length_take]; omega)

theorem wrapLv_id (k : Nat) (l : List (Gate × Nat)) (h : ∀ p ∈ l, p.2 < 2 ^ k) : wrapLv k l = l := by
  unfold wrapLv
  conv => rhs; rw [← List.map_id l]
  apply List.map_congr_left
  intro p hp
  simp [Nat.mod_eq_of_lt (h p hp)]

theorem wrapLv_map_fst (k : Nat) (l : List (Gate × Nat)) : (wrapLv k l).map Prod.fst = l.map Prod.fst := by
  simp [wrapLv, List.map_map, Function.comp_def]

theorem zip_range_map {α : Type} (f : Nat → α) (d : Nat) (lv : List Nat) (hl : lv.length = d) :
    ((List.range d).map f).zip lv = (List.range d).map fun j => (f j, lv.getD j 0) := by
  apply List.ext_getElem
  · simp [hl]
  · intro i h1 h2
    have hi : i < lv.length := by simp at h1; omega
    simp [List.getElem_zip, List.getD_eq_getElem?_getD, List.getElem?_eq_getElem hi]

theorem nodup_range_map {β : Type} (f : Nat → β) (hf : ∀ a b, f a = f b → a = b) (n : Nat) :
    ((List.range n).map f).Nodup :=
  List.pairwise_map.mpr (List.nodup_range.imp fun hab e => hab (hf _ _ e))

@[simp] theorem invChainGate_out (j : Nat) : (invChainGate j).out = j + 1 := rfl
theorem invChainGate_ins (j : Nat) : (invChainGate j).ins = [j] := rfl

@[simp] theorem invChain_gates (n : Nat) : (invChain n).gates = invChainGates n := rfl
@[simp] theorem invChain_numWires (n : Nat) : (invChain n).numWires = n + 1 := rfl
@[simp] theorem invChain_nIn (n : Nat) : (invChain n).nIn = 1 := rfl
@[simp] theorem invChain_nOut (n : Nat) : (invChain n).nOut = 1 := rfl

theorem invChainGates_length (n : Nat) : (invChainGates n).length = n := by simp [invChainGates]

theorem invChainGates_out_nodup (n : Nat) : ((List.range n).map fun j => (invChainGate j).out).Nodup :=
  nodup_range_map _ (fun _ _ e => Nat.succ.inj e) n

theorem mem_invChainGates (n : Nat) (g : Gate) : g ∈ invChainGates n ↔ ∃ j, j < n ∧ g = invChainGate j := by
  simp [invChainGates, eq_comm]

theorem invChain_zip (n : Nat) :
    (invChainGates n).zip (List.range n) = (List.range n).map fun j => (invChainGate j, j) :=
  (zip_range_map invChainGate n _ List.length_range).trans
    (List.map_congr_left fun j hj => by simp [List.getD_eq_getElem?_getD, List.mem_range.mp hj])

theorem wfFrom_invRange (N : Nat) : ∀ (m s : Nat) (d : Nat → Bool), d s = true → s + m + 1 ≤ N →
    wfFrom N ((List.range' s m).map invChainGate) d = true := by
  intro m
  induction m with
  | zero => intro s d _ _; rfl
  | succ m ih =>
    intro s d hd hN
    rw [List.range'_succ, List.map_cons]
    exact (wfFrom_cons_parts _ _ _ _).mpr ⟨hd, nofun, by show s < N; omega, nofun, by show s + 1 < N; omega,
      ih (s + 1) _ (by simp [invChainGate]) (by omega)⟩

theorem invChain_ssa (n : Nat) : SSA (invChain n).numWires (invChain n).gates (invChain n).inputDefined := by
  refine ⟨?_, ?_, ?_⟩
  · simp only [invChain_gates, invChainGates, List.range_eq_range']
    exact wfFrom_invRange (n + 1) n 0 _ (by simp [Circuit.inputDefined]) (by omega)
  · simp only [invChain_gates, invChainGates, List.map_map]
    exact invChainGates_out_nodup n
  · intro g hg
    obtain ⟨j, _, rfl⟩ := (mem_invChainGates n g).mp hg
    simp [Circuit.inputDefined]

theorem invChain_strict (n : Nat) :
    strictLevels (invChain n).nIn ((invChain n).gates.zip (List.range n)) = true := by
  simp only [invChain_nIn, invChain_gates, invChain_zip, strictLevels, List.all_eq_true, List.mem_map, List.mem_range,
    Bool.or_eq_true, decide_eq_true_eq, List.any_eq_true, Bool.and_eq_true, beq_iff_eq]
  rintro a ⟨j, hj, rfl⟩ w hw
  have hw' : w = j := by
    simpa [invChainGate_ins] using hw
  subst hw'
  cases w with
  | zero => exact Or.inl (by simp)
  | succ i => exact Or.inr ⟨(invChainGate i, i), ⟨i, by omega, rfl⟩, rfl, by omega⟩

theorem pairwise_order {α : Type} (R : α → α → Prop) (l : List α) (hp : l.Pairwise R) (a b : α)
    (ha : a ∈ l) (hb : b ∈ l) (hne : a ≠ b) (hnr : ¬ R b a) :
    ∃ pre mid post, l = pre ++ a :: (mid ++ b :: post) := by
  obtain ⟨pre, t, rfl⟩ := List.append_of_mem ha
  rcases List.mem_append.mp hb with hb | hb
  · exact absurd ((List.pairwise_append.mp hp).2.2 b hb a List.mem_cons_self) hnr
  · obtain ⟨mid, post, rfl⟩ := List.append_of_mem ((List.mem_cons.mp hb).resolve_left (Ne.symm hne))
    exact ⟨pre, mid, post, rfl⟩

/-- A chain deeper than `2^k` after `Compile`'s stable sort by the levels a
`k`-bit field holds: gate `2^k` (true level `2^k`, stored level 0) stands
before the gate of level `2^k - 1` that drives it.  Outputs stay distinct: no
gate before it writes its input wire `2^k`, none after it its output wire. -/
theorem wrapped_sort_split (k n : Nat) (hk : 0 < k) (hn : 2 ^ k < n) :
    ∃ pre mid post, compileSortW k ((invChain n).gates.zip (List.range n)) =
        pre ++ (invChainGate (2 ^ k), 0) :: (mid ++ (invChainGate (2 ^ k - 1), 2 ^ k - 1) :: post) ∧
      (∀ g ∈ pre.map Prod.fst, g.out ≠ 2 ^ k) ∧
      ∀ g ∈ (mid ++ (invChainGate (2 ^ k - 1), 2 ^ k - 1) :: post).map Prod.fst, g.out ≠ 2 ^ k + 1 := by
  have h2 : 2 ^ 1 ≤ 2 ^ k := Nat.pow_le_pow_right (by omega) hk
  let l := wrapLv k ((invChain n).gates.zip (List.range n))
  have hl : l = (List.range n).map fun j => (invChainGate j, j % 2 ^ k) := by
    simp [l, wrapLv, invChain_zip, List.map_map, Function.comp_def]
  have hA : (invChainGate (2 ^ k), 0) ∈ l := by
    rw [hl, List.mem_map]
    exact ⟨2 ^ k, List.mem_range.mpr (by omega), by rw [Nat.mod_self]⟩
  have hB : (invChainGate (2 ^ k - 1), 2 ^ k - 1) ∈ l := by
    rw [hl, List.mem_map]
    exact ⟨2 ^ k - 1, List.mem_range.mpr (by omega), by rw [Nat.mod_eq_of_lt (by omega)]⟩
  have hperm := List.mergeSort_perm l compileLe
  have hne : ((invChainGate (2 ^ k), 0) : Gate × Nat) ≠ (invChainGate (2 ^ k - 1), 2 ^ k - 1) :=
    fun h => by have := congrArg Prod.snd h; simp only at this; omega
  have hnr : ¬ compileLe (invChainGate (2 ^ k - 1), 2 ^ k - 1) (invChainGate (2 ^ k), 0) = true := by
    rw [compileLe_iff]
    simp only [cKey, invChainGate, reduceCtorEq, if_false]
    omega
  obtain ⟨pre, mid, post, hs⟩ := pairwise_order _ _ (List.pairwise_mergeSort (le_trans_of_key cKey _ compileLe_iff) (le_total_of_key cKey _ compileLe_iff) l)
    _ _ (hperm.mem_iff.mpr hA) (hperm.mem_iff.mpr hB) hne hnr
  have hnd : ((l.mergeSort compileLe).map fun p => p.1.out).Nodup := by
    refine ((hperm.map _).nodup_iff).mpr ?_
    rw [hl, List.map_map]
    exact invChainGates_out_nodup n
  rw [hs, List.map_append, List.map_cons, List.nodup_append, List.nodup_cons] at hnd
  obtain ⟨_, ⟨hA, _⟩, hdisj⟩ := hnd
  refine ⟨pre, mid, post, hs, fun g hg e => ?_, fun g hg e => ?_⟩
  · obtain ⟨q, hq, rfl⟩ := List.mem_map.mp hg
    refine hdisj _ (List.mem_map_of_mem hq) (2 ^ k - 1 + 1) ?_ (by show q.1.out = _; omega)
    exact List.mem_map_of_mem (f := fun p : Gate × Nat => p.1.out)
      (List.mem_cons_of_mem _ (List.mem_append_right _ List.mem_cons_self))
  · obtain ⟨q, hq, rfl⟩ := List.mem_map.mp hg
    have : q.1.out ∈ _ := List.mem_map_of_mem (f := fun p : Gate × Nat => p.1.out) hq
    rw [e] at this
    exact hA this

theorem invChain_wrapped_not_wf (k n : Nat) (hk : 0 < k) (hn : 2 ^ k < n) :
    wfFrom (invChain n).numWires ((compileSortW k ((invChain n).gates.zip (List.range n))).map Prod.fst)
      (invChain n).inputDefined = false := by
  obtain ⟨pre, mid, post, hs, hpre, _⟩ := wrapped_sort_split k n hk hn
  have h1 : 1 ≤ 2 ^ k := Nat.two_pow_pos k
  rw [hs]
  refine Bool.eq_false_iff.mpr fun hwf => ?_
  -- gate `2^k` reads wire `2^k`, which is no circuit input, so a gate of `pre` would write it
  rcases wf_pre Prod.fst _ pre _ _ _ hwf (2 ^ k) (by simp [invChainGate_ins]) with
    h | ⟨h, hh, hout⟩
  · have : 2 ^ k < 1 := of_decide_eq_true h
    omega
  · exact absurd hout (hpre _ (List.mem_map_of_mem hh))

theorem wrapped_sort_not_wf (k : Nat) (hk : 0 < k) :
    wfFrom (invChain (2 ^ k + 1)).numWires
      ((compileSortW k ((invChain (2 ^ k + 1)).gates.zip (List.range (2 ^ k + 1)))).map Prod.fst)
      (invChain (2 ^ k + 1)).inputDefined = false :=
  invChain_wrapped_not_wf k _ hk (Nat.lt_succ_self _)

theorem invChain_eval (n : Nat) (b : Bool) :
    ∀ j, j ≤ n → ((invChain n).plainEval [b]).get j = (b != decide (j % 2 = 1)) := by
  have hs := (invChain n).sol (by simp) (invChain_ssa n) [b]
  intro j
  induction j with
  | zero => intro _; rw [hs.inp 0 (by simp)]; simp
  | succ i ih =>
    intro hi
    have := hs.sem _ ((mem_invChainGates n _).mpr ⟨i, by omega, rfl⟩)
    simp only [invChainGate, Op.eval] at this
    rw [this, ih (by omega)]
    rcases Nat.mod_two_eq_zero_or_one i with h | h
    · have : (i + 1) % 2 = 1 := by omega
      simp [h, this]
    · have : (i + 1) % 2 = 0 := by omega
      simp [h, this]

theorem invChain_compute (n : Nat) (b : Bool) : (invChain n).compute [b] = [b != decide (n % 2 = 1)] := by
  have := invChain_eval n b n (Nat.le_refl n)
  rw [Circuit.compute_eq]
  simp at this ⊢
  exact this

theorem eval_at_gate (pre rest : List Gate) (g : Gate) (s : Store Bool) (ho : g.out < s.size)
    (hrest : ∀ g' ∈ rest, g'.out ≠ g.out) :
    (evalPlainGates (pre ++ g :: rest) s).get g.out =
      g.op.eval ((evalPlainGates pre s).get g.in0) ((evalPlainGates pre s).get g.in1) := by
  rw [evalPlainGates_append, evalPlainGates_cons, evalPlainGates_frame _ _ _ hrest]
  exact Store.get_set_eq _ _ _ (by rw [evalPlainGates_size]; exact ho)

theorem wrapped_sort_wrong_output (k : Nat) (hk : 0 < k) (b : Bool) :
    (({ invChain (2 ^ k + 1) with gates :=
        (compileSortW k ((invChain (2 ^ k + 1)).gates.zip (List.range (2 ^ k + 1)))).map Prod.fst } : Circuit).compute [b]
      = [true]) ∧ (invChain (2 ^ k + 1)).compute [b] = [!b] := by
  have h1 : 1 ≤ 2 ^ k := Nat.two_pow_pos k
  have hodd : (2 ^ k + 1) % 2 = 1 := by
    obtain ⟨k', rfl⟩ : ∃ k', k = k' + 1 := ⟨k - 1, by omega⟩
    rw [Nat.pow_succ]; omega
  refine ⟨?_, by rw [invChain_compute, hodd]; simp⟩
  obtain ⟨pre, mid, post, hs, hpre, hrest⟩ := wrapped_sort_split k _ hk (Nat.lt_succ_self _)
  show [(evalPlainGates ((compileSortW k ((invChain (2 ^ k + 1)).gates.zip (List.range (2 ^ k + 1)))).map Prod.fst)
    (initStore (2 ^ k + 1 + 1) false [b])).get (invChainGate (2 ^ k)).out] = [true]
  rw [hs, List.map_append, List.map_cons, eval_at_gate _ _ _ _ (by simp) hrest]
  show [!(evalPlainGates (pre.map Prod.fst) _).get (2 ^ k)] = [true]
  rw [evalPlainGates_frame _ _ _ hpre, get_initStore_ge _ _ _ h1]
  rfl

end Mpc
