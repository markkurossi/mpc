/-
Lemmas about package-level declarations (`Model/MpclPkg.lean`): the
elaboration is conservative, the prelude builds the package-level environment
underneath everything the body declares, lookups resolve to the most recent
declaration.
-/
import MpcVerif.Model.MpclPkg

namespace Mpc.Mpcl

theorem elabFunc_nil (fn : Func) : elabFunc [] fn = fn := rfl

theorem elab_nil (P : Prog) : (Pkg.mk [] P).elab = P := List.map_id'' elabFunc_nil P

theorem exec_gdecl (P : Prog) (k : Nat) (g : GDecl) (v : Val) (env : Env)
    (hv : g.val = some v) (ht : v.hasTy g.t = true) :
    execS P (k + 2) g.stmt env = some (.normal (env.declare g.x v)) := by
  obtain ⟨x, t, _ | n, c⟩ := g
  · cases hv; rfl
  · simp only [GDecl.val] at hv
    simp [GDecl.stmt, execS, evalE, hv, show v.hasTy t = true from ht]

theorem exec_prelude (P : Prog) (body : List Stmt) (f : Nat) :
    ∀ (gs : List GDecl) (sc : Scope), (∀ g ∈ gs, g.ok = true) →
      ∃ sc', globalScope gs sc = some sc' ∧
        execB P (f + gs.length + 2) (gs.map GDecl.stmt ++ body) [sc] = execB P (f + 2) body [sc']
  | [], sc, _ => ⟨sc, rfl, rfl⟩
  | g :: gs, sc, hok => by
    obtain ⟨hg, hgs⟩ := List.forall_mem_cons.1 hok
    simp only [GDecl.ok] at hg
    split at hg
    · rename_i v hv
      obtain ⟨sc', hsc', hex⟩ := exec_prelude P body f gs ((g.x, v) :: sc) hgs
      refine ⟨sc', by simp [globalScope, hv, hg, hsc'], ?_⟩
      show execB P (f + gs.length + 2 + 1) (g.stmt :: (gs.map GDecl.stmt ++ body)) [sc] = _
      rw [execB, exec_gdecl P _ g v [sc] hv hg]
      exact hex
    · cases hg

theorem globalScope_cons (g : GDecl) (gs : List GDecl) (sc gsc : Scope)
    (h : globalScope (g :: gs) sc = some gsc) :
    ∃ v, g.val = some v ∧ globalScope gs ((g.x, v) :: sc) = some gsc := by
  simp only [globalScope] at h
  split at h
  · split at h
    · exact ⟨_, ‹_›, h⟩
    · cases h
  · cases h

theorem globalScope_lookup_other : ∀ (gs : List GDecl) (sc gsc : Scope) (x : String),
    globalScope gs sc = some gsc → (∀ g ∈ gs, g.x ≠ x) → Scope.lookup gsc x = Scope.lookup sc x
  | [], _, _, _, h, _ => by cases h; rfl
  | g :: gs, sc, gsc, x, h, hx => by
    obtain ⟨v, _, h⟩ := globalScope_cons g gs sc gsc h
    obtain ⟨hg, hgs⟩ := List.forall_mem_cons.1 hx
    rw [globalScope_lookup_other gs _ gsc x h hgs]
    exact if_neg (Ne.symm hg)

theorem lookup_declare_same (env : Env) (x : String) (v : Val) :
    (env.declare x v).lookup x = some v := by
  cases env <;> simp [Env.declare, Env.lookup, Scope.lookup]

theorem lookup_declare_other (env : Env) (x y : String) (v : Val) (h : y ≠ x) :
    (env.declare x v).lookup y = env.lookup y := by
  cases env <;> simp [Env.declare, Env.lookup, Scope.lookup, h]

theorem set_declare_same (env : Env) (x : String) (v v' : Val) :
    (env.declare x v).set x v' = some (env.declare x v') := by
  cases env <;> simp [Env.declare, Env.set, Scope.set]

theorem scope_lookup_append (a b : Scope) (x : String) :
    Scope.lookup (a ++ b) x = match Scope.lookup a x with
      | some v => some v
      | none => Scope.lookup b x := by
  induction a with
  | nil => rfl
  | cons p a ih =>
    simp only [List.cons_append, Scope.lookup, ih]
    split <;> rfl

theorem env_lookup_append (a b : Env) (x : String) :
    Env.lookup (a ++ b) x = match Env.lookup a x with
      | some v => some v
      | none => Env.lookup b x := by
  induction a with
  | nil => rfl
  | cons s a ih =>
    simp only [List.cons_append, Env.lookup, ih]
    split <;> rfl

end Mpc.Mpcl
