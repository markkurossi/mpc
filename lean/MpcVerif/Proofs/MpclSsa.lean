/-
Whole programs: the SSA program produced by `Ssa.lower` (Model/MpclLower.lean,
the Lean model of the AST -> SSA translation compiler/ast/ssagen.go) evaluated
by `ssaEval` agrees with the reference interpreter `runRaw` (`lower_sound`,
`lower_total`; together `lower_correct_partial`, which Props/C03.lean states as
`C03_ssa_lower_correct_partial`).

Two inductions on the fuel.  `lower_all_sound` (MpclSsaStmt) speaks of values only:
in any store in which the equations of the emitted code hold, the interpreter, run
with the fuel the lowering was given, is defined and its result is the one the code
describes (`Post`, MpclSsaExpr: one notion for all seven syntactic classes).  `lower_all_ok` (MpclSsaOk)
speaks of the code only: ids are assigned once and in order from operands defined
before, so a run ends in such a store (`Wf.run`), and no instruction but a
division can fail.
-/
import MpcVerif.Proofs.MpclSsaOk

namespace Mpc.Mpcl.Ssa
open Mpc.Mpcl

theorem lowerParams_below : ∀ (ps : List (String × Ty)) (i : Nat), BelowS (i + ps.length) (lowerParams ps i).1
  | [], _ => .nil _
  | (x, t) :: ps, i => .cons (by simp only [BelowB, List.length_cons]; omega)
      (by simpa only [List.length_cons, Nat.add_assoc, Nat.add_comm 1] using lowerParams_below ps (i + 1))

/-- Stated of every store `σ` that keeps the input ids, because it is used at the final store of the run (`Wf.run`
gives the `Frame`). -/
theorem lowerParams_sound : ∀ (ps : List (String × Ty)) (i : Nat) (args : List Nat) (st : Nat → Nat),
    args.length = ps.length →
    ∃ st', loadInputs (lowerParams ps i).2 args st = some st' ∧
      Frame i st st' ∧ ∀ σ, Frame (i + ps.length) st' σ → NScope.All (Bind.Fits σ) (lowerParams ps i).1 ∧
        bindParams ps ((ps.zip args).map fun (p, n) => p.2.decode n) = some (NScope.den σ (lowerParams ps i).1)
  | [], i, args, st, hlen => by
    cases args with
    | nil => exact ⟨st, by simp [lowerParams, loadInputs], Frame.refl _ _, fun σ _ => ⟨.nil _, by simp [bindParams, lowerParams, NScope.den_nil]⟩⟩
    | cons a as => simp at hlen
  | (x, t) :: ps, i, args, st, hlen => by
    cases args with
    | nil => simp at hlen
    | cons a as =>
      have hlen' : as.length = ps.length := by simpa using hlen
      let st1 : Nat → Nat := fun j => if j = i then a % 2 ^ t.bits else st j
      obtain ⟨st', hl2, hfr2, hden2⟩ := lowerParams_sound ps (i + 1) as st1 hlen'
      have hk : i + 1 + ps.length = i + (ps.length + 1) := by omega
      refine ⟨st', ?_, ?_, fun σ hσ => ?_⟩
      · simp only [lowerParams, loadInputs, SStore.set]; exact hl2
      · have hfr1 : Frame i st st1 := Frame.set (Nat.le_refl _)
        exact hfr1.trans hfr2 (by omega)
      · simp only [List.length_cons] at hσ
        obtain ⟨hf2, hb2⟩ := hden2 σ (hk ▸ hσ)
        have hsi : σ i = a % 2 ^ t.bits := by rw [hσ i (by omega), hfr2 i (by omega)]; simp [st1]
        refine ⟨.cons (by rw [Bind.Fits, hsi]; exact Nat.mod_lt _ (Nat.two_pow_pos _)) hf2, ?_⟩
        simp only [lowerParams, List.zip_cons_cons, List.map_cons, bindParams, hasTy_decode, if_true, hb2, Option.map_some,
          NScope.den_cons, Bind.den_val, hsi, decode_mod_bits]

theorem lower_inv {fuel : Nat} {P : Prog} {main : Nat} {fn : Func} {ins : List (Nat × Nat)} {steps : List SInstr} (d : Bool)
    (hP : (d || noDivP P) = true) (hfn : P[main]? = some fn) : lower fuel P main = some (ins, steps) →
    ∃ r rs cm k, ins = (lowerParams fn.params 0).2 ∧
      lowerB P fuel [(lowerParams fn.params 0).1] fn.params.length fn.body = some r ∧
      r.tree.mat r.next = some (rs, cm, k) ∧ rs.length = fn.nres ∧
      steps = r.code ++ cm ++ [⟨.ret, rs.map fun p => .var p.1 p.2.bits, none⟩] ∧ Wf d fn.params.length (r.code ++ cm) k := by
  fun_cases lower fuel P main <;> intro h <;> cases h
  rename_i fn' hfn' pr r hb rs cm k hm hrl
  cases hfn.symm.trans hfn'
  have hbel : Below fn.params.length [(lowerParams fn.params 0).1] :=
    NEnv.All.cons (by simpa using lowerParams_below fn.params 0) (.nil _)
  obtain ⟨wb, htb, _⟩ := (lower_all_ok d P hP fuel).block hb hbel (noDivP_get hP hfn)
  exact ⟨_, _, _, _, rfl, hb, hm, hrl, rfl, wb.append (mat_ok d hm htb).1⟩

theorem run_of_exec (P : Prog) (main : Nat) (fn : Func) (hfn : P[main]? = some fn) (f : Nat) (args : List Nat)
    (sc : Scope) (vals ws : List Val) (hlen : args.length = fn.params.length)
    (hbind : bindParams fn.params ((fn.params.zip args).map fun (p, n) => p.2.decode n) = some sc)
    (hexec : execB P f fn.body [sc] = some (.returned vals)) (hrv : packResults fn.nres vals = packResults fn.nres ws)
    (hvl : ws.length = fn.nres) :
    runRaw P f main args = some (ws.map Val.encode) := by
  have hrun : run P f main ((fn.params.zip args).map fun (p, n) => p.2.decode n) = some ws := by
    unfold run
    rw [hfn]
    simp only [hbind, hexec, hrv]
    clear hrv  -- else the case split on `ws` below carries it along
    generalize fn.nres = k at hvl ⊢
    subst hvl
    match ws with
    | [] => simp [packResults]
    | [r] =>
      cases r with
      | agg _ => simp [packResults]
      | bool _ => simp [packResults]
      | num _ _ _ => simp [packResults]
    | r1 :: r2 :: rest => simp [packResults]
  unfold runRaw
  rw [hfn]
  have hne : ¬ args.length ≠ fn.params.length := by simp [hlen]
  simp only [hne, if_false, hrun, Option.map_some]

/-- Whenever the SSA program `lower` produces evaluates, the reference interpreter delivers the same outputs with
the fuel the lowering was given: it never needs more. -/
theorem lower_sound_fuel (fuel : Nat) (P : Prog) (main : Nat) (fn : Func) (hfn : P[main]? = some fn)
    (ins : List (Nat × Nat)) (steps : List SInstr)
    (h : lower fuel P main = some (ins, steps)) (args : List Nat) (hlen : args.length = fn.params.length)
    (res : List (Nat × Nat)) (hrun : ssaEval (Nat → Nat) ins steps args = some res) :
    runRaw P fuel main args = some res := by
  obtain ⟨r, rs, cm, k, rfl, hb, hm, hrl, rfl, wall⟩ := lower_inv true rfl hfn h
  obtain ⟨st0, hload, _, hden0⟩ := lowerParams_sound fn.params 0 args (SStore.empty : Nat → Nat) hlen
  rw [ssaEval_eq _ hload, wall.ssaRun_ret] at hrun
  obtain ⟨σ, hs, hrun⟩ := Option.map_eq_some_iff.1 hrun
  -- the run makes the equations of the code true in its final store `σ`, which keeps the inputs
  obtain ⟨hsat, hfr⟩ := wall.run hs
  obtain ⟨hs1, hs2⟩ := Sat.append.1 hsat
  obtain ⟨hfit0, hbind⟩ := hden0 σ (by simpa using hfr)
  obtain ⟨o, hex, ho⟩ := (lower_all_sound P fuel).block hb σ (.cons hfit0 (.nil _)) hs1
  obtain ⟨hbd, vals, rfl, hrv⟩ := ho.results hm hs2
  rw [run_of_exec P main fn hfn fuel args _ vals _ hlen hbind hex (hrl ▸ hrv) (by rw [resVals_length, hrl]), ← hrun]
  simp only [resVals, List.map_map, Option.some.injEq]
  apply List.map_congr_left
  intro p hp
  simp only [Function.comp, argVal_var]
  rw [encode_decode_lt _ (hbd p hp)]

/-- Soundness: whenever the SSA program `lower` produces evaluates (i.e. no
division by zero on any path, taken or not), the reference interpreter is
defined on the source program and delivers the same outputs. -/
theorem lower_sound (fuel : Nat) (P : Prog) (main : Nat) (fn : Func) (hfn : P[main]? = some fn)
    (ins : List (Nat × Nat)) (steps : List SInstr)
    (h : lower fuel P main = some (ins, steps)) (args : List Nat) (hlen : args.length = fn.params.length)
    (res : List (Nat × Nat)) (hrun : ssaEval (Nat → Nat) ins steps args = some res) :
    ∃ f, runRaw P f main args = some res :=
  ⟨fuel, lower_sound_fuel fuel P main fn hfn ins steps h args hlen res hrun⟩

/-- Totality: without `/` and `%` in the program the SSA program always evaluates. -/
theorem lower_total (fuel : Nat) (P : Prog) (main : Nat) (fn : Func) (hfn : P[main]? = some fn)
    (ins : List (Nat × Nat)) (steps : List SInstr)
    (h : lower fuel P main = some (ins, steps)) (hnd : noDivP P = true) (args : List Nat)
    (hlen : args.length = fn.params.length) : ∃ res, ssaEval (Nat → Nat) ins steps args = some res := by
  obtain ⟨r, rs, cm, k, rfl, hb, hm, _, rfl, wall⟩ := lower_inv false hnd hfn h
  obtain ⟨st0, hload, _⟩ := lowerParams_sound fn.params 0 args (SStore.empty : Nat → Nat) hlen
  obtain ⟨st2, hs⟩ := ssaSteps_total _ wall st0
  refine ⟨(rs.map fun p => SArg.var p.1 p.2.bits).map (argVal st2), ?_⟩
  rw [ssaEval_eq _ hload, wall.ssaRun_ret, hs]
  rfl

/-- The two Lean semantics agree on the fragment of `lower` (see the header of
Model/MpclLower.lean): for every program `P` and entry function `main` on which
the model of ssagen succeeds and every input,
  * if the emitted SSA program evaluates, the reference interpreter is defined
    and gives the same outputs;
  * without `/ %` in the program the SSA program always evaluates (so both are
    defined and equal). -/
theorem lower_correct_partial (fuel : Nat) (P : Prog) (main : Nat) (fn : Func) (hfn : P[main]? = some fn)
    (ins : List (Nat × Nat)) (steps : List SInstr)
    (h : lower fuel P main = some (ins, steps)) (args : List Nat) (hlen : args.length = fn.params.length) :
    (∀ res, ssaEval (Nat → Nat) ins steps args = some res → ∃ f, runRaw P f main args = some res) ∧
    (noDivP P = true →
      ∃ res, ssaEval (Nat → Nat) ins steps args = some res ∧ ∃ f, runRaw P f main args = some res) := by
  refine ⟨fun res hr => lower_sound fuel P main fn hfn ins steps h args hlen res hr, fun hnd => ?_⟩
  obtain ⟨res, hr⟩ := lower_total fuel P main fn hfn ins steps h hnd args hlen
  exact ⟨res, hr, lower_sound fuel P main fn hfn ins steps h args hlen res hr⟩

end Mpc.Mpcl.Ssa
