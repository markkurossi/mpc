/-
C04 under an arbitrary SAFE tweak accounting: the induction over the gate loop
`garbleGatesAcc` (`Model/TweakAcc.lean`), in which the counter advances by
`tw g.op` with `g.op.tweaks ≤ tw g.op`.  A gate only needs the functional's atoms
to be below its counter value and leaves everything it produced below
`id + g.op.tweaks ≤ id + tw g.op` (`gate_phi`, Proofs/SymGarble.lean).  The same
induction (`gates_session`) carries what the Dolev-Yao closure of C16 needs of the
loop: finite support of everything produced, and that every atom added to the
functional is a query on an inactive label.  The whole-circuit loop `garbleGates`
is the case `tw = codeAcc` (`gates_phi`).
-/
import MpcVerif.Proofs.SymGarble

namespace Mpc.Sym
open Mpc LabelAlg
variable {Code : Type}

noncomputable def phiGatesAcc (σ : Atom Code → Bool) (code : SymL Code → Code) (tw : TweakAcc) :
    List Gate → Store (WireL (SymL Code)) → Store Bool → Nat → List (Atom Code) → List (Atom Code)
  | [], _, _, _, S => S
  | g :: gs, gw, pv, id, S =>
    phiGatesAcc σ code tw gs
      (gw.set g.out (garbleCore (symHash σ code) (symR σ) g.op (gw.get g.in0) (gw.get g.in1) id).1)
      (g.evalPlain pv) (id + tw g.op)
      (S ++ newAtoms code g.op (gw.get g.in0) (gw.get g.in1) (pv.get g.in0) (pv.get g.in1) id)

def StoreFin (gw : Store (WireL (SymL Code))) : Prop :=
  ∀ w, FinSupp (gw.get w).l0 ∧ FinSupp (gw.get w).l1

theorem Store.forall_get_set {α : Type} [Inhabited α] {P : α → Prop} {s : Store α}
    (h : ∀ w, P (s.get w)) (i : Nat) {v : α} (hv : P v) (w : Nat) : P ((s.set i v).get w) := by
  by_cases hij : i = w
  · by_cases hi : i < s.size
    · rw [← hij, Store.get_set_eq _ _ _ hi]
      exact hv
    · have := h w
      simp only [Store.get, Store.set] at this ⊢
      rwa [Array.setIfInBounds_eq_of_size_le (by omega)]
  · rw [Store.get_set_ne _ _ _ _ hij]
    exact h w

theorem StoreFin.gate (σ : Atom Code → Bool) (code : SymL Code → Code) (g : Gate)
    (gw : Store (WireL (SymL Code))) (id : Nat) (hF : StoreFin gw) :
    let c := garbleCore (symHash σ code) (symR σ) g.op (gw.get g.in0) (gw.get g.in1) id
    StoreFin (gw.set g.out c.1) ∧ ∀ row ∈ c.2, FinSupp row := by
  obtain ⟨h0, h1, hr⟩ := core_fin σ code g.op (gw.get g.in0) (gw.get g.in1) id (hF g.in0).1 (hF g.in1).1
  exact ⟨Store.forall_get_set (P := fun w : WireL _ => FinSupp w.l0 ∧ FinSupp w.l1) hF g.out ⟨h0, h1⟩, hr⟩

theorem inactive_hot (σ : Atom Code → Bool) (S S' : List (Atom Code)) (w : WireL (SymL Code)) (v : Bool)
    (id : Nat) (h1 : w.l1 = w.l0 ^^^ symR σ) (hp : phi S w.l0 = v) (hB : Below id w.l0)
    (hF : FinSupp w.l0 ∧ FinSupp w.l1) (hR : phi S (symR σ) = true)
    (hstab : ∀ x, Below id x → phi S' x = phi S x) :
    FinSupp (w.labelFor (!v)) ∧ phi S' (w.labelFor (!v)) = true := by
  have hBv : Below id (w.labelFor (!v)) := by
    cases v
    · exact show Below id w.l1 from h1 ▸ hB.xor (symR_below σ id)
    · exact hB
  refine ⟨?_, by rw [hstab _ hBv, phi_labelFor S w h1 hR, hp]; cases v <;> rfl⟩
  cases v
  · exact hF.2
  · exact hF.1

/-- The second half is what `Derivable.killed` (Proofs/SymAuth.lean) asks of the loop: every atom it
added is a query on a finitely supported label on which the FINAL functional is 1, an inactive input
label. -/
theorem gates_session (σ : Atom Code → Bool) (hσ : σ .R = true) (code : SymL Code → Code)
    (hsep : Separates σ code) (tw : TweakAcc) (hs : ∀ op : Op, op.tweaks ≤ tw op) (n : Nat)
    (gs : List Gate) :
    ∀ (D : Nat → Bool) (gw : Store (WireL (SymL Code))) (pv : Store Bool) (id : Nat)
      (S : List (Atom Code)),
      gw.size = n → pv.size = n → wfFrom n gs D = true → InvS σ D gw pv id S →
      let G := garbleGatesAcc (symHash σ code) (symR σ) tw gs gw id
      let S' := phiGatesAcc σ code tw gs gw pv id S
      ((∀ rows ∈ G.2.2, ∀ row ∈ rows, phi S' row = false) ∧
        InvS σ (definedAfter gs D) G.1 (evalPlainGates gs pv) G.2.1 S' ∧
        (∀ x, Below id x → phi S' x = phi S x) ∧ id ≤ G.2.1) ∧
      (StoreFin gw → StoreFin G.1 ∧ (∀ rows ∈ G.2.2, ∀ row ∈ rows, FinSupp row) ∧
        ∀ x ∈ S', x ∈ S ∨ HotH code (fun y => FinSupp y ∧ phi S' y = true) x) := by
  induction gs with
  | nil =>
    exact fun D gw pv id S _ _ _ hinv =>
      ⟨⟨nofun, hinv, fun _ _ => rfl, Nat.le_refl _⟩, fun hF => ⟨hF, nofun, fun _ hx => .inl hx⟩⟩
  | cons g gs ih =>
    intro D gw pv id S hg hp hwf hinv
    obtain ⟨hd0, hd1, _, _, hout, hrest⟩ := wfFrom_cons n g gs D hwf
    obtain ⟨hinv1, hrows1, hstab1⟩ := gate_phi σ hσ code hsep g D gw pv id (tw g.op) S (hs g.op) hd0 hd1
      (hg ▸ hout) (hp ▸ hout) hinv
    obtain ⟨⟨ihrows, ihinv, ihstab, ihle⟩, ihfin⟩ := ih _ _ _ _ _ (by simp [hg])
      (by rw [Gate.evalPlain_size, hp]) hrest hinv1
    have hstab : ∀ x, Below id x → phi (phiGatesAcc σ code tw (g :: gs) gw pv id S) x = phi S x :=
      fun x hx => (ihstab x (hx.mono (Nat.le_add_right _ _))).trans (hstab1 x hx)
    rw [garbleGatesAcc_cons, evalPlainGates_cons]
    refine ⟨⟨?_, ihinv, hstab, Nat.le_trans (Nat.le_add_right id (tw g.op)) ihle⟩, fun hF => ?_⟩
    · intro rows hrows row hrow
      rcases List.mem_cons.1 hrows with rfl | h
      · exact (ihstab row (hrows1 row hrow).1).trans (hrows1 row hrow).2
      · exact ihrows rows h row hrow
    · obtain ⟨hF1, hr1⟩ := StoreFin.gate σ code g gw id hF
      obtain ⟨hF2, hr2, hhot⟩ := ihfin hF1
      refine ⟨hF2, List.forall_mem_cons.2 ⟨hr1, hr2⟩, fun x hx => (hhot x hx).elim (fun hmem => ?_) .inr⟩
      -- an atom this gate added is a query on an inactive input label, on which the final
      -- functional is the present one
      refine (List.mem_append.1 hmem).imp_right fun hN => ?_
      obtain ⟨hwires, _, hR⟩ := hinv
      obtain ⟨ha1, hpa, hBa⟩ := hwires g.in0 hd0
      refine (newAtoms_query code g.op _ _ _ _ id _ ?_ (fun hbin => ?_) x hN).2
      · exact inactive_hot σ S _ _ _ id ha1 hpa hBa (hF g.in0) hR hstab
      · obtain ⟨hb1, hpb, hBb⟩ := hwires g.in1 (hd1 hbin)
        exact inactive_hot σ S _ _ _ id hb1 hpb hBb (hF g.in1) hR hstab

theorem gates_phi_acc (σ : Atom Code → Bool) (hσ : σ .R = true) (code : SymL Code → Code)
    (hsep : Separates σ code) (tw : TweakAcc) (hs : ∀ op : Op, op.tweaks ≤ tw op) (n : Nat)
    (gs : List Gate) :
    ∀ (D : Nat → Bool) (gw : Store (WireL (SymL Code))) (pv : Store Bool) (id : Nat)
      (S : List (Atom Code)),
      gw.size = n → pv.size = n → wfFrom n gs D = true → InvS σ D gw pv id S →
      (∀ rows ∈ (garbleGatesAcc (symHash σ code) (symR σ) tw gs gw id).2.2, ∀ row ∈ rows,
        phi (phiGatesAcc σ code tw gs gw pv id S) row = false) ∧
      InvS σ (definedAfter gs D) (garbleGatesAcc (symHash σ code) (symR σ) tw gs gw id).1
        (evalPlainGates gs pv) (garbleGatesAcc (symHash σ code) (symR σ) tw gs gw id).2.1
        (phiGatesAcc σ code tw gs gw pv id S) ∧
      (∀ x, Below id x → phi (phiGatesAcc σ code tw gs gw pv id S) x = phi S x) ∧
      id ≤ (garbleGatesAcc (symHash σ code) (symR σ) tw gs gw id).2.1 :=
  fun D gw pv id S hg hp hwf hinv => (gates_session σ hσ code hsep tw hs n gs D gw pv id S hg hp hwf hinv).1

theorem phiGatesAcc_code (σ : Atom Code → Bool) (code : SymL Code → Code) (gs : List Gate) :
    ∀ (gw : Store (WireL (SymL Code))) (pv : Store Bool) (id : Nat) (S : List (Atom Code)),
      phiGatesAcc σ code codeAcc gs gw pv id S = phiGates σ code gs gw pv id S := by
  induction gs with
  | nil => exact fun _ _ _ _ => rfl
  | cons g gs ih => exact fun gw pv id S => ih _ _ _ _

theorem gates_phi (σ : Atom Code → Bool) (hσ : σ .R = true) (code : SymL Code → Code)
    (hsep : Separates σ code) (n : Nat) (gs : List Gate) :
    ∀ (D : Nat → Bool) (gw : Store (WireL (SymL Code))) (pv : Store Bool) (id : Nat)
      (S : List (Atom Code)),
      gw.size = n → pv.size = n → wfFrom n gs D = true → InvS σ D gw pv id S →
      (∀ rows ∈ (garbleGates (symHash σ code) (symR σ) gs gw id).2.2, ∀ row ∈ rows,
        phi (phiGates σ code gs gw pv id S) row = false) ∧
      InvS σ (definedAfter gs D) (garbleGates (symHash σ code) (symR σ) gs gw id).1
        (evalPlainGates gs pv) (garbleGates (symHash σ code) (symR σ) gs gw id).2.1
        (phiGates σ code gs gw pv id S) ∧
      (∀ x, Below id x → phi (phiGates σ code gs gw pv id S) x = phi S x) ∧
      id ≤ (garbleGates (symHash σ code) (symR σ) gs gw id).2.1 := by
  intro D gw pv id S hg hp hwf hinv
  rw [← garbleGatesAcc_code, ← phiGatesAcc_code]
  exact gates_phi_acc σ hσ code hsep codeAcc (fun _ => Nat.le_refl _) n gs D gw pv id S hg hp hwf hinv

end Mpc.Sym
