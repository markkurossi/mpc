/-
T1 tie (DESIGN.md 1.3) of `circuit.bitLen` (circuit/ioarg.go) to the C13 model
Model/IoArg.lean: the definition of MpcVerif/Gen/LeafC13.lean, regenerated from the
current Go source by `gofacts translate -group C13` on every run of checks/C13.py, equals
`Mpc.IoArg.bitLen` (the loop with an early return is a fold whose state records
the returned value).
-/
import MpcVerif.Gen.LeafC13
import MpcVerif.Proofs.GenTieLib
import MpcVerif.Model.IoArg

namespace Mpc.GenTie
open Mpc Mpc.Gen Mpc.Gen.C13

/-- One iteration of the loop of `bitLen` on the fold state (`some r` = already returned `r`). -/
def blStep (v : BitVec 64) (st : Option (BitVec 64)) (k : Nat) : Option (BitVec 64) :=
  if st.isSome then st else if v.toNat.testBit (63 - k) then some (BitVec.ofNat 64 (63 - k) + 1#64) else none

/-- Loop invariant, for any fold `F` that steps like `blStep`: after `k` iterations either the model's value has been
returned or the model's scan stands at bit `63 - k`. -/
theorem bl_inv (v : BitVec 64) (F : Option (BitVec 64) → Nat → Option (BitVec 64))
    (hF : ∀ st k, k < 63 → F st k = blStep v st k) :
    (match (List.range 63).foldl F none with
      | some r => r.toNat
      | none => Mpc.IoArg.bitLenFrom v.toNat 0) = Mpc.IoArg.bitLenFrom v.toNat 63 := by
  refine foldl_range_inv (fun k st => (match st with
      | some r => r.toNat
      | none => Mpc.IoArg.bitLenFrom v.toNat (63 - k)) = Mpc.IoArg.bitLenFrom v.toNat 63) F 63 none rfl fun k st hk ih => ?_
  rw [hF _ k hk]
  cases st with
  | some r => simpa [blStep] using ih
  | none =>
    dsimp only at ih
    have e : 63 - k = (63 - (k + 1)) + 1 := by omega
    rw [e, Mpc.IoArg.bitLenFrom] at ih
    rw [← e] at ih
    by_cases hb : v.toNat.testBit (63 - k) = true
    · have hv : (BitVec.ofNat 64 (63 - k) + 1#64).toNat = 63 - (k + 1) + 2 := by
        simp only [BitVec.toNat_add, BitVec.toNat_ofNat]; omega
      simp only [blStep, Option.isSome_none, hb, if_true, Bool.false_eq_true, if_false, hv] at ih ⊢
      exact ih
    · simp only [blStep, Option.isSome_none, hb, if_false, Bool.false_eq_true] at ih ⊢
      exact ih

theorem tie_bitLen (v : BitVec 64) : (Gen.C13.bitLen v).toNat = Mpc.IoArg.bitLen v.toNat := by
  unfold Gen.C13.bitLen Mpc.IoArg.bitLen
  dsimp only
  rw [← bl_inv v _ fun st k hk => ?_]
  · cases List.foldl _ none (List.range 63) <;> rfl
  · have hget : ∀ n, v.getLsbD n = v.toNat.testBit n := fun _ => rfl
    simp only [blStep, toNat_ofNat_lt (63 - k) (show 63 - k < 2^64 by omega), and_shl_one_ne_zero v (63 - k) (by omega),
      and_one_ne_zero, and_one_eq_one, hget]

example : Gen.C13.bitLen 0#64 = 1#64 ∧ Gen.C13.bitLen 3#64 = 2#64 ∧ Gen.C13.bitLen 0x8000000000000000#64 = 64#64 := by decide +kernel

end Mpc.GenTie
