/-
Proofs for Model/SsaDiv.lean (property C09, target axis for programs that
divide): the GMW back end with an explicit quotient estimator computes
`ssaEval` IF the estimator is within one on every divider instance of the run
(`EstOn`), and at `goldEstimate` it is the GMW back end of Model/SsaCircuit.lean
(the `*_gold` equations).
-/
import MpcVerif.Proofs.SsaCircuit
import MpcVerif.Proofs.BuildersGold
import MpcVerif.Model.SsaDiv

namespace Mpc.SsaC
open Mpc Mpc.Bld Mpc.Mpcl Mpc.Mpcl.Ssa

theorem goldschmidt_eq_dividerPad (a b : List Nat) (nq nr : Nat) :
    goldschmidt a b nq nr = dividerPad goldEstimate a b nq nr := rfl

theorem compileOpE_gold (z : Nat) (op : SOp) (xs : List Opd) (ow : Nat) :
    compileOpE goldEstimate z op xs ow = compileOp true z op xs ow := by
  unfold compileOpE
  split
  · next h => rcases h with rfl | rfl <;> rcases xs with _ | ⟨(x | n), _ | ⟨(y | m), _ | ⟨c, t⟩⟩⟩ <;> rfl
  · rfl

theorem compileStepsE_gold (z o : Nat) (steps : List SInstr) :
    ∀ env, compileStepsE goldEstimate z o steps env = compileSteps true z o steps env := by
  induction steps with
  | nil => intro _; rfl
  | cons i rest ih =>
    intro env
    simp only [compileStepsE, compileSteps, compileOpE_gold, ih]
    rfl

theorem ssaCompileE_gold (ins : List (Nat × Nat)) (steps : List SInstr) :
    ssaCompileE goldEstimate ins steps = ssaCompile true ins steps := by
  unfold ssaCompileE ssaCompile
  simp only [compileStepsE_gold]

theorem supportedE_gold (ins : List (Nat × Nat)) (steps : List SInstr) :
    SupportedE goldEstimate ins steps = SupportedDiv ins steps := by
  rw [SupportedE, SupportedDiv, ssaCompileE_gold]

theorem ssaCircuitEvalE_gold (ins : List (Nat × Nat)) (steps : List SInstr) (args : List Nat) :
    ssaCircuitEvalE goldEstimate ins steps args = ssaCircuitEval true ins steps args := by
  unfold ssaCircuitEvalE ssaCircuitEval
  rw [ssaCompileE_gold]

/-- `EstOn est inp (n, A, B)`: run from ANY well-formed state on operand buses of
`n` wires that carry the values `A` and `B`, the estimator extends the state and
returns `n` wires whose value is within one of `⌊A / B⌋` (C07's hypothesis
`goldschmidt-estimate-within-one`, instance by instance). -/
def EstOn (est : List Nat → List Nat → BM (List Nat)) (inp : List Bool) (p : Nat × Nat × Nat) : Prop :=
  ∀ (s : St) (a b : List Nat), WF s inp → Bnd s a → Bnd s b → a.length = p.1 → b.length = p.1 →
    toNat (busVal s inp a) = p.2.1 → toNat (busVal s inp b) = p.2.2 → EstWithinOne est inp s a b

theorem EstOn_exact (inp : List Bool) (p : Nat × Nat × Nat) (hn : 0 < p.1) (hB : 0 < p.2.2) :
    EstOn exactEstimator inp p := by
  intro s a b hwf ha hb hla _ _ hvb
  exact exactEstimator_withinOne hwf ha hb (by omega) (by omega)

theorem dividerPad_spec {est : List Nat → List Nat → BM (List Nat)} {s : St} {inp : List Bool} (hwf : WF s inp)
    {x y : List Nat} (nq nr : Nat) (hx : Bnd s x) (hy : Bnd s y) (hm : 0 < max x.length y.length)
    (hB : 0 < toNat (busVal s inp y))
    (hest : EstOn est inp (max x.length y.length, toNat (busVal s inp x), toNat (busVal s inp y))) :
    Spec inp s (dividerPad est x y nq nr) (fun t s' => Bnd s' t.1 ∧ Bnd s' t.2 ∧
      t.1.length = nq ∧ t.2.length = nr ∧
      toNat (busVal s' inp t.1) = (toNat (busVal s inp x) / toNat (busVal s inp y)) % 2 ^ nq ∧
      toNat (busVal s' inp t.2) = (toNat (busVal s inp x) % toNat (busVal s inp y)) % 2 ^ nr) := by
  unfold dividerPad
  refine Spec.bind (zeroPad_num hwf (.of hx) (.of hy)) ?_
  intro p s1 e1 ⟨h1, h2⟩
  exact (dividerWith_num nq nr h1 h2 hm hB
    (hest s1 p.1 p.2 e1.wf h1.bnd h2.bnd h1.len h2.len h1.val h2.val)).mono
    fun _ _ _ ⟨q, r⟩ => ⟨q.bnd, r.bnd, q.len, r.len, q.val, r.val⟩

theorem instrOKE_width {op : SOp} {ins : List SArg} {id ow : Nat} (hop : op = .udiv ∨ op = .umod)
    (h : instrOKE ⟨op, ins, some (id, ow)⟩ = true) (st : Nat → Nat) : 0 < widest (ins.map (argVal st)) := by
  rw [widest_argVal]
  simpa [instrOKE, hop] using h

theorem instrOKE_other {i : SInstr} (hop : ¬ (i.op = .udiv ∨ i.op = .umod)) (h : instrOKE i = true) :
    instrOK true i = true := by
  simpa [instrOKE, hop] using h

theorem compileOpE_sound {est : List Nat → List Nat → BM (List Nat)} {s : St} {inp : List Bool} {z : Nat}
    {st : Nat → Nat} (hwf : WF s inp) (hz : Holds s inp z false) (op : SOp) (ins : List SArg) (id ow : Nat)
    (hok : instrOKE ⟨op, ins, some (id, ow)⟩ = true) (xs : List Opd) (hxs : OpdsRel s inp st ins xs)
    (v : Nat) (hev : evalOp op (ins.map (argVal st)) ow = some v)
    (hest : ∀ p ∈ divInstOf op (ins.map (argVal st)), EstOn est inp p) :
    Spec inp s (compileOpE est z op xs ow) (Post inp v) := by
  unfold compileOpE
  by_cases hdiv : op = .udiv ∨ op = .umod
  · obtain ⟨hb, hv⟩ := hxs.vals
    rw [hv] at hev hest
    simp only [hdiv, if_true]
    split
    · next x y =>
      have hm := instrOKE_width hdiv hok st
      rw [hv] at hm
      have hE : EstOn est inp (max x.length y.length, toNat (busVal s inp x), toNat (busVal s inp y)) :=
        hest _ (by simp [divInstOf, hdiv, Opd.val])
      rcases hdiv with rfl | rfl
      · obtain ⟨hne, ⟨⟩⟩ := Option.ite_none_left_eq_some.mp hev
        exact fst_post ((dividerPad_spec hwf ow 0 hb.1 hb.2.1 hm (by omega) hE).mono
          fun _ _ _ h => ⟨h.1, h.2.2.2.2.1⟩)
      · obtain ⟨hne, ⟨⟩⟩ := Option.ite_none_left_eq_some.mp hev
        exact snd_post ((dividerPad_spec hwf 0 ow hb.1 hb.2.1 hm (by omega) hE).mono
          fun _ _ _ h => ⟨h.2.1, h.2.2.2.2.2⟩)
    · exact none_post hwf v
  · simp only [hdiv, if_false]
    exact compileOp_sound hwf hz op ins id ow (instrOKE_other hdiv hok) xs hxs v hev

theorem compileStepsE_sound {est : List Nat → List Nat → BM (List Nat)} {inp : List Bool} {z o : Nat} :
    ∀ (steps : List SInstr) {s : St} {env : WEnv} {st : Nat → Nat}, WF s inp → Holds s inp z false →
    Holds s inp o true → EnvInv s inp env st → steps.all instrOKE = true →
    (∀ p ∈ divInstances steps st, EstOn est inp p) →
    ∀ r, ssaRun steps st = some r →
    Spec inp s (compileStepsE est z o steps env) (fun res s' => ∀ outs, res = some outs →
      outs.map (fun ws => (toNat (busVal s' inp ws), ws.length)) = r) := by
  intro steps s env st hwf hz ho hinv hall hest
  refine steps_sound (cop := compileOpE est z)
    (H := fun l st => l.all instrOKE = true ∧ ∀ p ∈ divInstances l st, EstOn est inp p)
    (fun _ _ _ => rfl) ?_ steps hwf hz ho hinv ⟨hall, hest⟩
  intro op ins id ow rest st v ⟨hall, hest⟩ hret hev
  simp only [List.all_cons, Bool.and_eq_true] at hall
  have hinst : divInstances (⟨op, ins, some (id, ow)⟩ :: rest) st =
      divInstOf op (ins.map (argVal st)) ++ divInstances rest (SStore.set st id v) := by
    simp [divInstances, hret, hev]
  rw [hinst] at hest
  exact ⟨⟨hall.2, fun p hp => hest p (List.mem_append_right _ hp)⟩, fun hwf hz hxs =>
    compileOpE_sound hwf hz op ins id ow hall.1 _ hxs v hev fun p hp => hest p (List.mem_append_left _ hp)⟩

theorem ssaCompileE_sound (est : List Nat → List Nat → BM (List Nat)) (ins : List (Nat × Nat)) (steps : List SInstr)
    (hall : steps.all instrOKE = true) (s : St) (outs : List (List Nat))
    (hc : ssaCompileE est ins steps = some (s, outs)) (args : List Nat) (r : List (Nat × Nat))
    (hr : ssaEval (Nat → Nat) ins steps args = some r)
    (hest : ∀ p ∈ divInstancesOf (Nat → Nat) ins steps args, EstOn est (inputBits ins args) p) :
    WF s (inputBits ins args) ∧
      outs.map (fun ws => (toNat (busVal s (inputBits ins args) ws), ws.length)) = r := by
  simp only [ssaEval, Option.bind_eq_some_iff] at hr
  obtain ⟨st0, hload, hrun⟩ := hr
  have hest' : ∀ p ∈ divInstances steps st0, EstOn est (inputBits ins args) p := by
    simpa [divInstancesOf, hload] using hest
  exact compile_sound ins args hload
    (fun hwf hz ho hinv => compileStepsE_sound steps hwf hz ho hinv hall hest' r hrun) hc

theorem ssaCircuitEvalE_correct (est : List Nat → List Nat → BM (List Nat)) (ins : List (Nat × Nat))
    (steps : List SInstr) (hsup : SupportedE est ins steps = true) (args : List Nat) (r : List (Nat × Nat))
    (hr : ssaEval (Nat → Nat) ins steps args = some r)
    (hest : ∀ p ∈ divInstancesOf (Nat → Nat) ins steps args, EstOn est (inputBits ins args) p) :
    ssaCircuitEvalE est ins steps args = some r := by
  simp only [SupportedE, Bool.and_eq_true, Option.isSome_iff_exists] at hsup
  obtain ⟨hall, ⟨s, outs⟩, hc⟩ := hsup
  have := (ssaCompileE_sound est ins steps hall s outs hc args r hr hest).2
  simp only [ssaCircuitEvalE, hc, Option.map_some, Option.some.injEq]
  rw [← this]
  rfl

theorem ssaCircuitEvalE_bits (est : List Nat → List Nat → BM (List Nat)) (ins : List (Nat × Nat))
    (steps : List SInstr) (args : List Nat) :
    ssaCircuitEvalE est ins steps args = (ssaCompileE est ins steps).map fun (s, outs) =>
      outs.map fun ws => (toNat (ws.map
        (evalBits s.gates.toList (toNat (inputBits ins args)) (inputBits ins args).length).testBit), ws.length) := by
  simp only [ssaCircuitEvalE, St.vals_getD]

end Mpc.SsaC
