/-
Lemmas for Model/GarbleBig.lean: the buffer / counter view of `Circuit.Garble`
and the constant-stack loops equal the list model of Model/Garble.lean for
EVERY circuit (no size enters anywhere).
-/
import MpcVerif.Model.GarbleBig
import MpcVerif.Proofs.Garble

namespace Mpc
open LabelAlg

variable {L : Type} [LabelAlg L]

@[simp] theorem slabSize_cons (g : Gate) (gs : List Gate) :
    slabSize (g :: gs) = g.op.rows + slabSize gs := rfl

@[simp] theorem tweakTotal_nil : tweakTotal [] = 0 := rfl

@[simp] theorem tweakTotal_cons (g : Gate) (gs : List Gate) :
    tweakTotal (g :: gs) = g.op.tweaks + tweakTotal gs := rfl

theorem rowsOfKindSpec_cons (k : Op) (g : Gate) (gs : List Gate) :
    rowsOfKindSpec k (g :: gs) = (if g.op = k then g.op.rows else 0) + rowsOfKindSpec k gs := rfl

theorem garbleGatesTR_eq (H : Hash L) (r : L) (gs : List Gate) :
    ∀ (ws : Store (WireL L)) (id : Nat) (acc : List (List L)),
      garbleGatesTR H r gs ws id acc =
        ((garbleGates H r gs ws id).1, (garbleGates H r gs ws id).2.1,
          acc.reverse ++ (garbleGates H r gs ws id).2.2) := by
  induction gs with
  | nil => intro ws id acc; simp [garbleGatesTR, garbleGates_nil]
  | cons g gs ih =>
    intro ws id acc
    rw [garbleGates_cons]
    simp only [garbleGatesTR]
    rw [ih]
    simp

theorem garbleTR_eq (c : Circuit) (H : Hash L) (r : L) (inl : Nat → L) :
    c.garbleTR H r inl = c.garble H r inl := by
  simp only [Circuit.garbleTR, Circuit.garble]
  rw [garbleGatesTR_eq]
  simp

theorem encodeInputsFast_eq (c : Circuit) (G : Garbled L) (x : List Bool) :
    encodeInputsFast c G x = encodeInputs c G x := by
  simp only [encodeInputsFast, encodeInputs, getD_toArray]

theorem initStoreFast_eq {α : Type} (n : Nat) (d : α) (l : List α) :
    initStoreFast n d l = initStore n d l := by
  simp only [initStoreFast, initStore, getD_toArray]

theorem plainEvalFast_eq (c : Circuit) (x : List Bool) : c.plainEvalFast x = c.plainEval x := by
  simp [Circuit.plainEvalFast, Circuit.plainEval, initStoreFast_eq]

theorem computeFast_eq (c : Circuit) (x : List Bool) : c.computeFast x = c.compute x := by
  simp [Circuit.computeFast, Circuit.compute, plainEvalFast_eq]

theorem garbleCore_rows_slice (H : Hash L) (r : L) (op : Op) (a b : WireL L) (id : Nat) :
    (garbleCore H r op a b id).2 = tabSlice (garbleSlots H r op a b id) op.start op.rows := by
  cases op <;> rfl

theorem garbleSlots_row0_zero (H : Hash L) (r : L) (op : Op) (a b : WireL L) (id : Nat)
    (hop : op = .or ∨ op = .inv) : garbleSlots H r op a b id 0 = (LabelAlg.zero : L) := by
  -- Slot 0 is `t 0` xored with the output label of the pair at index 0, and that label was
  -- chosen as `t 0`, whether or not index 0 is the pair of zero labels.
  have key (t0 : L) (k : Nat) :
      (if 0 = k then t0 ^^^ (if k = 0 then t0 else t0 ^^^ r)
        else t0 ^^^ (if k = 0 then t0 ^^^ r else t0)) = zero := by
    cases k <;> simp
  rcases hop with rfl | rfl <;> exact key _ _

theorem flatten_drop_take {α : Type} (rows : List (List α)) (i : Nat) (h : i < rows.length) :
    (rows.flatten.drop ((rows.take i).map List.length).sum).take rows[i].length = rows[i] := by
  have hs : rows.flatten = (rows.take i).flatten ++ (rows[i] ++ (rows.drop (i + 1)).flatten) := by
    rw [← List.flatten_cons, List.getElem_cons_drop, ← List.flatten_append, List.take_append_drop]
  rw [hs, List.drop_left' List.length_flatten, List.take_left' rfl]

theorem garble_slab_length (c : Circuit) (H : Hash L) (r : L) (inl : Nat → L) :
    (c.garble H r inl).slab.length = slabSize c.gates := by
  simp only [Garbled.slab, List.length_flatten, slabSize]
  rw [garble_rows_lengths]

theorem garble_slab_view (c : Circuit) (H : Hash L) (r : L) (inl : Nat → L) (i : Nat)
    (h : i < c.gates.length) :
    slabView (c.garble H r inl).slab (slabOff c.gates i) (c.gates[i]).op.rows =
      (c.garble H r inl).rows[i]'(by rw [garble_rows_count]; exact h) := by
  have hl := garble_rows_lengths c H r inl
  have hi : i < (c.garble H r inl).rows.length := by rw [garble_rows_count]; exact h
  have h1 : slabOff c.gates i = (((c.garble H r inl).rows.take i).map List.length).sum := by
    simp only [slabOff, slabSize]
    rw [List.map_take, List.map_take, hl]
  have h2 : (c.gates[i]).op.rows = ((c.garble H r inl).rows[i]).length := by
    have := congrArg (fun l => l[i]?) hl
    simp only [List.getElem?_map, List.getElem?_eq_getElem hi, List.getElem?_eq_getElem h,
      Option.map_some, Option.some.injEq] at this
    exact this.symm
  rw [slabView, Garbled.slab, h1, h2]
  exact flatten_drop_take _ i hi

theorem slabOff_succ (gs : List Gate) (i : Nat) (h : i < gs.length) :
    slabOff gs (i + 1) = slabOff gs i + (gs[i]).op.rows := by
  simp only [slabOff, slabSize]
  rw [List.take_succ_eq_append_getElem h, List.map_append, List.sum_append]
  simp

theorem slabOff_length (gs : List Gate) : slabOff gs gs.length = slabSize gs := by
  simp [slabOff]

/-- The count sees the tables only through their lengths, so `garbleGates_rows_lengths` fixes it. -/
theorem rowsOfKind_of_lengths {α : Type} (k : Op) (gs : List Gate) (rows : List (List α))
    (h : rows.map List.length = gs.map fun g => g.op.rows) :
    rowsOfKind k gs rows = rowsOfKindSpec k gs := by
  have hz : (gs.zip rows).map (fun p => if p.1.op = k then p.2.length else 0) =
      List.zipWith (fun (g : Gate) n => if g.op = k then n else 0) gs (rows.map List.length) := by
    rw [List.zipWith_map_right, List.zip_eq_zipWith, List.map_zipWith]
  rw [rowsOfKind, hz, h, List.zipWith_map_right, List.zipWith_self, rowsOfKindSpec]

theorem rowsOfKindSpec_total (gs : List Gate) :
    rowsOfKindSpec .and gs + rowsOfKindSpec .or gs + rowsOfKindSpec .inv gs +
      rowsOfKindSpec .xor gs + rowsOfKindSpec .xnor gs = slabSize gs := by
  induction gs with
  | nil => rfl
  | cons g gs ih =>
    have hg : (if g.op = .and then g.op.rows else 0) + (if g.op = .or then g.op.rows else 0) +
        (if g.op = .inv then g.op.rows else 0) + (if g.op = .xor then g.op.rows else 0) +
        (if g.op = .xnor then g.op.rows else 0) = g.op.rows := by
      cases g.op <;> rfl
    simp only [rowsOfKindSpec_cons, slabSize_cons]
    omega

theorem tweaksU32_mod (gs : List Gate) : ∀ id : Nat,
    tweaksU32 gs (id % 2 ^ 32) = (id + tweakTotal gs) % 2 ^ 32 := by
  induction gs with
  | nil => intro id; rfl
  | cons g gs ih =>
    intro id
    rw [tweakTotal_cons, ← Nat.add_assoc, ← ih, ← Nat.mod_add_mod]
    rfl

theorem tweaksU32_exact (gs : List Gate) (id : Nat) (h : id + tweakTotal gs < 2 ^ 32) :
    tweaksU32 gs id = id + tweakTotal gs := by
  rw [← Nat.mod_eq_of_lt h, ← tweaksU32_mod,
    Nat.mod_eq_of_lt (Nat.lt_of_le_of_lt (Nat.le_add_right _ _) h)]

theorem tweakTotal_replicate (n : Nat) (g : Gate) :
    tweakTotal (List.replicate n g) = n * g.op.tweaks := by
  simp [tweakTotal]

theorem tweaksU32_replicate (n : Nat) (g : Gate) :
    tweaksU32 (List.replicate n g) 0 = n * g.op.tweaks % 2 ^ 32 := by
  rw [← tweakTotal_replicate, ← Nat.zero_add (tweakTotal _), ← tweaksU32_mod]

theorem tweakTotal_take_le (gs : List Gate) (i : Nat) : tweakTotal (gs.take i) ≤ tweakTotal gs := by
  induction gs generalizing i with
  | nil => simp
  | cons g gs ih =>
    cases i with
    | zero => exact Nat.zero_le _
    | succ i => exact Nat.add_le_add_left (ih i) _

theorem tweakPrefix_aux (gs : List Gate) : ∀ (a : Array Nat) (s : Nat),
    (gs.foldl (fun (acc : Array Nat × Nat) g => (acc.1.push acc.2, acc.2 + g.op.tweaks)) (a, s)).1 =
      a ++ ((List.range gs.length).map fun i => s + tweakTotal (gs.take i)).toArray := by
  induction gs with
  | nil => intro a s; simp
  | cons g gs ih =>
    intro a s
    rw [List.foldl_cons, ih]
    simp only [List.length_cons, List.range_succ_eq_map, List.map_cons, List.map_map,
      List.take_zero, tweakTotal_nil, Nat.add_zero, Function.comp_def, List.take_succ_cons,
      tweakTotal_cons, Nat.add_assoc, Array.push_eq_append, Array.append_assoc,
      List.append_toArray, List.cons_append, List.nil_append]

theorem tweakPrefix_getD (gs : List Gate) (i : Nat) (h : i < gs.length) :
    (tweakPrefix gs).getD i 0 = tweakTotal (gs.take i) := by
  rw [tweakPrefix, tweakPrefix_aux, Array.empty_append, getD_toArray, getD_range_map, if_pos h, Nat.zero_add]

/-- `post` writes only wires above `g.out` and `g` reads only wires below it, so the final pairs of
`g`'s wires are the ones at the time `g` was garbled. -/
theorem garbleGates_split (H : Hash L) (r : L) (pre : List Gate) (g : Gate) (post : List Gate)
    (ws0 : Store (WireL L)) (h0 : g.in0 < g.out) (h1 : g.in1 < g.out) (hout : g.out < ws0.size)
    (hpost : ∀ g' ∈ post, g.out < g'.out) {gs : List Gate} (hgs : gs = pre ++ g :: post)
    {G : Store (WireL L) × Nat × List (List L)} (hG : G = garbleGates H r gs ws0 0) :
    garbleCore H r g.op (G.1.get g.in0) (G.1.get g.in1) (tweakTotal pre) =
      (G.1.get g.out, G.2.2[pre.length]?.getD []) := by
  subst hgs hG
  have hfr (w : Nat) (hw : w ≤ g.out) (ws : Store (WireL L)) (id : Nat) :
      (garbleGates H r post ws id).1.get w = ws.get w :=
    garbleGates_frame H r post w ws id fun g' hg' =>
      Nat.ne_of_gt (Nat.lt_of_le_of_lt hw (hpost g' hg'))
  have hid : (garbleGates H r pre ws0 0).2.1 = tweakTotal pre := by
    rw [garbleGates_id, Nat.zero_add]; rfl
  rw [garbleGates_append]
  simp only [garbleGates_cons, garbleGate_wires, garbleGate_id, garbleGate_rows, hfr _ (Nat.le_of_lt h0),
    hfr _ (Nat.le_of_lt h1),
    hfr _ (Nat.le_refl _)]
  rw [Store.get_set_ne _ _ _ _ (Nat.ne_of_gt h0), Store.get_set_ne _ _ _ _ (Nat.ne_of_gt h1),
    Store.get_set_eq _ _ _ (by rw [garbleGates_size]; exact hout), hid,
    List.getElem?_append_right (by rw [garbleGates_rows_count]; exact Nat.le_refl _),
    garbleGates_rows_count, Nat.sub_self]
  rfl

theorem garble_local (c : Circuit) (H : Hash L) (r : L) (inl : Nat → L)
    (hsa : c.singleAssign) (i : Nat) (h : i < c.gates.length) :
    c.localStep H r (c.garble H r inl).wires i =
      ((c.garble H r inl).wires.get (c.gates[i]).out, (c.garble H r inl).rows[i]?.getD []) := by
  obtain ⟨hpw, hio⟩ := hsa
  obtain ⟨h0, h1, hout⟩ := hio _ (List.getElem_mem h)
  have hsplit : c.gates = c.gates.take i ++ c.gates[i] :: c.gates.drop (i + 1) := by
    rw [List.getElem_cons_drop, List.take_append_drop]
  have key := garbleGates_split H r _ _ _
    ((Array.range c.numWires).map fun i =>
      if i < c.nIn then (⟨inl i, inl i ^^^ r⟩ : WireL L) else default)
    h0 h1 (by simpa using hout) (by
      rw [hsplit] at hpw
      exact (List.pairwise_cons.mp (List.pairwise_append.mp hpw).2.1).1) hsplit rfl
  rw [List.length_take_of_le (Nat.le_of_lt h)] at key
  rw [Circuit.localStep, getD_of_lt _ _ _ h]
  exact key

end Mpc
