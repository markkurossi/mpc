/-
Preservation of the invariant `Inv` (Proofs/Mesh.lean) by the steps of the
`Join`/`Connect` goroutines (the accept goroutine: Proofs/MeshAccept.lean).
Per event: a `*_shape` lemma (guard and explicit post-state; `OnlyAt` where the
step touches one party only, for `waitDone` it is `onlyAt_phase`), then the `inv_*` lemma.
-/
import MpcVerif.Proofs.Mesh

namespace Mpc.Mesh

variable {c : Cfg} {s s' : State}

theorem join_shape {i : Nat} (hs : step c s (.join i) = some s') :
    s.phase i = .init ∧ 0 < i ∧ i < c.n ∧ OnlyAt i s s' ∧
    s' = { s with phase := upd s.phase i .joined, known := upd s.known i [0, i], np := upd s.np i (i + 1),
                  conn := upd3 s.conn i 0 0 (some ⟨i, 0, 0⟩) } := by
  simp only [step] at hs
  split at hs
  · rename_i hph
    split at hs
    · rename_i hi
      cases hs
      exact ⟨hph, hi.1, hi.2,
        { phase := fun _ e => if_neg e, known := fun _ e => if_neg e,
          np := fun _ e => if_neg e, conn := fun _ e => upd3_ne_fst e }, rfl⟩
    · cases hs
  · cases hs

theorem inv_join (hc : c.Ok) (h : Inv c s) {i : Nat}
    (hs : step c s (.join i) = some s') : Inv c s' := by
  obtain ⟨hph, hi, hin, ho, rfl⟩ := join_shape hs
  have hinit := (h.peer i hi hin).init hph
  have hi0 : 0 ≠ i := by omega
  have h1 := hinit.1
  have hD : Dials i 0 := ⟨hi, Or.inl rfl⟩
  have hA : upd3 s.conn i 0 0 (some ⟨i, 0, 0⟩) 0 i 0 = none :=
    (if_neg fun e => hi0 e.1).trans (h.accSlot_none hD (h1 0 0))
  have hl := h.links_of_link hD (k := 0)
    { conn := fun _ _ _ e _ => if_neg e, phase := ho.phase, joined := fun e => absurd ⟨rfl, rfl⟩ e }
    { accSlot := fun _ e => by simp [hA] at e
      pendSlot := fun e => by simp [hinit.2.1] at e
      dialSlot := fun _ _ => Or.inr (Or.inr (Or.inl ⟨rfl, rfl, upd_same s.phase i _⟩))
      taken := fun e => by simpa [h1] using (h.takenFacts e).dset
      stored := fun e => by simpa [h.accSlot_none hD (h1 0 0)] using (h.storedFacts e).aset }
  obtain ⟨hL, hP⟩ := h.parties_of_peer_step ho hi0 hl
    { init := by simp [upd_apply]
      joined := fun _ => by
        simp [upd_apply, upd3_apply, hi0, joinTable, hinit]
        exact h.accSlot_none hD (h1 0 0)
      hello := by simp [upd_apply]
      notInfo := by simp
      runLt := by simp
      active := by simp [prog] }
  exact Inv.of_links hl h.notBad (h.outside_of hin ho.phase)
    (h.slot_upd3 ⟨(wire_dials 0 hD).1.symm, Ne.symm hi0, hin, by omega, hc.m1⟩) hL hP

theorem lconnect_shape (hs : step c s .lconnect = some s') :
    s.phase 0 = .init ∧ OnlyAt 0 s s' ∧
    s' = { s with phase := upd s.phase 0 (.run 0 []),
                  need := upd s.need 0 (fun k => if k < c.m then c.n - 1 else 0), acc := upd s.acc 0 true } := by
  simp only [step] at hs
  split at hs
  · rename_i hph
    cases hs
    exact ⟨hph, { phase := fun _ e => if_neg e, need := fun _ e => if_neg e, acc := fun _ e => if_neg e }, rfl⟩
  · cases hs

theorem inv_lconnect (hc : c.Ok) (h : Inv c s)
    (hs : step c s .lconnect = some s') : Inv c s' := by
  obtain ⟨hph, ho, rfl⟩ := lconnect_shape hs
  have hn2 := hc.n2
  have hm1 := hc.m1
  have hL := h.leader
  have hini := hL.initial hph
  have hl := h.links_of_parties ho.phase ho.acc rfl rfl rfl (fun _ => upd_same s.acc 0 true) (by rw [hph]; simp)
    (by simp [upd_same])
  refine Inv.of_links hl h.notBad (h.outside_of (by omega) ho.phase) h.slot ?_ ?_
  · refine { hL with shape := Or.inr (Or.inl ⟨0, by omega, upd_same s.phase 0 _⟩), initial := nofun,
                      started := fun _ => ⟨upd_same s.acc 0 true, fun k hk => ?_⟩, waited := nofun, infoRest := nofun }
    show (if k < c.m then c.n - 1 else 0) = missing s 0 c.n k + sbit s 0 k
    rw [if_pos hk, missing_all_none s 0 c.n k (fun x _ => hini.2 x k), sbit_none (h.infl_none hini.1)]
    rfl
  · intro q hq hqn
    refine (h.peer q hq hqn).onlyAt_leader ho hq ?_ (hl q) fun _ => rfl
    show infoSentTo (upd s.phase 0 (.run 0 []) 0) q ↔ _
    rw [upd_same, hph]; exact Iff.rfl

theorem hello_shape {i : Nat} (hs : step c s (.hello i) = some s') :
    s.phase i = .joined ∧ OnlyAt i s s' ∧
    s' = { s with phase := upd s.phase i .hello, pend := upd3 s.pend 0 i 0 true } := by
  simp only [step] at hs
  split at hs
  · rename_i hph
    cases hs
    exact ⟨hph, { phase := fun _ e => if_neg e, pend := fun _ e _ _ => upd3_ne_snd e }, rfl⟩
  · cases hs

theorem inv_hello (h : Inv c s) {i : Nat}
    (hs : step c s (.hello i) = some s') : Inv c s' := by
  obtain ⟨hph, ho, rfl⟩ := hello_shape hs
  obtain ⟨hi, hin⟩ := h.peer_of_phase (Or.inl hph)
  have hi0 : 0 ≠ i := by omega
  have hj := (h.peer i hi hin).joined hph
  have hD : Dials i 0 := ⟨hi, Or.inl rfl⟩
  have hnt : s.infl 0 ≠ .taken i 0 := fun e => (h.takenFacts e).notJoined rfl rfl hph
  have hl := h.links_of_link hD (k := 0)
    { pend := fun _ _ _ e => if_neg e, phase := ho.phase, joined := fun e => absurd ⟨rfl, rfl⟩ e }
    { accSlot := fun _ e => by simp [hj.2.2.1] at e
      pendSlot := fun _ => ⟨hD, by simp [hj.1], hj.2.2.1, by omega⟩
      dialSlot := fun _ _ => Or.inl (by simp [upd3_apply])
      taken := fun e => absurd e hnt
      stored := (h.link i 0 0).stored }
  obtain ⟨hL, hP⟩ := h.parties_of_peer_step ho hi0 hl (PeerInv.of_hello (upd_same s.phase i _)
    ⟨hj.1, pend_of_hello (hl i) hi (upd_same s.phase i _) hj.1, hj.2.2.2.2.1, hj.2.2.2.2.2.1,
      by simp [upd_ne _ _ _ 0 hi0, hj.2.2.2.1, hj.2.2.2.2.2.2], fun l hl' => by simp [hj.2.2.2.1] at hl'⟩)
  exact Inv.of_links hl h.notBad (h.outside_of hin ho.phase) h.slot hL hP

/-- `pre`: what i has dialled in round k so far. -/
structure DialFacts (c : Cfg) (s : State) (i k j : Nat) (rest pre : List Nat) : Prop where
  inn : i < c.n
  km : k < c.m
  active : ActiveInv c s i k (j :: rest)
  dials : Dials i j
  jn : j < c.n
  dnone : s.conn i j k = none
  /-- the listener of j is up -/
  started : j ≠ 0 → s.phase j ≠ .init
  targets : targets s i k = pre ++ j :: rest
  dialed : ∀ j' k', Dials i j' → ((s.conn i j' k').isSome ↔
      (j' < c.n ∧ ((j' = 0 ∧ k' = 0) ∨ (k' < k ∧ k' < c.m) ∨ (k' = k ∧ k < c.m ∧ j' ∈ pre))))

theorem Inv.dialFacts (h : Inv c s) (hc : c.Ok) {i k j : Nat} {rest : List Nat}
    (hph : s.phase i = .run k (j :: rest)) : ∃ pre, DialFacts c s i k j rest pre := by
  obtain ⟨hi, hin⟩ := h.peer_of_phase (Or.inr (Or.inr ⟨k, j, rest, hph⟩))
  have hP := h.peer i hi hin
  have hk := hP.runLt k _ hph
  have hA := hP.active_run hph
  obtain ⟨pre, hpre, hdial⟩ := hA.dialed
  have hpre := hpre hk
  have hjt' := (hA.mem_targets hi j).mp (by rw [hpre]; simp)
  have hnd := hA.targets_nodup
  rw [hpre] at hnd
  have hjpre : j ∉ pre := fun hj => (List.nodup_append.mp hnd).2.2 j hj j (by simp) rfl
  have hD : Dials i j := by
    refine ⟨hi, ?_⟩
    by_cases hj0 : j = 0
    · exact Or.inl hj0
    · right; simpa [hj0] using hjt'.2
  refine ⟨pre, { inn := hin, km := hk, active := hA, dials := hD, jn := hjt'.1, dnone := ?_, started := ?_,
                 targets := hpre, dialed := hdial }⟩
  · cases hcn : s.conn i j k with
    | none => rfl
    | some v =>
      rcases ((hdial j k hD).mp (by simp [hcn])).2 with ⟨e1, e2⟩ | e | ⟨_, _, e⟩
      · simp [e1, e2] at hjt'
      · omega
      · exact absurd e hjpre
  · intro hj0
    exact (h.peer_started (by omega) hjt'.1 (h.conn0_of_infoSent hc hA.sent j (by omega) hjt'.1)).1

theorem dial_shape (hc : c.Ok) (h : Inv c s) {i : Nat}
    (hs : step c s (.dial i) = some s') :
    ∃ k j rest pre, s.phase i = .run k (j :: rest) ∧ DialFacts c s i k j rest pre ∧ OnlyAt i s s' ∧
      s' = { s with pend := upd3 s.pend j i k true, conn := upd3 s.conn i j k (some ⟨i, j, k⟩),
                    phase := upd s.phase i (.run k rest) } := by
  simp only [step] at hs
  split at hs
  · rename_i k j rest hph
    obtain ⟨pre, hf⟩ := h.dialFacts hc hph
    have := hc.m256
    have := hf.km
    rw [if_neg (by omega), if_neg (fun e => hf.started e.1 e.2), helloId_of_le k (by omega)] at hs
    simp only [hf.dnone] at hs
    cases hs
    exact ⟨k, j, rest, pre, hph, hf,
      { phase := fun _ e => if_neg e, conn := fun _ e => upd3_ne_fst e,
        pend := fun _ e _ _ => upd3_ne_snd e }, rfl⟩
  · cases hs

theorem inv_dial (hc : c.Ok) (h : Inv c s) {i : Nat}
    (hs : step c s (.dial i) = some s') : Inv c s' := by
  obtain ⟨k, j, rest, pre, hph, hf, ho, rfl⟩ := dial_shape hc h hs
  have hi0 : 0 ≠ i := Nat.ne_of_lt hf.dials.1
  have hA := hf.active
  have hD := hf.dials
  have hij : i ≠ j := by rcases hD.2 with e | e <;> omega
  have hnone := hf.dnone
  have hacc_none : s.conn j i k = none := h.accSlot_none hD hnone
  have hA' : upd3 s.conn i j k (some ⟨i, j, k⟩) j i k = none := (if_neg fun e => hij e.1.symm).trans hacc_none
  have hl := h.links_of_link hD (k := k)
    { conn := fun _ _ _ e _ => if_neg e, pend := fun _ _ _ e => if_neg e, phase := ho.phase,
      joined := fun _ => by simp [upd_same, hph] }
    { accSlot := fun _ e => by simp [hA'] at e
      pendSlot := fun _ => ⟨hD, by simp [upd3_apply], hA', hf.jn⟩
      dialSlot := fun _ _ => Or.inl (by simp [upd3_apply])
      -- the accept goroutine of j cannot hold a connection that has not been dialled
      taken := fun e => by simpa [hnone] using (h.takenFacts e).dset
      stored := fun e => by simpa [hacc_none] using (h.storedFacts e).aset }
  obtain ⟨hL, hP⟩ := h.parties_of_peer_step ho hi0 hl (by
    refine PeerInv.of_active (k := k) (todo := rest) (by simp only [upd_same]; rfl)
      ?_ ?_
    · intro k' t e
      simp only [upd_same] at e
      cases e; exact hf.km
    refine { hA with sent := ?_, dialed := ⟨pre ++ [j], ?_, ?_⟩, need := ?_ }
    · simp only [upd_ne _ _ _ 0 hi0]; exact hA.sent
    · intro _
      show targets s i k = _
      rw [hf.targets]; simp
    · intro j' k'' hd'
      have := hf.dialed j' k'' hd'
      simp only [upd3_apply]
      split
      · rename_i e; obtain ⟨-, e1, e2⟩ := e
        rw [e1, e2]
        simp [hf.jn, hf.km]
      · rename_i e
        rw [this]
        simp only [List.mem_append, List.mem_singleton]
        grind
    · -- the new entry is to a higher id or the leader: not among the slots `need` counts
      intro k'' hk''
      rw [hA.need k'' hk'']
      congr 1
      symm
      apply missing_congr
      intro y hy0 hyq
      apply upd3_ne_snd
      rcases hD.2 with e' | e' <;> omega)
  exact Inv.of_links hl h.notBad (h.outside_of hf.inn ho.phase)
    (h.slot_upd3 ⟨(wire_dials k hD).1.symm, hij, hf.inn, hf.jn, hf.km⟩) hL hP

theorem advance_of_lt {k : Nat} (h : k < c.m) (s : State) (p : Nat) : advance c s p k = .run k (targets s p k) :=
  if_pos h

theorem advance_cases (c : Cfg) (s : State) (p k : Nat) :
    (k < c.m ∧ advance c s p k = .run k (targets s p k)) ∨ (c.m ≤ k ∧ advance c s p k = .done) :=
  (Nat.lt_or_ge k c.m).imp (fun h => ⟨h, advance_of_lt h s p⟩) fun h => ⟨h, if_neg (Nat.not_lt.mpr h)⟩

theorem infoPhase_nil (c : Cfg) (s : State) : infoPhase c s [] = advance c s 0 1 := rfl

theorem infoPhase_cons (c : Cfg) (s : State) (a : Nat) (l : List Nat) : infoPhase c s (a :: l) = .info (a :: l) := rfl

theorem infoSentTo_advance_succ (c : Cfg) (s : State) (p k q : Nat) :
    infoSentTo (advance c s p (k + 1)) q := by
  rcases advance_cases c s p (k + 1) with ⟨-, e⟩ | ⟨-, e⟩ <;> rw [e] <;> trivial

theorem infoSentTo_infoPhase (c : Cfg) (s : State) (rest : List Nat) (q : Nat) :
    infoSentTo (infoPhase c s rest) q ↔ q ∉ rest := by
  cases rest with
  | nil => rw [infoPhase_nil]; exact iff_of_true (infoSentTo_advance_succ c s 0 0 q) List.not_mem_nil
  | cons a l => rw [infoPhase_cons]; exact Iff.rfl

theorem advance_ne_joined (c : Cfg) (s : State) (p k : Nat) : advance c s p k ≠ .joined := by
  rcases advance_cases c s p k with ⟨-, e⟩ | ⟨-, e⟩ <;> rw [e] <;> nofun

theorem infoPhase_ne_joined (c : Cfg) (s : State) (r : List Nat) : infoPhase c s r ≠ .joined := by
  cases r with
  | nil => exact advance_ne_joined c s 0 1
  | cons a l => rw [infoPhase_cons]; nofun

theorem leader_advance (c : Cfg) (s : State) (k : Nat) :
    ((∃ k', k' < c.m ∧ advance c s 0 k = .run k' []) ∨ advance c s 0 k = .done) ∧
    (∀ k', k' < roundsDone c (advance c s 0 k) → k' < c.m → k' < k) ∧
    (∀ r, advance c s 0 k ≠ .info r) := by
  rcases advance_cases c s 0 k with ⟨hlt, e⟩ | ⟨hge, e⟩ <;> rw [e]
  · rw [targets_leader]; exact ⟨Or.inl ⟨k, hlt, rfl⟩, fun k' hk' _ => hk', nofun⟩
  · exact ⟨Or.inr rfl, fun k' _ hkm => Nat.lt_of_lt_of_le hkm hge, nofun⟩

theorem leader_infoPhase (c : Cfg) (s : State) (rest : List Nat) :
    ((∃ k, k < c.m ∧ infoPhase c s rest = .run k []) ∨ (∃ r, r ≠ [] ∧ infoPhase c s rest = .info r) ∨
      infoPhase c s rest = .done) ∧
    (∀ k, k < roundsDone c (infoPhase c s rest) → k < c.m → k = 0) ∧
    (∀ r, infoPhase c s rest = .info r → r = rest) := by
  cases rest with
  | cons a l =>
    rw [infoPhase_cons]
    exact ⟨Or.inr (Or.inl ⟨a :: l, by simp, rfl⟩), fun k hk _ => Nat.lt_one_iff.mp hk, fun r e => by cases e; rfl⟩
  | nil =>
    obtain ⟨hshape, hrounds, hinfo⟩ := leader_advance c s 1
    exact ⟨hshape.imp_right Or.inr, fun k hk hkm => Nat.lt_one_iff.mp (hrounds k hk hkm), fun r e => absurd e (hinfo r)⟩

theorem onlyAt_phase (s : State) (p : Nat) (ph : Phase) : OnlyAt p s { s with phase := upd s.phase p ph } :=
  { phase := fun _ e => if_neg e }

theorem LeaderInv.to_phase (hL : LeaderInv c s) (ph : Phase) (hne : s.phase 0 ≠ .init)
    (hshape : (∃ k, k < c.m ∧ ph = .run k []) ∨ (∃ r, r ≠ [] ∧ ph = .info r) ∨ ph = .done)
    (hw : ∀ k, k < roundsDone c ph → k < c.m → s.need 0 k = 0)
    (hr : ∀ r, ph = .info r → r.Nodup ∧ ∀ x ∈ r, 0 < x ∧ x < c.n) :
    LeaderInv c { s with phase := upd s.phase 0 ph } := by
  have hph : State.phase { s with phase := upd s.phase 0 ph } 0 = ph := upd_same s.phase 0 _
  refine { hL with shape := ?_, initial := ?_, started := fun _ => hL.started hne, waited := ?_, infoRest := ?_ }
  · rw [hph]; exact Or.inr hshape
  · intro e; rw [hph] at e
    rcases hshape with ⟨k, _, e'⟩ | ⟨r, _, e'⟩ | e' <;> rw [e'] at e <;> cases e
  · rw [hph]; exact hw
  · rw [hph]; exact hr

theorem LeaderInv.to_infoPhase (hL : LeaderInv c s) (rest : List Nat)
    (hne : s.phase 0 ≠ .init) (h00 : s.need 0 0 = 0) (hrn : rest.Nodup) (hrm : ∀ x ∈ rest, 0 < x ∧ x < c.n) :
    LeaderInv c { s with phase := upd s.phase 0 (infoPhase c s rest) } := by
  obtain ⟨hshape, hrounds, hinfo⟩ := leader_infoPhase c s rest
  exact hL.to_phase _ hne hshape (fun k hk hkm => hrounds k hk hkm ▸ h00) fun r hr => hinfo r hr ▸ ⟨hrn, hrm⟩

theorem info_shape (hs : step c s .info = some s') :
    ∃ j rest, s.phase 0 = .info (j :: rest) ∧
      s' = { s with mail := upd s.mail j (some ((s.known 0).filter fun q => q ≠ 0 ∧ q ≠ j)),
                    phase := upd s.phase 0 (infoPhase c s rest) } := by
  simp only [step] at hs
  split at hs
  · rename_i j rest hph
    cases hs
    exact ⟨j, rest, hph, rfl⟩
  · cases hs

theorem inv_info (hc : c.Ok) (h : Inv c s)
    (hs : step c s .info = some s') : Inv c s' := by
  obtain ⟨j, rest, hph, rfl⟩ := info_shape hs
  have hm1 := hc.m1
  have hL := h.leader
  have hne : s.phase 0 ≠ .init := by rw [hph]; simp
  have h00 : s.need 0 0 = 0 := hL.waited 0 (by simp [hph, roundsDone]) (by omega)
  obtain ⟨hkm, hklen, hall⟩ := h.leader_all hc h00 hne
  obtain ⟨hrnd, hrmem⟩ := hL.infoRest _ hph
  have hjr : j ∉ rest := (List.nodup_cons.mp hrnd).1
  have hj := hrmem j (by simp)
  have hj0 : j ≠ 0 := by omega
  have hjw := h.peer_waiting hj.1 hj.2 (hall j hj.1 hj.2) (by simp [hph, infoSentTo])
  have hgood : GoodMail c j ((s.known 0).filter fun q => decide (q ≠ 0 ∧ q ≠ j)) := by
    refine ⟨List.Nodup.sublist List.filter_sublist hL.knownNodup, ?_, ?_⟩
    · intro x; simp [List.mem_filter, hkm]; omega
    · have e : ((s.known 0).filter fun q => decide (q ≠ 0 ∧ q ≠ j)) =
          ((s.known 0).filter (fun x => decide (x ≠ 0))).filter (fun x => decide (x ≠ j)) := by
        rw [List.filter_filter]; apply List.filter_congr; intro x _; simp [And.comm]
      rw [e]
      have h1 := length_filter_ne (s.known 0) hL.knownNodup 0 ((hkm 0).mpr (by omega))
      have h2 := length_filter_ne ((s.known 0).filter (fun x => decide (x ≠ 0)))
        (List.Nodup.sublist List.filter_sublist hL.knownNodup) j
        (by simp [List.mem_filter, hkm, hj.2, hj0])
      omega
  -- the step in two: the leader's phase, then the mail of j
  have hL1 := hL.to_infoPhase rest hne h00 (List.nodup_cons.mp hrnd).2 (fun x hx => hrmem x (by simp [hx]))
  have hl := h.links_of_parties (p := 0)
    (s' := { s with mail := upd s.mail j (some ((s.known 0).filter fun q => q ≠ 0 ∧ q ≠ j)),
                    phase := upd s.phase 0 (infoPhase c s rest) })
    (fun _ e => if_neg e) (fun _ _ => rfl) rfl rfl rfl id
    (by rw [hph]; simp) (by simp only [upd_same]; exact infoPhase_ne_joined c s rest)
  refine Inv.of_links hl h.notBad (h.outside_of (p := 0) (by omega) fun _ e => if_neg e) h.slot ?_ ?_
  · exact { hL1 with mail0 := (upd_ne s.mail j _ 0 (Ne.symm hj0)).trans hL.mail0 }
  · intro q hq hqn
    have hq0 : q ≠ 0 := by omega
    have hsent : infoSentTo (upd s.phase 0 (infoPhase c s rest) 0) q ↔ q ∉ rest := by
      rw [upd_same]; exact infoSentTo_infoPhase c s rest q
    by_cases hqj : q = j
    · subst hqj
      have hh := (h.peer q hq hqn).hello hjw.1
      refine PeerInv.of_hello ((upd_ne s.phase 0 _ q hq0).trans hjw.1)
        ⟨hh.1, hh.2.1, hh.2.2.1, hh.2.2.2.1, ?_, ?_⟩
      · show upd s.mail q _ q ≠ none ↔ _
        rw [upd_same, hsent]; simp [hjr]
      · intro l hl
        simp only [upd_same] at hl
        cases hl; exact hgood
    · refine (h.peer q hq hqn).congr hq (upd_ne s.phase 0 _ q hq0) ?_ (upd_ne s.mail j _ q hqj) rfl rfl rfl rfl rfl
        (fun _ => rfl) (hl q) fun e => ⟨((h.peer q hq hqn).joined e).2.1 0 0, ((h.peer q hq hqn).joined e).2.2.1⟩
      rw [hsent, hph]
      simp [infoSentTo, hqj]

theorem waitDone_shape {p : Nat} (hs : step c s (.waitDone p) = some s') :
    ∃ k, s.phase p = .run k [] ∧ s.need p k = 0 ∧
      s' = { s with phase := upd s.phase p (if p = 0 ∧ k = 0 then infoPhase c s ((s.known 0).filter (· ≠ 0))
                                              else advance c s p (k + 1)) } := by
  simp only [step] at hs
  split at hs
  · rename_i k hph
    split at hs
    · rename_i h0
      refine ⟨k, hph, h0, ?_⟩
      split at hs
      · rename_i e; cases hs; rcases e with ⟨rfl, rfl⟩; rfl
      · rename_i e; cases hs; rw [if_neg e]
    · cases hs
  · cases hs

theorem inv_waitDone_leader0 (hc : c.Ok) (h : Inv c s)
    (hph : s.phase 0 = .run 0 []) (h00 : s.need 0 0 = 0) :
    Inv c { s with phase := upd s.phase 0 (infoPhase c s ((s.known 0).filter (· ≠ 0))) } := by
  have hn2 := hc.n2
  have hL := h.leader
  have hne : s.phase 0 ≠ .init := by rw [hph]; simp
  obtain ⟨hkm, hklen, hall⟩ := h.leader_all hc h00 hne
  have hrm : ∀ x, x ∈ (s.known 0).filter (· ≠ 0) ↔ 0 < x ∧ x < c.n := by
    intro x; simp [List.mem_filter, hkm]; omega
  have ho := onlyAt_phase s 0 (infoPhase c s ((s.known 0).filter (· ≠ 0)))
  have hl := h.links_of_parties ho.phase ho.acc rfl rfl rfl id
    (by rw [hph]; simp) (by simp only [upd_same]; exact infoPhase_ne_joined c s _)
  refine Inv.of_links hl h.notBad (h.outside_of (by omega) ho.phase) h.slot
    (hL.to_infoPhase _ hne h00 (List.Nodup.sublist List.filter_sublist hL.knownNodup)
      (fun x hx => (hrm x).mp hx)) ?_
  intro q hq hqn
  refine (h.peer q hq hqn).onlyAt_leader ho hq ?_ (hl q) fun _ => rfl
  simp only [upd_same]
  rw [infoSentTo_infoPhase, hph]
  exact iff_of_false (fun e => e ((hrm q).mpr ⟨hq, hqn⟩)) id

theorem inv_waitDone_leader (hc : c.Ok) (h : Inv c s) {k : Nat}
    (hph : s.phase 0 = .run (k + 1) []) (h0 : s.need 0 (k + 1) = 0) :
    Inv c { s with phase := upd s.phase 0 (advance c s 0 (k + 1 + 1)) } := by
  have hn2 := hc.n2
  have hL := h.leader
  have hne : s.phase 0 ≠ .init := by rw [hph]; simp
  have hph' : State.phase { s with phase := upd s.phase 0 (advance c s 0 (k + 1 + 1)) } 0 = _ :=
    upd_same s.phase 0 _
  obtain ⟨hshape, hrounds, hinfo⟩ := leader_advance c s (k + 1 + 1)
  have ho := onlyAt_phase s 0 (advance c s 0 (k + 1 + 1))
  have hl := h.links_of_parties ho.phase ho.acc rfl rfl rfl id
    (by rw [hph]; simp) (by rw [hph']; exact advance_ne_joined c s 0 _)
  refine Inv.of_links hl h.notBad (h.outside_of (by omega) ho.phase) h.slot ?_ ?_
  · refine hL.to_phase _ hne (hshape.imp_right Or.inr) (fun k' hk' hkm' => ?_) fun r hr => absurd hr (hinfo r)
    have := hrounds k' hk' hkm'
    by_cases e : k' = k + 1
    · subst e; exact h0
    · exact hL.waited k' (by rw [hph]; show k' < k + 1; omega) hkm'
  · intro q hq hqn
    refine (h.peer q hq hqn).onlyAt_leader ho hq ?_ (hl q) fun _ => rfl
    rw [hph', hph]
    exact iff_of_true (infoSentTo_advance_succ c s 0 (k + 1) q) trivial

theorem inv_waitDone_peer (h : Inv c s) {p k : Nat} (hp0 : p ≠ 0)
    (hph : s.phase p = .run k []) (h0 : s.need p k = 0) :
    Inv c { s with phase := upd s.phase p (advance c s p (k + 1)) } := by
  have hpn : p < c.n := h.lt_n (by rw [hph]; simp)
  have hpp : 0 < p := by omega
  have hP := h.peer p hpp hpn
  have hk := hP.runLt k _ hph
  have hA := hP.active_run hph
  have hph' : State.phase { s with phase := upd s.phase p (advance c s p (k + 1)) } p = _ :=
    upd_same s.phase p _
  have hnew : ActiveInv c { s with phase := upd s.phase p (advance c s p (k + 1)) } p (k + 1)
      (if k + 1 < c.m then targets s p (k + 1) else []) := by
    refine { hA with kle := hk, sent := ?_, dialed := ⟨[], fun hlt => by rw [if_pos hlt]; rfl, fun j k' hd => ?_⟩,
                      waited := ?_ }
    · show infoSentTo (upd s.phase p _ 0) p
      rw [upd_ne _ _ _ 0 (Ne.symm hp0)]; exact hA.sent
    · rw [hA.dialed_waiting hd]
      simp only [List.not_mem_nil, and_false, or_false]
      omega
    · intro k' hk' hkm
      by_cases e : k' = k
      · subst e; exact h0
      · exact hA.waited k' (by omega) hkm
  have ho := onlyAt_phase s p (advance c s p (k + 1))
  have hl := h.links_of_parties ho.phase ho.acc rfl rfl rfl (fun e => e) (by rw [hph]; simp)
    (by rw [hph']; exact advance_ne_joined c s p _)
  obtain ⟨hL, hPs⟩ := h.parties_of_peer_step ho (Ne.symm hp0) hl (by
    have hpr : prog c (advance c s p (k + 1)) = some (k + 1, if k + 1 < c.m then targets s p (k + 1) else []) ∧
        ∀ k' t, advance c s p (k + 1) = .run k' t → k' < c.m := by
      rcases advance_cases c s p (k + 1) with ⟨hlt, e⟩ | ⟨hge, e⟩ <;> rw [e]
      · exact ⟨by rw [if_pos hlt]; rfl, fun k' t e' => by cases e'; exact hlt⟩
      · exact ⟨by rw [if_neg (Nat.not_lt.mpr hge), show k + 1 = c.m by omega]; rfl, nofun⟩
    exact PeerInv.of_active (hph'.symm ▸ hpr.1) (fun k' t e => hpr.2 k' t (hph' ▸ e)) hnew)
  exact Inv.of_links hl h.notBad (h.outside_of hpn ho.phase) h.slot hL hPs

theorem inv_waitDone (hc : c.Ok) (h : Inv c s) {p : Nat}
    (hs : step c s (.waitDone p) = some s') : Inv c s' := by
  obtain ⟨k, hph, h0, rfl⟩ := waitDone_shape hs
  by_cases hp0 : p = 0
  · subst hp0
    cases k with
    | zero => rw [if_pos ⟨rfl, rfl⟩]; exact inv_waitDone_leader0 hc h hph h0
    | succ k => rw [if_neg (by simp)]; exact inv_waitDone_leader hc h hph h0
  · rw [if_neg (fun e => hp0 e.1)]; exact inv_waitDone_peer h hp0 hph h0

theorem recvInfo_shape (hc : c.Ok) (h : Inv c s) {i : Nat}
    (hs : step c s (.recvInfo i) = some s') :
    ∃ l kn, kn = l.foldl (fun kn q => ins q kn) (s.known i) ∧ s.phase i = .hello ∧ s.mail i = some l ∧
      0 < i ∧ i < c.n ∧ 2 + l.length = c.n ∧ kn.Nodup ∧ (∀ x, x ∈ kn ↔ x < c.n) ∧
      (l.filter (· < i)).length = i - 1 ∧ OnlyAt i s s' ∧
      s' = { s with mail := upd s.mail i none, np := upd s.np i (2 + l.length), known := upd s.known i kn,
                    need := upd s.need i (fun k => if k < c.m then (l.filter (· < i)).length else 0),
                    acc := upd s.acc i true,
                    phase := upd s.phase i (.run 0 (kn.filter
                      fun q => if q = 0 then decide (0 ≠ 0) else decide (i < q))) } := by
  simp only [step] at hs
  split at hs
  · rename_i l hph hml
    have hm1 := hc.m1
    obtain ⟨hip, hin⟩ := h.peer_of_phase (Or.inr (Or.inl hph))
    have hi0 : i ≠ 0 := by omega
    have hh := (h.peer i hip hin).hello hph
    obtain ⟨hlnd, hlmem, hllen⟩ := hh.2.2.2.2.2 l hml
    have hany : ¬ (l.any fun q => decide (2 + l.length ≤ q)) = true := by
      rw [Bool.not_eq_true, List.any_eq_false]
      intro q hq
      have := (hlmem q).mp hq
      simp; omega
    have hadv : ∀ st : State, advance c st i 0 = .run 0 (targets st i 0) := fun st => advance_of_lt hm1 st i
    rw [if_neg hany] at hs
    simp only [hadv, targets_peer _ hi0, upd_same] at hs
    cases hs
    refine ⟨l, _, rfl, hph, hml, hip, hin, by omega, ?_, ?_, ?_,
      { phase := fun _ e => if_neg e, need := fun _ e => if_neg e, known := fun _ e => if_neg e,
        np := fun _ e => if_neg e, acc := fun _ e => if_neg e, mail := fun _ e => if_neg e }, rfl⟩
    · apply nodup_foldl_ins _ _ hlnd
      · intro q hq
        have := (hlmem q).mp hq
        rw [hh.2.2.2.1]; simp; omega
      · rw [hh.2.2.2.1]; simp; omega
    · intro x
      rw [mem_foldl_ins, hh.2.2.2.1, hlmem]
      simp; omega
    · apply length_of_mem_iff _ (List.Nodup.sublist List.filter_sublist hlnd)
      intro x; simp [List.mem_filter, hlmem]; omega
  · cases hs

theorem inv_recvInfo (hc : c.Ok) (h : Inv c s) {i : Nat}
    (hs : step c s (.recvInfo i) = some s') : Inv c s' := by
  obtain ⟨l, kn, rfl, hph, hml, hip, hin, hllen, hknd, hkm, hna, ho, rfl⟩ := recvInfo_shape hc h hs
  have hi0 : 0 ≠ i := by omega
  have hh := (h.peer i hip hin).hello hph
  have hsent : infoSentTo (s.phase 0) i := hh.2.2.2.2.1.mp (by rw [hml]; simp)
  have hl := h.links_of_parties ho.phase ho.acc rfl rfl rfl (fun _ => upd_same s.acc i true) (by rw [hph]; simp)
    (by simp only [upd_same]; simp)
  obtain ⟨hL, hP⟩ := h.parties_of_peer_step ho hi0 hl (by
    refine PeerInv.of_active (k := 0) (by simp only [upd_same]; rfl) ?_ ?_
    · intro k t e
      simp only [upd_same] at e
      cases e; exact hc.m1
    refine { kle := Nat.zero_le _, sent := ?_, nomail := upd_same s.mail i _, acc := upd_same s.acc i _,
             np := (upd_same s.np i _).trans hllen, knownMem := ?_, knownNodup := ?_, dialed := ?_, need := ?_,
             waited := fun k' hk' => absurd hk' (Nat.not_lt_zero _) }
    · simp only [upd_ne _ _ _ 0 hi0]; exact hsent
    · simp only [upd_same]; exact hkm
    · simp only [upd_same]; exact hknd
    · refine ⟨[], ?_, ?_⟩
      · intro _; simp [targets_peer _ (Ne.symm hi0), upd_same]
      · -- nothing dialled yet but connection 0 to the leader (by `Join`)
        intro j k' hd
        show (s.conn i j k').isSome = true ↔ _
        rw [hh.1 j k', joinTable_isSome]
        simp
        intro e1 e2; omega
    · -- nothing accepted yet: every lower peer is still missing for every id
      intro k' hk'
      show upd s.need i _ i k' = missing s i i k' + sbit s i k'
      rw [upd_same, if_pos hk', hna]
      rw [sbit_none (h.infl_none hh.2.2.1),
        missing_all_none s i i k' fun x hx => (hh.1 x k').trans (joinTable_eq_none fun e => by omega)]
      omega)
  exact Inv.of_links hl h.notBad (h.outside_of hin ho.phase) h.slot hL hP

end Mpc.Mesh
