/-
Soundness of the C09 translation-validation checker (`Model/Equiv.lean`): the abstract value the
checker keeps for a wire denotes the wire's value (`passGates_inv`), an accepted run certifies single
assignment (`passGates_ssa`), hence `checkRefines_sound`.
-/
import MpcVerif.Proofs.PlainEval
import MpcVerif.Model.Equiv

namespace Mpc

theorem AbsVal.denote_neg (s : Store Bool) (A : AbsVal) (n : Bool) :
    (A.neg n).denote s = (A.denote s != n) := by
  cases A with
  | const b => simp [AbsVal.neg, AbsVal.denote]
  | copy w m =>
    simp only [AbsVal.neg, AbsVal.denote]
    cases s.get w <;> cases m <;> cases n <;> rfl

theorem absXor_sound (s : Store Bool) : ∀ (A B : AbsVal) (n : Bool) (v : AbsVal),
    absXor A B n = some v → v.denote s = ((A.denote s != B.denote s) != n)
  | .const a, B, n, _, rfl => by
    rw [AbsVal.denote_neg]
    show (B.denote s != (a != n)) = ((a != B.denote s) != n)
    cases a <;> cases B.denote s <;> cases n <;> rfl
  | .copy v p, .const b, n, _, rfl => by
    rw [AbsVal.denote_neg]
    show ((s.get v != p) != (b != n)) = (((s.get v != p) != b) != n)
    cases s.get v <;> cases p <;> cases b <;> cases n <;> rfl
  | .copy v p, .copy w q, n, u, h => by
    simp only [absXor] at h
    split at h
    · subst w
      cases h
      show ((p != q) != n) = (((s.get v != p) != (s.get v != q)) != n)
      cases s.get v <;> cases p <;> cases q <;> cases n <;> rfl
    · cases h

theorem absAnd_sound (s : Store Bool) : ∀ (A B v : AbsVal),
    absAnd A B = some v → v.denote s = (A.denote s && B.denote s)
  | .const a, B, _, rfl => by cases a <;> simp [AbsVal.denote]
  | .copy v p, .const b, _, rfl => by cases b <;> simp [AbsVal.denote]
  | .copy v p, .copy w q, u, h => by
    simp only [absAnd] at h
    split at h
    · subst w
      cases h
      cases p <;> cases q <;> simp [AbsVal.denote]
    · cases h

theorem absOp_sound (s : Store Bool) (op : Op) (A B v : AbsVal) (h : absOp op A B = some v) :
    v.denote s = op.eval (A.denote s) (B.denote s) := by
  cases op with
  | inv =>
    simp only [absOp, Option.some.injEq] at h
    subst h
    rw [AbsVal.denote_neg]
    simp [Op.eval]
  | xor =>
    have := absXor_sound s A B false v h
    simpa [Op.eval] using this
  | xnor =>
    have := absXor_sound s A B true v h
    rw [this]
    simp only [Op.eval]
    cases A.denote s <;> cases B.denote s <;> rfl
  | and =>
    have := absAnd_sound s A B v h
    simpa [Op.eval] using this
  | or =>
    simp only [absOp, Option.map_eq_some_iff] at h
    obtain ⟨u, hu, hv⟩ := h
    subst hv
    have := absAnd_sound s _ _ u hu
    rw [AbsVal.denote_neg, this, AbsVal.denote_neg, AbsVal.denote_neg]
    simp only [Op.eval]
    cases A.denote s <;> cases B.denote s <;> rfl

def dfn (d : Array Bool) : Nat → Bool := fun w => d.getD w false

theorem getD_true_lt (d : Array Bool) (w : Nat) (h : d.getD w false = true) : w < d.size :=
  Nat.lt_of_not_le fun hle => Bool.false_ne_true ((getD_of_size_le d w false hle).symm.trans h)

theorem dfn_set (d : Array Bool) (o : Nat) (h : o < d.size) :
    dfn (d.setIfInBounds o true) = fun w => w == o || dfn d w := by
  funext w
  simp only [dfn]
  by_cases hw : o = w
  · subst hw; simp [getD_set_eq _ _ _ _ h]
  · rw [getD_set_ne _ _ _ _ _ hw]
    have : (w == o) = false := by simp; exact fun h => hw h.symm
    simp [this]

theorem gateOk_spec {g : Gate} {abs : Array AbsVal} {d : Array Bool} (h : gateOk g abs d = true) :
    dfn d g.in0 = true ∧ (g.op.binary = true → dfn d g.in1 = true) ∧ g.out < abs.size ∧
    g.out < d.size ∧ dfn d g.out = false := by
  simp only [gateOk, Bool.and_eq_true, Bool.not_eq_true', decide_eq_true_eq] at h
  obtain ⟨⟨⟨⟨h0, h1⟩, ha⟩, hd⟩, ho⟩ := h
  exact ⟨h0, fun hb => by rw [hb] at h1; exact h1, ha, hd, ho⟩

theorem passGates_cons {self : Bool} {R : Array Gate} {aR : Array AbsVal} {dR : Array Bool}
    {wit : Array Nat} {g : Gate} {gs : List Gate} {j : Nat} {abs : Array AbsVal} {d : Array Bool}
    {abs' : Array AbsVal} {d' : Array Bool}
    (h : passGates self R aR dR wit (g :: gs) j abs d = some (abs', d')) :
    gateOk g abs d = true ∧ ∃ v, resolveGate self R aR dR wit g j abs d = some v ∧
      passGates self R aR dR wit gs (j + 1) (abs.setIfInBounds g.out v)
        (d.setIfInBounds g.out true) = some (abs', d') := by
  simp only [passGates] at h
  split at h
  · rename_i hok
    refine ⟨hok, ?_⟩
    split at h
    · simp at h
    · rename_i v hv
      exact ⟨v, hv, h⟩
  · simp at h

theorem passGates_ssa {self : Bool} {R : Array Gate} {aR : Array AbsVal} {dR : Array Bool}
    {wit : Array Nat} : ∀ {gs : List Gate} {j : Nat} {abs : Array AbsVal} {d : Array Bool}
    {abs' : Array AbsVal} {d' : Array Bool},
    passGates self R aR dR wit gs j abs d = some (abs', d') →
    SSA d.size gs (dfn d) ∧ (∀ w, dfn d w = true → dfn d' w = true) ∧
    (∀ g ∈ gs, dfn d' g.out = true) := by
  intro gs
  induction gs with
  | nil =>
    intro j abs d abs' d' h
    simp only [passGates, Option.some.injEq, Prod.mk.injEq] at h
    obtain ⟨_, rfl⟩ := h
    exact ⟨⟨rfl, List.nodup_nil, nofun⟩, fun _ h => h, nofun⟩
  | cons g gs ih =>
    intro j abs d abs' d' h
    obtain ⟨hok, v, _, hrest⟩ := passGates_cons h
    obtain ⟨h0, h1, _, hod, hofresh⟩ := gateOk_spec hok
    obtain ⟨⟨hwf, hnd, hout⟩, hmono, hall⟩ := ih hrest
    rw [Array.size_setIfInBounds] at hwf
    rw [dfn_set _ _ hod] at hwf hout hmono
    have hin : ∀ w ∈ g.ins, dfn d w = true := fun w hw => by
      rcases (mem_ins g w).mp hw with rfl | ⟨hb, rfl⟩
      · exact h0
      · exact h1 hb
    have hlater : ∀ g' ∈ gs, g'.out ≠ g.out ∧ dfn d g'.out = false := fun g' hg' => by
      have := hout g' hg'
      simp only [Bool.or_eq_false_iff, beq_eq_false_iff_ne] at this
      exact this
    refine ⟨⟨(wfFrom_cons_iff _ _ _ _).mpr ⟨fun w hw => ⟨hin w hw, getD_true_lt _ _ (hin w hw)⟩, hod, hwf⟩,
        List.nodup_cons.mpr ⟨fun hm => ?_, hnd⟩,
        List.forall_mem_cons.mpr ⟨hofresh, fun g' hg' => (hlater g' hg').2⟩⟩,
      fun w hw => hmono w (by simp [hw]), List.forall_mem_cons.mpr ⟨hmono g.out (by simp), hall⟩⟩
    obtain ⟨g', hg', e⟩ := List.mem_map.mp hm
    exact (hlater g' hg').1 e

/-- On defined wires the abstract value, read in the reference store `sR`,
is the wire's value in the store `sT` of the circuit being processed. -/
def AInv (sR sT : Store Bool) (abs : Array AbsVal) (d : Array Bool) : Prop :=
  ∀ w, d.getD w false = true → (abs.getD w default).denote sR = sT.get w

theorem lookupRef_sound (R : Array Gate) (aR : Array AbsVal) (dR : Array Bool) (sR : Store Bool)
    (hsem : Sem sR R.toList) (hinv : AInv sR sR aR dR) (op : Op) (k : Nat) (A B v : AbsVal)
    (h : lookupRef R aR dR op k A B = some v) :
    v.denote sR = op.eval (A.denote sR) (B.denote sR) := by
  unfold lookupRef at h
  split at h
  · cases h
  · rename_i g hg
    rw [Option.ite_none_right_eq_some] at h
    obtain ⟨hc, h⟩ := h
    cases h
    simp only [Bool.and_eq_true, Bool.or_eq_true, beq_iff_eq] at hc
    obtain ⟨⟨⟨⟨⟨hb, hop⟩, h0⟩, h1⟩, ho⟩, hab⟩ := hc
    have hmem : g ∈ R.toList := Array.mem_toList_iff.mpr (Array.mem_of_getElem? hg)
    rw [hinv g.out ho, hsem g hmem, hop]
    rcases hab with ⟨ha, hb'⟩ | ⟨ha, hb'⟩
    · rw [← ha, ← hb', hinv g.in0 h0, hinv g.in1 h1]
    · rw [← ha, ← hb', hinv g.in0 h0, hinv g.in1 h1]
      exact Op.eval_comm _ hb _ _

theorem resolveGate_sound (self : Bool) (R : Array Gate) (aR : Array AbsVal) (dR : Array Bool)
    (wit : Array Nat) (sR sT : Store Bool) (hsemR : Sem sR R.toList)
    (hmode : if self = true then sT = sR else AInv sR sR aR dR)
    (g : Gate) (j : Nat) (abs : Array AbsVal) (d : Array Bool) (v : AbsVal)
    (hinv : AInv sR sT abs d) (hok : gateOk g abs d = true)
    (hg : sT.get g.out = g.op.eval (sT.get g.in0) (sT.get g.in1))
    (h : resolveGate self R aR dR wit g j abs d = some v) :
    v.denote sR = sT.get g.out := by
  obtain ⟨h0, h1, _, _, _⟩ := gateOk_spec hok
  have hval : ∀ u : AbsVal,
      u.denote sR = g.op.eval ((abs.getD g.in0 default).denote sR)
        ((if g.op.binary = true then abs.getD g.in1 default else default).denote sR) →
      u.denote sR = sT.get g.out := by
    intro u hu
    rw [hu, hg, hinv g.in0 h0]
    cases hb : g.op.binary
    · exact Op.eval_unary _ hb _ _ _
    · rw [if_pos rfl, hinv g.in1 (h1 hb)]
  unfold resolveGate at h
  dsimp only at h
  split at h
  · rename_i u hu
    cases h
    exact hval _ (absOp_sound sR _ _ _ _ hu)
  · by_cases hk : wit.getD j 0 = 0
    · -- no witness: the gate is its own representative (reference circuit only)
      rw [if_pos hk] at h
      cases self
      · cases h
      · cases h
        rw [if_pos rfl] at hmode
        simp [hmode, AbsVal.denote]
    · rw [if_neg hk] at h
      cases self
      · exact hval _ (lookupRef_sound R aR dR sR hsemR hmode _ _ _ _ _ h)
      · rw [if_pos rfl] at hmode
        subst hmode
        exact hval _ (lookupRef_sound R abs d sT hsemR hinv _ _ _ _ _ h)

theorem passGates_inv (self : Bool) (R : Array Gate) (aR : Array AbsVal) (dR : Array Bool)
    (wit : Array Nat) (sR sT : Store Bool) (hsemR : Sem sR R.toList)
    (hmode : if self = true then sT = sR else AInv sR sR aR dR) :
    ∀ (gs : List Gate) (j : Nat) (abs : Array AbsVal) (d : Array Bool)
    (abs' : Array AbsVal) (d' : Array Bool),
    passGates self R aR dR wit gs j abs d = some (abs', d') →
    Sem sT gs → AInv sR sT abs d → AInv sR sT abs' d' := by
  intro gs
  induction gs with
  | nil =>
    intro j abs d abs' d' h _ hinv
    simp only [passGates, Option.some.injEq, Prod.mk.injEq] at h
    obtain ⟨rfl, rfl⟩ := h
    exact hinv
  | cons g gs ih =>
    intro j abs d abs' d' h hsem hinv
    obtain ⟨hok, v, hv, hrest⟩ := passGates_cons h
    obtain ⟨_, _, hoa, hod, _⟩ := gateOk_spec hok
    have hvs := resolveGate_sound self R aR dR wit sR sT hsemR hmode g j abs d v hinv hok
      (hsem g List.mem_cons_self) hv
    refine ih _ _ _ _ _ hrest (fun g' hg' => hsem g' (List.mem_cons_of_mem _ hg')) ?_
    intro w hw
    by_cases hwo : g.out = w
    · subst hwo
      rw [getD_set_eq _ _ _ _ hoa]
      exact hvs
    · rw [getD_set_ne _ _ _ _ _ hwo] at hw ⊢
      exact hinv w hw

theorem dfn_initDef (n nIn : Nat) (h : nIn ≤ n) : dfn (initDef n nIn) = fun w => decide (w < nIn) := by
  funext w
  simp only [dfn, initDef]
  by_cases hw : w < n
  · simp [Array.getD, hw]
  · have : ¬ w < nIn := by omega
    simp [Array.getD, hw, this]

theorem initDef_size (n nIn : Nat) : (initDef n nIn).size = n := by simp [initDef]

theorem initAbs_getD (n nIn w : Nat) (hw : w < nIn) (h : nIn ≤ n) :
    (initAbs n nIn).getD w default = .copy w false := by
  have : w < n := by omega
  simp [initAbs, Array.getD, this, hw]

theorem Circuit.pass_ssa (c : Circuit) {self : Bool} {R : Array Gate} {aR : Array AbsVal}
    {dR : Array Bool} {wit : Array Nat} {abs' : Array AbsVal} {d' : Array Bool}
    (hn : c.nIn ≤ c.numWires)
    (h : passGates self R aR dR wit c.gates 0 (initAbs c.numWires c.nIn)
      (initDef c.numWires c.nIn) = some (abs', d')) :
    SSA c.numWires c.gates c.inputDefined ∧
    ∀ w, d'.getD w false = false → c.nIn ≤ w ∧ ∀ g ∈ c.gates, g.out ≠ w := by
  obtain ⟨hssa, hmono, hall⟩ := passGates_ssa h
  rw [initDef_size, dfn_initDef _ _ hn] at hssa
  rw [dfn_initDef _ _ hn] at hmono
  refine ⟨hssa, fun w hw => ⟨Nat.le_of_not_lt fun hlt => ?_, fun g hg heq => ?_⟩⟩
  · exact Bool.false_ne_true (hw.symm.trans (hmono w (by simp [hlt])))
  · exact Bool.false_ne_true (hw.symm.trans (heq ▸ hall g hg))

theorem absRun_ssa (c : Circuit) (wit : Array Nat) (hn : c.nIn ≤ c.numWires)
    (h : (c.absRun wit).isSome = true) : SSA c.numWires c.gates c.inputDefined := by
  simp only [Circuit.absRun] at h
  cases hr : passGates true c.gates.toArray #[] #[] wit c.gates 0 (initAbs c.numWires c.nIn)
      (initDef c.numWires c.nIn) with
  | none => rw [hr] at h; simp at h
  | some r =>
    obtain ⟨abs', d'⟩ := r
    exact (c.pass_ssa hn hr).1

theorem outAbs_sound (sR sT : Store Bool) (abs : Array AbsVal) (d : Array Bool)
    (hinv : AInv sR sT abs d) (hundef : ∀ w, d.getD w false = false → sT.get w = false) (w : Nat) :
    (outAbs abs d w).denote sR = sT.get w := by
  unfold outAbs
  cases hd : d.getD w false
  · simp only [Bool.false_eq_true, if_false, AbsVal.denote]
    exact (hundef w hd).symm
  · simp only [if_true]
    exact hinv w hd

theorem checkRefines_runs (C C' : Circuit) (witC witC' : Array Nat) (h : checkRefines C C' witC witC' = true) :
    C.nIn = C'.nIn ∧ C.nOut = C'.nOut ∧ C.nIn ≤ C.numWires ∧ C'.nIn ≤ C'.numWires ∧
    C.nOut ≤ C.numWires ∧ C'.nOut ≤ C'.numWires ∧ ∃ absC dC m d',
      passGates true C.gates.toArray #[] #[] witC C.gates 0 (initAbs C.numWires C.nIn)
        (initDef C.numWires C.nIn) = some (absC, dC) ∧
      passGates false C.gates.toArray absC dC witC' C'.gates 0 (initAbs C'.numWires C'.nIn)
        (initDef C'.numWires C'.nIn) = some (m, d') ∧
      ∀ i, i < C.nOut →
        outAbs m d' (C'.numWires - C'.nOut + i) = outAbs absC dC (C.numWires - C.nOut + i) := by
  unfold checkRefines at h
  simp only [Bool.and_eq_true, beq_iff_eq, decide_eq_true_eq] at h
  obtain ⟨⟨⟨⟨⟨⟨hnin, hnout⟩, hn⟩, hn'⟩, ho⟩, ho'⟩, h⟩ := h
  split at h
  · cases h
  · rename_i absC dC hrun
    split at h
    · cases h
    · rename_i m d' hrun'
      simp only [List.all_eq_true, List.mem_range, beq_iff_eq] at h
      exact ⟨hnin, hnout, hn, hn', ho, ho', absC, dC, m, d', hrun, hrun', h⟩

theorem initAbs_inv (sR sT : Store Bool) (n nIn : Nat) (hn : nIn ≤ n)
    (hin : ∀ w, w < nIn → sR.get w = sT.get w) : AInv sR sT (initAbs n nIn) (initDef n nIn) := by
  intro w hw
  have hw' : dfn (initDef n nIn) w = true := hw
  rw [dfn_initDef _ _ hn, decide_eq_true_eq] at hw'
  rw [initAbs_getD _ _ _ hw' hn, ← hin w hw']
  exact Bool.bne_false _

theorem checkRefines_sound (C C' : Circuit) (witC witC' : Array Nat)
    (h : checkRefines C C' witC witC' = true) (x : List Bool) : C'.compute x = C.compute x := by
  obtain ⟨hnin, hnout, hn, hn', _, _, absC, dC, m, d', hrun, hrun', hout⟩ := checkRefines_runs C C' witC witC' h
  obtain ⟨hssaR, hfreeR⟩ := C.pass_ssa hn hrun
  obtain ⟨hssaT, hfreeT⟩ := C'.pass_ssa hn' hrun'
  have hsR := C.sol hn hssaR x
  have hsT := C'.sol hn' hssaT x
  have hsemR' : Sem (C.plainEval x) C.gates.toArray.toList := by simpa using hsR.sem
  have hinvR : AInv (C.plainEval x) (C.plainEval x) absC dC :=
    passGates_inv true _ _ _ _ _ _ hsemR' (by simp) _ _ _ _ _ _ hrun hsR.sem
      (initAbs_inv _ _ _ _ hn fun _ _ => rfl)
  have hinvT : AInv (C.plainEval x) (C'.plainEval x) m d' :=
    passGates_inv false _ _ _ _ _ _ hsemR' (by simpa using hinvR) _ _ _ _ _ _ hrun' hsT.sem
      (initAbs_inv _ _ _ _ hn' fun w hw => by rw [hsT.inp w hw, hsR.inp w (by omega), hnin])
  rw [Circuit.compute_eq, Circuit.compute_eq, ← hnout]
  refine List.map_congr_left fun i hi => ?_
  have heq := hout i (List.mem_range.mp hi)
  rw [← hnout] at heq
  rw [← outAbs_sound _ _ _ _ hinvT fun w hw => hsT.undef w (hfreeT w hw).1 (hfreeT w hw).2, heq,
    outAbs_sound _ _ _ _ hinvR fun w hw => hsR.undef w (hfreeR w hw).1 (hfreeR w hw).2]

end Mpc
