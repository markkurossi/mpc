/-
T1 tie (DESIGN.md 1.3) of the bit-vector helpers of package gmw (gmw/bitvec.go: `bit`,
`setBit`, `xorBitvec`, `expand`, `expandClear`, `copyOf`) to the C10 model Model/Gmw.lean: the
definitions of MpcVerif/Gen/LeafC10.lean, regenerated from the current Go source by `gofacts
translate -group C10` on every run of checks/C10.py, equal `Mpc.Gmw.bit` … on slices of fewer
than 2^63 words (Go: `len` is an `int`); `expand` / `expandClear` for `0 ≤ words` only (the model takes a `Nat`).
`none` = the Go function panics.
-/
import MpcVerif.Gen.LeafC10
import MpcVerif.Proofs.GenTieLib
import MpcVerif.Model.Gmw

namespace Mpc.GenTie
open Mpc Mpc.Gen Mpc.Gen.C10

abbrev W64 := Array (BitVec 64)

theorem copyAt_replicate (n : Nat) (v : W64) :
    copyAt (Array.replicate n 0#64) 0 v = Gmw.mkA n (Gmw.wget v) := by
  apply Array.ext
  · simp [size_copyAt, Gmw.mkA]
  · intro i h1 h2
    rw [getElem_copyAt]
    simp only [Gmw.mkA, Array.getElem_map, Array.getElem_range, Gmw.wget, Array.getD]
    by_cases h : i < v.size <;> simp [h]

theorem tie_bit (v : W64) (i : BitVec 64) (hsz : v.size < 2^63) :
    Gen.C10.bit v i = if 2^63 ≤ i.toNat then none else some (if Gmw.bit v i.toNat then 1#64 else 0#64) := by
  have := i.isLt
  by_cases hi : 2^63 ≤ i.toNat
  · simp [Gen.C10.bit, slt_zero, hi]
  · have hi' : i.toNat < 2^63 := by omega
    have hw := sdiv_nonneg i 64 hi' (by omega)
    have ho := srem_nonneg i 64 hi' (by omega)
    have hwlt : (BitVec.sdiv i 64#64).toNat < 2^63 := by omega
    simp only [Gen.C10.bit, slt_zero, sle_toNat _ _ (by rw [ofNat_size _ hsz]; exact hsz) hwlt, ofNat_size _ hsz,
      hw, ho, and_one, Gmw.bit, Gmw.wget]
    by_cases hb : v.size ≤ i.toNat / 64
    · simp [hi, hb, Array.getD, show ¬ (i.toNat / 64 < v.size) by omega]
    · simp [hi, hb, show ¬ (2^63 ≤ i.toNat / 64) by omega, show ¬ (2^63 ≤ i.toNat % 64) by omega]

theorem tie_copyOf (v : W64) (hsz : v.size < 2^63) : Gen.C10.copyOf v = some v := by
  simp [Gen.C10.copyOf, slt_zero, ofNat_size _ hsz, copyAt_replicate_self, show ¬ (2^63 ≤ v.size) by omega]

theorem tie_expand (v : W64) (w : BitVec 64) (hsz : v.size < 2^63) (hw : w.toNat < 2^63) :
    Gen.C10.expand v w = some (Gmw.expand v w.toNat) := by
  simp only [Gen.C10.expand, Gmw.expand, copyAt_replicate]
  int_norm
  by_cases h : w.toNat ≤ v.size
  · simp [h, show ¬ (v.size < w.toNat) by omega]
  · simp [h, show v.size < w.toNat by omega, show ¬ (2^63 ≤ w.toNat) by omega]

theorem tie_expandClear (v : W64) (w : BitVec 64) (hsz : v.size < 2^63) (hw : w.toNat < 2^63) :
    Gen.C10.expandClear v w = some (Gmw.expandClear v w.toNat) := by
  have hm : ∀ n, Gmw.mkA n (fun _ => 0#64) = Array.replicate n 0#64 := by
    intro n; apply Array.ext <;> simp [Gmw.mkA]
  simp only [Gen.C10.expandClear, Gmw.expandClear]
  int_norm
  by_cases h : w.toNat ≤ v.size
  · simp [h, hm, Nat.max_eq_left h, show ¬ (v.size < w.toNat) by omega]
  · simp [h, hm, show v.size < w.toNat by omega, show ¬ (2^63 ≤ w.toNat) by omega,
      Nat.max_eq_right (show v.size ≤ w.toNat by omega)]

theorem tie_setBit (v : W64) (i b : BitVec 64) (hsz : v.size < 2^63) :
    Gen.C10.setBit v i b =
      if 2^63 ≤ i.toNat ∨ (b ≠ 0#64 ∧ b ≠ 1#64) then none else some (Gmw.setBit v i.toNat (b == 1#64)) := by
  have := i.isLt
  by_cases hi : 2^63 ≤ i.toNat
  · simp [Gen.C10.setBit, slt_zero, hi]
  · have hi' : i.toNat < 2^63 := by omega
    have hw := sdiv_nonneg i 64 hi' (by omega)
    have ho := srem_nonneg i 64 hi' (by omega)
    have hwlt : (BitVec.sdiv i 64#64).toNat < 2^63 := by omega
    have hw1 : (BitVec.sdiv i 64#64 + 1#64).toNat = i.toNat / 64 + 1 := by
      rw [BitVec.toNat_add, hw]; simp; omega
    simp only [Gen.C10.setBit, slt_zero, sle_toNat _ _ (by rw [ofNat_size _ hsz]; exact hsz) hwlt, ofNat_size _ hsz,
      hw, ho, hw1, Gmw.setBit, Gmw.wget, ← copyAt_replicate]
    -- `vv`: the grown copy `n`; the `switch` is the same code on `vv` and on `v`
    generalize hvv : copyAt (Array.replicate (i.toNat / 64 + 1) 0#64) 0 v = vv
    have hsz' : vv.size = i.toNat / 64 + 1 := by simp [← hvv, size_copyAt]
    by_cases hb : v.size ≤ i.toNat / 64
    · guard_norm
      simp only [switch01, hi, false_or, if_neg (show ¬ i.toNat / 64 < v.size by omega),
        apply_ite (Array.setIfInBounds vv (i.toNat / 64))]
      simp only [beq_iff_eq]
    · guard_norm
      simp only [switch01, hi, false_or, if_pos (show i.toNat / 64 < v.size by omega),
        apply_ite (Array.setIfInBounds v (i.toNat / 64))]
      simp only [beq_iff_eq]

/-- For `len(result) < len(bitvec)` Go panics (index out of range). -/
theorem tie_xorBitvec (r v : W64) (hsz : r.size < 2^63) (hle : v.size ≤ r.size) :
    Gen.C10.xorBitvec r v = some (Gmw.xorBitvec r v) := by
  have hv : v.size < 2^63 := by omega
  unfold Gen.C10.xorBitvec
  dsimp only
  -- the trip count, when the loop is written with an index instead of `range`
  simp only [slt_toNat, slt_zero, ofNat_size, BitVec.sub_zero, ite_pos_self, Nat.zero_add, decide_eq_true_eq,
    Nat.two_pow_pos, hv]
  rw [foldl_range_update 0#64 (fun k x => x ^^^ v.getD k 0#64) r _ _ fun k s hk hs => by
    -- `guard_norm` closes `result[i] ^= b`; the `rw` is for a source that writes `b ^ result[i]`
    guard_norm <;> rw [BitVec.xor_comm]]
  rfl

example : Gen.C10.bit #[5#64] 2#64 = some 1#64 ∧ Gen.C10.bit #[5#64] 64#64 = some 0#64 ∧
    Gen.C10.bit #[5#64] (-1#64) = none := by decide
example : Gen.C10.setBit #[] 65#64 1#64 = some #[0#64, 2#64] := by decide
example : Gen.C10.xorBitvec #[1#64, 2#64] #[3#64] = some #[2#64, 2#64] ∧ Gen.C10.xorBitvec #[1#64] #[3#64, 4#64] = none := by
  decide

end Mpc.GenTie
