/-
Calls, argument lists, result lists and stores to l-values of `Ssa.lower`
(Model/MpclLower.lean) against the reference interpreter.  `SoundAt P f` holds the
post-conditions of the seven mutually recursive lowering functions at fuel `f`;
`args_sound`, `call_sound`, `ret_sound` take it for every smaller fuel, the hypothesis
of the induction on the fuel (`lower_all_sound`, Proofs/MpclSsaStmt.lean).
-/
import MpcVerif.Proofs.MpclSsaTree

namespace Mpc.Mpcl.Ssa
open Mpc.Mpcl

/-- The returned values are compared as the caller receives them, under `packResults`: `return f(..)` with a call
of several results returns the one aggregate the interpreter's call delivered, which `packResults` unpacks again. -/
def OutRel (σ : Nat → Nat) (r : LRes) : Outcome → Prop
  | .normal env' => r.tree.eval σ = none ∧ ∃ n', r.nms = some n' ∧ Fits σ n' ∧ env' = NEnv.den σ n'
  | .returned vals => ∃ lv, r.tree.eval σ = some lv ∧ (∀ p ∈ lv, p.1 < 2 ^ p.2.bits) ∧
      packResults lv.length vals = packResults lv.length (lv.map fun p => p.2.decode p.1)

def LPost (nm : NEnv) (r : LRes) (exec : Env → Option Outcome) : Prop := Post nm r.code exec fun σ => OutRel σ r

def ArgsRel (st : Nat → Nat) : List (SArg × Ty) → List Val → Prop
  | [], [] => True
  | (aa, t) :: r, v :: vs => (∃ a wa, argVal st aa = (a, wa) ∧ a < 2 ^ t.bits ∧ v = t.decode a) ∧ ArgsRel st r vs
  | _, _ => False

def resVals (st : Nat → Nat) (rs : List (Nat × Ty)) : List Val := rs.map fun p => p.2.decode (st p.1)

def ResRel (rs : List (Nat × Ty)) (σ : Nat → Nat) (vals : List Val) : Prop :=
  vals = resVals σ rs ∧ ∀ p ∈ rs, σ p.1 < 2 ^ p.2.bits

def CallPost (P : Prog) (f g : Nat) (args : List Expr) (nm : NEnv) (rs : List (Nat × Ty)) (code : List SInstr) : Prop :=
  Post nm code (evalE P f (.call g args)) fun σ v =>
    packResults rs.length (resVals σ rs) = some v ∧ ∀ p ∈ rs, σ p.1 < 2 ^ p.2.bits

structure SoundAt (P : Prog) (f : Nat) : Prop where
  expr : ∀ {e nm next aa t code next'}, lowerE P f nm e next = some (aa, t, code, next') → EPost P f e nm aa t code
  args : ∀ {es nm next avs code next'}, lowerArgs P f nm es next = some (avs, code, next') →
    Post nm code (fun env => es.mapM fun e => evalE P f e env) fun σ => ArgsRel σ avs
  call : ∀ {nm g args next rs code next'}, lowerCall P f nm g args next = some (rs, code, next') →
    CallPost P f g args nm rs code
  ret : ∀ {es nm next rs code next'}, lowerRet P f nm es next = some (rs, code, next') →
    Post nm code (fun env => es.mapM fun e => evalE P f e env) (ResRel rs)
  stmt : ∀ {s nm next r}, lowerS P f nm next s = some r → LPost nm r (execS P f s)
  block : ∀ {ss nm next r}, lowerB P f nm next ss = some r → LPost nm r (execB P f ss)
  loop : ∀ {i cur c hi stp body nm next r}, lowerFor P f i cur c hi stp body nm next = some r →
    LPost nm r (execFor P f i cur c hi stp body)

theorem evalEs_mono (P : Prog) {f f' : Nat} (hle : f ≤ f') {es : List Expr} {env : Env} {vals : List Val}
    (h : es.mapM (fun e => evalE P f e env) = some vals) : es.mapM (fun e => evalE P f' e env) = some vals :=
  defined_imp_iff.2 (mapM_ext (fun e => (fuel_ext P hle).1 e env) es) vals h

theorem packResults_one (r : Val) : packResults 1 [r] = some r := by simp [packResults]

theorem packResults_many (vals : List Val) (k : Nat) (hk : vals.length = k) (h : k ≠ 1) :
    packResults k vals = some (.agg vals) := by
  subst hk
  match vals, h with
  | [], _ => simp [packResults]
  | [_], h => simp at h
  | _ :: _ :: _, _ => simp [packResults]

theorem packResults_some {vals : List Val} {k : Nat} (hk : vals.length = k) : ∃ v, packResults k vals = some v := by
  by_cases h : k = 1
  · subst h
    match vals, hk with
    | [r], _ => exact ⟨r, packResults_one r⟩
  · exact ⟨_, packResults_many vals k hk h⟩

theorem packResults_idem {ws : List Val} {k : Nat} {v : Val} (hk : ws.length = k) (h : packResults k ws = some v) :
    packResults k [v] = some v := by
  by_cases h1 : k = 1
  · subst h1
    match ws, hk, h with
    | [w], _, h => cases (packResults_one w).symm.trans h; exact packResults_one _
  · cases (packResults_many ws k hk h1).symm.trans h
    have : packResults k [.agg ws] = packResults k ws := by
      simp only [packResults, List.length_singleton, hk, Ne.symm h1, if_false, if_true]
    rw [this, packResults_many ws k hk h1]

theorem resVals_nil (st : Nat → Nat) : resVals st [] = [] := rfl

theorem resVals_cons (st : Nat → Nat) (id : Nat) (t : Ty) (rs : List (Nat × Ty)) :
    resVals st ((id, t) :: rs) = t.decode (st id) :: resVals st rs := rfl

theorem resVals_length (st : Nat → Nat) (rs : List (Nat × Ty)) : (resVals st rs).length = rs.length := by
  simp [resVals]

theorem leaf_resVals (st : Nat → Nat) (rs : List (Nat × Ty)) :
    ((rs.map fun p => (st p.1, p.2)).map fun p => p.2.decode p.1) = resVals st rs := by
  simp [resVals, List.map_map, Function.comp]

theorem OutRel.results {σ : Nat → Nat} {r : LRes} {o : Outcome} {rs : List (Nat × Ty)} {cm : List SInstr} {k : Nat}
    (ho : OutRel σ r o) (hm : r.tree.mat r.next = some (rs, cm, k)) (hs : Sat σ cm) :
    (∀ p ∈ rs, σ p.1 < 2 ^ p.2.bits) ∧
      ∃ vals, o = .returned vals ∧ packResults rs.length vals = packResults rs.length (resVals σ rs) := by
  obtain ⟨lv, hev⟩ := eval_some_of_mat σ hm
  cases o with
  | normal env' => rw [ho.1] at hev; cases hev
  | returned vals =>
    obtain ⟨lv', hev', hbd, hrv⟩ := ho
    cases hev'.symm.trans hev
    obtain rfl := mat_sound hm hs hev hbd
    rw [leaf_resVals, List.length_map] at hrv
    exact ⟨fun p hp => hbd _ (List.mem_map_of_mem hp), vals, rfl, hrv⟩

theorem mov_sat {σ : Nat → Nat} {a : SArg} {id w v wa : Nat} (h : Sat σ [movI a id w]) (ha : argVal σ a = (v, wa))
    (hv : v < 2 ^ w) : σ id = v := by
  have := Sat.one.1 h
  simp only [List.map_cons, List.map_nil, ha, evalOp, Option.some.injEq, Nat.mod_eq_of_lt hv] at this
  exact this.symm

theorem args_sound {P : Prog} {n : Nat} (ih : ∀ f, f < n → SoundAt P f) {es : List Expr} {nm : NEnv} {next : Nat}
    {avs : List (SArg × Ty)} {code : List SInstr} {next' : Nat} :
    lowerArgs P n nm es next = some (avs, code, next') →
    Post nm code (fun env => es.mapM fun e => evalE P n e env) fun σ => ArgsRel σ avs := by
  fun_cases lowerArgs P n nm es next <;> intro h <;> cases h <;> replace ih := ih _ (Nat.lt_succ_self _) <;>
    intro σ hfit hsat
  · exact ⟨[], by simp, trivial⟩
  · rename_i f e es _ _ _ _ _ _ _ hl hr
    obtain ⟨hs1, hs2⟩ := Sat.append.1 hsat
    obtain ⟨v, he, hv⟩ := ih.expr hl σ hfit hs1
    obtain ⟨vals, hm, hrelA⟩ := ih.args hr σ hfit hs2
    -- the lowering spends one unit of fuel per list element, the interpreter none
    refine ⟨v :: vals, ?_, hv.lt, hrelA⟩
    simp [List.mapM_cons, evalE_mono P (Nat.le_succ f) e _ _ he, evalEs_mono P (Nat.le_succ f) hm]

theorem bindArgs_sound {σ : Nat → Nat} {ps : List (String × Ty)} {avs : List (SArg × Ty)} {next : Nat} {sc : NScope}
    {code : List SInstr} {next' : Nat} {vals : List Val} :
    bindArgs ps avs next = some (sc, code, next') → ArgsRel σ avs vals → Sat σ code →
    bindParams ps vals = some (NScope.den σ sc) ∧ vals.length = ps.length ∧ NScope.All (Bind.Fits σ) sc := by
  fun_induction bindArgs ps avs next generalizing sc code next' vals <;> intro h <;> cases h <;> intro hrel hsat <;>
    rcases vals with _ | ⟨v, vs⟩ <;> try exact hrel.elim
  · exact ⟨rfl, rfl, .nil _⟩
  · rename_i x t _ _ _ _ _ hte _ _ _ hr ih
    obtain rfl := tyEq_eq hte
    obtain ⟨⟨a, wa, harg, hlt, rfl⟩, hrest⟩ := hrel
    obtain ⟨hs1, hs2⟩ := Sat.cons.1 hsat
    obtain ⟨hb, hlen, hsr⟩ := ih hr hrest hs2
    have hs := mov_sat hs1 harg hlt
    exact ⟨by simp [bindParams, hasTy_decode, hb, NScope.den_cons, Bind.den_val, hs], by simp [hlen],
      .cons (hs ▸ hlt : σ _ < _) hsr⟩

theorem call_sound {P : Prog} {n : Nat} (ih : ∀ f, f < n → SoundAt P f) {nm : NEnv} {g : Nat} {args : List Expr}
    {next : Nat} {rs : List (Nat × Ty)} {code : List SInstr} {next' : Nat} :
    lowerCall P n nm g args next = some (rs, code, next') → CallPost P n g args nm rs code := by
  fun_cases lowerCall P n nm g args next <;> intro h <;> cases h <;> replace ih := ih _ (Nat.lt_succ_self _) <;>
    intro σ hfit hsat
  rename_i fn avs ca n1 sc cb n2 hba r hlb cm hg hla hlen hm
  obtain ⟨h123, h4⟩ := Sat.append.1 hsat
  obtain ⟨h12, h3⟩ := Sat.append.1 h123
  obtain ⟨h1, h2⟩ := Sat.append.1 h12
  obtain ⟨vals, hmap, hrelA⟩ := ih.args hla σ hfit h1
  obtain ⟨hbp, hvl, hsr⟩ := bindArgs_sound hba hrelA h2
  obtain ⟨o, hex, ho⟩ := ih.block hlb σ (.cons hsr (.nil _)) h3
  replace hex : execB P _ fn.body [NScope.den σ sc] = some o := hex
  obtain ⟨hbd, rvals, rfl, hrv⟩ := ho.results hm h4
  obtain ⟨v, hv⟩ := packResults_some (resVals_length σ rs)
  refine ⟨v, ?_, hv, hbd⟩
  simp only [evalE, hg, hmap, hvl, if_true, hbp, hex, ← hlen, hrv]
  exact hv

theorem call_case {P : Prog} {f : Nat} {nm : NEnv} {g : Nat} {args : List Expr} {id : Nat} {t : Ty} {code : List SInstr}
    (hc : CallPost P f g args nm [(id, t)] code) : EPost P (f + 1) (.call g args) nm (.var id t.bits) t code := by
  intro σ hfit hsat
  obtain ⟨v, hev, hpk, hbd⟩ := hc σ hfit hsat
  cases hpk.symm.trans (packResults_one _)
  exact ⟨_, evalE_mono P (Nat.le_succ f) _ _ _ hev, Opnd.fresh rfl (hbd (id, t) (by simp))⟩

theorem ret_sound {P : Prog} {n : Nat} (ih : ∀ f, f < n → SoundAt P f) {es : List Expr} {nm : NEnv} {next : Nat}
    {rs : List (Nat × Ty)} {code : List SInstr} {next' : Nat} :
    lowerRet P n nm es next = some (rs, code, next') →
    Post nm code (fun env => es.mapM fun e => evalE P n e env) (ResRel rs) := by
  fun_cases lowerRet P n nm es next <;> intro h <;> cases h <;> replace ih := ih _ (Nat.lt_succ_self _) <;>
    intro σ hfit hsat
  · exact ⟨[], by simp, resVals_nil σ, nofun⟩
  · rename_i f e es aa t ce n1 rs2 cs hl hr
    obtain ⟨h12, h3⟩ := Sat.append.1 hsat
    obtain ⟨h1, h2⟩ := Sat.append.1 h12
    obtain ⟨v, he, hv⟩ := ih.expr hl σ hfit h1
    obtain ⟨a, wa, harg, haw, rfl⟩ := hv.lt
    obtain ⟨vals, hm, rfl, hbd2⟩ := ih.ret hr σ hfit h3
    have hs := mov_sat h2 harg haw
    refine ⟨_, ?_, rfl, List.forall_mem_cons.2 ⟨hs ▸ haw, hbd2⟩⟩
    simp [List.mapM_cons, evalE_mono P (Nat.le_succ f) e _ _ he, evalEs_mono P (Nat.le_succ f) hm, resVals_cons, hs]

theorem retMovs_sound {σ : Nat → Nat} : ∀ (rs : List (Nat × Ty)) (next : Nat), (∀ p ∈ rs, σ p.1 < 2 ^ p.2.bits) →
    Sat σ (retMovs rs next).2.1 → (retMovs rs next).1.map (fun p => (σ p.1, p.2)) = rs.map (fun p => (σ p.1, p.2))
  | [], _, _, _ => rfl
  | (id, t) :: rs, next, hbd, hsat => by
    obtain ⟨hlt, hbd⟩ := List.forall_mem_cons.1 hbd
    obtain ⟨hs1, hs2⟩ := Sat.cons.1 hsat
    simp only [retMovs, List.map_cons, mov_sat (v := σ id) hs1 rfl hlt, retMovs_sound rs (next + 1) hbd hs2]

/-- `hpath`: a whole variable is stored by a `mov`; that is the `amov` at `off = 0`, `w = bits` when the value fits
(`amovv_all`). -/
theorem storeCode_sound {σ : Nat → Nat} {path : List Acc} {va : SArg} {id off w bits next a wa : Nat}
    (hs : Sat σ (storeCode path va (.var id bits) off w bits next).1)
    (harg : argVal σ va = (a, wa)) (hx : σ id < 2 ^ bits) (hin : off + w ≤ bits)
    (hpath : path = [] → off = 0 ∧ w = bits ∧ a < 2 ^ bits) :
    σ (storeCode path va (.var id bits) off w bits next).2 < 2 ^ bits ∧
      σ (storeCode path va (.var id bits) off w bits next).2 = amovv a (σ id) off w := by
  have hlt := amovv_lt (v := a) hx hin
  rcases path with _ | ⟨_ | _, p⟩ <;> simp only [storeCode] at hs ⊢
  · obtain ⟨rfl, rfl, ha⟩ := hpath rfl
    have e := (mov_sat hs harg ha).trans (amovv_all hx ha).symm
    exact ⟨e ▸ hlt, e⟩
  · obtain ⟨hs1, hs2⟩ := Sat.cons.1 hs
    have h1 := amov_sat hs1 harg hx hin
    have e := (mov_sat (v := σ next) hs2 rfl (h1 ▸ hlt)).trans h1
    exact ⟨e ▸ hlt, e⟩
  · have e := amov_sat hs harg hx hin
    exact ⟨e ▸ hlt, e⟩

theorem assignVal_sound (P : Prog) {σ : Nat → Nat} {nm nm' : NEnv} {lv : LVal} {va : SArg} {tv : Ty} {next n2 a wa : Nat}
    {code : List SInstr} :
    assignVal nm lv va tv next = some (nm', code, n2) → Fits σ nm → argVal σ va = (a, wa) → a < 2 ^ tv.bits →
    Sat σ code →
    Fits σ nm' ∧ ∀ f, assignTo (fun e env => evalE P (f + 1) e env) (NEnv.den σ nm) lv (tv.decode a) = some (NEnv.den σ nm') := by
  fun_cases assignVal nm lv va tv next <;> intro h <;> cases h <;> intro hfit harg hlt hs
  rename_i id tx hf off lt hp hte sc hset
  obtain rfl := tyEq_eq hte
  simp only [sc] at hset hs
  have hx : σ id < 2 ^ tx.bits := hfit.find hf
  obtain ⟨idxs, hmap, hin, hup⟩ := pathOff_sound P σ lv.path tx off lt hp
  have hpath : lv.path = [] → off = 0 ∧ lt.bits = tx.bits ∧ a < 2 ^ tx.bits := by
    intro hnil
    rw [hnil] at hp
    cases hp
    exact ⟨rfl, rfl, hlt⟩
  obtain ⟨hrlt, hr⟩ := storeCode_sound hs harg hx hin hpath
  refine ⟨hfit.set (b := .val _ tx) hrlt hset, fun f => ?_⟩
  simp only [assignTo, NEnv.lookup_den, hf, Option.map_some, Bind.den_val, hmap f, hup, ← hr]
  exact (NEnv.set_den σ lv.x nm (.val _ tx)).trans (by rw [hset]; rfl)

theorem assignAllVals_sound (P : Prog) {σ : Nat → Nat} {lvs : List LVal} {rs : List (Nat × Ty)} {nm nm' : NEnv}
    {next n2 : Nat} {code : List SInstr} :
    assignAllVals nm lvs rs next = some (nm', code, n2) → Fits σ nm → (∀ p ∈ rs, σ p.1 < 2 ^ p.2.bits) → Sat σ code →
    lvs.length = rs.length ∧ Fits σ nm' ∧
      ∀ f, assignAll (fun e env => evalE P (f + 1) e env) (NEnv.den σ nm) lvs (resVals σ rs) = some (NEnv.den σ nm') := by
  fun_induction assignAllVals nm lvs rs next generalizing nm' n2 code <;> intro h <;> cases h <;> intro hfit hbd hsat
  · exact ⟨rfl, hfit, fun f => by simp [assignAll, resVals_nil]⟩
  · rename_i h1 _ _ _ h2 ih
    obtain ⟨hlt, hbd⟩ := List.forall_mem_cons.1 hbd
    obtain ⟨hs1, hs2⟩ := Sat.append.1 hsat
    obtain ⟨hfit1, hat⟩ := assignVal_sound P (a := σ _) h1 hfit rfl hlt hs1
    obtain ⟨hlen, hfit2, hall⟩ := ih h2 hfit1 hbd hs2
    refine ⟨by simp [hlen], hfit2, fun f => ?_⟩
    simp only [resVals_cons, assignAll, hat f, Option.bind_some]
    exact hall f

theorem defineAllVals_sound {σ : Nat → Nat} {xs : List String} {rs : List (Nat × Ty)} {nm nm' : NEnv} {next n2 : Nat}
    {code : List SInstr} :
    defineAllVals nm xs rs next = some (nm', code, n2) → Fits σ nm → (∀ p ∈ rs, σ p.1 < 2 ^ p.2.bits) →
    Sat σ code → xs.length = rs.length ∧ Fits σ nm' ∧ NEnv.den σ nm' = (NEnv.den σ nm).declareAll xs (resVals σ rs) := by
  fun_induction defineAllVals nm xs rs next generalizing nm' n2 code <;> intro h <;> cases h <;>
    intro hfit hbd hsat
  · exact ⟨rfl, hfit, by simp [Env.declareAll]⟩
  · rename_i h2 ih
    obtain ⟨hlt, hbd⟩ := List.forall_mem_cons.1 hbd
    obtain ⟨hs1, hs2⟩ := Sat.cons.1 hsat
    have hs := mov_sat (v := σ _) hs1 rfl hlt
    obtain ⟨hlen, hfit2, hden⟩ := ih h2 (hfit.declare_val hs hlt) hbd hs2
    exact ⟨by simp [hlen], hfit2, by simp only [hden, NEnv.declare_val hs, resVals_cons, Env.declareAll]⟩

end Mpc.Mpcl.Ssa
