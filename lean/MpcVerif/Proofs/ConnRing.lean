/-
The physical buffer ring `Ring` of Model/Conn.lean refines `Sender`.  `Refines r s`: `r` satisfies the ownership invariant
`RingInv` and `r.abs = s`; every operation maps `Refines r s` to `Refines (r.X ..) (s.X ..)` (`*_sim`); the one step with
content is `flush_sim`, where a buffer changes hands.
-/
import MpcVerif.Proofs.ConnSend

namespace Mpc.Conn
open ByteArray

/-- Ownership invariant of the ring: the current buffer, the queued buffers and the free buffers are pairwise distinct,
so no `put` reaches a queued buffer before the writer goroutine has read it; `count` is why `Flush` finds a free buffer
after at most one writer iteration (`forced_eq`). -/
structure RingInv (r : Ring) : Prop where
  nodup : (r.cur :: (r.toW.map Prod.fst ++ r.fromW)).Nodup
  count : 1 + r.toW.length + r.fromW.length = numBuffers
  len_eq : ∀ p ∈ r.toW, p.2 = (getB r.mem p.1).size
  bound : ∀ i ∈ r.cur :: (r.toW.map Prod.fst ++ r.fromW), i < r.mem.size

theorem RingInv_init : RingInv Ring.init := by
  constructor <;> simp [Ring.init, numBuffers]

theorem getB_upd_self (m : Array ByteArray) (i : Nat) (v : ByteArray) (h : i < m.size) :
    getB (upd m i v) i = v := by
  simp [getB, upd, Array.getD_eq_getD_getElem?, h]

theorem getB_upd_ne (m : Array ByteArray) (i j : Nat) (v : ByteArray) (h : j ≠ i) :
    getB (upd m i v) j = getB m j := by
  simp [getB, upd, Array.getD_eq_getD_getElem?, Ne.symm h]

@[simp] theorem size_upd (m : Array ByteArray) (i : Nat) (v : ByteArray) : (upd m i v).size = m.size := by
  simp [upd]

/-- what the writer goroutine reads from memory for a queued slice header -/
def readSlice (mem : Array ByteArray) (p : Nat × Nat) : ByteArray := (getB mem p.1).extract 0 p.2

theorem map_readSlice_upd (m : Array ByteArray) (i : Nat) (v : ByteArray) (l : List (Nat × Nat))
    (h : ∀ p ∈ l, p.1 ≠ i) : l.map (readSlice (upd m i v)) = l.map (readSlice m) :=
  List.map_congr_left fun p hp => by rw [readSlice, getB_upd_ne _ _ _ _ (h p hp)]; rfl

theorem Ring.abs_eq (r : Ring) :
    r.abs = { cur := getB r.mem r.cur, queue := r.toW.map (readSlice r.mem), wire := r.wire,
              sent := r.sent, flushed := r.flushed } := rfl

theorem Ring.writerSteps_eq (m : Nat) (r : Ring) :
    r.writerSteps m = { r with toW := r.toW.drop m,
                               wire := r.wire ++ (r.toW.take m).map (readSlice r.mem),
                               wids := r.wids ++ (r.toW.take m).map Prod.fst,
                               fromW := r.fromW ++ (r.toW.take m).map Prod.fst } := by
  induction m generalizing r with
  | zero => simp [Ring.writerSteps]
  | succ m ih =>
    rw [Ring.writerSteps, ih]
    unfold Ring.writerStep
    cases hq : r.toW with
    | nil => simp [hq]
    | cons h t => simp [List.append_assoc, readSlice]

theorem abs_writerSteps (m : Nat) (r : Ring) : (r.writerSteps m).abs = r.abs.writerSteps m := by
  rw [Ring.writerSteps_eq, Sender.writerSteps_eq]
  simp only [Ring.abs, List.map_drop, List.map_take]
  rfl

theorem ids_perm (m : Nat) (c : List Nat) (t : List (Nat × Nat)) (f : List Nat) :
    (c ++ (t.map Prod.fst ++ f)).Perm
      (c ++ ((t.drop m).map Prod.fst ++ (f ++ (t.take m).map Prod.fst))) := by
  rw [List.perm_iff_count]
  intro a
  have : List.count a (t.map Prod.fst) =
      List.count a ((t.take m).map Prod.fst) + List.count a ((t.drop m).map Prod.fst) := by
    rw [← List.count_append, ← List.map_append, List.take_append_drop]
  simp only [List.count_append, this]
  omega

theorem RingInv_writerSteps (m : Nat) (r : Ring) (hi : RingInv r) : RingInv (r.writerSteps m) := by
  rw [Ring.writerSteps_eq]
  have hperm := ids_perm m [r.cur] r.toW r.fromW
  constructor
  · exact hperm.nodup_iff.mp hi.nodup
  · simp only [List.length_append, List.length_map, List.length_drop, List.length_take]
    have := hi.count
    omega
  · exact fun p hp => hi.len_eq p (List.mem_of_mem_drop hp)
  · exact fun i hmem => hi.bound i (hperm.mem_iff.mpr hmem)

theorem not_queued {c : Nat} {t : List (Nat × Nat)} {f : List Nat}
    (h : (c :: (t.map Prod.fst ++ f)).Nodup) : ∀ p ∈ t, p.1 ≠ c :=
  fun _ hp heq => (List.nodup_cons.mp h).1 (List.mem_append_left _ (heq ▸ List.mem_map_of_mem hp))

structure Refines (r : Ring) (s : Sender) : Prop where
  inv : RingInv r
  abs : r.abs = s

theorem Refines_init : Refines Ring.init Sender.init := ⟨RingInv_init, rfl⟩

theorem put_sim (b : ByteArray) {r : Ring} {s : Sender} (h : Refines r s) : Refines (r.put b) (s.put b) := by
  obtain ⟨hi, rfl⟩ := h
  have hne := not_queued hi.nodup
  have hcur : r.cur < r.mem.size := hi.bound r.cur List.mem_cons_self
  refine ⟨⟨hi.nodup, hi.count, fun p hp => ?_, fun i hmem => ?_⟩, ?_⟩
  · exact (hi.len_eq p hp).trans (congrArg _ (getB_upd_ne _ _ _ _ (hne p hp)).symm)
  · exact (size_upd ..).symm ▸ hi.bound i hmem
  · rw [Ring.abs_eq, Ring.abs_eq]
    simp only [Ring.put, Sender.put]
    rw [getB_upd_self _ _ _ hcur, map_readSlice_upd _ _ _ _ hne]

/-- `<-c.fromWriter` blocks exactly when the value-level `Flush` is forced to wait. -/
theorem forced_eq (r : Ring) (hi : RingInv r) :
    (if r.fromW.isEmpty then 1 else 0) = r.toW.length + 1 + 1 - numBuffers := by
  have := hi.count
  cases hf : r.fromW with
  | nil => simp [hf, numBuffers] at this ⊢; omega
  | cons a t => simp [hf, numBuffers] at this ⊢; omega

theorem flush_sim (k : Nat) {r : Ring} {s : Sender} (h : Refines r s) : Refines (r.flush k) (s.flush k) := by
  obtain ⟨hi, rfl⟩ := h
  have hcur : r.abs.cur = getB r.mem r.cur := rfl
  by_cases h0 : (getB r.mem r.cur).size = 0
  · rw [Ring.flush, if_pos h0, Sender.flush_empty k _ (hcur ▸ h0)]
    exact ⟨hi, rfl⟩
  have hQ : r.abs.queue ++ [r.abs.cur] =
      (r.toW ++ [(r.cur, (getB r.mem r.cur).size)]).map (readSlice r.mem) := by
    rw [List.map_append, Ring.abs_eq]
    simp only [List.map_cons, List.map_nil, readSlice, ByteArray.extract_zero_size]
  have hK : max k ((r.abs.queue ++ [r.abs.cur]).length + 1 - numBuffers) =
      max k (if r.fromW.isEmpty then 1 else 0) := by
    rw [forced_eq r hi, hQ, List.length_map, List.length_append]; rfl
  rw [Ring.flush, if_neg h0, Sender.flush_nonempty _ _ (hcur ▸ h0 : r.abs.cur.size ≠ 0), hK, hQ]
  simp only [Ring.writerSteps_eq]
  have hTl : (r.toW ++ [(r.cur, (getB r.mem r.cur).size)]).length = r.toW.length + 1 := by simp
  have hTi : (r.toW ++ [(r.cur, (getB r.mem r.cur).size)]).map Prod.fst =
      r.toW.map Prod.fst ++ [r.cur] := by simp
  have hTs : ∀ p ∈ r.toW ++ [(r.cur, (getB r.mem r.cur).size)], p.2 = (getB r.mem p.1).size := by
    intro p hp
    rcases List.mem_append.mp hp with hp | hp
    · exact hi.len_eq p hp
    · rw [List.mem_singleton.mp hp]
  have hK1 : r.fromW = [] → 1 ≤ max k (if r.fromW.isEmpty then 1 else 0) := by
    intro hf; rw [hf]; exact Nat.le_max_right _ _
  generalize r.toW ++ [(r.cur, (getB r.mem r.cur).size)] = T at hTl hTi hTs ⊢
  generalize max k (if r.fromW.isEmpty then 1 else 0) = K at hK1 ⊢
  cases hf : r.fromW ++ (T.take K).map Prod.fst with
  | nil =>
    -- unreachable: a writer iteration always returns a buffer
    have := congrArg List.length hf
    simp only [List.length_append, List.length_map, List.length_take, List.length_nil] at this
    have := hK1 (List.eq_nil_of_length_eq_zero (by omega))
    omega
  | cons i t =>
    simp only []
    -- the owners after the flush are a permutation of the owners before
    have hP : (i :: ((T.drop K).map Prod.fst ++ t)).Perm (r.cur :: (r.toW.map Prod.fst ++ r.fromW)) := by
      have p2 := ids_perm K [] T r.fromW
      rw [List.nil_append, List.nil_append, hf, hTi, List.append_assoc] at p2
      exact (List.perm_middle.symm.trans p2.symm).trans List.perm_middle
    have hnd := hP.nodup_iff.mpr hi.nodup
    have hi_notin := not_queued hnd
    have hib : i < r.mem.size := hi.bound i (hP.mem_iff.mp List.mem_cons_self)
    constructor
    · refine ⟨hnd, ?_, fun p hp => ?_, fun j hj => ?_⟩
      · have := hP.length_eq
        have := hi.count
        simp only [List.length_cons, List.length_append, List.length_map] at *
        omega
      · exact (hTs p (List.mem_of_mem_drop hp)).trans
          (congrArg _ (getB_upd_ne _ _ _ _ (hi_notin p hp)).symm)
      · exact (size_upd ..).symm ▸ hi.bound j (hP.mem_iff.mp hj)
    · rw [Ring.abs_eq]
      simp only []
      rw [getB_upd_self _ _ _ hib, map_readSlice_upd _ _ _ _ hi_notin, List.map_drop, List.map_take]
      rfl

theorem flushS_sim (sch : Sched) {r : Ring} {s : Sender} (h : Refines r s) :
    Refines (r.flushS sch) (s.flushS sch) := by
  obtain ⟨hi, rfl⟩ := h
  exact flush_sim (sch r.flushed) ⟨hi, rfl⟩

theorem reserve_sim (sch : Sched) (n : Nat) {r : Ring} {s : Sender} (h : Refines r s) :
    Refines (r.reserve sch n) (s.reserve sch n) := by
  unfold Ring.reserve Sender.reserve
  rw [show s.cur = getB r.mem r.cur from h.abs ▸ rfl]
  split
  · exact flushS_sim sch h
  · exact h

theorem Ring.sendDataLoop_eq (sch : Sched) (val : ByteArray) (off : Nat) (r : Ring) :
    r.sendDataLoop sch val off =
      if off < val.size then
        let r1 := r.reserve sch 1
        let n := min (writeBufSize - (getB r1.mem r1.cur).size) (val.size - off)
        if n = 0 then r1 else (r1.put (val.extract off (off + n))).sendDataLoop sch val (off + n)
      else r := by
  have : (if (getB r.mem r.cur).size ≥ writeBufSize then r.flushS sch else r) = r.reserve sch 1 :=
    ite_cond_congr (propext Nat.lt_add_one_iff.symm)
  rw [Ring.sendDataLoop, this]
  rfl

theorem sendDataLoop_sim (sch : Sched) (val : ByteArray) (off : Nat) {r : Ring} {s : Sender} (h : Refines r s) :
    Refines (r.sendDataLoop sch val off) (s.sendDataLoop sch val off) := by
  induction hm : val.size - off using Nat.strongRecOn generalizing off r s with | _ m ih =>
  rw [Ring.sendDataLoop_eq, Sender.sendDataLoop_eq]
  have h1 := reserve_sim sch 1 h
  generalize r.reserve sch 1 = r1 at h1 ⊢
  generalize s.reserve sch 1 = s1 at h1 ⊢
  simp only []
  rw [show s1.cur = getB r1.mem r1.cur from h1.abs ▸ rfl]
  split
  · next hlt =>
    split
    · exact h1
    · next hn =>
      exact ih _ (hm ▸ Nat.sub_lt_sub_left hlt (Nat.lt_add_of_pos_right (Nat.pos_of_ne_zero hn)))
        _ (put_sim _ h1) rfl
  · exact h

theorem sendVal_sim (sch : Sched) (v : Val) {r : Ring} {s : Sender} (h : Refines r s) :
    Refines (r.sendVal sch v) (s.sendVal sch v) := by
  cases v with
  | byte b | u16 n | u32 n | label n => exact put_sim _ (reserve_sim sch _ h)
  | data d | str d => exact sendDataLoop_sim sch d 0 (put_sim _ (reserve_sim sch 4 h))
  | sizes l =>
    exact List.foldl_rel (r := Refines) (put_sim _ (reserve_sim sch 4 h))
      fun x _ _ _ h0 => put_sim _ (reserve_sim sch 4 h0)

theorem run_sim (sch : Sched) (ops : List Op) {r : Ring} {s : Sender} (h : Refines r s) :
    Refines (r.run sch ops) (s.run sch ops) := by
  refine List.foldl_rel (r := Refines) h fun o _ a b h0 => ?_
  cases o with
  | send v => exact sendVal_sim sch v h0
  | flush => exact flushS_sim sch h0
  | needSpace n => exact reserve_sim sch n h0

theorem abs_init : Ring.init.abs = Sender.init := rfl

end Mpc.Conn
