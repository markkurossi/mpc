/-
Helper lemmas for C05, wire side (Model/Stream.lean): the byte-level facts behind the gate-record
codec, well-formed records, and the invariant of streamed garbling, streamed
evaluation and plain evaluation on the two-level (global + temporary) wire
store.
-/
import MpcVerif.Model.Stream
import MpcVerif.Proofs.Garble
import MpcVerif.Proofs.BytesLemmas

namespace Mpc.Stream
open Mpc LabelAlg

theorem beVal_eq (bs : List Nat) : beVal bs = ByteList.val id bs := rfl

theorem beBytes_eq : ∀ k n, beBytes k n = ByteList.digits id k n
  | 0, _ => rfl
  | k + 1, n => by rw [beBytes, ByteList.digits, beBytes_eq k]; rfl

theorem length_beBytes (k n : Nat) : (beBytes k n).length = k := by rw [beBytes_eq, ByteList.length_digits]

theorem beVal_beBytes (k n : Nat) (h : n < 256 ^ k) : beVal (beBytes k n) = n := by
  rw [beBytes_eq, beVal_eq, ByteList.val_digits id id fun _ _ => rfl, Nat.mod_eq_of_lt h]

theorem takeN_append (xs rest : List Nat) : takeN xs.length (xs ++ rest) = some (xs, rest) := by
  simp [takeN]

theorem takeN_beBytes (k n : Nat) (rest : List Nat) :
    takeN k (beBytes k n ++ rest) = some (beBytes k n, rest) := by
  have := takeN_append (beBytes k n) rest
  rwa [length_beBytes] at this

variable {L : Type}

theorem takeRows_append [LabelBytes L] (rows : List L) (rest : List Nat) :
    takeRows rows.length (rows.flatMap LabelBytes.toBytes ++ rest) = some (rows, rest) := by
  induction rows with
  | nil => simp [takeRows]
  | cons x xs ih =>
    simp only [List.length_cons, List.flatMap_cons, List.append_assoc, takeRows]
    have h := takeN_append (LabelBytes.toBytes x) (xs.flatMap LabelBytes.toBytes ++ rest)
    rw [LabelBytes.length_toBytes] at h
    rw [h]
    simp only [ih, LabelBytes.ofBytes_toBytes]

theorem codeOp_opCode (op : Op) : codeOp (opCode op) = some op := by
  cases op <;> rfl

theorem opByte_spec (op : Op) (a b c s : Bool) :
    codeOp (opByte op a b c s % 16) = some op ∧
    (opByte op a b c s / 128 % 2 == 1) = a ∧
    (opByte op a b c s / 64 % 2 == 1) = b ∧
    (opByte op a b c s / 32 % 2 == 1) = c ∧
    (opByte op a b c s / 16 % 2 == 1) = s := by
  revert a b c s
  cases op <;> decide +kernel

/-- What the round trip `C05_stream_step` needs of a record; `hinv`: an INV record
is sent without a second id and `decodeRec` returns 0 for it. -/
structure RecWF (g : GateRec L) : Prop where
  ha : g.a < 2 ^ 32
  hb : g.b < 2 ^ 32
  hc : g.c < 2 ^ 32
  hrows : g.rows.length = g.op.rows
  hinv : g.op = .inv → g.b = 0

theorem RecWF.lt_width {g : GateRec L} (h : RecWF g) :
    g.a < 256 ^ (if g.short then 2 else 4) ∧ g.b < 256 ^ (if g.short then 2 else 4) ∧
      g.c < 256 ^ (if g.short then 2 else 4) := by
  cases hs : g.short
  · exact ⟨h.ha, h.hb, h.hc⟩
  · simp only [GateRec.short, Bool.and_eq_true, decide_eq_true_eq] at hs
    simp only [if_true]
    omega

section store
variable {α : Type} [Inhabited α]

theorem AStore.get_set (s : AStore α) (i j : Nat) (v : α) :
    (s.set i v).get j = if i = j then v else s.get j := by
  by_cases h : i = j
  · subst h; simp [AStore.get, AStore.set]
  · simp [AStore.get, AStore.set, h]

theorem SStore.get_set (s : SStore α) (l m : Loc) (v : α) :
    (s.set l v).get m = if l = m then v else s.get m := by
  obtain ⟨lt, li⟩ := l
  obtain ⟨mt, mi⟩ := m
  cases lt <;> cases mt <;> simp [SStore.get, SStore.set, AStore.get_set, Prod.ext_iff]

end store

variable [LabelAlg L]

def SInv (r : L) (D : Loc → Prop) (gs : SStore (WireL L)) (es : SStore L) (ps : SStore Bool) : Prop :=
  ∀ l, D l → Rel r (gs.get l) (es.get l) (ps.get l)

theorem SInv.set {r : L} {D : Loc → Prop} {gs : SStore (WireL L)} {es : SStore L} {ps : SStore Bool}
    (hinv : SInv r D gs es ps) (lc : Loc) {gw : WireL L} {e : L} {v : Bool} (hrel : Rel r gw e v) :
    SInv r (fun l => l = lc ∨ D l) (gs.set lc gw) (es.set lc e) (ps.set lc v) :=
  Rel.update hinv hrel (SStore.get_set gs lc · gw) (SStore.get_set es lc · e) (SStore.get_set ps lc · v)

/-- `definedAfter` and `wfFrom` of Model/Circuit.lean on the two-level store. -/
def sDefinedAfter (cx : SCtx) : List Gate → (Loc → Prop) → (Loc → Prop)
  | [], D => D
  | g :: gs, D => sDefinedAfter cx gs (fun l => l = cx.locate g.out ∨ D l)

def sWf (cx : SCtx) : List Gate → (Loc → Prop) → Prop
  | [], _ => True
  | g :: gs, D =>
    D (cx.locate g.in0) ∧ (g.op.binary = true → D (cx.locate g.in1)) ∧
      sWf cx gs (fun l => l = cx.locate g.out ∨ D l)

theorem streamPlain_cons (cx : SCtx) (g : Gate) (gs : List Gate) (ps : SStore Bool) :
    streamPlain cx (g :: gs) ps = streamPlain cx gs (streamPlainGate cx g ps) := rfl

end Mpc.Stream
