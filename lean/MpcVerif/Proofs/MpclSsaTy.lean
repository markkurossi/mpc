/-
Types and aggregate values for the correctness proof of `Ssa.lower`
(Model/MpclLower.lean): `Ty.decode` / `Val.encode` on arbitrary (nested) types,
reading a component of the flattened wire pattern (`slice`) and replacing one
(`amov`).  Arrays are reduced to structs of equal fields (`decode_arr`).
-/
import MpcVerif.Model.Mpcl
import MpcVerif.Proofs.ListLemmas

namespace Mpc.Mpcl.Ssa
open Mpc.Mpcl

theorem shr_mod (a s w : Nat) : (a >>> s) % 2 ^ w = (a % 2 ^ (s + w)) >>> s := by
  rw [Nat.shiftRight_eq_div_pow, Nat.shiftRight_eq_div_pow, Nat.pow_add, Nat.mod_mul_right_div_self]

theorem shr_mod_congr {a b s w : Nat} (e : a % 2 ^ (s + w) = b % 2 ^ (s + w)) :
    (a >>> s) % 2 ^ w = (b >>> s) % 2 ^ w := by
  rw [shr_mod, shr_mod, e]

theorem mod_pow_add (a s w : Nat) : a % 2 ^ (s + w) = a % 2 ^ s + 2 ^ s * ((a >>> s) % 2 ^ w) := by
  rw [Nat.pow_add, Nat.mod_mul, Nat.shiftRight_eq_div_pow]

/-- The pattern `amov` writes: bits `[off, off+w)` of `n` replaced by `v`. -/
def amovv (v n off w : Nat) : Nat := n % 2 ^ off + (v % 2 ^ w) <<< off + (n >>> (off + w)) <<< (off + w)

theorem amovv_eq (v n off w : Nat) :
    amovv v n off w = n % 2 ^ off + 2 ^ off * (v % 2 ^ w + 2 ^ w * (n >>> (off + w))) := by
  unfold amovv
  rw [Nat.shiftLeft_eq, Nat.shiftLeft_eq, Nat.pow_add, Nat.add_assoc, Nat.mul_add]
  congr 1
  rw [Nat.mul_comm (v % 2 ^ w), Nat.mul_comm (n >>> _), Nat.mul_assoc]

theorem amovv_low (v n off w s : Nat) (h : s ≤ off) : amovv v n off w % 2 ^ s = n % 2 ^ s := by
  rw [amovv_eq]
  obtain ⟨d, rfl⟩ := Nat.exists_eq_add_of_le h
  rw [Nat.pow_add, Nat.mul_assoc, Nat.add_mul_mod_self_left, ← Nat.pow_add, mod_two_pow_mod _ (Nat.le_add_right s d)]

theorem amovv_shr_off (v n off w : Nat) : amovv v n off w >>> off = v % 2 ^ w + 2 ^ w * (n >>> (off + w)) := by
  rw [amovv_eq, Nat.shiftRight_eq_div_pow, Nat.add_mul_div_left _ _ (Nat.two_pow_pos off),
    Nat.div_eq_of_lt (Nat.mod_lt _ (Nat.two_pow_pos off)), Nat.zero_add]

theorem amovv_mid (v n off w : Nat) : (amovv v n off w >>> off) % 2 ^ w = v % 2 ^ w := by
  rw [amovv_shr_off, Nat.add_mul_mod_self_left, Nat.mod_mod]

theorem amovv_high (v n off w : Nat) : amovv v n off w >>> (off + w) = n >>> (off + w) := by
  rw [Nat.shiftRight_add, amovv_shr_off, Nat.shiftRight_eq_div_pow, Nat.add_mul_div_left _ _ (Nat.two_pow_pos w),
    Nat.div_eq_of_lt (Nat.mod_lt _ (Nat.two_pow_pos w)), Nat.zero_add]

theorem amovv_shr (v n off w s : Nat) : amovv v n (s + off) w >>> s = amovv v (n >>> s) off w := by
  rw [amovv_eq, amovv_eq, mod_pow_add n s off, Nat.add_assoc, Nat.pow_add, Nat.mul_assoc, ← Nat.mul_add,
    Nat.shiftRight_eq_div_pow, Nat.add_mul_div_left _ _ (Nat.two_pow_pos s),
    Nat.div_eq_of_lt (Nat.mod_lt _ (Nat.two_pow_pos s)), Nat.zero_add, Nat.add_assoc s off w, Nat.shiftRight_add n s (off + w)]

theorem testBit_amovv (v n off w i : Nat) :
    (amovv v n off w).testBit i =
      if i < off then n.testBit i else if i < off + w then v.testBit (i - off) else n.testBit i := by
  by_cases h1 : i < off
  · simp only [h1, if_true]
    have e := amovv_low v n off w off (Nat.le_refl _)
    have := congrArg (fun x => x.testBit i) e
    simpa [Nat.testBit_mod_two_pow, h1] using this
  · simp only [h1, if_false]
    obtain ⟨j, rfl⟩ := Nat.exists_eq_add_of_le (Nat.le_of_not_lt h1)
    rw [← Nat.testBit_shiftRight, Nat.add_sub_cancel_left]
    by_cases h2 : j < w
    · have h2' : off + j < off + w := by omega
      simp only [h2', if_true]
      have := congrArg (fun x => x.testBit j) (amovv_mid v n off w)
      simpa [Nat.testBit_mod_two_pow, h2] using this
    · have h2' : ¬ off + j < off + w := by omega
      simp only [h2', if_false]
      obtain ⟨d, rfl⟩ := Nat.exists_eq_add_of_le (Nat.le_of_not_lt h2)
      rw [← Nat.testBit_shiftRight, ← Nat.shiftRight_add, amovv_high, Nat.testBit_shiftRight, Nat.add_assoc]

theorem amovv_lt {v n off w b : Nat} (hn : n < 2 ^ b) (hb : off + w ≤ b) : amovv v n off w < 2 ^ b := by
  apply Nat.lt_pow_two_of_testBit
  intro i hi
  rw [testBit_amovv, testBit_of_lt_two_pow hn hi, if_neg (by omega), if_neg (by omega)]

theorem amovv_all {v n w : Nat} (hn : n < 2 ^ w) (hv : v < 2 ^ w) : amovv v n 0 w = v := by
  simp [amovv, Nat.mod_one, Nat.mod_eq_of_lt hv, Nat.shiftRight_eq_zero n w hn]

theorem amovv_nested (v n o1 o2 w b : Nat) (h : o2 + w ≤ b) :
    amovv (amovv v (n >>> o1) o2 w) n o1 b = amovv v n (o1 + o2) w := by
  apply Nat.eq_of_testBit_eq
  intro i
  simp only [testBit_amovv, Nat.testBit_shiftRight]
  by_cases h1 : i < o1
  · simp [h1, show i < o1 + o2 by omega]
  · have e : o1 + (i - o1) = i := by omega
    have e' : i - o1 - o2 = i - (o1 + o2) := by omega
    simp only [h1, if_false, e, e']
    by_cases h2 : i < o1 + o2
    · simp [h2, show i - o1 < o2 by omega]
    · by_cases h3 : i < o1 + o2 + w
      · simp [h2, h3, show ¬ i - o1 < o2 by omega, show i - o1 < o2 + w by omega, show i < o1 + b by omega]
      · simp [h2, h3, show ¬ i - o1 < o2 by omega, show ¬ i - o1 < o2 + w by omega]

theorem bitsList_append (as bs : List Ty) : bitsList (as ++ bs) = bitsList as + bitsList bs := by
  induction as with
  | nil => simp [bitsList]
  | cons t ts ih => simp [bitsList, ih, Nat.add_assoc]

theorem bitsList_replicate (k : Nat) (e : Ty) : bitsList (List.replicate k e) = k * e.bits := by
  induction k with
  | zero => simp [bitsList]
  | succ k ih => simp [List.replicate_succ, bitsList, ih, Nat.succ_mul, Nat.add_comm]

theorem bitsList_take_le (ts : List Ty) (k : Nat) : bitsList (ts.take k) ≤ bitsList ts := by
  have := bitsList_append (ts.take k) (ts.drop k)
  rw [List.take_append_drop] at this
  omega

theorem field_inside {ts : List Ty} {k : Nat} {t : Ty} (h : ts[k]? = some t) :
    bitsList (ts.take k) + t.bits ≤ bitsList ts := by
  have := bitsList_take_le ts (k + 1)
  rwa [List.take_add_one, h, bitsList_append] at this

theorem decodeList_length (ts : List Ty) (n : Nat) : (decodeList ts n).length = ts.length := by
  induction ts generalizing n with
  | nil => simp [decodeList]
  | cons t ts ih => simp [decodeList, ih]

theorem decodeList_get (ts : List Ty) (n k : Nat) :
    (decodeList ts n)[k]? = (ts[k]?).map fun t => t.decode (n >>> bitsList (ts.take k)) := by
  induction ts generalizing n k with
  | nil => simp [decodeList]
  | cons t ts ih =>
    cases k with
    | zero => simp [decodeList, bitsList]
    | succ k => simp [decodeList, ih, List.take_succ_cons, bitsList, Nat.shiftRight_add]

theorem range_map_decode (e : Ty) (k n : Nat) :
    ((List.range k).map fun i => e.decode (n >>> (i * e.bits))) = decodeList (List.replicate k e) n := by
  induction k generalizing n with
  | zero => simp [decodeList]
  | succ k ih =>
    rw [List.range_succ_eq_map, List.map_cons, List.map_map, List.replicate_succ, decodeList, ← ih]
    simp only [Nat.zero_mul, Nat.shiftRight_zero, List.cons.injEq, true_and]
    apply List.map_congr_left
    intro i _
    simp only [Function.comp, Nat.succ_mul, Nat.add_comm (i * e.bits), Nat.shiftRight_add]

theorem decode_arr (e : Ty) (k n : Nat) : Ty.decode (.arr k e) n = .agg (decodeList (List.replicate k e) n) := by
  simp only [Ty.decode, range_map_decode]

theorem bits_arr (e : Ty) (k : Nat) : (Ty.arr k e).bits = bitsList (List.replicate k e) := by
  simp only [Ty.bits, bitsList_replicate]

theorem bitsList_take_replicate {k i : Nat} (e : Ty) (h : i ≤ k) :
    bitsList ((List.replicate k e).take i) = i * e.bits := by
  rw [List.take_replicate, Nat.min_eq_left h, bitsList_replicate]

/-- The array case also receives `Q` of the array's `k` equal fields, so that a proof treats an array
as the struct `decode_arr` / `bits_arr` make of it. -/
theorem Ty.induction {P : Ty → Prop} {Q : List Ty → Prop} (bool : P .bool) (int : ∀ w, P (.int w))
    (uint : ∀ w, P (.uint w)) (arr : ∀ k e, P e → Q (List.replicate k e) → P (.arr k e))
    (struct : ∀ fs, Q fs → P (.struct fs)) (nil : Q []) (cons : ∀ t ts, P t → Q ts → Q (t :: ts)) :
    (∀ t, P t) ∧ ∀ ts, Q ts :=
  have rep k e (he : P e) : Q (List.replicate k e) := by
    induction k with
    | zero => exact nil
    | succ k ih => exact cons e _ he ih
  ⟨Ty.rec bool int uint (fun k e he => arr k e he (rep k e he)) struct nil cons,
   Ty.rec_1 (motive_1 := P) bool int uint (fun k e he => arr k e he (rep k e he)) struct nil cons⟩

theorem decode_congr_all :
    (∀ (t : Ty) (a b : Nat), a % 2 ^ t.bits = b % 2 ^ t.bits → t.decode a = t.decode b) ∧
    ∀ (ts : List Ty) (a b : Nat), a % 2 ^ bitsList ts = b % 2 ^ bitsList ts → decodeList ts a = decodeList ts b :=
  Ty.induction
    (bool := fun a b h => by
      simp only [Ty.bits, Nat.pow_one] at h
      simp [Ty.decode, h])
    (int := fun w a b h => by simp only [Ty.bits] at h; simp [Ty.decode, h])
    (uint := fun w a b h => by simp only [Ty.bits] at h; simp [Ty.decode, h])
    (arr := fun k e _ ih a b h => by rw [decode_arr, decode_arr, ih a b (by rwa [bits_arr] at h)])
    (struct := fun fs ih a b h => by simp only [Ty.decode, ih a b h])
    (nil := fun _ _ _ => rfl)
    (cons := fun t ts iht ihts a b h => by
      simp only [bitsList] at h
      simp only [decodeList]
      rw [iht a b (mod_two_pow_congr (Nat.le_add_right _ _) h), ihts _ _ (shr_mod_congr h)])

theorem decode_congr (t : Ty) (a b : Nat) : a % 2 ^ t.bits = b % 2 ^ t.bits → t.decode a = t.decode b :=
  decode_congr_all.1 t a b

theorem decodeList_congr : ∀ (ts : List Ty) (a b : Nat), a % 2 ^ bitsList ts = b % 2 ^ bitsList ts →
    decodeList ts a = decodeList ts b :=
  decode_congr_all.2

theorem decodeRep_congr : ∀ (e : Ty) (k : Nat) (a b : Nat), a % 2 ^ (k * e.bits) = b % 2 ^ (k * e.bits) →
    decodeList (List.replicate k e) a = decodeList (List.replicate k e) b :=
  fun e k a b h => decodeList_congr _ a b (by rwa [bitsList_replicate])

theorem decode_mod_bits (t : Ty) (a : Nat) : t.decode (a % 2 ^ t.bits) = t.decode a :=
  decode_congr t _ _ (Nat.mod_mod _ _)

theorem decodeList_set : ∀ (ts : List Ty) (k : Nat) (t : Ty) (n v : Nat), ts[k]? = some t →
    decodeList ts (amovv v n (bitsList (ts.take k)) t.bits) = (decodeList ts n).set k (t.decode v)
  | [], k, t, n, v, h => by simp at h
  | t0 :: ts, 0, t, n, v, h => by
    simp only [List.getElem?_cons_zero, Option.some.injEq] at h
    subst h
    simp only [List.take_zero, bitsList, decodeList, List.set_cons_zero]
    rw [decode_congr t0 (amovv v n 0 t0.bits) v (by have := amovv_mid v n 0 t0.bits; simpa using this)]
    congr 1
    have := amovv_high v n 0 t0.bits
    simp only [Nat.zero_add] at this
    rw [this]
  | t0 :: ts, k + 1, t, n, v, h => by
    simp only [List.getElem?_cons_succ] at h
    simp only [List.take_succ_cons, bitsList, decodeList, List.set_cons_succ]
    rw [decode_congr t0 (amovv v n (t0.bits + bitsList (ts.take k)) t.bits) n
      (amovv_low v n _ _ _ (Nat.le_add_right _ _)), amovv_shr, decodeList_set ts k t (n >>> t0.bits) v h]

theorem encode_decode_all : (∀ (t : Ty) (a : Nat), (t.decode a).encode = (a % 2 ^ t.bits, t.bits)) ∧
    ∀ (ts : List Ty) (a : Nat), encodeList (decodeList ts a) = (a % 2 ^ bitsList ts, bitsList ts) :=
  Ty.induction
    (bool := fun a => by
      simp only [Ty.decode, Val.encode, Ty.bits, Nat.pow_one]
      have : a % 2 = 0 ∨ a % 2 = 1 := by omega
      rcases this with h | h <;> simp [h])
    (int := fun w a => by simp [Ty.decode, Val.encode, Ty.bits])
    (uint := fun w a => by simp [Ty.decode, Val.encode, Ty.bits])
    (arr := fun k e _ ih a => by rw [decode_arr, Val.encode, ih a, bits_arr])
    (struct := fun fs ih a => by simp only [Ty.decode, Val.encode, Ty.bits, ih a])
    (nil := fun a => by simp [decodeList, encodeList, bitsList, Nat.mod_one])
    (cons := fun t ts iht ihts a => by
      simp only [decodeList, encodeList, bitsList, iht a, ihts (a >>> t.bits)]
      rw [mod_pow_add a t.bits (bitsList ts), Nat.shiftLeft_eq, Nat.mul_comm])

theorem encode_decode (t : Ty) (a : Nat) : (t.decode a).encode = (a % 2 ^ t.bits, t.bits) :=
  encode_decode_all.1 t a

theorem encodeList_decode : ∀ (ts : List Ty) (a : Nat),
    encodeList (decodeList ts a) = (a % 2 ^ bitsList ts, bitsList ts) :=
  encode_decode_all.2

theorem encodeRep_decode : ∀ (e : Ty) (k : Nat) (a : Nat),
    encodeList (decodeList (List.replicate k e) a) = (a % 2 ^ (k * e.bits), k * e.bits) :=
  fun e k a => by rw [encodeList_decode, bitsList_replicate]

theorem encode_decode_lt (t : Ty) {a : Nat} (h : a < 2 ^ t.bits) : (t.decode a).encode = (a, t.bits) := by
  rw [encode_decode, Nat.mod_eq_of_lt h]

theorem allHaveTy_replicate : ∀ (vs : List Val) (e : Ty),
    listHasTy vs (List.replicate vs.length e) = allHaveTy vs e
  | [], _ => by simp [listHasTy, allHaveTy]
  | v :: vs, e => by simp [List.replicate_succ, listHasTy, allHaveTy, allHaveTy_replicate vs e]

theorem hasTy_decode_all : (∀ (t : Ty) (a : Nat), (t.decode a).hasTy t = true) ∧
    ∀ (ts : List Ty) (a : Nat), listHasTy (decodeList ts a) ts = true :=
  Ty.induction
    (bool := fun a => by simp [Ty.decode, Val.hasTy])
    (int := fun w a => by simp [Ty.decode, Val.hasTy, Nat.mod_lt _ (Nat.two_pow_pos w)])
    (uint := fun w a => by simp [Ty.decode, Val.hasTy, Nat.mod_lt _ (Nat.two_pow_pos w)])
    (arr := fun k e _ ih a => by
      have h := allHaveTy_replicate (decodeList (List.replicate k e) a) e
      rw [decodeList_length, List.length_replicate, ih a] at h
      simp only [decode_arr, Val.hasTy, decodeList_length, List.length_replicate, beq_self_eq_true, ← h, Bool.true_and])
    (struct := fun fs ih a => by simp only [Ty.decode, Val.hasTy, ih a])
    (nil := fun _ => by simp [decodeList, listHasTy])
    (cons := fun t ts iht ihts a => by simp [decodeList, listHasTy, iht a, ihts (a >>> t.bits)])

theorem hasTy_decode (t : Ty) (a : Nat) : (t.decode a).hasTy t = true :=
  hasTy_decode_all.1 t a

theorem listHasTy_decode : ∀ (ts : List Ty) (a : Nat), listHasTy (decodeList ts a) ts = true :=
  hasTy_decode_all.2

theorem hasTyRep_decode : ∀ (e : Ty) (k : Nat) (a : Nat),
    listHasTy (decodeList (List.replicate k e) a) (List.replicate k e) = true :=
  fun e k => listHasTy_decode (List.replicate k e)

theorem sameShape_decode_all : (∀ (t : Ty) (a b : Nat), (t.decode a).sameShape (t.decode b) = true) ∧
    ∀ (ts : List Ty) (a b : Nat), sameShapeList (decodeList ts a) (decodeList ts b) = true :=
  Ty.induction
    (bool := fun a b => by simp [Ty.decode, Val.sameShape])
    (int := fun w a b => by simp [Ty.decode, Val.sameShape])
    (uint := fun w a b => by simp [Ty.decode, Val.sameShape])
    (arr := fun k e _ ih a b => by simp only [decode_arr, Val.sameShape, ih a b])
    (struct := fun fs ih a b => by simp only [Ty.decode, Val.sameShape, ih a b])
    (nil := fun _ _ => by simp [decodeList, sameShapeList])
    (cons := fun t ts iht ihts a b => by
      simp [decodeList, sameShapeList, iht a b, ihts (a >>> t.bits) (b >>> t.bits)])

theorem sameShape_decode (t : Ty) (a b : Nat) : (t.decode a).sameShape (t.decode b) = true :=
  sameShape_decode_all.1 t a b

theorem sameShapeList_decode : ∀ (ts : List Ty) (a b : Nat),
    sameShapeList (decodeList ts a) (decodeList ts b) = true :=
  sameShape_decode_all.2

theorem sameShapeRep_decode : ∀ (e : Ty) (k : Nat) (a b : Nat),
    sameShapeList (decodeList (List.replicate k e) a) (decodeList (List.replicate k e) b) = true :=
  fun e k => sameShapeList_decode (List.replicate k e)

theorem zero_decode_all : (∀ (t : Ty), t.zero = t.decode 0) ∧ ∀ (ts : List Ty), zeroList ts = decodeList ts 0 :=
  Ty.induction
    (bool := by simp [Ty.zero, Ty.decode])
    (int := fun w => by simp [Ty.zero, Ty.decode])
    (uint := fun w => by simp [Ty.zero, Ty.decode])
    (arr := fun k e ih _ => by
      simp only [Ty.zero, Ty.decode, Nat.zero_shiftRight, ← ih]
      congr 1
      apply List.ext_getElem
      · simp
      · intro i h1 h2; simp)
    (struct := fun fs ih => by simp only [Ty.zero, Ty.decode, ih])
    (nil := by simp [zeroList, decodeList])
    (cons := fun t ts iht ihts => by simp [zeroList, decodeList, iht, ihts])

theorem zero_decode (t : Ty) : t.zero = t.decode 0 := zero_decode_all.1 t

theorem zeroList_decode : ∀ (ts : List Ty), zeroList ts = decodeList ts 0 := zero_decode_all.2

end Mpc.Mpcl.Ssa
