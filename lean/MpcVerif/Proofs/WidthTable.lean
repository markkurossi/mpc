/-
Lemmas about lookups in a width-indexed table handed over in any order (Model/WidthTable.lean): the lookup by key,
and the best-so-far loop `argmin`, which returns a minimal entry (`argmin_spec`), the head of the list when that is
one (`argmin_head_minimal`).
-/
import MpcVerif.Model.WidthTable
import MpcVerif.Proofs.Determinism

namespace Mpc.WT

theorem lookup?_eq_find? (l : List (Nat × Nat)) (k : Nat) : lookup? l k = (l.find? (·.1 = k)).map (·.2) := by
  induction l with
  | nil => rfl
  | cons e rest ih => rw [lookup?, List.find?_cons, ih]; split <;> simp [*]

theorem lookup?_some_mem (l : List (Nat × Nat)) (k v : Nat) (h : lookup? l k = some v) : (k, v) ∈ l := by
  rw [lookup?_eq_find?, Option.map_eq_some_iff] at h
  obtain ⟨e, he, rfl⟩ := h
  have hk := List.find?_some he
  exact of_decide_eq_true hk ▸ List.mem_of_find?_eq_some he

theorem lookup?_none (l : List (Nat × Nat)) (k : Nat) (h : lookup? l k = none) : ∀ e ∈ l, e.1 ≠ k := by
  rw [lookup?_eq_find?, Option.map_eq_none_iff, List.find?_eq_none] at h
  exact fun e he => of_decide_eq_false (Bool.not_eq_true _ ▸ h e he)

/-- A map has one value per key. -/
def Functional (l : List (Nat × Nat)) : Prop := ∀ a ∈ l, ∀ b ∈ l, a.1 = b.1 → a.2 = b.2

theorem Functional.perm {l₁ l₂ : List (Nat × Nat)} (h : Functional l₁) (hp : l₁.Perm l₂) : Functional l₂ :=
  fun a ha b hb => h a (hp.mem_iff.mpr ha) b (hp.mem_iff.mpr hb)

theorem lookup?_perm (l₁ l₂ : List (Nat × Nat)) (hp : l₁.Perm l₂) (hf : Functional l₁) (k : Nat) :
    lookup? l₁ k = lookup? l₂ k := by
  rw [lookup?_eq_find?, lookup?_eq_find?]
  exact Det.find?_map_perm _ hp fun a ha b hb pa pb =>
    hf a ha b hb ((of_decide_eq_true pa).trans (of_decide_eq_true pb).symm)

theorem lexLt_iff (a b : Nat × Nat) : lexLt a b = true ↔ [a.1, a.2] < [b.1, b.2] := by
  simp [lexLt, List.cons_lt_cons_iff]

theorem lexLt_eq_false (a b : Nat × Nat) : lexLt a b = false ↔ [b.1, b.2] ≤ [a.1, a.2] := by
  rw [← Bool.not_eq_true, lexLt_iff, List.not_lt]

theorem lexLt_asymm (a b : Nat × Nat) (h : lexLt a b = true) : lexLt b a = false :=
  (lexLt_eq_false b a).mpr (List.le_of_lt ((lexLt_iff a b).mp h))

theorem lexLt_false_trans (a b c : Nat × Nat) (h₁ : lexLt a b = false) (h₂ : lexLt b c = false) : lexLt a c = false :=
  (lexLt_eq_false a c).mpr (List.le_trans ((lexLt_eq_false b c).mp h₂) ((lexLt_eq_false a b).mp h₁))

theorem lexLt_false_antisymm (a b : Nat × Nat) (h₁ : lexLt a b = false) (h₂ : lexLt b a = false) : a = b := by
  injection List.le_antisymm ((lexLt_eq_false b a).mp h₂) ((lexLt_eq_false a b).mp h₁) with e1 e2
  injection e2 with e2
  exact Prod.ext e1 e2

section argmin
variable {α : Type} (rank : α → Nat × Nat)

def Minimal (l : List α) (a : α) : Prop := ∀ e ∈ l, lexLt (rank e) (rank a) = false

theorem argmin_nil : argmin rank ([] : List α) = none := rfl

theorem foldl_argminStep_spec (l : List α) : ∀ b : α,
    ∃ b', l.foldl (argminStep rank) (some b) = some b' ∧ b' ∈ b :: l ∧ Minimal rank (b :: l) b' := by
  induction l with
  | nil =>
    exact fun b => ⟨b, rfl, List.mem_cons_self, List.forall_mem_cons.mpr ⟨by simp [lexLt], fun _ h => nomatch h⟩⟩
  | cons e t ih =>
    intro b
    rw [List.foldl_cons, argminStep]
    split
    · next hlt =>
      -- `e` replaces `b`, and whatever ends up best is not above `e`, hence not above `b`
      obtain ⟨b', hf, hm, hmin⟩ := ih e
      have he := hmin e List.mem_cons_self
      exact ⟨b', hf, List.mem_cons_of_mem _ hm,
        List.forall_mem_cons.mpr ⟨lexLt_false_trans _ _ _ (lexLt_asymm _ _ hlt) he, hmin⟩⟩
    · next hlt =>
      obtain ⟨b', hf, hm, hmin⟩ := ih b
      have ⟨hb, ht⟩ := List.forall_mem_cons.mp hmin
      refine ⟨b', hf, ?_, List.forall_mem_cons.mpr
        ⟨hb, List.forall_mem_cons.mpr ⟨lexLt_false_trans _ _ _ (Bool.not_eq_true _ ▸ hlt) hb, ht⟩⟩⟩
      rcases List.mem_cons.mp hm with h | h
      · exact h ▸ List.mem_cons_self
      · exact List.mem_cons_of_mem _ (List.mem_cons_of_mem _ h)

theorem argmin_spec : ∀ (l : List α), l ≠ [] → ∃ b, argmin rank l = some b ∧ b ∈ l ∧ Minimal rank l b
  | [], hne => absurd rfl hne
  | a :: t, _ => foldl_argminStep_spec rank t a

theorem argmin_head_minimal (a : α) (t : List α) (h : ∀ e ∈ t, lexLt (rank e) (rank a) = false) :
    argmin rank (a :: t) = some a :=
  List.foldlRecOn (motive := (· = some a)) t _ rfl fun _ hb e he => by
    rw [hb, argminStep, if_neg (by rw [h e he]; exact Bool.noConfusion)]

theorem Minimal.perm {l₁ l₂ : List α} {a : α} (h : Minimal rank l₁ a) (hp : l₁.Perm l₂) : Minimal rank l₂ a :=
  fun e he => h e (hp.mem_iff.mpr he)

theorem argmin_perm_invariant {β : Type} (val : α → β) (l₁ l₂ : List α) (hp : l₁.Perm l₂)
    (huniq : ∀ a ∈ l₁, ∀ b ∈ l₁, Minimal rank l₁ a → Minimal rank l₁ b → val a = val b) :
    (argmin rank l₁).map val = (argmin rank l₂).map val := by
  by_cases h₁ : l₁ = []
  · subst h₁
    have : l₂ = [] := hp.symm.eq_nil
    subst this; rfl
  · have h₂ : l₂ ≠ [] := fun h => h₁ (by subst h; exact hp.eq_nil)
    obtain ⟨b₁, e₁, m₁, min₁⟩ := argmin_spec rank l₁ h₁
    obtain ⟨b₂, e₂, m₂, min₂⟩ := argmin_spec rank l₂ h₂
    rw [e₁, e₂]
    simp only [Option.map_some]
    rw [huniq b₁ m₁ b₂ (hp.mem_iff.mpr m₂) min₁ (Minimal.perm rank min₂ hp.symm)]

theorem argmin_tie_witnesses [DecidableEq α] (l : List α) (a b : α) (ha : a ∈ l) (hb : b ∈ l)
    (mina : Minimal rank l a) (minb : Minimal rank l b) :
    ∃ l₁ l₂ : List α, l₁.Perm l ∧ l₂.Perm l ∧ argmin rank l₁ = some a ∧ argmin rank l₂ = some b :=
  ⟨a :: l.erase a, b :: l.erase b, (List.perm_cons_erase ha).symm, (List.perm_cons_erase hb).symm,
    argmin_head_minimal rank a _ fun e he => mina e (List.mem_of_mem_erase he),
    argmin_head_minimal rank b _ fun e he => minb e (List.mem_of_mem_erase he)⟩

/-- `huniq` of `argmin_perm_invariant` is needed: of two minimal entries the one handed over first wins. -/
theorem argmin_tie_order_dependent [DecidableEq α] {β : Type} (val : α → β) (l : List α) (a b : α) (ha : a ∈ l) (hb : b ∈ l)
    (mina : Minimal rank l a) (minb : Minimal rank l b) (hne : val a ≠ val b) :
    ∃ l₁ l₂ : List α, l₁.Perm l ∧ l₂.Perm l ∧ (argmin rank l₁).map val ≠ (argmin rank l₂).map val := by
  obtain ⟨l₁, l₂, p₁, p₂, e₁, e₂⟩ := argmin_tie_witnesses rank l a b ha hb mina minb
  exact ⟨l₁, l₂, p₁, p₂, by rw [e₁, e₂]; exact fun h => hne (Option.some.inj h)⟩

end argmin

theorem lexLt_rankNear (bits : Nat) (e a : Nat × Nat) :
    lexLt (rankNear bits e) (rankNear bits a) = false ↔ dist a.1 bits ≤ dist e.1 bits := by
  have h : lexLt (rankNear bits e) (rankNear bits a) = decide (dist e.1 bits < dist a.1 bits) := by
    show (decide (dist e.1 bits < dist a.1 bits) || (dist e.1 bits == dist a.1 bits && decide (0 < 0))) = _
    simp
  rw [h]
  simp [Nat.not_lt]

def Closest (l : List (Nat × Nat)) (bits : Nat) (a : Nat × Nat) : Prop := ∀ e ∈ l, dist a.1 bits ≤ dist e.1 bits

theorem minimal_rankNear (l : List (Nat × Nat)) (bits : Nat) (a : Nat × Nat) :
    Minimal (rankNear bits) l a ↔ Closest l bits a := by
  constructor
  · intro h e he; exact (lexLt_rankNear bits e a).mp (h e he)
  · intro h e he; exact (lexLt_rankNear bits e a).mpr (h e he)

end Mpc.WT
