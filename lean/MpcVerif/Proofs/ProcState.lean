/-
C08 — lemmas about memoising facilities in the process state (Model/ProcState.lean): a table whose
entries were built for their keys (`Sound`) answers as the uncached facility does exactly when stored objects
answer for their key (`Answers`, `memo_invisible_iff`); and about the step of the code as it is, which hands
the state on.
-/
import MpcVerif.Model.ProcState

namespace Mpc.PSt

variable {ρ κ ω ο : Type} [DecidableEq κ]

theorem lookup_mem {k : κ} {o : ω} {t : Table κ ω} (h : lookup k t = some o) : (k, o) ∈ t := by
  induction t with
  | nil => cases h
  | cons e t ih =>
    rw [lookup] at h
    split at h
    · next hk => cases h; exact hk ▸ List.mem_cons_self
    · exact List.mem_cons_of_mem _ (ih h)

omit [DecidableEq κ] in
theorem sound_nil (F : Facility ρ κ ω ο) : Sound F ([] : Table κ ω) := by
  intro k o h; simp at h

theorem serve_sound (F : Facility ρ κ ω ο) (cap : Nat) (t : Table κ ω) (r : ρ) (hs : Sound F t) :
    Sound F (serve F cap t r).2 := by
  unfold serve
  cases hl : lookup (F.key r) t with
  | some o => simpa using hs
  | none =>
    intro k o hm
    have hm' := List.mem_of_mem_take hm
    rcases List.mem_cons.mp hm' with h | h
    · exact ⟨r, by simp_all⟩
    · exact hs k o h

/-- What a hit of `serve` needs of the stored object.  `Factors` (one object per key) is the special case in which the
two objects are equal. -/
def Answers (F : Facility ρ κ ω ο) : Prop := ∀ a b, F.key a = F.key b → F.use (F.build a) b = F.use (F.build b) b

omit [DecidableEq κ] in
theorem Factors.answers {F : Facility ρ κ ω ο} (hf : Factors F) : Answers F :=
  fun a b hk => by rw [hf a b hk]

theorem serve_out (F : Facility ρ κ ω ο) (hf : Answers F) (cap : Nat) (t : Table κ ω) (r : ρ) (hs : Sound F t) :
    (serve F cap t r).1 = direct F r := by
  unfold serve direct
  cases hl : lookup (F.key r) t with
  | none => rfl
  | some o =>
    obtain ⟨r', hk, rfl⟩ := hs _ _ (lookup_mem hl)
    exact hf r' r hk

theorem compileMemo_sound (F : Facility ρ κ ω ο) (cap : Nat) (reqs : List ρ) : ∀ t : Table κ ω,
    Sound F t → Sound F (compileMemo F cap reqs t).2 := by
  induction reqs with
  | nil => exact fun _ hs => hs
  | cons r rs ih => exact fun t hs => ih _ (serve_sound F cap t r hs)

theorem compileMemo_out (F : Facility ρ κ ω ο) (hf : Answers F) (cap : Nat) (reqs : List ρ) : ∀ t : Table κ ω,
    Sound F t → (compileMemo F cap reqs t).1 = reqs.map (direct F) := by
  induction reqs with
  | nil => exact fun _ _ => rfl
  | cons r rs ih =>
    intro t hs
    simp only [compileMemo, List.map_cons]
    rw [serve_out F hf cap t r hs, ih _ (serve_sound F cap t r hs)]

theorem runMemoHistory_sound (F : Facility ρ κ ω ο) (cap : Nat) (h : List (List ρ)) : ∀ t : Table κ ω,
    Sound F t → Sound F (runMemoHistory F cap h t) :=
  fun _ hs => List.foldlRecOn h _ hs fun t ht reqs _ => compileMemo_sound F cap reqs t ht

theorem table_after_one (F : Facility ρ κ ω ο) (cap : Nat) (hc : 1 ≤ cap) (a : ρ) :
    runMemoHistory F cap [[a]] [] = [(F.key a, F.build a)] := by
  obtain ⟨c, rfl⟩ : ∃ c, cap = c + 1 := ⟨cap - 1, (Nat.sub_add_cancel hc).symm⟩
  exact congrArg (_ :: ·) List.take_nil

theorem compileMemo_fresh (F : Facility ρ κ ω ο) (cap : Nat) (b : ρ) : (compileMemo F cap [b] []).1 = [direct F b] :=
  rfl

theorem compileMemo_after_one (F : Facility ρ κ ω ο) (cap : Nat) (hc : 1 ≤ cap) (a b : ρ) (hk : F.key a = F.key b) :
    (compileMemo F cap [b] (runMemoHistory F cap [[a]] [])).1 = [F.use (F.build a) b] := by
  rw [table_after_one F cap hc a]
  simp only [compileMemo, serve, lookup, if_pos hk]

/-- A slot of capacity 1 after the history `[[a]]` already shows a failure of `Answers`. -/
theorem memo_invisible_iff (F : Facility ρ κ ω ο) :
    (∀ (cap : Nat) (history : List (List ρ)) (reqs : List ρ),
      (compileMemo F cap reqs (runMemoHistory F cap history [])).1 = reqs.map (direct F)) ↔ Answers F :=
  ⟨fun h a b hk => List.singleton_inj.mp
      ((compileMemo_after_one F 1 (Nat.le_refl 1) a b hk).symm.trans (h 1 [[a]] [b])),
    fun hf cap history reqs =>
      compileMemo_out F hf cap reqs _ (runMemoHistory_sound F cap history [] (sound_nil F))⟩

theorem runHistory_stepNow {σ π : Type} (h : List (Src × π)) (st : σ) :
    runHistory (stepNow (σ := σ) (π := π)) st h = st :=
  List.foldlRecOn (motive := (· = st)) h _ rfl fun _ hs _ _ => hs

end Mpc.PSt
