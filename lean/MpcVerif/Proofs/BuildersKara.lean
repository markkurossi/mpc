/-
Karatsuba multiplier (C07): `karatsuba_num`, exact for every array threshold `limit ≥ 3` and all widths, from the
adder, subtractor, shift and array-multiplier units and the identity `karatsuba_algebra`; `newMultiplier_num`:
`NewMultiplier` on either target (Karatsuba with the thresholds of `multiplierArrayThreshold`, the Wallace tree).
-/
import MpcVerif.Proofs.BuildersMul
import MpcVerif.Proofs.BuildersKS
import MpcVerif.Proofs.BuildersWallace

namespace Mpc.Bld
open Mpc

theorem modeq_iff_dvd (x y M : Nat) : x % M = y % M ↔ (M : Int) ∣ (x : Int) - y := by
  rw [Int.dvd_iff_emod_eq_zero, ← Int.emod_eq_emod_iff_emod_sub_eq_zero]
  constructor
  · intro h; rw [← Int.natCast_emod, ← Int.natCast_emod, h]
  · intro h; rw [← Int.natCast_emod, ← Int.natCast_emod] at h; exact Int.ofNat_inj.mp h

/-- The Karatsuba recombination modulo `M`:
`z2·P² + (z1 - z2 - z0)·P + z0 ≡ (Al + P·Ah)·(Bl + P·Bh)`. -/
theorem karatsuba_algebra (M P Al Ah Bl Bh z0 z1 z2 sub1 sub2 sh1 sh2 add1 R : Nat)
    (h0 : z0 % M = (Al * Bl) % M) (h2 : z2 % M = (Ah * Bh) % M)
    (h1 : z1 % M = ((Al + Ah) * (Bl + Bh)) % M)
    (hs1 : (sub1 + z2) % M = z1 % M) (hs2 : (sub2 + z0) % M = sub1 % M)
    (hsh1 : sh1 % M = (z2 * (P * P)) % M) (hsh2 : sh2 % M = (sub2 * P) % M)
    (ha1 : add1 % M = (sh1 + sh2) % M) (hr : R % M = (add1 + z0) % M) :
    R % M = ((Al + P * Ah) * (Bl + P * Bh)) % M := by
  rw [modeq_iff_dvd] at *
  obtain ⟨k0, e0⟩ := h0
  obtain ⟨k2, e2⟩ := h2
  obtain ⟨k1, e1⟩ := h1
  obtain ⟨ks1, es1⟩ := hs1
  obtain ⟨ks2, es2⟩ := hs2
  obtain ⟨kh1, eh1⟩ := hsh1
  obtain ⟨kh2, eh2⟩ := hsh2
  obtain ⟨ka, ea⟩ := ha1
  obtain ⟨kr, er⟩ := hr
  refine ⟨kr + ka + kh1 + kh2 + (P : Int) * ks2 + (P : Int) * ks1 + (P : Int) * k1 + (1 - (P : Int)) * k0 +
    ((P : Int) * P - P) * k2, ?_⟩
  push_cast at *
  have key : (R : Int) - ((Al : Int) + P * Ah) * (Bl + P * Bh) =
      ((R : Int) - (add1 + z0)) + ((add1 : Int) - (sh1 + sh2)) + ((sh1 : Int) - z2 * (P * P)) +
      ((sh2 : Int) - sub2 * P) + (P : Int) * ((sub2 : Int) + z0 - sub1) + (P : Int) * ((sub1 : Int) + z2 - z1) +
      (P : Int) * ((z1 : Int) - (Al + Ah) * (Bl + Bh)) + (1 - (P : Int)) * ((z0 : Int) - Al * Bl) +
      ((P : Int) * P - P) * ((z2 : Int) - Ah * Bh) := by grind
  rw [key, er, ea, eh1, eh2, es2, es1, e1, e0, e2]
  grind

theorem mul_mod_width (A B k nr : Nat) (hA : A < 2 ^ k) (hB : B < 2 ^ k) :
    ((A * B) % 2 ^ (min (k * 2) nr)) % 2 ^ nr = (A * B) % 2 ^ nr := by
  have : A * B < 2 ^ (k * 2) := by rw [Nat.mul_two, Nat.pow_add]; exact Nat.mul_lt_mul'' hA hB
  rw [Nat.min_comm, mod_min_pow _ _ _ this, Nat.mod_mod]

variable {s : St} {inp : List Bool}

theorem karaCombine_num (hwf : WF s inp) (gmw : Bool) {z0 z1 z2 : List Nat} {n0 n1 n2 Z0 Z1 Z2 : Nat}
    (nr mid : Nat) (hnr : 0 < nr) (hmid : mid * 2 ≤ nr) (h0 : Num s inp z0 n0 Z0) (h1 : Num s inp z1 n1 Z1)
    (h2 : Num s inp z2 n2 Z2) {Al Ah Bl Bh : Nat}
    (v0 : Z0 % 2 ^ nr = (Al * Bl) % 2 ^ nr) (v2 : Z2 % 2 ^ nr = (Ah * Bh) % 2 ^ nr)
    (v1 : Z1 % 2 ^ nr = ((Al + Ah) * (Bl + Bh)) % 2 ^ nr) :
    Spec inp s (do
        let sub1 ← newSubtractor gmw z1 z2 nr
        let sub2 ← newSubtractor gmw sub1 z0 nr
        let shift1 ← shiftLeft z2 nr (mid * 2)
        let shift2 ← shiftLeft sub2 nr mid
        let add1 ← newAdder gmw shift1 shift2 nr
        let r ← newAdder gmw add1 z0 nr
        pure (some r))
      (fun z s' => ∃ r, z = some r ∧
        Num s' inp r nr (((Al + 2 ^ mid * Ah) * (Bl + 2 ^ mid * Bh)) % 2 ^ nr)) := by
  refine Spec.bind (newSubtractor_num hwf gmw nr h1 h2 hnr) ?_
  intro sub1 s1 e1 ⟨S1, hs1, w1⟩
  refine Spec.bind (newSubtractor_num e1.wf gmw nr hs1 (h0.mono e1) hnr) ?_
  intro sub2 s2 e2 ⟨S2, hs2, w2⟩
  refine Spec.bind (shiftLeft_num e2.wf nr (mid * 2) (h2.mono (e1.trans e2)) hmid) ?_
  intro sh1 s3 e3 hsh1
  refine Spec.bind (shiftLeft_num e3.wf nr mid (hs2.mono e3) (by omega)) ?_
  intro sh2 s4 e4 hsh2
  refine Spec.bind (newAdder_num e4.wf gmw nr (hsh1.mono e4) hsh2 (max_pos_left hnr) hnr) ?_
  intro add1 s5 e5 ha1
  refine (newAdder_num e5.wf gmw nr ha1 (h0.mono ((((e1.trans e2).trans e3).trans e4).trans e5))
    (max_pos_left hnr) hnr).map ?_
  intro r s6 _ hr
  refine ⟨r, rfl, hr.cast rfl ?_⟩
  refine (Nat.mod_mod _ _).symm.trans (karatsuba_algebra (2 ^ nr) (2 ^ mid) Al Ah Bl Bh Z0 Z1 Z2 S1 S2 _ _ _ _ v0 v2 v1
    w1 w2 ?_ ?_ (Nat.mod_mod ..) (Nat.mod_mod ..))
  · rw [Nat.mod_mod, Nat.mul_two, Nat.pow_add]
  · rw [Nat.mod_mod]

/-- `NewKaratsubaMultiplier` between named numbers: `(A·B) mod 2^nr` for every array threshold `limit ≥ 3`,
every operand and result width. -/
theorem karatsuba_num (gmw : Bool) (limit : Nat) (hlim : 3 ≤ limit) :
    ∀ (fuel : Nat) (a b : List Nat) (nr : Nat) {na nb A B : Nat} {s : St} (_ : WF s inp), Num s inp a na A →
    Num s inp b nb B → 0 < max na nb → 0 < nr → min (max na nb) nr ≤ fuel →
    Spec inp s (karatsuba gmw limit (fuel + 1) a b nr) (fun z s' => ∃ r, z = some r ∧
      Num s' inp r nr ((A * B) % 2 ^ nr)) := by
  intro fuel
  induction fuel with
  | zero => intro a b nr na nb A B s _ _ _ hne hnr hm; omega
  | succ fuel ih =>
    intro a b nr na nb A B s hwf ha hb hne hnr hm
    rw [karatsuba]
    refine Spec.bind (zeroPad_take_num hwf nr ha hb) ?_
    intro p s1 e1 ⟨hx, hy⟩
    simp only
    rw [Nat.mul_mod]
    generalize p.1.take nr = x at *
    generalize p.2.take nr = y at *
    generalize A % 2 ^ nr = X at *
    generalize B % 2 ^ nr = Y at *
    -- from here on only the cut operands, of a common width `n`, matter
    generalize hn : min nr (max na nb) = n at *
    obtain ⟨hn1, hnnr, hnf⟩ : 0 < n ∧ n ≤ nr ∧ n ≤ fuel + 1 := by omega
    clear hm hne ha hb hn
    rw [hx.len]
    split
    · exact (arrayMultiplier_num e1.wf nr hx hy (by omega) hnr).map fun r _ _ hr => ⟨r, rfl, hr⟩
    · next hgt =>
      generalize hmid : n / 2 = mid
      obtain ⟨hm2, hmle, hmn, hmf⟩ : 2 ≤ mid ∧ mid ≤ n - mid ∧ mid * 2 ≤ n ∧ n - mid + 1 ≤ fuel := by omega
      clear hmid
      -- the halves: `X = Al + 2^mid·Ah`, `Y = Bl + 2^mid·Bh`
      have hAl := (hx.take mid).cast (Nat.min_eq_left (by omega)) rfl
      have hBl := (hy.take mid).cast (Nat.min_eq_left (by omega)) rfl
      have hAh := hx.drop mid
      have hBh := hy.drop mid
      rw [← Nat.mod_add_div X (2 ^ mid), ← Nat.mod_add_div Y (2 ^ mid)]
      generalize X % 2 ^ mid = Al at *
      generalize X / 2 ^ mid = Ah at *
      generalize Y % 2 ^ mid = Bl at *
      generalize Y / 2 ^ mid = Bh at *
      rw [hAl.len, hBl.len, hAh.len, hBh.len, Nat.max_self, Nat.max_self, Nat.max_eq_right hmle]
      refine Spec.bind (ih _ _ _ e1.wf hAl hBl (by omega) (by omega) (by omega)) ?_
      intro r0 s2 e2 ⟨z0, hr0, h0⟩
      subst hr0
      simp only
      refine Spec.bind (newAdder_num e2.wf gmw (n - mid + 1) (hAl.mono e2) (hAh.mono e2) (by omega) (by omega)) ?_
      intro aSum s3 e3 haS
      refine Spec.bind (newAdder_num e3.wf gmw (n - mid + 1) (hBl.mono (e2.trans e3)) (hBh.mono (e2.trans e3))
        (by omega) (by omega)) ?_
      intro bSum s4 e4 hbS
      -- one more wire than the high halves: the sums are exact
      have hpk : 2 ^ mid ≤ 2 ^ (n - mid) := Nat.pow_le_pow_right (by omega) hmle
      have hps : 2 ^ (n - mid + 1) = 2 * 2 ^ (n - mid) := by rw [Nat.pow_succ, Nat.mul_comm]
      have hAll := hAl.lt; have hAhl := hAh.lt; have hBll := hBl.lt; have hBhl := hBh.lt
      rw [Nat.mod_eq_of_lt (by omega)] at haS hbS
      refine Spec.bind (ih _ _ _ e4.wf (haS.mono e4) hbS (by omega) (by omega) (by omega)) ?_
      intro r1 s5 e5 ⟨z1, hr1, h1⟩
      subst hr1
      simp only
      have e15 := ((e2.trans e3).trans e4).trans e5
      refine Spec.bind (ih _ _ _ e5.wf (hAh.mono e15) (hBh.mono e15) (by omega) (by omega) (by omega)) ?_
      intro r2 s6 e6 ⟨z2, hr2, h2⟩
      subst hr2
      simp only
      rw [Nat.max_self] at h2
      -- a product of two `k`-wire numbers fits `2k` wires, so the partial products are exact modulo `2^nr`
      exact karaCombine_num e6.wf gmw nr mid hnr (by omega) (h0.mono (((e3.trans e4).trans e5).trans e6))
        (h1.mono e6) h2 (mul_mod_width _ _ mid nr hAll hBll)
        (mul_mod_width _ _ (n - mid) nr hAhl hBhl)
        (mul_mod_width _ _ (n - mid + 1) nr (by omega) (by omega))

theorem le_ite {c : Prop} [Decidable c] {k a b : Nat} (ha : k ≤ a) (hb : k ≤ b) : k ≤ if c then a else b := by
  split <;> assumption

theorem multiplierArrayThreshold_ge (n : Nat) : 3 ≤ multiplierArrayThreshold n := by
  unfold multiplierArrayThreshold
  repeat' apply le_ite
  all_goals decide

/-- `NewMultiplier(c, 0, ..)`: `NewKaratsubaMultiplier` at the threshold `multiplierArrayThreshold` on the Yao target
(the table of circ_multiplier_params.go for operand widths below 275, the default 21 above; the table's later entries
are not modelled, `karatsuba_num` covers every threshold from 3), `NewWallaceMultiplier` on the GMW target; exact for
all widths. -/
theorem newMultiplier_num {s : St} {inp : List Bool} (hwf : WF s inp) (gmw : Bool) {x y : List Nat} {nx ny X Y : Nat}
    (nz : Nat) (hx : Num s inp x nx X) (hy : Num s inp y ny Y) (hne : 0 < max nx ny) (hnz : 0 < nz) :
    Spec inp s (newMultiplier gmw x y nz) (fun z s' => ∃ r, z = some r ∧ Num s' inp r nz ((X * Y) % 2 ^ nz)) := by
  unfold newMultiplier
  cases gmw with
  | true => exact (wallace_num hwf nz hx hy hnz).map (f := some) fun r _ _ h => ⟨r, rfl, h⟩
  | false =>
    simp only [Bool.false_eq_true, if_false]
    exact karatsuba_num false _ (multiplierArrayThreshold_ge _) _ _ _ nz hwf hx hy hne hnz
      (by rw [hx.len, hy.len]; omega)

end Mpc.Bld
