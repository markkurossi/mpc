/-
The readers of the sha2pc codec model (Model/Sha2pc.lean), each as an equivalence: `read r = .ok (v, r')` iff
`r` is the writer's bytes of `v` followed by `r'` and `v` is in the writer's range (`readChunk_eq_ok`,
`readFull_eq_ok`, `readFixed_eq_ok`, `readFixedN_eq_ok`, `readHeader_eq_ok`; `slice_eq_ok_iff_drop` for the decoders
that work with offsets).  A decoder is a chain of readers, so rewriting with these turns `decode data = .ok m` into
`data = the wire image of m` (Proofs/Sha2pcCodec.lean); the `_noPanic` lemmas do the same for totality.
Core Lean only.
-/
import MpcVerif.Model.Sha2pc
import MpcVerif.Proofs.BitsLemmas
import MpcVerif.Proofs.BytesLemmas

namespace Mpc.Sha2pc

@[simp] theorem Res.ok_bind {α β : Type} (a : α) (f : α → Res β) : (Res.ok a >>= f) = f a := rfl
@[simp] theorem Res.error_bind {α β : Type} (f : α → Res β) : ((Res.error : Res α) >>= f) = .error := rfl
@[simp] theorem Res.panic_bind {α β : Type} (f : α → Res β) : ((Res.panic : Res α) >>= f) = .panic := rfl
@[simp] theorem Res.pure_eq {α : Type} (a : α) : (pure a : Res α) = .ok a := rfl

theorem Res.bind_eq_ok {α β : Type} {r : Res α} {f : α → Res β} {b : β} :
    (r >>= f) = .ok b ↔ ∃ a, r = .ok a ∧ f a = .ok b := by
  cases r with
  | ok a => exact ⟨fun h => ⟨a, rfl, h⟩, fun ⟨_, h, h'⟩ => by cases h; exact h'⟩
  | error => exact ⟨fun h => (nomatch h), fun ⟨_, h, _⟩ => nomatch h⟩
  | panic => exact ⟨fun h => (nomatch h), fun ⟨_, h, _⟩ => nomatch h⟩

theorem Res.ite_error_eq_ok {α : Type} {p : Prop} [Decidable p] {x : Res α} {b : α} :
    (if p then .error else x) = .ok b ↔ ¬ p ∧ x = .ok b := by
  split
  · exact ⟨fun h => (nomatch h), fun h => absurd ‹p› h.1⟩
  · exact ⟨fun h => ⟨‹¬ p›, h⟩, fun h => h.2⟩

def NoPanic {α : Type} (r : Res α) : Prop := r ≠ .panic

@[simp] theorem NoPanic.ok {α : Type} (a : α) : NoPanic (Res.ok a) := by intro h; cases h
@[simp] theorem NoPanic.error {α : Type} : NoPanic (Res.error : Res α) := by intro h; cases h
@[simp] theorem NoPanic.pure {α : Type} (a : α) : NoPanic (pure a : Res α) := by intro h; cases h

theorem NoPanic.bind_iff {α β : Type} {r : Res α} {f : α → Res β} :
    NoPanic (r >>= f) ↔ NoPanic r ∧ ∀ a, r = .ok a → NoPanic (f a) := by
  cases r with
  | ok a => exact ⟨fun h => ⟨NoPanic.ok a, fun _ e => by cases e; exact h⟩, fun h => h.2 a rfl⟩
  | error => exact ⟨fun _ => ⟨NoPanic.error, fun _ e => nomatch e⟩, fun _ => NoPanic.error⟩
  | panic => exact ⟨fun h => absurd rfl h, fun h => absurd rfl h.1⟩

theorem NoPanic.ite_iff {α : Type} {p : Prop} [Decidable p] {a b : Res α} :
    NoPanic (if p then a else b) ↔ (p → NoPanic a) ∧ (¬ p → NoPanic b) := by
  split <;> simp [*]

theorem beNat_eq (b : Bytes) : beNat b = ByteList.val UInt8.toNat b := rfl

theorem beBytes_eq : ∀ n v, beBytes n v = ByteList.digits UInt8.ofNat n v
  | 0, _ => rfl
  | n + 1, v => by rw [beBytes, ByteList.digits, beBytes_eq n]

@[simp] theorem beNat_nil : beNat [] = 0 := rfl

theorem beNat_cons (x : UInt8) (xs : Bytes) : beNat (x :: xs) = x.toNat * 256 ^ xs.length + beNat xs :=
  ByteList.val_cons _ x xs

theorem beNat_append (a b : Bytes) : beNat (a ++ b) = beNat a * 256 ^ b.length + beNat b :=
  ByteList.val_append _ a b

theorem beNat_lt (b : Bytes) : beNat b < 256 ^ b.length := ByteList.val_lt _ UInt8.toNat_lt b

@[simp] theorem beBytes_length (n v : Nat) : (beBytes n v).length = n := by
  rw [beBytes_eq, ByteList.length_digits]

theorem flatMap_beBytes_length (n : Nat) (vs : List Nat) : (vs.flatMap (beBytes n)).length = n * vs.length := by
  induction vs with
  | nil => rfl
  | cons v vs ih => rw [List.flatMap_cons, List.length_append, ih, beBytes_length, List.length_cons, Nat.mul_succ, Nat.add_comm]

theorem uint8_ofNat_toNat (v : Nat) (h : v < 256) : (UInt8.ofNat v).toNat = v :=
  UInt8.toNat_ofNat_of_lt' h

theorem beNat_beBytes (n v : Nat) (h : v < 256 ^ n) : beNat (beBytes n v) = v := by
  rw [beBytes_eq, beNat_eq, ByteList.val_digits _ _ uint8_ofNat_toNat, Nat.mod_eq_of_lt h]

theorem beBytes_beNat (n : Nat) (b : Bytes) (h : b.length = n) : beBytes n (beNat b) = b := by
  rw [beBytes_eq, beNat_eq, ← h, ByteList.digits_val _ _ UInt8.toNat_lt fun _ => UInt8.ofNat_toNat]

theorem beBytes_inj (n a b : Nat) (ha : a < 256 ^ n) (hb : b < 256 ^ n) (h : beBytes n a = beBytes n b) : a = b := by
  rw [← beNat_beBytes n a ha, ← beNat_beBytes n b hb, h]

@[simp] theorem bytesOfLabel_length (l : Label) : (bytesOfLabel l).length = 16 := by simp [bytesOfLabel]

theorem labelOfBytes_bytesOfLabel (l : Label) : labelOfBytes (bytesOfLabel l) = l := by
  unfold labelOfBytes bytesOfLabel
  rw [beNat_beBytes 16 l.toNat (by have := l.isLt; omega)]
  simp

theorem bytesOfLabel_labelOfBytes (b : Bytes) (h : b.length = 16) : bytesOfLabel (labelOfBytes b) = b := by
  unfold labelOfBytes bytesOfLabel
  have hlt : beNat b < 2 ^ 128 := by
    have := beNat_lt b
    rw [h] at this
    exact this
  rw [BitVec.toNat_ofNat, Nat.mod_eq_of_lt hlt]
  exact beBytes_beNat 16 b h

theorem slice_noPanic (b : Bytes) (lo hi : Nat) (h1 : lo ≤ hi) (h2 : hi ≤ b.length) : NoPanic (slice b lo hi) := by
  unfold slice
  rw [if_pos ⟨h1, h2⟩]
  simp

theorem slice_ok_iff (b : Bytes) (lo hi : Nat) (r : Bytes) :
    slice b lo hi = .ok r ↔ (lo ≤ hi ∧ hi ≤ b.length ∧ r = (b.drop lo).take (hi - lo)) := by
  unfold slice
  split
  · simp [*, eq_comm]
  · exact ⟨nofun, fun h => absurd (And.intro h.1 h.2.1) ‹_›⟩

theorem slice_length (b : Bytes) (lo hi : Nat) (r : Bytes) (h : slice b lo hi = .ok r) : r.length = hi - lo := by
  rw [slice_ok_iff] at h
  obtain ⟨h1, h2, rfl⟩ := h
  simp only [List.length_take, List.length_drop]
  omega

/-- `slice` as a cursor on `b.drop lo`: in this form `decodePoints` and `decodeRound3`, which slice at explicit
offsets, read like the decoders on a `bytes.Reader`.  `slice_step` is the direction that runs them on a wire image. -/
theorem slice_eq_ok_iff_drop (b : Bytes) (lo hi : Nat) (x : Bytes) :
    slice b lo hi = .ok x ↔ b.drop lo = x ++ b.drop hi ∧ lo + x.length = hi ∧ hi ≤ b.length := by
  rw [slice_ok_iff]
  constructor
  · rintro ⟨h1, h2, rfl⟩
    refine ⟨?_, by simp only [List.length_take, List.length_drop]; omega, h2⟩
    conv => rhs; rhs; rw [show hi = lo + (hi - lo) by omega, ← List.drop_drop]
    exact (List.take_append_drop ..).symm
  · rintro ⟨h1, rfl, h3⟩
    refine ⟨Nat.le_add_right .., h3, ?_⟩
    rw [h1, Nat.add_sub_cancel_left, List.take_left' rfl]

theorem slice_step {b x r : Bytes} {lo hi : Nat} (h : b.drop lo = x ++ r) (hlo : lo ≤ b.length)
    (hl : lo + x.length = hi) : slice b lo hi = .ok x ∧ b.drop hi = r ∧ hi ≤ b.length := by
  have hr : b.drop hi = r := by rw [← hl, ← List.drop_drop, h, List.drop_left' rfl]
  have hb : hi ≤ b.length := by
    have := congrArg List.length h
    simp only [List.length_drop, List.length_append] at this
    omega
  exact ⟨(slice_eq_ok_iff_drop ..).mpr ⟨hr ▸ h, hl, hb⟩, hr, hb⟩

theorem slice_mid (a b c : Bytes) : slice (a ++ (b ++ c)) a.length (a.length + b.length) = .ok b :=
  (slice_step (List.drop_left' rfl) (by rw [List.length_append]; exact Nat.le_add_right ..) rfl).1

theorem slice_full (b : Bytes) : slice b 0 b.length = .ok b :=
  (slice_step (b := b) (lo := 0) (r := []) (List.append_nil b).symm (Nat.zero_le _) (Nat.zero_add _)).1

theorem slice_concat (b : Bytes) (lo mid hi : Nat) (x y : Bytes) (hx : slice b lo mid = .ok x)
    (hy : slice b mid hi = .ok y) : slice b lo hi = .ok (x ++ y) := by
  rw [slice_eq_ok_iff_drop] at hx hy ⊢
  obtain ⟨dx, rfl, _⟩ := hx
  obtain ⟨dy, rfl, h⟩ := hy
  exact ⟨by rw [dx, dy, List.append_assoc], by rw [List.length_append, Nat.add_assoc], h⟩

theorem putUvarint_lt {n : Nat} (h : n < 128) : putUvarint n = [UInt8.ofNat n] := by
  rw [putUvarint, if_pos h]

theorem putUvarint_ge {n : Nat} (h : 128 ≤ n) :
    putUvarint n = UInt8.ofNat (n % 128 + 128) :: putUvarint (n / 128) := by
  rw [putUvarint, if_neg (Nat.not_lt.mpr h)]

theorem readUvarintGo_last {i x : Nat} {b : UInt8} (rest : Bytes) (hi : i < 10) (hb : b.toNat < 128)
    (h9 : i = 9 → b.toNat ≤ 1) : readUvarintGo i x (b :: rest) = .ok (x + b.toNat * 2 ^ (7 * i), rest) := by
  rw [readUvarintGo, if_neg (Nat.not_le.mpr hi), if_pos hb, if_neg fun h => Nat.not_lt.mpr (h9 h.1) h.2]

theorem readUvarintGo_more {i x : Nat} {b : UInt8} (rest : Bytes) (hi : i < 10) (hb : 128 ≤ b.toNat) :
    readUvarintGo i x (b :: rest) = readUvarintGo (i + 1) (x + (b.toNat - 128) * 2 ^ (7 * i)) rest := by
  rw [readUvarintGo, if_neg (Nat.not_le.mpr hi), if_neg (Nat.not_lt.mpr hb)]

theorem two_pow_seven_succ (i : Nat) : 2 ^ (7 * (i + 1)) = 128 * 2 ^ (7 * i) := by
  rw [Nat.mul_succ, Nat.pow_add, Nat.mul_comm]

theorem readUvarintGo_put (rest : Bytes) (n : Nat) : ∀ (i x : Nat), i ≤ 8 → n < 2 ^ (7 * (9 - i)) →
    readUvarintGo i x (putUvarint n ++ rest) = .ok (x + n * 2 ^ (7 * i), rest) := by
  induction n using Nat.strongRecOn with
  | _ n ih =>
    intro i x hi hn
    by_cases hlt : n < 128
    · rw [putUvarint_lt hlt, List.singleton_append,
        readUvarintGo_last rest (by omega) (by rw [uint8_ofNat_toNat n (by omega)]; exact hlt) (by omega),
        uint8_ofNat_toNat n (by omega)]
    · have hb : (UInt8.ofNat (n % 128 + 128)).toNat = n % 128 + 128 := uint8_ofNat_toNat _ (by omega)
      -- in the ninth position (`i = 8`) only values below 128 are admitted
      have hi7 : i ≤ 7 := by
        rcases Nat.lt_or_ge i 8 with h | h
        · omega
        · obtain rfl : i = 8 := by omega
          exact absurd hn hlt
      have hdiv : n / 128 < 2 ^ (7 * (9 - (i + 1))) := by
        rw [show 7 * (9 - i) = 7 * (9 - (i + 1)) + 7 by omega, Nat.pow_add] at hn
        exact Nat.div_lt_of_lt_mul (by rw [Nat.mul_comm]; exact hn)
      rw [putUvarint_ge (by omega), List.cons_append, readUvarintGo_more _ (by omega) (by omega), hb,
        ih (n / 128) (by omega) (i + 1) _ (by omega) hdiv, two_pow_seven_succ, Nat.add_sub_cancel, Nat.add_assoc,
        ← Nat.mul_assoc, ← Nat.add_mul, Nat.mul_comm _ 128, Nat.mod_add_div]

theorem readUvarint_put (n : Nat) (rest : Bytes) (h : n < 2 ^ 63) :
    readUvarint (putUvarint n ++ rest) = .ok (n, rest) := by
  unfold readUvarint
  rw [readUvarintGo_put rest n 0 0 (by omega) (by simpa using h)]
  simp

theorem readUvarintGo_noPanic : ∀ (r : Bytes) (i x : Nat), NoPanic (readUvarintGo i x r)
  | [], _, _ => NoPanic.error
  | b :: rest, i, x => by
    simp only [readUvarintGo, NoPanic.ite_iff, readUvarintGo_noPanic rest, NoPanic.ok, NoPanic.error, implies_true,
      and_self]

theorem readUvarint_noPanic (r : Bytes) : NoPanic (readUvarint r) := readUvarintGo_noPanic r 0 0

theorem putUvarint_length_small (n : Nat) (h : n < 128) : (putUvarint n).length = 1 := by
  rw [putUvarint_lt h]; rfl

theorem putUvarint_length_two (n : Nat) (h1 : 128 ≤ n) (h2 : n < 16384) : (putUvarint n).length = 2 := by
  rw [putUvarint_ge h1, putUvarint_lt (by omega)]; rfl

theorem putUvarint_length_three (n : Nat) (h1 : 16384 ≤ n) (h2 : n < 2097152) : (putUvarint n).length = 3 := by
  rw [putUvarint_ge (by omega), putUvarint_ge (by omega), putUvarint_lt (by omega)]; rfl

theorem putUvarint_length_pos (n : Nat) : 1 ≤ (putUvarint n).length := by
  rw [putUvarint]; split <;> simp

/-- `ReadUvarint` is not injective: it accepts padded forms (`80 00` reads as 0).  What it consumed is at least as
long as `PutUvarint` of the value and is `PutUvarint` of the value when the lengths agree, which is the test
`readChunk` makes. -/
theorem readUvarintGo_min (r : Bytes) : ∀ (i x v : Nat) (r' : Bytes), readUvarintGo i x r = .ok (v, r') →
    ∃ pre w, r = pre ++ r' ∧ v = x + w * 2 ^ (7 * i) ∧ (putUvarint w).length ≤ pre.length ∧
      ((putUvarint w).length = pre.length → pre = putUvarint w) := by
  induction r with
  | nil =>
    intro i x v r' h
    rw [readUvarintGo] at h
    cases h
  | cons b rest ih =>
    intro i x v r' h
    by_cases hi : i < 10
    case neg =>
      rw [readUvarintGo, if_pos (Nat.not_lt.mp hi)] at h
      cases h
    by_cases hb : b.toNat < 128
    · rw [readUvarintGo, if_neg (Nat.not_le.mpr hi), if_pos hb] at h
      obtain ⟨_, h⟩ := Res.ite_error_eq_ok.mp h
      cases h
      have hp : putUvarint b.toNat = [b] := by rw [putUvarint_lt hb, UInt8.ofNat_toNat]
      exact ⟨[b], b.toNat, rfl, rfl, by rw [hp]; exact Nat.le_refl _, fun _ => hp.symm⟩
    · rw [readUvarintGo_more rest hi (Nat.not_lt.mp hb)] at h
      obtain ⟨pre', w', rfl, rfl, h3, h4⟩ := ih _ _ _ _ h
      have hbl := b.toNat_lt
      refine ⟨b :: pre', (b.toNat - 128) + 128 * w', rfl, ?_, ?_⟩
      · rw [two_pow_seven_succ, Nat.add_mul, Nat.add_assoc, Nat.mul_assoc, Nat.mul_left_comm]
      rcases Nat.eq_zero_or_pos w' with rfl | hw
      · -- one byte would have done, at least two were read
        have := putUvarint_length_pos 0
        rw [putUvarint_lt (by omega)]
        exact ⟨Nat.succ_le_succ (Nat.zero_le _), fun hl => by
          simp only [List.length_cons, List.length_nil] at hl
          omega⟩
      · have hput : putUvarint (b.toNat - 128 + 128 * w') = b :: putUvarint w' := by
          rw [putUvarint_ge (by omega), show (b.toNat - 128 + 128 * w') / 128 = w' by omega,
            show (b.toNat - 128 + 128 * w') % 128 + 128 = b.toNat by omega, UInt8.ofNat_toNat]
        rw [hput]
        exact ⟨Nat.succ_le_succ h3, fun hl => by rw [h4 (Nat.succ.inj hl)]⟩
theorem readUvarint_min (r : Bytes) (v : Nat) (r' : Bytes) (h : readUvarint r = .ok (v, r')) :
    ∃ pre, r = pre ++ r' ∧ (putUvarint v).length ≤ pre.length ∧
      ((putUvarint v).length = pre.length → pre = putUvarint v) := by
  obtain ⟨pre, w, h1, h2, h3, h4⟩ := readUvarintGo_min r 0 0 v r' h
  simp only [Nat.mul_zero, Nat.pow_zero, Nat.mul_one, Nat.zero_add] at h2
  subst h2
  exact ⟨pre, h1, h3, h4⟩

theorem writeChunk_length (d : Bytes) : (writeChunk d).length = (putUvarint d.length).length + d.length :=
  List.length_append

theorem writeChunk_length_small (d : Bytes) (h : d.length < 128) : (writeChunk d).length = 1 + d.length := by
  rw [writeChunk_length, putUvarint_length_small _ h]

theorem readChunk_write (d rest : Bytes) (hlen : d.length ≤ chunkSizeLimit) (hne : d ++ rest ≠ []) :
    readChunk (writeChunk d ++ rest) = .ok (d, rest) := by
  unfold readChunk writeChunk
  rw [List.append_assoc, readUvarint_put _ _ (by unfold chunkSizeLimit at hlen; omega)]
  simp only [Res.ok_bind]
  rw [if_neg (by simp only [List.length_append]; omega), if_neg (by omega), if_neg (by simp),
    if_neg (by simpa using hne)]
  simp

theorem readChunk_all (d : Bytes) (hl : d.length ≤ chunkSizeLimit) (hpos : 0 < d.length) :
    readChunk (writeChunk d) = .ok (d, []) := by
  have := readChunk_write d [] hl (List.append_ne_nil_of_left_ne_nil (List.ne_nil_of_length_pos hpos) _)
  rwa [List.append_nil] at this

/-- `d ++ r' ≠ []`: an empty chunk that ends the input is refused (`bytes.Reader.Read` returns `io.EOF` at the end of
the input even for a zero-length buffer). -/
theorem readChunk_eq_ok (r d r' : Bytes) :
    readChunk r = .ok (d, r') ↔ r = writeChunk d ++ r' ∧ d.length ≤ chunkSizeLimit ∧ d ++ r' ≠ [] := by
  constructor
  · intro h
    simp only [readChunk, Res.bind_eq_ok, Prod.exists, Res.ite_error_eq_ok, Decidable.not_not, Nat.not_lt,
      Res.pure_eq, Res.ok.injEq, Prod.mk.injEq] at h
    obtain ⟨len, r1, hu, hmin, hlim, hlen, hne, rfl, rfl⟩ := h
    obtain ⟨pre, rfl, _, h3⟩ := readUvarint_min r len r1 hu
    have hdl : (r1.take len).length = len := by rw [List.length_take]; omega
    rw [List.take_append_drop, writeChunk, hdl, List.append_assoc, List.take_append_drop,
      ← h3 (by rw [← hmin, List.length_append]; omega)]
    exact ⟨rfl, hlim, by simpa using hne⟩
  · rintro ⟨rfl, hl, hne⟩
    exact readChunk_write d r' hl hne

theorem readChunk_noPanic (r : Bytes) : NoPanic (readChunk r) := by
  simp only [readChunk, NoPanic.bind_iff, NoPanic.ite_iff, readUvarint_noPanic, NoPanic.error, NoPanic.pure,
    implies_true, and_self]

theorem readFull_append (n : Nat) (b rest : Bytes) (h : b.length = n) : readFull n (b ++ rest) = .ok (b, rest) := by
  unfold readFull
  rw [if_neg (by simp; omega)]
  subst h
  simp

theorem readFull_eq_ok (n : Nat) (r b r' : Bytes) : readFull n r = .ok (b, r') ↔ r = b ++ r' ∧ b.length = n := by
  constructor
  · intro h
    obtain ⟨hl, h⟩ := Res.ite_error_eq_ok.mp h
    cases h
    exact ⟨(List.take_append_drop n r).symm, by rw [List.length_take]; omega⟩
  · rintro ⟨rfl, rfl⟩
    exact readFull_append _ b r' rfl

theorem readFull_noPanic (n : Nat) (r : Bytes) : NoPanic (readFull n r) := by
  simp only [readFull, NoPanic.ite_iff, NoPanic.ok, NoPanic.error, implies_true, and_self]

theorem readFixed_append (n v : Nat) (rest : Bytes) (h : v < 256 ^ n) :
    readFixed n (beBytes n v ++ rest) = .ok (v, rest) := by
  unfold readFixed
  rw [readFull_append n _ _ (by simp)]
  simp [beNat_beBytes n v h]

theorem readFixed_beBytes (n v : Nat) (h : v < 256 ^ n) : readFixed n (beBytes n v) = .ok (v, []) := by
  have := readFixed_append n v [] h
  rwa [List.append_nil] at this

theorem readFixed_eq_ok (n : Nat) (r : Bytes) (v : Nat) (r' : Bytes) :
    readFixed n r = .ok (v, r') ↔ r = beBytes n v ++ r' ∧ v < 256 ^ n := by
  constructor
  · intro h
    simp only [readFixed, Res.bind_eq_ok, Prod.exists, readFull_eq_ok, Res.pure_eq, Res.ok.injEq, Prod.mk.injEq] at h
    obtain ⟨b, r1, ⟨rfl, hl⟩, rfl, rfl⟩ := h
    exact ⟨by rw [beBytes_beNat n b hl], hl ▸ beNat_lt b⟩
  · rintro ⟨rfl, hv⟩
    exact readFixed_append n v r' hv

theorem readFixed_noPanic (n : Nat) (r : Bytes) : NoPanic (readFixed n r) := by
  simp only [readFixed, NoPanic.bind_iff, readFull_noPanic, NoPanic.pure, implies_true, and_self]

theorem readFixedN_append (n : Nat) (vs : List Nat) (rest : Bytes) (h : ∀ v ∈ vs, v < 256 ^ n) :
    readFixedN n vs.length (vs.flatMap (beBytes n) ++ rest) = .ok (vs, rest) := by
  induction vs with
  | nil => simp [readFixedN]
  | cons v vs ih =>
    simp only [List.flatMap_cons, List.length_cons, readFixedN, List.append_assoc]
    rw [readFixed_append n v _ (h v (by simp))]
    simp only [Res.ok_bind]
    rw [ih (fun w hw => h w (by simp [hw]))]
    simp

theorem readFixedN_eq_ok (n : Nat) : ∀ (k : Nat) (r : Bytes) (vs : List Nat) (r' : Bytes),
    readFixedN n k r = .ok (vs, r') ↔ r = vs.flatMap (beBytes n) ++ r' ∧ vs.length = k ∧ ∀ v ∈ vs, v < 256 ^ n := by
  intro k r vs r'
  refine ⟨fun h => ?_, fun ⟨h, hl, hv⟩ => hl ▸ h ▸ readFixedN_append n vs r' hv⟩
  induction k generalizing r vs with
  | zero =>
    cases h
    exact ⟨rfl, rfl, fun _ hv => nomatch hv⟩
  | succ k ih =>
    simp only [readFixedN, Res.bind_eq_ok, Prod.exists, readFixed_eq_ok, Res.pure_eq, Res.ok.injEq, Prod.mk.injEq] at h
    obtain ⟨v, r1, ⟨rfl, hv⟩, ws, r2, h2, rfl, rfl⟩ := h
    obtain ⟨rfl, rfl, hws⟩ := ih _ _ h2
    exact ⟨by rw [List.flatMap_cons, List.append_assoc], rfl, List.forall_mem_cons.mpr ⟨hv, hws⟩⟩

theorem readFixedN_noPanic (n : Nat) : ∀ (k : Nat) (r : Bytes), NoPanic (readFixedN n k r)
  | 0, _ => NoPanic.ok _
  | k + 1, r => by
    simp only [readFixedN, NoPanic.bind_iff, readFixed_noPanic, readFixedN_noPanic n k, NoPanic.pure, implies_true,
      and_self]

theorem readFixedN_length (n k : Nat) (r : Bytes) (vs : List Nat) (r' : Bytes)
    (h : readFixedN n k r = .ok (vs, r')) : vs.length = k :=
  ((readFixedN_eq_ok n k r vs r').mp h).2.1

theorem magicR1_length : magicR1.length = 2 := rfl
theorem magicR2_length : magicR2.length = 2 := rfl
theorem magicR3_length : magicR3.length = 2 := rfl
theorem magicGS_length : magicGS.length = 2 := rfl
theorem magicES_length : magicES.length = 2 := rfl

theorem header_append (magic : Bytes) (sid : Nat) (rest : Bytes) :
    header magic sid ++ rest = magic ++ (beBytes 8 sid ++ rest) :=
  List.append_assoc ..

theorem readHeader_header (magic : Bytes) (sid : Nat) (rest : Bytes) (hm : magic.length = 2) (hs : sid < 2 ^ 64) :
    readHeader magic (header magic sid ++ rest) = .ok (sid, rest) := by
  unfold readHeader
  rw [header_append, readFull_append 2 magic _ hm]
  simp only [Res.ok_bind, ne_eq, not_true_eq_false, if_false]
  rw [readFull_append 8 _ _ (by simp)]
  simp [beNat_beBytes 8 sid (by simpa using hs)]

theorem readHeader_eq_ok (magic r : Bytes) (sid : Nat) (r' : Bytes) (hm : magic.length = 2) :
    readHeader magic r = .ok (sid, r') ↔ r = header magic sid ++ r' ∧ sid < 2 ^ 64 := by
  constructor
  · intro h
    simp only [readHeader, Res.bind_eq_ok, Prod.exists, readFull_eq_ok, Res.ite_error_eq_ok, Decidable.not_not,
      Res.pure_eq, Res.ok.injEq, Prod.mk.injEq] at h
    obtain ⟨m, r1, ⟨rfl, _⟩, rfl, s, r2, ⟨rfl, hs⟩, rfl, rfl⟩ := h
    exact ⟨by rw [header_append, beBytes_beNat 8 s hs], (hs ▸ beNat_lt s : beNat s < 256 ^ 8)⟩
  · rintro ⟨rfl, hs⟩
    exact readHeader_header magic sid r' hm hs

theorem readHeader_noPanic (magic r : Bytes) : NoPanic (readHeader magic r) := by
  simp only [readHeader, NoPanic.bind_iff, NoPanic.ite_iff, readFull_noPanic, NoPanic.error, NoPanic.pure,
    implies_true, and_self]

@[simp] theorem header_length (magic : Bytes) (sid : Nat) : (header magic sid).length = magic.length + 8 := by
  simp [header]

def bitsVal (l : List Bool) : Nat := l.foldr (fun b acc => 2 * acc + b.toNat) 0

theorem byteOfBits_eq (l : List Bool) : byteOfBits l = UInt8.ofNat (bitsVal l) := rfl

@[simp] theorem bitsVal_nil : bitsVal [] = 0 := rfl
@[simp] theorem bitsVal_cons (b : Bool) (l : List Bool) : bitsVal (b :: l) = 2 * bitsVal l + b.toNat := rfl

theorem bitsVal_eq_val : ∀ l : List Bool, bitsVal l = BitList.val l
  | [] => rfl
  | b :: l => by rw [bitsVal_cons, bitsVal_eq_val l, Nat.add_comm]; rfl

theorem bitsVal_lt (l : List Bool) : bitsVal l < 2 ^ l.length := bitsVal_eq_val l ▸ BitList.val_lt l

theorem testBit_bitsVal (l : List Bool) (j : Nat) : (bitsVal l).testBit j = l.getD j false :=
  bitsVal_eq_val l ▸ BitList.testBit_val l j

theorem byteOfBits_testBit (l : List Bool) (h : l.length ≤ 8) (j : Nat) :
    (byteOfBits l).toNat.testBit j = l.getD j false := by
  rw [byteOfBits_eq, uint8_ofNat_toNat, testBit_bitsVal]
  have := bitsVal_lt l
  have h2 : 2 ^ l.length ≤ 2 ^ 8 := Nat.pow_le_pow_right (by decide) h
  omega

theorem bitsOfByte_length (b : UInt8) : (bitsOfByte b).length = 8 := by simp [bitsOfByte]

theorem bitsOfByte_byteOfBits (l : List Bool) (h : l.length = 8) : bitsOfByte (byteOfBits l) = l := by
  have hl := bitsVal_lt l
  rw [h] at hl
  rw [bitsOfByte, byteOfBits_eq, uint8_ofNat_toNat _ hl, bitsVal_eq_val, ← h, BitList.bits_val]

theorem bitsToBytes_length (bits : List Bool) : (bitsToBytes bits).length = (bits.length + 7) / 8 := by
  induction bits using bitsToBytes.induct with
  | case1 => simp [bitsToBytes]
  | case2 b rest ih =>
    simp only [bitsToBytes, List.length_cons, ih, List.length_drop]
    omega

theorem bytesToBits_length (data : Bytes) : (bytesToBits data).length = 8 * data.length := by
  induction data with
  | nil => simp [bytesToBits]
  | cons x xs ih =>
    simp only [bytesToBits, List.flatMap_cons, List.length_append, bitsOfByte_length, List.length_cons] at ih ⊢
    omega

theorem bitsToBytes_length_nBits {bits : List Bool} (h : bits.length = nBits) : (bitsToBytes bits).length = signBytes := by
  rw [bitsToBytes_length, h]; rfl

theorem bytesToBits_length_signBytes {s : Bytes} (h : s.length = signBytes) : (bytesToBits s).length = nBits := by
  rw [bytesToBits_length, h]; rfl

theorem byteOfBits_bitsOfByte (x : UInt8) : byteOfBits (bitsOfByte x) = x := by
  rw [byteOfBits_eq, bitsVal_eq_val, bitsOfByte, BitList.val_bits, Nat.mod_eq_of_lt x.toNat_lt, UInt8.ofNat_toNat]

theorem bitsToBytes_append {l : List Bool} (h : l.length = 8) (rest : List Bool) :
    bitsToBytes (l ++ rest) = byteOfBits l :: bitsToBytes rest := by
  match l, h with
  | b :: l, h =>
    rw [List.cons_append, bitsToBytes, ← List.cons_append, List.take_left' h]
    exact congrArg _ (congrArg _ (List.drop_left' (Nat.succ.inj h)))

theorem bitsToBytes_bytesToBits (data : Bytes) : bitsToBytes (bytesToBits data) = data := by
  induction data with
  | nil => rw [bytesToBits, List.flatMap_nil, bitsToBytes]
  | cons x xs ih =>
    rw [bytesToBits, List.flatMap_cons, bitsToBytes_append (bitsOfByte_length x), byteOfBits_bitsOfByte]
    exact congrArg _ ih

/-- Bit `k` of a packed bit vector, as `pointSign` reads it. -/
def signBit (signs : Bytes) (k : Nat) : Bool := (signs.getD (k / 8) 0).toNat.testBit (k % 8)

theorem pointSign_eq (signs : Bytes) (k : Nat) (h : k / 8 < signs.length) :
    pointSign signs k = .ok (signBit signs k) := by
  unfold pointSign signBit byteAt
  have hne : signs.isEmpty = false := by
    cases signs with
    | nil => simp at h
    | cons a b => rfl
  rw [hne]
  simp [List.getElem?_eq_getElem h, List.getD_eq_getElem?_getD]

theorem signBit_bitsToBytes (bits : List Bool) (j : Nat) (hj : j < bits.length) :
    signBit (bitsToBytes bits) j = bits.getD j false := by
  induction bits using bitsToBytes.induct generalizing j with
  | case1 => simp at hj
  | case2 b rest ih =>
    rw [bitsToBytes, signBit]
    by_cases h8 : j < 8
    · rw [show j / 8 = 0 by omega, List.getD_cons_zero, byteOfBits_testBit _ (by simp only [List.length_take]; omega),
        Nat.mod_eq_of_lt h8]
      simp only [List.getD_eq_getElem?_getD, List.getElem?_take, h8, if_true]
    · have := ih (j - 8) (by simp only [List.length_drop, List.length_cons] at hj ⊢; omega)
      rw [signBit] at this
      rw [show j / 8 = (j - 8) / 8 + 1 by omega, show j % 8 = (j - 8) % 8 by omega, List.getD_cons_succ, this]
      simp only [List.getD_eq_getElem?_getD, List.getElem?_drop]
      conv => rhs; rw [show j = (7 + (j - 8)) + 1 by omega, List.getElem?_cons_succ]

theorem pointSign_packed (bits : List Bool) (j : Nat) (hj : j < bits.length) :
    pointSign (bitsToBytes bits) j = .ok (bits.getD j false) := by
  rw [pointSign_eq _ _ (by rw [bitsToBytes_length]; omega), signBit_bitsToBytes _ _ hj]

theorem bytesToBits_getD (s : Bytes) (k : Nat) (h : k < 8 * s.length) :
    (bytesToBits s).getD k false = signBit s k := by
  rw [← signBit_bitsToBytes _ _ (by rwa [bytesToBits_length]), bitsToBytes_bytesToBits]

theorem bytesToBits_bitsToBytes (bits : List Bool) (h : bits.length % 8 = 0) :
    bytesToBits (bitsToBytes bits) = bits := by
  refine List.ext_getElem (by rw [bytesToBits_length, bitsToBytes_length]; omega) fun i h1 h2 => ?_
  have := bytesToBits_getD (bitsToBytes bits) i (by rwa [bytesToBits_length] at h1)
  rw [signBit_bitsToBytes _ _ h2] at this
  simpa [List.getD_eq_getElem?_getD, h1, h2] using this

theorem map_signBit_eq_bytesToBits (s : Bytes) :
    (List.range (8 * s.length)).map (signBit s) = bytesToBits s := by
  apply List.ext_getElem
  · simp [bytesToBits_length]
  · intro i h1 h2
    simp only [List.getElem_map, List.getElem_range]
    have := bytesToBits_getD s i (by simpa using h1)
    rw [← this]
    simp [List.getD_eq_getElem?_getD, h2]

theorem chunks_append (n : Nat) (hn : 0 < n) (x rest : Bytes) (hx : x.length = n) :
    chunks n (x ++ rest) = x :: chunks n rest := by
  cases x with
  | nil => simp at hx; omega
  | cons a x =>
    simp only [List.cons_append]
    rw [chunks, dif_neg (by omega)]
    have e : (a :: (x ++ rest)) = (a :: x) ++ rest := rfl
    rw [e, List.take_left' hx, List.drop_left' hx]

theorem labelsOfBytes_append (x rest : Bytes) (hx : x.length = 16) :
    labelsOfBytes (x ++ rest) = labelOfBytes x :: labelsOfBytes rest := by
  rw [labelsOfBytes, chunks_append labelLen (by decide) x rest hx]
  rfl

theorem labelsOfBytes_bytesOfLabels (ls : List Label) : labelsOfBytes (bytesOfLabels ls) = ls := by
  induction ls with
  | nil => simp [labelsOfBytes, bytesOfLabels, chunks]
  | cons l ls ih =>
    rw [bytesOfLabels, List.flatMap_cons, labelsOfBytes_append _ _ (bytesOfLabel_length l), labelOfBytes_bytesOfLabel]
    exact congrArg _ ih

@[simp] theorem bytesOfLabels_length (ls : List Label) : (bytesOfLabels ls).length = 16 * ls.length := by
  induction ls with
  | nil => simp [bytesOfLabels]
  | cons l ls ih =>
    simp only [bytesOfLabels, List.flatMap_cons, List.length_append, bytesOfLabel_length, List.length_cons] at ih ⊢
    omega

theorem bytesOfLabels_append (a b : List Label) : bytesOfLabels (a ++ b) = bytesOfLabels a ++ bytesOfLabels b := by
  simp [bytesOfLabels]

theorem labelsOfBytes_spec (k : Nat) (s : Bytes) (h : s.length = 16 * k) :
    bytesOfLabels (labelsOfBytes s) = s ∧ (labelsOfBytes s).length = k := by
  induction k generalizing s with
  | zero =>
    have : s = [] := List.eq_nil_of_length_eq_zero (by omega)
    simp [this, labelsOfBytes, bytesOfLabels, chunks]
  | succ k ih =>
    have ht : (s.take 16).length = 16 := by rw [List.length_take]; omega
    obtain ⟨ih1, ih2⟩ := ih (s.drop 16) (by rw [List.length_drop]; omega)
    rw [← List.take_append_drop 16 s, labelsOfBytes_append _ _ ht]
    exact ⟨by rw [bytesOfLabels, List.flatMap_cons, ← bytesOfLabels, ih1, bytesOfLabel_labelOfBytes _ ht],
      by rw [List.length_cons, ih2]⟩

@[simp] theorem pairs_unpairs {α : Type} (l : List (α × α)) : pairs (unpairs l) = l := by
  induction l with
  | nil => simp [unpairs, pairs]
  | cons p l ih =>
    simp only [unpairs, List.flatMap_cons] at ih ⊢
    simp [pairs, ih]

@[simp] theorem unpairs_length {α : Type} (l : List (α × α)) : (unpairs l).length = 2 * l.length := by
  induction l with
  | nil => simp [unpairs]
  | cons p l ih =>
    simp only [unpairs, List.flatMap_cons, List.length_append, List.length_cons] at ih ⊢
    simp at ih ⊢
    omega

theorem pairs_spec {α : Type} (k : Nat) (l : List α) (h : l.length = 2 * k) :
    unpairs (pairs l) = l ∧ (pairs l).length = k := by
  induction k generalizing l with
  | zero =>
    have : l = [] := List.eq_nil_of_length_eq_zero (by omega)
    simp [this, pairs, unpairs]
  | succ k ih =>
    match l, h with
    | a :: b :: rest, h =>
      obtain ⟨i1, i2⟩ := ih rest (by simp only [List.length_cons] at h; omega)
      simp only [pairs, unpairs, List.flatMap_cons] at i1 ⊢
      constructor
      · rw [i1]; rfl
      · simp [i2]
    | [_], h => simp at h; omega
    | [], h => simp at h

theorem splitRows_flatten (rows : List (List Label)) (rest : List Label) :
    splitRows (rows.map List.length) (rows.flatten ++ rest) = rows := by
  induction rows with
  | nil => simp [splitRows]
  | cons r rows ih =>
    simp only [List.map_cons, List.flatten_cons, splitRows, List.append_assoc]
    rw [List.take_left' rfl, List.drop_left' rfl, ih]

theorem splitRows_spec (counts : List Nat) (ls : List Label) (h : counts.sum ≤ ls.length) :
    (splitRows counts ls).map List.length = counts ∧ (splitRows counts ls).flatten = ls.take counts.sum := by
  induction counts generalizing ls with
  | nil => simp [splitRows]
  | cons c cs ih =>
    simp only [List.sum_cons] at h
    obtain ⟨i1, i2⟩ := ih (ls.drop c) (by simp only [List.length_drop]; omega)
    simp only [splitRows, List.map_cons, List.length_take, List.flatten_cons, List.sum_cons]
    refine ⟨?_, ?_⟩
    · rw [i1, Nat.min_eq_left (by omega)]
    · rw [i2, List.take_add]

theorem splitRows_length (counts : List Nat) (ls : List Label) : (splitRows counts ls).length = counts.length := by
  induction counts generalizing ls with
  | nil => simp [splitRows]
  | cons c cs ih => simp [splitRows, ih]

end Mpc.Sha2pc
