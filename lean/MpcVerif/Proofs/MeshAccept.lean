/-
Preservation of the invariant `Inv` by the three critical sections of
`acceptConn` (check, store, decrement+signal) and the resulting theorem
`reach_inv`: every reachable state of the code as it is satisfies `Inv`.
First what the invariant says of a party whose accept goroutine runs
(`Inv.acceptor`, the counter equation `Inv.need_eq`): it is what refutes the
error branches of the three sections.
-/
import MpcVerif.Proofs.MeshStep

namespace Mpc.Mesh

variable {c : Cfg} {s s' : State}

theorem Inv.acceptor (h : Inv c s) {j : Nat} (hjn : j < c.n) (hacc : s.acc j = true) :
    (j = 0 ∧ s.phase 0 ≠ .init) ∨
      (0 < j ∧ ∃ k todo, prog c (s.phase j) = some (k, todo) ∧ ActiveInv c s j k todo) := by
  rcases Nat.eq_zero_or_pos j with rfl | hj
  · exact Or.inl ⟨rfl, fun e => by simpa [hacc] using (h.leader.initial e).1⟩
  · have hP := h.peer j hj hjn
    rcases hP.cases with e | e | e | hA
    · simpa [hacc] using (hP.init e).2.2.2.1
    · simpa [hacc] using (hP.joined e).2.2.2.2.1
    · simpa [hacc] using (hP.hello e).2.2.1
    · exact Or.inr ⟨hj, hA⟩

/-- The counter equation: `need[k]` is the number of connections k still to be stored (from every peer at the
leader, from the lower peers at a peer) plus the decrement the accept goroutine owes. -/
theorem Inv.need_eq (h : Inv c s) {j k : Nat} (hjn : j < c.n)
    (hacc : s.acc j = true) (hk : k < c.m) :
    s.need j k = missing s j (if j = 0 then c.n else j) k + sbit s j k := by
  rcases h.acceptor hjn hacc with ⟨rfl, hne⟩ | ⟨hj, _, _, -, hA⟩
  · exact (h.leader.started hne).2 k hk
  · rw [if_neg (Nat.ne_of_gt hj)]; exact hA.need k hk

theorem Inv.need_pos (h : Inv c s) {j i k : Nat}
    (hp : s.pend j i k = true) (hacc : s.acc j = true) : 0 < s.need j k := by
  have hf := h.pendFacts hp
  rw [h.need_eq hf.jn hacc hf.km]
  exact Nat.lt_of_lt_of_le ((missing_pos_dials s hf.jn k).mpr ⟨i, hf.dials, hf.inn, hf.anone⟩) (Nat.le_add_right _ _)

theorem Inv.dialer_known (h : Inv c s) (hc : c.Ok) {i k : Nat} (hi : 0 < i)
    (hin : i < c.n) (hset : (s.conn i 0 k).isSome) (hk : k ≠ 0) : i ∈ s.known 0 := by
  have hP := h.peer i hi hin
  have fromSent : infoSentTo (s.phase 0) i → i ∈ s.known 0 := by
    intro hsent
    rw [h.leader.knownMem]; right
    exact h.conn0_of_infoSent hc hsent i hi hin
  rcases hP.cases with e | e | e | ⟨k', t, -, hA⟩
  · simp [(hP.init e).1] at hset
  · simp [(hP.joined e).1, hk] at hset
  · simp [(hP.hello e).1, hk] at hset
  · exact fromSent hA.sent

theorem sbit_upd_ne (s : State) (f : Nat → Infl) (j p k : Nat) (hp : p ≠ j) (v : Infl)
    (hf : f = upd s.infl j v) (s' : State) (hs : s'.infl = f) : sbit s' p k = sbit s p k := by
  simp [sbit, hs, hf, upd_apply, hp]

theorem sbit_eq_of_not_stored {j : Nat} {v : Infl} (he : s'.infl = upd s.infl j v)
    (hv : ∀ a b, v ≠ .stored a b) (hs : ∀ a b, s.infl j ≠ .stored a b) (p k : Nat) :
    sbit s' p k = sbit s p k := by
  by_cases e : p = j
  · subst e
    rw [sbit_of_not_stored s p k (fun a => hs a k), sbit_of_not_stored s' p k]
    intro a; rw [he, upd_same]; exact hv a k
  · exact sbit_upd_ne s _ j p k e v rfl s' he

theorem accTake_shape (h : Inv c s) {j i k : Nat}
    (hs : step c s (.accTake j i k) = some s') :
    s.acc j = true ∧ s.infl j = .none ∧ s.pend j i k = true ∧
    s' = { s with pend := upd3 s.pend j i k false, infl := upd s.infl j (.taken i k) } := by
  simp only [step, stepAccTake] at hs
  split at hs
  · rename_i hpre
    obtain ⟨hacc, hinfl, hp⟩ := hpre
    rw [if_pos ⟨(h.pendFacts hp).km, h.need_pos hp hacc⟩] at hs
    simp only [Bool.false_eq_true, if_false, Option.some.injEq] at hs
    exact ⟨hacc, hinfl, hp, hs.symm⟩
  · cases hs

theorem inv_accTake (h : Inv c s) {j i k : Nat}
    (hs : step c s (.accTake j i k) = some s') : Inv c s' := by
  obtain ⟨hacc, hinfl, hp, rfl⟩ := accTake_shape h hs
  have hf := h.pendFacts hp
  have hsb := sbit_eq_of_not_stored (s := s) (j := j) (v := .taken i k)
    (s' := { s with pend := upd3 s.pend j i k false, infl := upd s.infl j (.taken i k) }) rfl
    (by simp) (by rw [hinfl]; simp)
  -- the dialler sits in connectPeerToLeader when this is its connection 0 to the leader
  have hnotj : j = 0 → k = 0 → s.phase i ≠ .joined := by
    intro e1 e2 e3
    subst e1 e2
    have := ((h.peer i hf.dials.1 hf.inn).joined e3).2.1 0 0
    simp [hp] at this
  have ho : OnlyLink i j k s { s with pend := upd3 s.pend j i k false, infl := upd s.infl j (.taken i k) } :=
    { pend := fun _ _ _ e => if_neg e, infl := fun _ e => if_neg e,
      held := fun a k' e => by simp only [upd_same, hinfl]; simp; exact fun e1 e2 => e ⟨e1.symm, e2.symm⟩ }
  have hl := h.links_of_link hf.dials ho
    { accSlot := fun _ e => by simp [hf.anone] at e
      pendSlot := fun e => by simp [upd3_apply] at e
      dialSlot := fun _ _ => Or.inr (Or.inr (Or.inr (upd_same s.infl j _)))
      taken := fun _ => ⟨hf.dials, hf.dset, hf.anone, by simp [upd3_apply], hf.jn, hacc, hnotj⟩
      stored := fun e => by simp [upd_same] at e }
  refine Inv.of_links hl h.notBad h.outside h.slot
    (h.leader.congr rfl rfl rfl rfl rfl rfl rfl (hsb 0)) fun q hq hqn => ?_
  refine (h.peer q hq hqn).congr hq rfl Iff.rfl rfl rfl rfl rfl rfl rfl (hsb q) (hl q) fun e => ?_
  refine ⟨?_, ((h.peer q hq hqn).joined e).2.2.1⟩
  show upd3 s.pend j i k false 0 q 0 = false
  rw [upd3_apply]; split
  · rfl
  · exact ((h.peer q hq hqn).joined e).2.1 0 0

theorem Inv.taken_hello (h : Inv c s) (hc : c.Ok) {i : Nat}
    (ht : s.infl 0 = .taken i 0) : s.phase i = .hello := by
  have hf := h.takenFacts ht
  have hP := h.peer i hf.dials.1 hf.inn
  rcases hP.cases with e | e | e | ⟨k, t, -, hA⟩
  · have := hf.dset; simp [(hP.init e).1] at this
  · exact absurd e (hf.notJoined rfl rfl)
  · exact e
  · have := h.conn0_of_infoSent hc hA.sent i hf.dials.1 hf.inn
    simp [hf.anone] at this

theorem Inv.np_of_acc (h : Inv c s) {j : Nat} (hjn : j < c.n) (hacc : s.acc j = true) :
    s.np j = c.n := by
  rcases h.acceptor hjn hacc with ⟨rfl, -⟩ | ⟨-, _, _, -, hA⟩
  · exact h.leader.np0
  · exact hA.np

theorem accStore_shape (hc : c.Ok) (h : Inv c s) {j : Nat}
    (hs : step c s (.accStore j) = some s') :
    ∃ i k, s.infl j = .taken i k ∧ ∃ kn',
      ((j = 0 ∧ k = 0 ∧ kn' = ins i (s.known 0)) ∨ (¬(j = 0 ∧ k = 0) ∧ kn' = s.known j)) ∧ OnlyAt j s s' ∧
      s' = { s with infl := upd s.infl j (.stored i k), conn := upd3 s.conn j i k (some ⟨i, j, k⟩), known := upd s.known j kn' } := by
  simp only [step, stepAccStore] at hs
  cases ht : s.infl j with
  | none => simp [ht] at hs
  | stored a b => simp [ht] at hs
  | taken i k =>
    refine ⟨i, k, rfl, ?_⟩
    simp only [ht] at hs
    have hf := h.takenFacts ht
    have hi0 : i ≠ 0 := by have := hf.dials.1; omega
    have hnpj := h.np_of_acc hf.jn hf.acc
    rw [if_neg (by have := hf.inn; omega)] at hs
    by_cases hmem : i ∈ s.known j
    · rw [if_pos hmem] at hs
      simp only [hf.anone, Option.some.injEq] at hs
      have e2 : upd s.known j (s.known j) = s.known := by
        funext x; simp only [upd_apply]; split
        · rename_i e; rw [e]
        · rfl
      have ho : OnlyAt j s s' := by
        rw [← hs]; exact { conn := fun _ e => upd3_ne_fst e, infl := fun _ e => if_neg e }
      refine ⟨s.known j, Or.inr ⟨?_, rfl⟩, ho, ?_⟩
      · rintro ⟨e, e'⟩
        subst e e'
        have := (h.leader.knownMem i).mp hmem
        simp [hi0, hf.anone] at this
      · rw [← hs, e2]
    · rw [if_neg hmem] at hs
      simp only [Option.some.injEq] at hs
      have hj0 : j = 0 := (h.acceptor hf.jn hf.acc).elim (·.1) fun ⟨_, _, _, _, hA⟩ =>
        absurd ((hA.knownMem i).mpr hf.inn) hmem
      subst hj0
      have hk0 : k = 0 := by
        apply Decidable.byContradiction; intro hk0
        exact hmem (h.dialer_known hc hf.dials.1 hf.inn hf.dset hk0)
      subst hk0
      have hhello := h.taken_hello hc ht
      have hjt := ((h.peer i hf.dials.1 hf.inn).hello hhello).1
      have e3 : (fun p q k' => if p = 0 ∧ q = i then (if k' = 0 then some (Conn.mk i 0 0) else none)
          else s.conn p q k') = upd3 s.conn 0 i 0 (some ⟨i, 0, 0⟩) := by
        funext p q k'
        simp only [upd3_apply]
        by_cases e : p = 0 ∧ q = i
        · obtain ⟨ep, eq⟩ := e
          subst ep eq
          by_cases ek : k' = 0
          · simp [ek]
          · simp only [ek, and_false, if_false, and_self, if_true]
            symm
            apply h.accSlot_none hf.dials
            exact (hjt 0 k').trans (joinTable_eq_none fun e => ek e.2)
        · have : ¬ (p = 0 ∧ q = i ∧ k' = 0) := fun e' => e ⟨e'.1, e'.2.1⟩
          simp [e, this]
      refine ⟨ins i (s.known 0), Or.inl ⟨rfl, rfl, rfl⟩, ?_, ?_⟩
      · rw [← hs]; exact { conn := fun q e => by simp [e], known := fun _ e => if_neg e, infl := fun _ e => if_neg e }
      · rw [← hs, e3]

/-- Storing the held connection keeps the counter equation of the acceptor j: the slot is no longer
missing, the decrement is owed instead.  `b`: the ids the acceptor counts (`n` at the leader, `j` at
peer j). -/
theorem store_accounting {j i k b k' : Nat} (kn' : List Nat) (ht : s.infl j = .taken i k)
    (hi : 0 < i) (hib : i < b) (hnone : s.conn j i k = none)
    (hold : s.need j k' = missing s j b k' + sbit s j k') :
    let s' : State := { s with infl := upd s.infl j (.stored i k),
                               conn := upd3 s.conn j i k (some ⟨i, j, k⟩), known := upd s.known j kn' }
    s'.need j k' = missing s' j b k' + sbit s' j k' := by
  intro s'
  have hs0 : sbit s j k' = 0 := sbit_of_not_stored s j k' fun a => by simp [ht]
  have hs1 : sbit s' j k' = if k = k' then 1 else 0 := sbit_stored (upd_same s.infl j _) k'
  rw [show s'.need = s.need from rfl, hold, hs0, hs1]
  by_cases e : k = k'
  · subst e
    have := missing_store s s' j b k i hi hib hnone (by simp [s', upd3_apply])
      (by intro y hy; simp [s', upd3_apply, hy])
    rw [if_pos rfl]; omega
  · rw [if_neg e, missing_congr s s' j b k' (by intro y _ _; simp [s', upd3_apply, Ne.symm e])]

/-- The decrement pays what the accept goroutine of j owed. -/
theorem dec_accounting {j i k b k' : Nat} (ht : s.infl j = .stored i k)
    (hold : s.need j k' = missing s j b k' + sbit s j k') :
    let s' : State := { s with need := upd2 s.need j k (s.need j k - 1), infl := upd s.infl j .none }
    s'.need j k' = missing s' j b k' + sbit s' j k' := by
  intro s'
  have hs0 : sbit s' j k' = 0 := sbit_none (upd_same s.infl j _) k'
  rw [sbit_stored ht] at hold
  rw [hs0, show missing s' j b k' = missing s j b k' from rfl]
  show upd2 s.need j k (s.need j k - 1) j k' = _
  rw [upd2_apply]
  by_cases e : k = k'
  · subst e; rw [if_pos ⟨rfl, rfl⟩]; rw [if_pos rfl] at hold; omega
  · rw [if_neg (fun e' => e e'.2.symm)]; rw [if_neg e] at hold; exact hold

/-- Also for `k' = k`: truncated subtraction. -/
theorem dec_waited {j k k' : Nat} (h : s.need j k' = 0) :
    upd2 s.need j k (s.need j k - 1) j k' = 0 := by
  rw [upd2_apply]
  split
  · rename_i e; rw [e.2] at h; omega
  · exact h

theorem inv_accStore (hc : c.Ok) (h : Inv c s) {j : Nat}
    (hs : step c s (.accStore j) = some s') : Inv c s' := by
  obtain ⟨i, k, ht, kn', hkn, ho, rfl⟩ := accStore_shape hc h hs
  have hf := h.takenFacts ht
  have hacc := hf.acc
  have hi := hf.dials.1
  have hi0 : i ≠ 0 := by omega
  have hl := h.links_of_link hf.dials (k := k)
    { infl := ho.infl, conn := fun _ _ _ _ e => if_neg e,
      held := fun a k' e => by simp only [upd_same, ht]; simp; exact fun e1 e2 => e ⟨e1.symm, e2.symm⟩ }
    { accSlot := fun _ _ => ⟨by simpa [upd3_apply, hf.ij] using hf.dset, hf.pnone⟩
      pendSlot := fun e => by simp [hf.pnone] at e
      dialSlot := fun _ _ => Or.inr (Or.inl (by simp [upd3_apply]))
      taken := fun e => by simp [upd_same] at e
      stored := fun _ => ⟨hf.dials, by simp [upd3_apply], hf.jn, hacc⟩ }
  have fin := Inv.of_links hl h.notBad (h.outside_of hf.jn ho.phase)
    (h.slot_upd3 ⟨(wire_dials k hf.dials).2.symm, Ne.symm hf.ij, hf.jn, hf.inn, hf.km⟩)
  rcases h.acceptor hf.jn hacc with ⟨rfl, hne⟩ | ⟨hjp, k0, todo, hpr, hA⟩
  · have hL := h.leader
    have key : (∀ x, x ∈ kn' ↔ x = 0 ∨ (upd3 s.conn 0 i k (some ⟨i, 0, k⟩) 0 x 0).isSome) ∧ kn'.Nodup ∧
        ∀ s'' : State, s''.conn = upd3 s.conn 0 i k (some ⟨i, 0, k⟩) →
          kn'.length + missing s'' 0 c.n 0 = c.n := by
      have hlen := hL.lenKnown
      rcases hkn with ⟨-, rfl, rfl⟩ | ⟨hk0, rfl⟩
      · -- connection 0: the peer is new in the leader's list
        have hni : i ∉ s.known 0 := by rw [hL.knownMem]; simp [hi0, hf.anone]
        refine ⟨fun x => ?_, nodup_ins i _ hL.knownNodup hni, fun s'' e => ?_⟩
        · simp only [mem_ins, hL.knownMem, upd3_apply]
          by_cases hx : x = i
          · subst hx; simp
          · simp [hx]
        · have := missing_store s s'' 0 c.n 0 i hi hf.inn hf.anone (by simp [e, upd3_apply])
            (by intro y hy; simp [e, upd3_apply, hy])
          rw [length_ins i _ hni]; omega
      · have hk0 : 0 ≠ k := by simpa [eq_comm] using hk0
        refine ⟨fun x => by simp [hL.knownMem, upd3_apply, hk0], hL.knownNodup, fun s'' e => ?_⟩
        rw [missing_congr s s'' 0 c.n 0 (by intro y _ _; simp [e, upd3_apply, hk0])]; exact hlen
    refine fin
      { hL with
        knownMem := key.1
        knownNodup := key.2.1
        lenKnown := key.2.2 _ rfl
        initial := fun e => absurd e hne
        started := fun _ =>
          ⟨hacc, fun k' hk' => store_accounting kn' ht hi hf.inn hf.anone ((hL.started hne).2 k' hk')⟩ }
      fun q hq hqn => ?_
    -- connection 0 of q itself: q is past `joined`
    exact (h.peer q hq hqn).onlyAt_leader ho hq Iff.rfl (hl q) fun e =>
      if_neg fun (e' : 0 = 0 ∧ q = i ∧ 0 = k) => hf.notJoined rfl e'.2.2.symm (e'.2.1 ▸ e)
  · have hj0 : j ≠ 0 := Nat.ne_of_gt hjp
    have hP := h.peer j hjp hf.jn
    have hiq : i < j := by rcases hf.dials.2 with e | e <;> omega
    have hkn' : kn' = s.known j := by
      rcases hkn with ⟨e, _⟩ | ⟨_, e⟩
      · exact absurd e hj0
      · exact e
    subst hkn'
    obtain ⟨pre, hpre, hdial⟩ := hA.dialed
    refine And.elim fin (h.parties_of_peer_step ho (Ne.symm hj0) hl (PeerInv.of_active hpr hP.runLt
      { hA with
        knownMem := ?_
        knownNodup := ?_
        dialed := ⟨pre, ?_, ?_⟩
        need := fun k' hk' => store_accounting _ ht hi hiq hf.anone (hA.need k' hk') }))
    · simpa [upd_same] using hA.knownMem
    · simpa [upd_same] using hA.knownNodup
    · intro hlt
      rw [← hpre hlt]
      exact targets_congr s _ j k0 (upd_same s.known j _)
    · -- the new entry is from a lower id: not among the slots j dials
      intro x k' hd
      rw [← hdial x k' hd]
      show (upd3 s.conn j i k _ j x k').isSome = true ↔ _
      rw [upd3_apply, if_neg]
      intro e
      have := hd.2
      omega

theorem Inv.need_eq_of_stored (h : Inv c s) {j i k : Nat} (ht : s.infl j = .stored i k) :
    s.need j k = missing s j (if j = 0 then c.n else j) k + 1 := by
  have hf := h.storedFacts ht
  rw [h.need_eq hf.jn hf.acc hf.km, sbit_stored ht, if_pos rfl]

theorem accDec_shape (h : Inv c s) {j : Nat} (hs : step c s (.accDec j) = some s') :
    ∃ i k, s.infl j = .stored i k ∧ OnlyAt j s s' ∧
      s' = { s with need := upd2 s.need j k (s.need j k - 1), infl := upd s.infl j .none } := by
  simp only [step, stepAccDec] at hs
  split at hs
  · rename_i i k ht
    have := h.need_eq_of_stored ht
    rw [if_pos (by omega)] at hs
    cases hs
    exact ⟨i, k, ht, { need := fun _ e => upd2_ne_fst e, infl := fun _ e => if_neg e }, rfl⟩
  · cases hs

theorem inv_accDec (h : Inv c s) {j : Nat}
    (hs : step c s (.accDec j) = some s') : Inv c s' := by
  obtain ⟨i, k, ht, ho, rfl⟩ := accDec_shape h hs
  have hf := h.storedFacts ht
  have hl0 := h.link i j k
  have hl := h.links_of_link hf.dials (k := k)
    { infl := ho.infl,
      held := fun a k' e => by simp only [upd_same, ht]; simp; exact fun e1 e2 => e ⟨e1.symm, e2.symm⟩ }
    { hl0 with
      dialSlot := fun _ _ => Or.inr (Or.inl hf.aset)
      taken := fun e => by simp [upd_same] at e
      stored := fun e => by simp [upd_same] at e }
  have fin := Inv.of_links hl h.notBad (h.outside_of hf.jn ho.phase) h.slot
  rcases h.acceptor hf.jn hf.acc with ⟨rfl, hne⟩ | ⟨hjp, k0, todo, hpr, hA⟩
  · have hL := h.leader
    exact fin
      { hL with
        initial := fun e => absurd e hne
        started := fun _ => ⟨hf.acc, fun k' hk' => dec_accounting ht ((hL.started hne).2 k' hk')⟩
        waited := fun k' hk' hkm => dec_waited (hL.waited k' hk' hkm) }
      fun q hq hqn => (h.peer q hq hqn).onlyAt_leader ho hq Iff.rfl (hl q) fun _ => rfl
  · have hP := h.peer j hjp hf.jn
    exact And.elim fin (h.parties_of_peer_step ho (Nat.ne_of_lt hjp) hl (PeerInv.of_active hpr hP.runLt
      { hA with
        need := fun k' hk' => dec_accounting ht (hA.need k' hk')
        waited := fun k' hk' hkm => dec_waited (hA.waited k' hk' hkm) }))

theorem inv_step (hc : c.Ok) (h : Inv c s) {e : Ev} (he : e.real = true)
    (hs : step c s e = some s') : Inv c s' := by
  cases e with
  | join i => exact inv_join hc h hs
  | lconnect => exact inv_lconnect hc h hs
  | hello i => exact inv_hello h hs
  | accTake j i k => exact inv_accTake h hs
  | accStore j => exact inv_accStore hc h hs
  | accDec j => exact inv_accDec h hs
  | oldDec | oldStore => cases he
  | waitDone p => exact inv_waitDone hc h hs
  | info => exact inv_info hc h hs
  | recvInfo i => exact inv_recvInfo hc h hs
  | dial i => exact inv_dial hc h hs

theorem reach_inv (c : Cfg) (hc : c.Ok) (s : State) (hr : Reach c s) : Inv c s := by
  induction hr with
  | init => exact inv_init c hc
  | step e _ he hs ih => exact inv_step hc ih he hs

end Mpc.Mesh
