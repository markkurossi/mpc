/-
Arrays and structs: reading a component (`slice`, `index`; `lowerE` cases
`.idx`, `.fld`) and replacing one (`amov` at the offset `pathOff` resolves) agree with the
reference interpreter's `vs[k]?` / `Val.update`.
-/
import MpcVerif.Proofs.MpclSsaExpr
import MpcVerif.Proofs.MpclSsaTy

namespace Mpc.Mpcl.Ssa
open Mpc.Mpcl

theorem constIdx_sound (P : Prog) (σ : Nat → Nat) {nm : NEnv} {e : Expr} {k : Nat} :
    constIdx nm e = some k → ∃ s w, ∀ f, evalE P (f + 1) e (NEnv.den σ nm) = some (.num s w k) := by
  fun_cases constIdx nm e <;> intro h <;> cases h
  · rename_i t s w hnt hok
    have hlt := lt_two_pow_of_inRange (litOk_lt hok)
    exact ⟨s, w, fun f => by cases t <;> cases hnt <;> simp [evalE, litVal, wrap, Nat.mod_eq_of_lt hlt]⟩
  · rename_i hf
    exact ⟨true, 32, fun f => evalE_var_den P f hf⟩

theorem slice_eval (x wa off w : Nat) :
    evalOp .slice [(x, wa), (off, 0), (off + w, 0)] w = some ((x >>> off) % 2 ^ w) := by
  simp only [evalOp, Nat.add_sub_cancel_left, Nat.mod_mod]

section
variable {P : Prog} {f : Nat} {nm : NEnv} {a : Expr} {aa1 : SArg} {ca : List SInstr} {n1 : Nat}

theorem idx_const_case {i : Expr} {n k : Nat} {e : Ty} (ha : EPost P f a nm aa1 (.arr n e) ca)
    (hnc : ¬ aa1.isConst = true) (hci : constIdx nm i = some k) (hkn : k < n) :
    EPost P (f + 1) (.idx a i) nm (.var n1 e.bits) e (ca ++ [sliceI aa1 (k * e.bits) e.bits n1]) := by
  refine ha.step fun st r va he hv hev => ?_
  obtain ⟨a1, harg, _, rfl⟩ := hv.nonConst hnc
  -- the index is evaluated with the fuel of `a`, which is positive
  obtain ⟨f', rfl⟩ := evalE_pos he
  obtain ⟨s, w, hiv⟩ := constIdx_sound P st hci
  simp only [List.map_cons, List.map_nil, harg, argVal_k, slice_eval, Option.some.injEq] at hev
  subst hev
  refine ⟨Nat.mod_lt _ (Nat.two_pow_pos _), ?_⟩
  simp only [evalE, he, hiv f', Ty.decode]
  simp [hkn, decode_mod_bits]

theorem idx_dyn_case {i : Expr} {ia : SArg} {ci : List SInstr} {n n2 w : Nat} {e : Ty}
    (ha : EPost P f a nm aa1 (.arr n e) ca) (hi : EPost P f i nm ia (.uint w) ci)
    (hnc : ¬ aa1.isConst = true) (hnci : ¬ ia.isConst = true) (hwn : 2 ^ w ≤ n ∧ 0 < e.bits) :
    EPost P (f + 1) (.idx a i) nm (.var n2 e.bits) e (ca ++ ci ++ [⟨.index, [aa1, .k 0, ia, .k e.bits], some (n2, e.bits)⟩]) := by
  refine ha.step2 hi fun st r va vi he1 hv1 he2 hv2 hev => ?_
  obtain ⟨a1, harg1, _, rfl⟩ := hv1.nonConst hnc
  obtain ⟨a2, harg2, hlt2, rfl⟩ := hv2.nonConst hnci
  have hlt2 : a2 < 2 ^ w := hlt2
  have ha2n : a2 < n := Nat.lt_of_lt_of_le hlt2 hwn.1
  have hne : e.bits ≠ 0 := by omega
  simp only [List.map_cons, List.map_nil, harg1, harg2, argVal_k, evalOp, hne, if_false, Ty.bits,
    Nat.sub_zero, Nat.mul_div_cancel _ hwn.2, ha2n, if_true, Nat.zero_add, Nat.mod_mod,
    Option.some.injEq] at hev
  subst hev
  refine ⟨Nat.mod_lt _ (Nat.two_pow_pos _), ?_⟩
  simp only [evalE, he1, he2, Ty.decode]
  simp [ha2n, Nat.mod_eq_of_lt hlt2, decode_mod_bits]

theorem fld_case {fs : List Ty} {k : Nat} {t : Ty} (ha : EPost P f a nm aa1 (.struct fs) ca)
    (hnc : ¬ aa1.isConst = true) (hfk : fs[k]? = some t) :
    EPost P (f + 1) (.fld a k) nm (.var n1 t.bits) t (ca ++ [sliceI aa1 (bitsList (fs.take k)) t.bits n1]) := by
  refine ha.step fun st r va he hv hev => ?_
  obtain ⟨a1, harg, _, rfl⟩ := hv.nonConst hnc
  simp only [List.map_cons, List.map_nil, harg, argVal_k, slice_eval, Option.some.injEq] at hev
  subst hev
  refine ⟨Nat.mod_lt _ (Nat.two_pow_pos _), ?_⟩
  simp only [evalE, he, Ty.decode, decodeList_get, hfk, Option.map_some, decode_mod_bits]

end

theorem update_agg (vs : List Val) (k : Nat) (p : List Nat) (c new : Val) (h : vs[k]? = some c) :
    Val.update (.agg vs) (k :: p) new = (Val.update c p new).map fun c' => .agg (vs.set k c') := by
  simp [Val.update, h]

theorem update_field {ts : List Ty} {k : Nat} {tk lt : Ty} {idxs : List Nat} {o : Nat} (hk : ts[k]? = some tk)
    (hin : o + lt.bits ≤ tk.bits)
    (hup : ∀ n v, Val.update (tk.decode n) idxs (lt.decode v) = some (tk.decode (amovv v n o lt.bits))) (n v : Nat) :
    Val.update (.agg (decodeList ts n)) (k :: idxs) (lt.decode v) =
      some (.agg (decodeList ts (amovv v n (bitsList (ts.take k) + o) lt.bits))) := by
  have hget : (decodeList ts n)[k]? = some (tk.decode (n >>> bitsList (ts.take k))) := by
    rw [decodeList_get, hk, Option.map_some]
  have hset := decodeList_set ts k tk n (amovv v (n >>> bitsList (ts.take k)) o lt.bits) hk
  rw [amovv_nested _ _ _ _ _ _ hin] at hset
  rw [update_agg _ _ _ _ _ hget, hup, Option.map_some, hset]

theorem pathOff_sound (P : Prog) (σ : Nat → Nat) {nm : NEnv}
    (path : List Acc) (t : Ty) (off : Nat) (lt : Ty) : pathOff nm t path = some (off, lt) →
    ∃ idxs, (∀ f, path.mapM (pathIdx (fun e env => evalE P (f + 1) e env) (NEnv.den σ nm)) = some idxs) ∧
      off + lt.bits ≤ t.bits ∧
      ∀ n v, Val.update (t.decode n) idxs (lt.decode v) = some (t.decode (amovv v n off lt.bits)) := by
  fun_induction pathOff nm t path generalizing off lt <;> intro h <;> cases h
  · rename_i t
    refine ⟨[], fun f => by simp, by omega, fun n v => ?_⟩
    simp only [Val.update, sameShape_decode, if_true, Option.some.injEq]
    apply decode_congr
    have := amovv_mid v n 0 t.bits
    simpa using this.symm
  · rename_i m e ie p k hci hkm o lt hp ih
    obtain ⟨idxs, hm, hin, hup⟩ := ih o lt hp
    obtain ⟨s, w, hiv⟩ := constIdx_sound P σ hci
    have hk : (List.replicate m e)[k]? = some e := by simp [hkm]
    refine ⟨k :: idxs, fun f => ?_, ?_, fun n v => ?_⟩
    · simp [List.mapM_cons, pathIdx, hiv f, Val.toIndex, hm f]
    · have := field_inside hk
      rw [bitsList_take_replicate e (Nat.le_of_lt hkm), ← bits_arr] at this
      omega
    · rw [decode_arr, decode_arr, update_field hk hin hup, bitsList_take_replicate e (Nat.le_of_lt hkm)]
  · rename_i fs k p tk hfk o lt hp ih
    obtain ⟨idxs, hm, hin, hup⟩ := ih o lt hp
    refine ⟨k :: idxs, fun f => ?_, ?_, fun n v => ?_⟩
    · simp [List.mapM_cons, pathIdx, hm f]
    · simp only [Ty.bits]
      have := field_inside hfk
      omega
    · simp only [Ty.decode, update_field hfk hin hup]

theorem amov_sat {σ : Nat → Nat} {va : SArg} {id bits off w next v wv : Nat}
    (h : Sat σ [⟨.amov, [va, .var id bits, .k off, .k (off + w)], some (next, bits)⟩])
    (hv : argVal σ va = (v, wv)) (hlt : σ id < 2 ^ bits) (hin : off + w ≤ bits) : σ next = amovv v (σ id) off w := by
  have hev := Sat.one.1 h
  simp only [List.map_cons, List.map_nil, hv, argVal_k, argVal_var, evalOp, Option.some.injEq, Nat.add_sub_cancel_left] at hev
  rw [show σ id % 2 ^ off + (v % 2 ^ w) <<< off + (σ id >>> (off + w)) <<< (off + w) = amovv v (σ id) off w from rfl,
    Nat.mod_eq_of_lt (amovv_lt hlt hin)] at hev
  exact hev.symm

end Mpc.Mpcl.Ssa
