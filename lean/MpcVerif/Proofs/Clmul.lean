/-
Lemmas about the carry-less product (Model/Clmul.lean).  A polynomial over
GF(2) is a natural number (its bit mask): `+` is `^^^`, `X^s ·` is `<<< s`, and
`pmul` is the product, whose laws are equations between numbers.  The model is
tied to it once: `clmul64` and `mul128Generic` compute `pmul` of their operands
read as polynomials (`wnat_clmul64`, `poly2_mul128Generic`).  The coefficient
characterisation, GF(2)-bilinearity, the absence of zero divisors and the
equality of the Karatsuba form used by the CLMUL assembly follow from that.
The laws of the sums are proved for sums of Booleans (`xsum`); a sum of labels
is such a sum in every bit (`labelBit_lsum`), a sum of pairs a sum of labels in
each component (`psum_eq`).  Core Lean only.
-/
import MpcVerif.Model.Clmul
import MpcVerif.Proofs.Iknp
namespace Mpc.Clmul
open Mpc.Iknp

def xsum : Nat → (Nat → Bool) → Bool
  | 0, _ => false
  | n + 1, f => xsum n f ^^ f n

theorem xsum_congr (n : Nat) (f g : Nat → Bool) (h : ∀ i, i < n → f i = g i) : xsum n f = xsum n g := by
  induction n with
  | zero => rfl
  | succ n ih =>
    simp only [xsum]
    rw [ih (fun i hi => h i (by omega)), h n (by omega)]

theorem xsum_false (n : Nat) (f : Nat → Bool) (h : ∀ i, i < n → f i = false) : xsum n f = false := by
  induction n with
  | zero => rfl
  | succ n ih =>
    simp only [xsum]
    rw [ih (fun i hi => h i (by omega)), h n (by omega)]; rfl

theorem xsum_xor (n : Nat) (f g : Nat → Bool) : xsum n (fun i => f i ^^ g i) = (xsum n f ^^ xsum n g) := by
  induction n with
  | zero => rfl
  | succ n ih =>
    simp only [xsum, ih]
    generalize xsum n f = a; generalize xsum n g = b; generalize f n = c; generalize g n = d
    cases a <;> cases b <;> cases c <;> cases d <;> rfl

theorem xsum_add (n m : Nat) (f : Nat → Bool) : xsum (n + m) f = (xsum n f ^^ xsum m fun i => f (n + i)) := by
  induction m with
  | zero => simp [xsum]
  | succ m ih =>
    rw [← Nat.add_assoc]
    simp only [xsum, ih, Bool.xor_assoc]

theorem xsum_single (n : Nat) (f : Nat → Bool) (i0 : Nat) (h0 : i0 < n) (h : ∀ i, i < n → i ≠ i0 → f i = false) :
    xsum n f = f i0 := by
  obtain ⟨m, rfl⟩ : ∃ m, n = i0 + (1 + m) := ⟨n - i0 - 1, by omega⟩
  rw [xsum_add, xsum_add, xsum_false i0 _ fun i hi => h i (by omega) (by omega),
    xsum_false m _ fun i hi => h _ (by omega) (by omega)]
  simp [xsum]

theorem xsum_and (n : Nat) (c : Bool) (f : Nat → Bool) : xsum n (fun i => c && f i) = (c && xsum n f) := by
  cases c
  · simp; exact xsum_false _ _ (fun _ _ => rfl)
  · simp

/-- The lowest term of a product: if `i0`, `j0` are the lowest indices at which `f`, `g` are set, then of coefficient
`i0 + j0` of the product only the term `i = j0` is left. -/
theorem xsum_lowest (f g : Nat → Bool) (i0 j0 n : Nat) (hf : f i0 = true) (hfl : ∀ i, i < i0 → f i = false)
    (hg : g j0 = true) (hgl : ∀ j, j < j0 → g j = false) (hn : j0 < n) :
    (xsum n fun i => g i && decide (i ≤ i0 + j0) && f (i0 + j0 - i)) = true := by
  rw [xsum_single n _ j0 hn fun i _ hne => ?_]
  · simp [hg, hf]
  · rcases Nat.lt_or_gt_of_ne hne with h | h
    · simp [hgl i h]
    · by_cases hle : i ≤ i0 + j0
      · simp [hfl (i0 + j0 - i) (by omega)]
      · simp [hle]

def c64 (p : W64 × W64) (k : Nat) : Bool := if k < 64 then p.1.getLsbD k else p.2.getLsbD (k - 64)

/-- Polynomial coefficient `j` of a label (`Label.Bit(j)`, 0 for `j ≥ 128`). -/
def coef (l : Label) (j : Nat) : Bool := decide (j < 128) && labelBit l j

def c256 (p : P) (k : Nat) : Bool := if k < 128 then coef p.1 k else coef p.2 (k - 128)

theorem getLsbD_d0 (l : Label) (m : Nat) : (d0 l).getLsbD m = (decide (m < 64) && l.getLsbD (64 + m)) := by
  simp [d0, BitVec.getLsbD_extractLsb']

theorem getLsbD_d1 (l : Label) (m : Nat) : (d1 l).getLsbD m = (decide (m < 64) && l.getLsbD m) := by
  simp [d1, BitVec.getLsbD_extractLsb']

theorem d0_ofD (x y : W64) : d0 (ofD x y) = x := by
  apply BitVec.eq_of_getLsbD_eq
  intro i hi
  unfold d0 ofD
  rw [BitVec.getLsbD_extractLsb', BitVec.getLsbD_append]
  have : ¬ (64 + i < 64) := by omega
  have e : 64 + i - 64 = i := by omega
  simp only [hi, this, e, decide_true, Bool.true_and, if_false]

theorem d1_ofD (x y : W64) : d1 (ofD x y) = y := by
  apply BitVec.eq_of_getLsbD_eq
  intro i hi
  unfold d1 ofD
  rw [BitVec.getLsbD_extractLsb', BitVec.getLsbD_append]
  simp only [hi, Nat.zero_add, decide_true, Bool.true_and, if_true]

theorem c64_ge (p : W64 × W64) (k : Nat) (h : 128 ≤ k) : c64 p k = false := by
  unfold c64
  have : ¬ k < 64 := by omega
  simp only [this, if_false]
  apply BitVec.getLsbD_of_ge; omega

theorem coef_lt (l : Label) (j : Nat) (h : j < 128) : coef l j = labelBit l j := by simp [coef, h]

theorem coef_xor (a b : Label) (j : Nat) : coef (a ^^^ b) j = (coef a j ^^ coef b j) := by
  unfold coef
  rw [labelBit_xor]
  cases decide (j < 128) <;> rfl

theorem coef_zero (j : Nat) : coef 0#128 j = false := by simp [coef]

theorem c256_pxor (p q : P) (k : Nat) : c256 (pxor p q) k = (c256 p k ^^ c256 q k) := by
  unfold c256 pxor
  split <;> simp [coef_xor]

theorem c256_pzero (k : Nat) : c256 pzero k = false := by
  unfold c256 pzero
  split <;> simp [coef_zero]

theorem P_ext (p q : P) (h : ∀ k, k < 256 → c256 p k = c256 q k) : p = q := by
  apply Prod.ext
  · apply label_ext
    intro j hj
    have := h j (by omega)
    simpa [c256, hj, coef_lt] using this
  · apply label_ext
    intro j hj
    have := h (128 + j) (by omega)
    have e : ¬ (128 + j < 128) := by omega
    simpa [c256, e, hj, coef_lt] using this

def wxor (p q : W64 × W64) : W64 × W64 := (p.1 ^^^ q.1, p.2 ^^^ q.2)

theorem W_ext (p q : W64 × W64) (h : ∀ k, k < 128 → c64 p k = c64 q k) : p = q := by
  apply Prod.ext
  · apply BitVec.eq_of_getLsbD_eq
    intro i hi
    have := h i (by omega)
    simpa [c64, hi] using this
  · apply BitVec.eq_of_getLsbD_eq
    intro i hi
    have := h (64 + i) (by omega)
    have e : ¬ (64 + i < 64) := by omega
    simpa [c64, e] using this

/-- Product in GF(2)[X] of the polynomials with bit masks `a` and `b`, over the bits `< n` of `b`. -/
def pmul (a b : Nat) : Nat → Nat
  | 0 => 0
  | i + 1 => pmul a b i ^^^ (if b.testBit i then a <<< i else 0)

theorem testBit_pmul (a b n k : Nat) :
    (pmul a b n).testBit k = xsum n fun i => b.testBit i && decide (i ≤ k) && a.testBit (k - i) := by
  induction n with
  | zero => simp [pmul, xsum]
  | succ n ih =>
    simp only [pmul, xsum, Nat.testBit_xor, ih]
    cases b.testBit n <;> simp [Nat.testBit_shiftLeft]

theorem xor_xor_xor_comm (a b c d : Nat) : (a ^^^ b) ^^^ (c ^^^ d) = (a ^^^ c) ^^^ (b ^^^ d) := by ac_rfl

theorem pmul_xor_left (a a' b n : Nat) : pmul (a ^^^ a') b n = pmul a b n ^^^ pmul a' b n := by
  induction n with
  | zero => simp [pmul]
  | succ n ih =>
    simp only [pmul, ih]
    cases b.testBit n
    · simp
    · simp only [if_true, Nat.shiftLeft_xor_distrib]; exact xor_xor_xor_comm ..

theorem pmul_xor_right (a b b' n : Nat) : pmul a (b ^^^ b') n = pmul a b n ^^^ pmul a b' n := by
  induction n with
  | zero => simp [pmul]
  | succ n ih =>
    have e : (if (b ^^^ b').testBit n then a <<< n else 0) =
        (if b.testBit n then a <<< n else 0) ^^^ (if b'.testBit n then a <<< n else 0) := by
      rw [Nat.testBit_xor]
      cases b.testBit n <;> cases b'.testBit n <;> simp
    simp only [pmul, ih, e]
    exact xor_xor_xor_comm ..

theorem pmul_shiftLeft_left (a b s n : Nat) : pmul (a <<< s) b n = pmul a b n <<< s := by
  induction n with
  | zero => simp [pmul]
  | succ n ih =>
    simp only [pmul, ih, Nat.shiftLeft_xor_distrib]
    cases b.testBit n
    · simp
    · simp only [if_true, ← Nat.shiftLeft_add, Nat.add_comm]

theorem pmul_eq_zero (a b n : Nat) (h : ∀ i, i < n → b.testBit i = false) : pmul a b n = 0 := by
  induction n with
  | zero => rfl
  | succ n ih => simp [pmul, ih fun i hi => h i (by omega), h n (by omega)]

theorem pmul_shiftLeft_right (a b s n : Nat) : pmul a (b <<< s) (s + n) = pmul a b n <<< s := by
  induction n with
  | zero =>
    rw [Nat.add_zero, pmul_eq_zero _ _ _ fun i hi => by simp [Nat.testBit_shiftLeft, Nat.not_le.mpr hi]]
    simp [pmul]
  | succ n ih =>
    have e : (b <<< s).testBit (s + n) = b.testBit n := by simp [Nat.testBit_shiftLeft]
    rw [← Nat.add_assoc]
    simp only [pmul, ih, e, Nat.shiftLeft_xor_distrib]
    cases b.testBit n
    · simp
    · simp only [if_true, ← Nat.shiftLeft_add, Nat.add_comm]

theorem pmul_trunc (a b n m : Nat) (hb : b < 2 ^ n) : pmul a b (n + m) = pmul a b n := by
  induction m with
  | zero => rfl
  | succ m ih =>
    rw [← Nat.add_assoc]
    simp only [pmul, ih]
    rw [testBit_of_lt_two_pow hb (Nat.le_add_right n m)]
    simp

/-- `(a0 + X^n a1)(b0 + X^n b1)`, schoolbook. -/
theorem pmul_halves (a0 a1 b0 b1 n : Nat) (hb0 : b0 < 2 ^ n) :
    pmul (a0 ^^^ a1 <<< n) (b0 ^^^ b1 <<< n) (n + n) =
      pmul a0 b0 n ^^^ (pmul a0 b1 n ^^^ pmul a1 b0 n) <<< n ^^^ pmul a1 b1 n <<< (n + n) := by
  rw [pmul_xor_left, pmul_xor_right, pmul_xor_right, pmul_shiftLeft_left, pmul_shiftLeft_left, pmul_shiftLeft_right,
    pmul_shiftLeft_right,
    pmul_trunc _ _ n n hb0, pmul_trunc _ _ n n hb0, Nat.shiftLeft_xor_distrib, Nat.shiftLeft_add]
  ac_rfl

def wnat (p : W64 × W64) : Nat := p.1.toNat ^^^ p.2.toNat <<< 64

/-- `a << i` as a 128-bit value, in the two halves `clmul64` keeps it in. -/
theorem toNat_shl_split (a : W64) (i : Nat) (hi : i < 64) :
    (a <<< i).toNat ^^^ (a >>> (64 - i)).toNat <<< 64 = a.toNat <<< i := by
  apply Nat.eq_of_testBit_eq
  intro k
  simp only [Nat.testBit_xor, Nat.testBit_shiftLeft, BitVec.toNat_shiftLeft, Nat.testBit_mod_two_pow,
    BitVec.toNat_ushiftRight, Nat.testBit_shiftRight]
  by_cases hk : k < 64
  · simp [hk, Nat.not_le.mpr hk]
  · simp [hk, Nat.not_lt.mp hk, show i ≤ k by omega, show 64 - i + (k - 64) = k - i by omega]

theorem wnat_xor (p : W64 × W64) (x y : W64) : wnat (p.1 ^^^ x, p.2 ^^^ y) = wnat p ^^^ wnat (x, y) := by
  simp only [wnat, BitVec.toNat_xor, Nat.shiftLeft_xor_distrib]
  exact xor_xor_xor_comm ..

theorem wnat_clmulStep (a b : W64) (s : W64 × W64) (i : Nat) (hi : i < 64) :
    wnat (clmulStep a b s i) = wnat s ^^^ (if b.getLsbD i then a.toNat <<< i else 0) := by
  unfold clmulStep
  split
  · split
    · next h0 =>
      subst h0
      have := wnat_xor s a 0#64
      rwa [BitVec.xor_zero, show wnat (a, 0#64) = a.toNat <<< 0 by simp [wnat]] at this
    · rw [← toNat_shl_split a i hi]
      exact wnat_xor s _ _
  · exact (Nat.xor_zero _).symm

theorem wnat_clmulLoop (a b : W64) (cnt : Nat) (hc : cnt ≤ 64) : wnat (clmulLoop a b cnt) = pmul a.toNat b.toNat cnt := by
  induction cnt with
  | zero => simp [clmulLoop, wnat, pmul]
  | succ i ih => rw [clmulLoop, pmul, wnat_clmulStep _ _ _ _ (by omega), ih (by omega), BitVec.testBit_toNat]

theorem wnat_clmul64 (a b : W64) : wnat (clmul64 a b) = pmul a.toNat b.toNat 64 :=
  wnat_clmulLoop a b 64 (Nat.le_refl _)

theorem testBit_wnat (p : W64 × W64) (k : Nat) : (wnat p).testBit k = c64 p k := by
  unfold wnat c64
  rw [Nat.testBit_xor, Nat.testBit_shiftLeft, BitVec.testBit_toNat, BitVec.testBit_toNat]
  by_cases h : k < 64
  · simp [h, Nat.not_le.mpr h]
  · simp [h, Nat.not_lt.mp h]

theorem wnat_inj (p q : W64 × W64) (h : wnat p = wnat q) : p = q :=
  W_ext p q fun k _ => by rw [← testBit_wnat, ← testBit_wnat, h]

/-- A label as a polynomial: coefficient `j` is `Label.Bit(j)`. -/
def poly (l : Label) : Nat := (d0 l).toNat ^^^ (d1 l).toNat <<< 64
def poly2 (p : P) : Nat := poly p.1 ^^^ poly p.2 <<< 128

theorem poly_ofD (x y : W64) : poly (ofD x y) = x.toNat ^^^ y.toNat <<< 64 := by
  rw [poly, d0_ofD, d1_ofD]

theorem testBit_poly (l : Label) (j : Nat) : (poly l).testBit j = coef l j := by
  unfold poly coef labelBit labelPos
  rw [Nat.testBit_xor, Nat.testBit_shiftLeft, BitVec.testBit_toNat, BitVec.testBit_toNat, getLsbD_d0, getLsbD_d1]
  by_cases h : j < 64
  · simp [h, show ¬ 64 ≤ j by omega, show j < 128 by omega, Nat.add_comm]
  · by_cases h2 : j < 128
    · simp [h, h2, show 64 ≤ j by omega, show j - 64 < 64 by omega]
    · simp [h, h2, show ¬ j - 64 < 64 by omega]

theorem testBit_poly2 (p : P) (k : Nat) : (poly2 p).testBit k = c256 p k := by
  unfold poly2 c256
  rw [Nat.testBit_xor, Nat.testBit_shiftLeft, testBit_poly, testBit_poly]
  by_cases h : k < 128
  · simp [h, Nat.not_le.mpr h]
  · simp [h, Nat.not_lt.mp h, coef]

theorem poly2_inj (p q : P) (h : poly2 p = poly2 q) : p = q :=
  P_ext p q fun k _ => by rw [← testBit_poly2, ← testBit_poly2, h]

theorem poly_xor (a b : Label) : poly (a ^^^ b) = poly a ^^^ poly b :=
  Nat.eq_of_testBit_eq fun j => by rw [Nat.testBit_xor, testBit_poly, testBit_poly, testBit_poly, coef_xor]

theorem poly2_pxor (p q : P) : poly2 (pxor p q) = poly2 p ^^^ poly2 q := by
  simp only [poly2, pxor, poly_xor, Nat.shiftLeft_xor_distrib]
  exact xor_xor_xor_comm ..

/-- How `mul128Generic` stores the four partial products `(l, h)` in its two labels. -/
theorem halves_assemble (n l00 h00 l01 h01 l10 h10 l11 h11 : Nat) :
    (l00 ^^^ (h00 ^^^ (l01 ^^^ l10)) <<< n) ^^^ ((h01 ^^^ h10 ^^^ l11) ^^^ h11 <<< n) <<< (n + n) =
      (l00 ^^^ h00 <<< n) ^^^ ((l01 ^^^ h01 <<< n) ^^^ (l10 ^^^ h10 <<< n)) <<< n ^^^ (l11 ^^^ h11 <<< n) <<< (n + n) := by
  simp only [Nat.shiftLeft_xor_distrib, ← Nat.shiftLeft_add]
  ac_rfl

/-- The schoolbook rule on 64-bit halves, `pmul_halves`, is the one `mul128Generic` follows. -/
theorem poly2_mul128Generic (a b : Label) : poly2 (mul128Generic a b) = pmul (poly a) (poly b) 128 := by
  have h := pmul_halves (d0 a).toNat (d1 a).toNat (d0 b).toNat (d1 b).toNat 64 (d0 b).isLt
  rw [← wnat_clmul64, ← wnat_clmul64, ← wnat_clmul64, ← wnat_clmul64] at h
  rw [poly, poly]
  refine Eq.trans ?_ h.symm
  simp only [mul128Generic, poly2, poly_ofD, wnat, BitVec.toNat_xor]
  exact halves_assemble 64 ..

theorem c256_mul128Generic (a b : Label) (k : Nat) :
    c256 (mul128Generic a b) k = xsum 128 fun i => coef b i && decide (i ≤ k) && coef a (k - i) := by
  rw [← testBit_poly2, poly2_mul128Generic, testBit_pmul]
  simp only [testBit_poly]

theorem mul128_xor_left (a a' b : Label) : mul128 (a ^^^ a') b = pxor (mul128 a b) (mul128 a' b) :=
  poly2_inj _ _ (by simp only [mul128, poly2_pxor, poly2_mul128Generic, poly_xor, pmul_xor_left])

theorem mul128_xor_right (a b b' : Label) : mul128 a (b ^^^ b') = pxor (mul128 a b) (mul128 a b') :=
  poly2_inj _ _ (by simp only [mul128, poly2_pxor, poly2_mul128Generic, poly_xor, pmul_xor_right])

theorem exists_lowest (f : Nat → Bool) (N : Nat) : (∃ j, j < N ∧ f j = true) →
    ∃ j0, j0 < N ∧ f j0 = true ∧ ∀ j, j < j0 → f j = false := by
  rintro ⟨j, hj, hf⟩
  induction j using Nat.strongRecOn with
  | ind j ih =>
    by_cases h : ∃ i, i < j ∧ f i = true
    · obtain ⟨i, hi, hfi⟩ := h
      exact ih i hi (by omega) hfi
    · refine ⟨j, hj, hf, fun i hi => ?_⟩
      cases hfi : f i
      · rfl
      · exact absurd ⟨i, hi, hfi⟩ h

theorem exists_coef_of_ne_zero (a : Label) (h : a ≠ 0#128) : ∃ j, j < 128 ∧ coef a j = true := by
  apply Classical.byContradiction
  intro hn
  apply h
  apply label_ext
  intro j hj
  rw [labelBit_zero]
  cases hc : labelBit a j
  · rfl
  · exact absurd ⟨j, hj, by rw [coef_lt _ _ hj]; exact hc⟩ hn

theorem mul128_ne_zero (a b : Label) (ha : a ≠ 0#128) (hb : b ≠ 0#128) : mul128 a b ≠ pzero := by
  obtain ⟨i0, _, hai, hal⟩ := exists_lowest (coef a) 128 (exists_coef_of_ne_zero a ha)
  obtain ⟨j0, hj0, hbj, hbl⟩ := exists_lowest (coef b) 128 (exists_coef_of_ne_zero b hb)
  intro h
  have hc := c256_mul128Generic a b (i0 + j0)
  rw [show mul128Generic a b = pzero from h, c256_pzero, xsum_lowest _ _ i0 j0 128 hai hal hbj hbl hj0] at hc
  cases hc

theorem clmul64_xor_left (a a' b : W64) : clmul64 (a ^^^ a') b = wxor (clmul64 a b) (clmul64 a' b) :=
  wnat_inj _ _ (by rw [wxor, wnat_xor, wnat_clmul64, wnat_clmul64, wnat_clmul64, BitVec.toNat_xor, pmul_xor_left])

theorem clmul64_xor_right (a b b' : W64) : clmul64 a (b ^^^ b') = wxor (clmul64 a b) (clmul64 a b') :=
  wnat_inj _ _ (by rw [wxor, wnat_xor, wnat_clmul64, wnat_clmul64, wnat_clmul64, BitVec.toNat_xor, pmul_xor_right])

theorem mul128Karatsuba_eq (a b : Label) : mul128Karatsuba a b = mul128Generic a b := by
  unfold mul128Karatsuba mul128Generic
  simp only [clmul64_xor_left, clmul64_xor_right, wxor]
  generalize clmul64 (d0 a) (d0 b) = p00
  generalize clmul64 (d0 a) (d1 b) = p01
  generalize clmul64 (d1 a) (d0 b) = p10
  generalize clmul64 (d1 a) (d1 b) = p11
  have e1 : p00.1 ^^^ p10.1 ^^^ (p01.1 ^^^ p11.1) ^^^ p00.1 ^^^ p11.1 = p01.1 ^^^ p10.1 := by grind
  have e2 : p11.1 ^^^ (p00.2 ^^^ p10.2 ^^^ (p01.2 ^^^ p11.2) ^^^ p00.2 ^^^ p11.2) = p01.2 ^^^ p10.2 ^^^ p11.1 := by grind
  rw [e1, e2]

theorem pxor_assoc (a b c : P) : pxor (pxor a b) c = pxor a (pxor b c) := by
  simp [pxor, BitVec.xor_assoc]

theorem pxor_comm (a b : P) : pxor a b = pxor b a := by
  simp [pxor, BitVec.xor_comm]

@[simp] theorem pxor_self (a : P) : pxor a a = pzero := by simp [pxor, pzero]
@[simp] theorem pxor_zero (a : P) : pxor a pzero = a := by simp [pxor, pzero]
@[simp] theorem zero_pxor (a : P) : pxor pzero a = a := by simp [pxor, pzero]

theorem mul128_zero_left (b : Label) : mul128 0#128 b = pzero := by
  have h := mul128_xor_left 0#128 0#128 b
  rwa [BitVec.xor_self, pxor_self] at h

theorem mul128_zero_right (a : Label) : mul128 a 0#128 = pzero := by
  have h := mul128_xor_right a 0#128 0#128
  rwa [BitVec.xor_self, pxor_self] at h

instance : Std.Associative pxor := ⟨pxor_assoc⟩
instance : Std.Commutative pxor := ⟨pxor_comm⟩

theorem pxor_eq_zero_iff (a b : P) : pxor a b = pzero ↔ a = b := by
  constructor
  · intro h
    have h1 : a.1 ^^^ b.1 = 0#128 := congrArg Prod.fst h
    have h2 : a.2 ^^^ b.2 = 0#128 := congrArg Prod.snd h
    exact Prod.ext (BitVec.xor_eq_zero_iff.mp h1) (BitVec.xor_eq_zero_iff.mp h2)
  · rintro rfl; simp

theorem pxor_left_cancel (a b c : P) : pxor a b = pxor a c ↔ b = c := by
  constructor
  · intro h
    have := congrArg (pxor a) h
    rw [← pxor_assoc, ← pxor_assoc, pxor_self, zero_pxor, zero_pxor] at this
    exact this
  · rintro rfl; rfl

theorem labelBit_lsum (n : Nat) (f : Nat → Label) (j : Nat) : labelBit (lsum n f) j = xsum n fun i => labelBit (f i) j := by
  induction n with
  | zero => exact labelBit_zero j
  | succ n ih => rw [lsum, xsum, labelBit_xor, ih]

theorem lsum_congr (n : Nat) (f g : Nat → Label) (h : ∀ i, i < n → f i = g i) : lsum n f = lsum n g :=
  label_ext _ _ fun j _ => by rw [labelBit_lsum, labelBit_lsum, xsum_congr n _ _ fun i hi => by rw [h i hi]]

theorem lsum_add (n m : Nat) (f : Nat → Label) : lsum (n + m) f = lsum n f ^^^ lsum m fun i => f (n + i) :=
  label_ext _ _ fun j _ => by rw [labelBit_xor, labelBit_lsum, labelBit_lsum, labelBit_lsum, xsum_add]

theorem lsum_zero (n : Nat) (f : Nat → Label) (h : ∀ i, i < n → f i = 0#128) : lsum n f = 0#128 :=
  label_ext _ _ fun j _ => by rw [labelBit_lsum, labelBit_zero, xsum_false n _ fun i hi => by rw [h i hi, labelBit_zero]]

theorem lsum_single (n : Nat) (f : Nat → Label) (i0 : Nat) (h0 : i0 < n) (h : ∀ i, i < n → i ≠ i0 → f i = 0#128) :
    lsum n f = f i0 :=
  label_ext _ _ fun j _ => by
    rw [labelBit_lsum, xsum_single n _ i0 h0 fun i hi hne => by rw [h i hi hne, labelBit_zero]]

theorem lsum_xor (n : Nat) (f g : Nat → Label) : lsum n (fun i => f i ^^^ g i) = lsum n f ^^^ lsum n g :=
  label_ext _ _ fun j _ => by simp only [labelBit_lsum, labelBit_xor, xsum_xor]

theorem psum_eq (n : Nat) (f : Nat → P) : psum n f = (lsum n fun i => (f i).1, lsum n fun i => (f i).2) := by
  induction n with
  | zero => rfl
  | succ n ih => rw [psum, ih]; rfl

theorem psum_congr (n : Nat) (f g : Nat → P) (h : ∀ i, i < n → f i = g i) : psum n f = psum n g := by
  rw [psum_eq, psum_eq, lsum_congr n _ _ fun i hi => congrArg Prod.fst (h i hi),
    lsum_congr n _ _ fun i hi => congrArg Prod.snd (h i hi)]

theorem psum_zero (n : Nat) (f : Nat → P) (h : ∀ i, i < n → f i = pzero) : psum n f = pzero := by
  rw [psum_eq, lsum_zero n _ fun i hi => congrArg Prod.fst (h i hi), lsum_zero n _ fun i hi => congrArg Prod.snd (h i hi)]
  rfl

theorem psum_pxor (n : Nat) (f g : Nat → P) : psum n (fun i => pxor (f i) (g i)) = pxor (psum n f) (psum n g) := by
  simp only [psum_eq, pxor, lsum_xor]

theorem psum_add (n m : Nat) (f : Nat → P) : psum (n + m) f = pxor (psum n f) (psum m fun i => f (n + i)) := by
  simp only [psum_eq, pxor, lsum_add]

theorem psum_single (n : Nat) (f : Nat → P) (i0 : Nat) (h0 : i0 < n) (h : ∀ i, i < n → i ≠ i0 → f i = pzero) :
    psum n f = f i0 := by
  rw [psum_eq, lsum_single n _ i0 h0 fun i hi hne => congrArg Prod.fst (h i hi hne),
    lsum_single n _ i0 h0 fun i hi hne => congrArg Prod.snd (h i hi hne)]

theorem mul128_lsum_left (n : Nat) (c : Nat → Label) (d : Label) :
    mul128 (lsum n c) d = psum n fun i => mul128 (c i) d := by
  induction n with
  | zero => simp [lsum, psum, mul128_zero_left]
  | succ n ih => simp only [lsum, psum, mul128_xor_left, ih]

end Mpc.Clmul
