/-
C14, on Model/Format.lean: what both parsers return for ARBITRARY bytes.  Every step of either parser
gets one lemma `Out E P (step ..)`: a value satisfies `P`, a failure lies in the class `E`.  Read at
`.ok`, the one for the whole parser says that an accepted circuit is well formed
(`PCircuit.Accepted`, through the seen-set invariant `Tracks`); read at `.error`, that the failure
is no panic (Bristol; native with the gate-count guard) and never a recursion bound.  At the end,
`normG`: what the two round trips (FormatRT, FormatBristol) have in common beyond the above.
-/
import MpcVerif.Model.Format
import MpcVerif.Proofs.CircuitLemmas

namespace Mpc
namespace Fmt

/-- The outcome without the value: `Option Err` has decidable equality, `R PCircuit` has not
(`IOArg` derives none), so closed instances are settled by `decide` on this. -/
def resClass {α : Type} : R α → Option Err
  | .ok _ => none
  | .error e => some e

theorem resClass_err {α : Type} (r : R α) (e : Err) (h : resClass r = some e) : r = .error e := by
  cases r <;> simp_all [resClass]

theorem resClass_ok {α : Type} (r : R α) (h : resClass r = none) : ∃ a, r = .ok a := by
  cases r <;> simp_all [resClass]

abbrev Out {α : Type} (E : Err → Prop) (P : α → Prop) : R α → Prop
  | .ok a => P a
  | .error e => E e

theorem Out.of_ok {α : Type} {E : Err → Prop} {P : α → Prop} {x : R α} {a : α} (h : Out E P x)
    (hx : x = .ok a) : P a := by subst hx; exact h

theorem Out.of_error {α : Type} {E : Err → Prop} {P : α → Prop} {x : R α} {e : Err} (h : Out E P x)
    (hx : x = .error e) : E e := by subst hx; exact h

/-- The walks through the parser bodies use this for every `if`: `split` on an `if` inside a body
of that size is very slow to check; on a `match` it is not. -/
theorem Out.guard {α : Type} {E : Err → Prop} {P : α → Prop} {c : Prop} [Decidable c] {e : Err} {x : R α}
    (he : E e) (h : ¬ c → Out E P x) : Out E P (if c then .error e else x) := by
  by_cases hc : c
  · rw [if_pos hc]; exact he
  · rw [if_neg hc]; exact h hc

theorem deliver_pos (cfg : RdCfg) (req k : Nat) : 1 ≤ cfg.deliver req k := by
  simp only [RdCfg.deliver]; omega

theorem deliver_le (cfg : RdCfg) (req k : Nat) (h : 0 < req) : cfg.deliver req k ≤ req := by
  simp only [RdCfg.deliver]; omega

theorem take_ne_nil {α : Type} (l : List α) (n : Nat) (hl : l ≠ []) (hn : 0 < n) : l.take n ≠ [] := by
  simp [List.take_eq_nil_iff, hl]; omega

theorem Rd.all_init (b : Bytes) : (Rd.init b).all = b := rfl

theorem read_none_iff (cfg : RdCfg) (n : Nat) (rd : Rd) : rd.read cfg n = none ↔ rd.all = [] := by
  unfold Rd.read Rd.all
  cases hb : rd.buf with
  | nil =>
    cases hr : rd.rest with
    | nil => simp
    | cons a t => by_cases h : cfg.bufSize ≤ n <;> simp [h]
  | cons a t => simp

theorem read_some (cfg : RdCfg) (n : Nat) (rd : Rd) (d : Bytes) (rd' : Rd) (hn : 0 < n)
    (h : rd.read cfg n = some (d, rd')) :
    d ≠ [] ∧ d.length ≤ n ∧ d ++ rd'.all = rd.all ∧ (rd.rest = [] → rd'.rest = []) := by
  unfold Rd.read at h
  unfold Rd.all
  cases hb : rd.buf with
  | nil =>
    rw [hb] at h
    cases hr : rd.rest with
    | nil => rw [hr] at h; simp at h
    | cons a t =>
      rw [hr] at h
      by_cases hbs : cfg.bufSize ≤ n
      · rw [if_pos hbs] at h
        cases h
        have hp := deliver_pos cfg n rd.k
        have hl := deliver_le cfg n rd.k hn
        refine ⟨take_ne_nil _ _ (by simp) (by omega), ?_, by simp, nofun⟩
        simp only [List.length_take]; omega
      · rw [if_neg hbs] at h
        cases h
        have hp := deliver_pos cfg cfg.bufSize rd.k
        refine ⟨take_ne_nil _ _ (take_ne_nil _ _ (by simp) (by omega)) hn, ?_, ?_, nofun⟩
        · simp only [List.length_take]; omega
        · simp only [List.nil_append]
          rw [← List.append_assoc, List.take_append_drop, List.take_append_drop]
  | cons a t =>
    rw [hb] at h
    cases h
    refine ⟨take_ne_nil _ _ (by simp) hn, ?_, ?_, id⟩
    · simp only [List.length_take]; omega
    · simp only
      rw [← List.append_assoc, List.take_append_drop]

theorem readFullAux_spec (cfg : RdCfg) : ∀ (f n : Nat) (rd : Rd), n ≤ f →
    (n ≤ rd.all.length → ∃ rd', Rd.readFullAux cfg f n rd = some (rd.all.take n, rd') ∧
        rd'.all = rd.all.drop n ∧ (rd.rest = [] → rd'.rest = [])) ∧
    (rd.all.length < n → Rd.readFullAux cfg f n rd = none) := by
  intro f
  induction f with
  | zero =>
    intro n rd hn
    have : n = 0 := by omega
    subst this
    simp [Rd.readFullAux]
  | succ f ih =>
    intro n rd hn
    cases n with
    | zero => simp [Rd.readFullAux]
    | succ n =>
      simp only [Rd.readFullAux]
      cases hrd : rd.read cfg (n + 1) with
      | none =>
        have := (read_none_iff cfg (n + 1) rd).1 hrd
        simp [this]
      | some p =>
        obtain ⟨d, rd1⟩ := p
        obtain ⟨hd1, hd2, hd3, hd4⟩ := read_some cfg (n + 1) rd d rd1 (by omega) hrd
        have hdl : 0 < d.length := List.length_pos_iff.2 hd1
        obtain ⟨ih1, ih2⟩ := ih (n + 1 - d.length) rd1 (by omega)
        have hlen : rd.all.length = d.length + rd1.all.length := by rw [← hd3]; simp
        constructor
        · intro hle
          obtain ⟨rd', h1, h2, h3⟩ := ih1 (by omega)
          exact ⟨rd', by simp [h1, ← hd3, List.take_append, List.take_of_length_le hd2],
            by simp [h2, ← hd3, List.drop_append, List.drop_of_length_le hd2], fun hr => h3 (hd4 hr)⟩
        · intro hlt
          have := ih2 (by omega)
          simp [this]

theorem readFull_ok (cfg : RdCfg) (n : Nat) (rd : Rd) (h : n ≤ rd.all.length) :
    ∃ rd', rd.readFull cfg n = some (rd.all.take n, rd') ∧ rd'.all = rd.all.drop n ∧
      (rd.rest = [] → rd'.rest = []) :=
  (readFullAux_spec cfg n n rd (Nat.le_refl _)).1 h

theorem readFull_none (cfg : RdCfg) (n : Nat) (rd : Rd) (h : rd.all.length < n) :
    rd.readFull cfg n = none :=
  (readFullAux_spec cfg n n rd (Nat.le_refl _)).2 h

theorem readFullAux_some (cfg : RdCfg) (f n : Nat) (rd : Rd) (d : Bytes) (rd' : Rd) (hf : n ≤ f)
    (h : Rd.readFullAux cfg f n rd = some (d, rd')) :
    d = rd.all.take n ∧ n ≤ rd.all.length ∧ rd'.all = rd.all.drop n ∧ (rd.rest = [] → rd'.rest = []) := by
  obtain ⟨s1, s2⟩ := readFullAux_spec cfg f n rd hf
  by_cases hle : n ≤ rd.all.length
  · obtain ⟨rd2, h1, h2, h3⟩ := s1 hle
    rw [h1] at h
    cases h
    exact ⟨rfl, hle, h2, h3⟩
  · rw [s2 (by omega)] at h
    cases h

theorem readN_ok_iff (cfg : RdCfg) (n : Nat) (rd : Rd) (x : Bytes × Rd) :
    readN cfg n rd = .ok x ↔ rd.readFull cfg n = some x := by
  unfold readN; cases rd.readFull cfg n <;> simp

theorem readN_out (cfg : RdCfg) (n : Nat) (rd : Rd) :
    Out (· = .error) (fun | (b, rd') => b = rd.all.take n ∧ n ≤ rd.all.length ∧ rd'.all = rd.all.drop n)
      (readN cfg n rd) := by
  unfold readN
  cases h : rd.readFull cfg n with
  | none => rfl
  | some x =>
    obtain ⟨a1, a2, a3, _⟩ := readFullAux_some cfg n n rd _ _ (Nat.le_refl _) h
    exact ⟨a1, a2, a3⟩

theorem readU32_out (cfg : RdCfg) (rd : Rd) :
    Out (· = .error) (fun | (_, rd') => rd'.all.length + 4 = rd.all.length) (readU32 cfg rd) := by
  unfold readU32
  have h := readN_out cfg 4 rd
  split <;> rename_i he <;> rw [he] at h
  · exact h
  · obtain ⟨_, _, a3⟩ := h
    show _ + 4 = _
    rw [a3, List.length_drop]; omega

theorem declare_out (n : Nat) : Out (· = .oversize) (fun _ => n ≤ cap) (declare n) :=
  .guard rfl Nat.le_of_not_lt

theorem declare_ok (n : Nat) (h : n ≤ cap) : declare n = .ok () := by
  simp [declare]; omega

def seenFn (s : Store Bool) : Nat → Bool := fun w => decide (w < s.size) && s.get w

theorem needSeen_eq (s : Store Bool) (w : Nat) :
    needSeen s w = if seenFn s w then .ok () else .error .error := by
  unfold needSeen seenGet seenFn
  by_cases hw : w < s.size <;> simp [hw]

theorem needSeen_out (s : Store Bool) (w : Nat) :
    Out (· = .error) (fun _ => w < s.size ∧ seenFn s w = true) (needSeen s w) := by
  rw [needSeen_eq]
  split
  · exact ⟨of_decide_eq_true (Bool.and_eq_true _ _ ▸ ‹seenFn s w = true›).1, ‹_›⟩
  · rfl

theorem needSeen_of_seenFn (s : Store Bool) (w : Nat) (h : seenFn s w = true) : needSeen s w = .ok () := by
  rw [needSeen_eq, h]; rfl

theorem seenSet_out (s : Store Bool) (w : Nat) :
    Out (· = .error) (fun s' => w < s.size ∧ s'.size = s.size ∧ seenFn s' = fun x => x == w || seenFn s x)
      (seenSet s w) := by
  unfold seenSet
  by_cases hw : w < s.size
  · rw [if_pos hw]
    refine ⟨hw, by simp, funext fun x => ?_⟩
    simp only [seenFn, Store.size_set]
    rw [Store.get_set s w x true hw]
    by_cases hx : w = x
    · subst hx; simp [hw]
    · have : (x == w) = false := by simp; omega
      simp [hx, this]
  · rw [if_neg hw]

/-- What both gate loops maintain: from the seen-set `seen`, the gates `gs` read only wires
seen before, write wires in range, and leave the seen-set `seen'`. -/
def Tracks (seen : Store Bool) (gs : List Gate) (seen' : Store Bool) : Prop :=
  wfFrom seen.size gs (seenFn seen) = true ∧ seen'.size = seen.size ∧
  seenFn seen' = definedAfter gs (seenFn seen)

theorem Tracks.nil (seen : Store Bool) : Tracks seen [] seen := ⟨rfl, rfl, rfl⟩

/-- The three seen-set steps both parsers make for one gate: `Seen.Get` of its inputs (in range and
seen), `Seen.Set` of its output. -/
structure Passes (seen : Store Bool) (g : Gate) (seen2 : Store Bool) : Prop where
  in0 : needSeen seen g.in0 = .ok ()
  in1 : g.op.binary = true → needSeen seen g.in1 = .ok ()
  out : seenSet seen g.out = .ok seen2

theorem Tracks.cons {seen seen2 seen' : Store Bool} {g : Gate} {gs : List Gate}
    (hp : Passes seen g seen2) (ht : Tracks seen2 gs seen') : Tracks seen (g :: gs) seen' := by
  obtain ⟨hw0, hd0⟩ := (needSeen_out _ _).of_ok hp.in0
  obtain ⟨hwo, hsz, hfn⟩ := (seenSet_out _ _).of_ok hp.out
  obtain ⟨i1, i2, i3⟩ := ht
  rw [hsz, hfn] at i1
  rw [hfn] at i3
  exact ⟨(wfFrom_cons_parts _ _ _ _).mpr ⟨hd0, fun hb => ((needSeen_out _ _).of_ok (hp.in1 hb)).2, hw0,
    fun hb => ((needSeen_out _ _).of_ok (hp.in1 hb)).1, hwo, i1⟩, by rw [i2, hsz], by rw [definedAfter_cons, i3]⟩

/-- The converse of `Tracks.cons` on its `wfFrom` part; the round trips step through the gate loops
with it.  It is `wfFrom_cons` (CircuitLemmas) put in terms of the seen-set. -/
theorem passes_of_wfFrom_cons {seen : Store Bool} {g : Gate} {gs : List Gate}
    (h : wfFrom seen.size (g :: gs) (seenFn seen) = true) :
    Passes seen g (seen.set g.out true) ∧
    wfFrom (seen.set g.out true).size gs (seenFn (seen.set g.out true)) = true := by
  obtain ⟨w1, w2, _, _, w5, w6⟩ := wfFrom_cons _ _ _ _ h
  have hs : seenSet seen g.out = .ok (seen.set g.out true) := if_pos w5
  obtain ⟨_, hs2, hs3⟩ := (seenSet_out _ _).of_ok hs
  rw [← hs3, ← hs2] at w6
  exact ⟨⟨needSeen_of_seenFn _ _ w1, fun hb => needSeen_of_seenFn _ _ (w2 hb), hs⟩, w6⟩

theorem seenInit_out (nw : Nat) (iw : Int) :
    Out (· = .error) (fun s => s.size = nw ∧ iw ≤ nw ∧ seenFn s = fun w => decide (w < iw.toNat))
      (seenInit nw iw) := by
  unfold seenInit
  refine .guard rfl fun h => ⟨by simp, by omega, funext fun w => ?_⟩
  by_cases hw : w < nw
  · simp [seenFn, Store.get, hw, Int.lt_toNat]
  · simp [seenFn, hw]; omega

theorem allSeen_iff (s : Store Bool) : allSeen s = true ↔ ∀ w, w < s.size → seenFn s w = true := by
  simp only [allSeen, Array.all_eq_true, id, seenFn, Store.get, Array.getD]
  refine forall_congr' fun w => forall_congr' fun hw => ?_
  simp [hw]

/-- What both parsers check of the circuit they return. -/
def PCircuit.Accepted (c : PCircuit) : Prop :=
  c.gates.length = c.numGates ∧ c.toCircuit.nIn ≤ c.numWires ∧
  wfFrom c.numWires c.gates c.toCircuit.inputDefined = true ∧
  ∀ w, w < c.numWires → c.toCircuit.defined w = true

/-- The last test of both parsers, after a seen-set that started from `seenInit` and went through
the gates: every wire is an input wire or some gate's output. -/
theorem allSeen_tracks {nw : Nat} {iw : Int} {gs : List Gate} {seen0 seen' : Store Bool}
    (hsi : seenInit nw iw = .ok seen0) (ht : Tracks seen0 gs seen') :
    allSeen seen' = true ↔ ∀ w, w < nw → definedAfter gs (fun w => decide (w < iw.toNat)) w = true := by
  obtain ⟨s1, _, s3⟩ := (seenInit_out _ _).of_ok hsi
  rw [allSeen_iff, ht.2.2, ht.2.1, s1, s3]

/-- The tail that `parseMPCLC` and `parseBristol` share. -/
theorem accept_out {E : Err → Prop} (hE : E .error) {ng nw : Nat} {ins outs : List IOArg} {gs : List Gate}
    {seen0 seen' : Store Bool} (hsi : seenInit nw (ioSize ins) = .ok seen0) (ht : Tracks seen0 gs seen') :
    Out E PCircuit.Accepted (if gs.length ≠ ng then .error .error else if ¬ allSeen seen' then .error .error
      else .ok ⟨ng, nw, ins, outs, gs⟩) := by
  refine .guard hE fun hlen => .guard hE fun hall => ?_
  obtain ⟨s1, s2, s3⟩ := (seenInit_out _ _).of_ok hsi
  have g1 := ht.1
  rw [s1, s3] at g1
  exact ⟨Decidable.not_not.1 hlen, by simp only [PCircuit.toCircuit]; omega, g1,
    (allSeen_tracks hsi ht).1 (Decidable.not_not.1 hall)⟩

theorem seenInit_of_le {nw : Nat} {iw : Int} (h : iw ≤ nw) : ∃ s, seenInit nw iw = .ok s :=
  ⟨_, if_neg (by omega)⟩

/-- What `gateLoop` does with one gate record after its opcode byte `c`: the two arms of its
`switch` as one, with the rest of the iteration as the continuation `k`, so that `gateLoop`
unfolds to it by computation (`gateLoop_succ`). -/
def gateRec {β : Type} (cfg : RdCfg) (c : UInt8) (seen : Store Bool) (rd : Rd)
    (k : Gate → Store Bool → Rd → R β) : R β :=
  match opOfCode c with
  | none => .error .error
  | some op =>
    match readN cfg (if op.binary then 12 else 8) rd with
    | .error e => .error e
    | .ok (b, rd) =>
      let g : Gate := ⟨op, be32 (b.take 4), if op.binary then be32 ((b.drop 4).take 4) else 0,
        be32 (b.drop (if op.binary then 8 else 4))⟩
      match needSeen seen g.in0 with
      | .error e => .error e
      | .ok () =>
        match (if op.binary then needSeen seen g.in1 else .ok ()) with
        | .error e => .error e
        | .ok () =>
          match seenSet seen g.out with
          | .error e => .error e
          | .ok seen => k g seen rd

theorem gateLoop_succ (cfg : RdCfg) (fx : Fix) (ng f gate : Nat) (seen : Store Bool) (rd : Rd) :
    gateLoop cfg fx ng (f + 1) gate seen rd =
      match rd.read cfg 1 with
      | none => .ok ([], seen)
      | some (opb, rd) =>
        if fx.guardGates ∧ ng ≤ gate then .error .error else
        gateRec cfg (opb.headD 0) seen rd fun g seen rd =>
          if ng ≤ gate then .error .panic else
          match gateLoop cfg fx ng f (gate + 1) seen rd with
          | .error e => .error e
          | .ok (gs, seen) => .ok (g :: gs, seen) := by
  rw [gateLoop]
  cases rd.read cfg 1 with
  | none => rfl
  | some p =>
    dsimp only
    unfold gateRec
    cases opOfCode (p.1.headD 0) with
    | none => rfl
    | some op => cases op <;> rfl

/-- `rd2.all.length ≤ rd.all.length` is for the recursion bound in `gateLoop_out`. -/
theorem gateRec_out {β : Type} {E : Err → Prop} {P : β → Prop} (hE : E .error) {cfg : RdCfg} {c : UInt8}
    {seen : Store Bool} {rd : Rd} {k : Gate → Store Bool → Rd → R β}
    (hk : ∀ g seen2 rd2, Passes seen g seen2 → rd2.all.length ≤ rd.all.length → Out E P (k g seen2 rd2)) :
    Out E P (gateRec cfg c seen rd k) := by
  unfold gateRec
  split
  · exact hE
  split
  · cases (readN_out _ _ _).of_error ‹_›; exact hE
  rename_i hb
  dsimp only
  split
  · cases (needSeen_out _ _).of_error ‹_›; exact hE
  split
  · rename_i he
    split at he
    · cases (needSeen_out _ _).of_error he; exact hE
    · cases he
  rename_i h1
  split
  · cases (seenSet_out _ _).of_error ‹_›; exact hE
  refine hk _ _ _ ⟨‹_›, fun hb' => by rwa [if_pos hb'] at h1, ‹_›⟩ ?_
  rw [((readN_out _ _ _).of_ok hb).2.2, List.length_drop]; omega

theorem bristolOuts_one (line : List Bytes) (i : Nat) (seen : Store Bool) (vs : List Nat)
    (seen' : Store Bool) (h : bristolOuts line 1 i seen = .ok (vs, seen')) :
    ∃ v, vs = [v] ∧ seenSet seen v = .ok seen' := by
  simp only [bristolOuts] at h
  split at h <;> try contradiction
  split at h <;> try contradiction
  split at h <;> try contradiction
  cases h
  exact ⟨_, rfl, ‹_›⟩

theorem readLines_ne_nil (bytes : Bytes) : ∀ l ∈ readLines bytes, l ≠ [] := by
  intro l hl
  simp only [readLines, List.mem_filterMap] at hl
  obtain ⟨raw, _, h⟩ := hl
  split at h <;> try contradiction
  split at h <;> cases h
  assumption

theorem bristolArgs_out (o : Bool) : ∀ (ts : List Bytes) (i : Nat),
    Out (· = .error) (fun _ => True) (bristolArgs o i ts)
  | [], _ => trivial
  | t :: ts, i => by
    simp only [bristolArgs]
    split <;> try rfl
    refine .guard rfl fun _ => ?_
    have ih := bristolArgs_out o ts (i + 1)
    split <;> rename_i he <;> rw [he] at ih
    · exact ih
    · trivial

theorem bristolIns_out (line : List Bytes) (seen : Store Bool) : ∀ (n i : Nat), i + n ≤ line.length →
    Out (· = .error) (fun vs => vs.length = n ∧ ∀ v ∈ vs, needSeen seen v = .ok ()) (bristolIns line seen n i)
  | 0, _, _ => ⟨rfl, nofun⟩
  | n + 1, i, hi => by
    have ih := bristolIns_out line seen n (i + 1) (by omega)
    simp only [bristolIns]
    split
    · rename_i hnone
      rw [List.getElem?_eq_none_iff] at hnone
      omega
    split <;> try rfl
    split
    · exact (needSeen_out _ _).of_error ‹_›
    split <;> rename_i he <;> rw [he] at ih
    · exact ih
    · exact ⟨by simp [ih.1], List.forall_mem_cons.2 ⟨‹_›, ih.2⟩⟩

theorem bristolOuts_out (line : List Bytes) : ∀ (n i : Nat) (seen : Store Bool), i + n ≤ line.length →
    Out (· = .error) (fun p => p.1.length = n) (bristolOuts line n i seen)
  | 0, _, _, _ => rfl
  | n + 1, i, seen, hi => by
    simp only [bristolOuts]
    split
    · rename_i hnone
      rw [List.getElem?_eq_none_iff] at hnone
      omega
    split <;> try rfl
    split
    · exact (seenSet_out _ _).of_error ‹_›
    have ih := bristolOuts_out line n (i + 1) ‹_› (by omega)
    split <;> rename_i he <;> rw [he] at ih
    · exact ih
    · exact congrArg (· + 1) ih

theorem bristolGate_out (line : List Bytes) (seen : Store Bool) :
    Out (· = .error) (fun p => Passes seen p.1 p.2) (bristolGate line seen) := by
  unfold bristolGate
  refine .guard rfl fun hlen => ?_
  split
  case h_2 hx =>
    exact (hx _ _ (List.getElem?_eq_getElem (by omega)) (List.getElem?_eq_getElem (by omega))).elim
  split <;> try rfl
  rename_i n1 _
  refine .guard rfl fun _ => ?_
  split <;> try rfl
  rename_i n2 _
  refine .guard rfl fun _ => ?_
  refine .guard rfl fun hsum => ?_
  have hins := bristolIns_out line seen n1.toNat 2 (by omega)
  split <;> rename_i he <;> rw [he] at hins
  · exact hins
  rename_i ins
  have houts := bristolOuts_out line n2.toNat (2 + n1.toNat) seen (by omega)
  split <;> rename_i he <;> rw [he] at houts
  · exact houts
  rename_i outs seen2
  split
  · rename_i hnone
    rw [List.getElem?_eq_none_iff] at hnone
    omega
  split <;> try rfl
  refine .guard rfl fun hil => ?_
  refine .guard rfl fun hol => ?_
  rw [← houts, Decidable.not_not.1 hol] at he
  obtain ⟨v, rfl, hv⟩ := bristolOuts_one _ _ _ _ _ he
  have hil := Decidable.not_not.1 hil
  split
  · rename_i i0 o0 hi0 ho0
    cases ho0
    refine ⟨hins.2 _ (List.mem_of_getElem? hi0), fun hb => ?_, hv⟩
    rw [hb, if_pos rfl] at hil
    match ins, hil with
    | [a, b], _ => exact hins.2 b (by simp)
  · rename_i hx
    match ins, hil with
    | i0 :: _, _ => exact (hx i0 v rfl rfl).elim
    | [], hil => split at hil <;> cases hil

theorem bristolGates_out (ng : Nat) : ∀ (ls : List (List Bytes)) (gate : Nat) (seen : Store Bool),
    Out (· = .error) (fun p => Tracks seen p.1 p.2) (bristolGates ng ls gate seen)
  | [], _, seen => .nil seen
  | line :: ls, gate, seen => by
    simp only [bristolGates]
    refine .guard rfl fun hng => ?_
    have hg := bristolGate_out line seen
    split <;> rename_i he <;> rw [he] at hg
    · exact hg
    rw [if_neg hng]
    have ih := bristolGates_out ng ls (gate + 1) ‹_›
    split <;> rename_i he <;> rw [he] at ih
    · exact ih
    · exact .cons hg ih

theorem parseBristol_out (bytes : Bytes) :
    Out (fun e => e = .error ∨ e = .oversize) PCircuit.Accepted (parseBristol bytes) := by
  have hne := readLines_ne_nil bytes
  unfold parseBristol
  split
  case h_2 => exact .inl rfl
  rename_i l1 rest1 hl
  rw [hl] at hne
  refine .guard (.inl rfl) fun hlen => ?_
  split
  case h_2 hx =>
    match l1, Decidable.not_not.1 hlen with
    | [a, b], _ => exact (hx a b rfl rfl).elim
  split <;> try exact .inl rfl
  rename_i ng _
  refine .guard (.inl rfl) fun _ => ?_
  split
  · exact .inr ((declare_out _).of_error ‹_›)
  split <;> try exact .inl rfl
  refine .guard (.inl rfl) fun _ => ?_
  split
  · exact .inr ((declare_out _).of_error ‹_›)
  split <;> try exact .inl rfl
  split
  · exact (hne [] (by simp) rfl).elim
  split <;> try exact .inl rfl
  refine .guard (.inl rfl) fun _ => ?_
  have hI := bristolArgs_out false ‹_› 1
  split <;> rename_i he <;> rw [he] at hI
  · exact .inl hI
  refine .guard (.inl rfl) fun _ => ?_
  split
  · exact .inl ((seenInit_out _ _).of_error ‹_›)
  rename_i hsi
  split <;> try exact .inl rfl
  split
  · exact (hne [] (by simp) rfl).elim
  split <;> try exact .inl rfl
  refine .guard (.inl rfl) fun _ => ?_
  have hO := bristolArgs_out true ‹_› 1
  split <;> rename_i he <;> rw [he] at hO
  · exact .inl hO
  have hG := bristolGates_out ng.toNat ‹_› 0 ‹_›
  split <;> rename_i he <;> rw [he] at hG
  · exact .inl hG
  exact accept_out (.inl rfl) hsi hG

theorem parseBristol_accepted (bytes : Bytes) (c : PCircuit) (h : parseBristol bytes = .ok c) : c.Accepted :=
  (parseBristol_out bytes).of_ok h

theorem parseBristol_no_panic (bytes : Bytes) : parseBristol bytes ≠ .error .panic := fun h => by
  rcases (parseBristol_out bytes).of_error h with h | h <;> cases h

/-- Reading from `rd` under the bound `f`: success consumes at least `k` bytes; a stop at the bound
means the stream was long, `8 * f ≤ length + s` (`s`: the slack of `parseIOArgs`, which uses a
level of the bound before a byte is consumed). -/
abbrev ArgOut {α : Type} (k s f : Nat) (rd : Rd) : R (α × Rd) → Prop :=
  Out (fun e => e = .error ∨ e = .oversize ∨ (e = .fuel ∧ 8 * f ≤ rd.all.length + s))
    fun | (_, rd') => rd'.all.length + k ≤ rd.all.length

theorem parseString_out (cfg : RdCfg) (fx : Fix) (rd : Rd) :
    Out (fun e => e = .error ∨ e = .oversize) (fun | (_, rd') => rd'.all.length + 4 ≤ rd.all.length)
      (parseString cfg fx rd) := by
  unfold parseString
  split
  · exact .inl ((readU32_out _ _).of_error ‹_›)
  have l1 := (readU32_out _ _).of_ok ‹_›
  dsimp only at l1
  split
  · exact .inr ((declare_out _).of_error ‹_›)
  split
  · show _ + 4 ≤ _; omega
  split <;> split <;> try exact .inl rfl
  · obtain ⟨_, _, a3, _⟩ := readFullAux_some _ _ _ _ _ _ (Nat.le_refl _) ‹_›
    show _ + 4 ≤ _
    rw [a3, List.length_drop]; omega
  · rename_i hr
    obtain ⟨_, _, a3, _⟩ := read_some _ _ _ _ _ (by omega) hr
    have := congrArg List.length a3
    rw [List.length_append] at this
    show _ + 4 ≤ _
    omega

mutual
/-- `16`: an argument has at least its four 32-bit fields; `8 * f`: half of that per level of the
bound, since `parseIOArg` and `parseIOArgs` each use one. -/
theorem parseIOArg_out (cfg : RdCfg) (fx : Fix) : ∀ (f : Nat) (rd : Rd),
    ArgOut 16 0 f rd (parseIOArg cfg fx f rd)
  | 0, _ => .inr (.inr ⟨rfl, by omega⟩)
  | f + 1, rd => by
    simp only [parseIOArg]
    have s1 := parseString_out cfg fx rd
    split <;> rename_i he <;> rw [he] at s1
    · exact s1.imp_right .inl
    have l1 : _ + 4 ≤ _ := s1
    have s2 := parseString_out cfg fx ‹_›
    split <;> rename_i he <;> rw [he] at s2
    · exact s2.imp_right .inl
    have l2 : _ + 4 ≤ _ := s2
    split
    · exact .inl ((readU32_out _ _).of_error ‹_›)
    have l3 := (readU32_out _ _).of_ok ‹_›
    dsimp only at l3
    split
    · exact .inr (.inl ((declare_out _).of_error ‹_›))
    split
    · exact .inl rfl
    split
    · exact .inl ((readU32_out _ _).of_error ‹_›)
    have l4 := (readU32_out _ _).of_ok ‹_›
    dsimp only at l4
    split
    · exact .inr (.inl ((declare_out _).of_error ‹_›))
    have o := parseIOArgs_out cfg fx f ‹_› ‹_›
    split <;> rename_i he <;> rw [he] at o
    · exact o.imp_right (.imp_right fun ⟨h, hl⟩ => ⟨h, by omega⟩)
    · have : _ + 0 ≤ _ := o
      show _ + 16 ≤ _
      omega
theorem parseIOArgs_out (cfg : RdCfg) (fx : Fix) : ∀ (f n : Nat) (rd : Rd),
    ArgOut 0 8 f rd (parseIOArgs cfg fx f n rd)
  | _, 0, _ => by simp only [parseIOArgs]; exact Nat.le_refl _
  | 0, _ + 1, _ => .inr (.inr ⟨rfl, by omega⟩)
  | f + 1, n + 1, rd => by
    simp only [parseIOArgs]
    have o1 := parseIOArg_out cfg fx f rd
    split <;> rename_i he <;> rw [he] at o1
    · exact o1.imp_right (.imp_right fun ⟨h, hl⟩ => ⟨h, by omega⟩)
    have l1 : _ + 16 ≤ _ := o1
    have o2 := parseIOArgs_out cfg fx f n ‹_›
    split <;> rename_i he <;> rw [he] at o2
    · exact o2.imp_right (.imp_right fun ⟨h, hl⟩ => ⟨h, by omega⟩)
    · have : _ + 0 ≤ _ := o2
      show _ + 0 ≤ _
      omega
end

/-- `.panic` is the store `gates[gate]` without the `gate >= len(gates)` test in front of it.
`.fuel` comes with `f ≤ rd.all.length`, since every iteration consumes a byte: `parseMPCLC` starts
the loop with more than the stream holds. -/
theorem gateLoop_out (cfg : RdCfg) (fx : Fix) (ng : Nat) : ∀ (f gate : Nat) (seen : Store Bool) (rd : Rd),
    Out (fun e => e = .error ∨ (e = .panic ∧ fx.guardGates = false) ∨ (e = .fuel ∧ f ≤ rd.all.length))
      (fun p => Tracks seen p.1 p.2) (gateLoop cfg fx ng f gate seen rd)
  | 0, _, _, _ => .inr (.inr ⟨rfl, Nat.zero_le _⟩)
  | f + 1, gate, seen, rd => by
    rw [gateLoop_succ]
    split
    · exact .nil _
    rename_i opb rd1 hr
    obtain ⟨r1, _, r3, _⟩ := read_some _ _ _ _ _ (by omega) hr
    have hl1 : rd.all.length = opb.length + rd1.all.length := by rw [← r3]; simp
    have := List.length_pos_iff.2 r1
    refine .guard (.inl rfl) fun hg => gateRec_out (.inl rfl) fun g seen2 rd2 hp hl2 => ?_
    by_cases hng : ng ≤ gate
    · rw [if_pos hng]
      exact .inr (.inl ⟨rfl, by simpa [hng] using hg⟩)
    rw [if_neg hng]
    have ih := gateLoop_out cfg fx ng f (gate + 1) seen2 rd2
    split <;> rename_i he <;> rw [he] at ih
    · exact ih.imp_right (.imp_right fun ⟨h, hl⟩ => ⟨h, by omega⟩)
    · exact .cons hp ih

/-- No `.fuel` in the class: all three bounds are `bytes.length + 1`, and what is left after the
20-byte header is shorter than the `8 * f` of `parseIOArgs_out` and the `f` of `gateLoop_out`. -/
theorem parseMPCLC_out (cfg : RdCfg) (fx : Fix) (bytes : Bytes) :
    Out (fun e => e = .error ∨ e = .oversize ∨ (e = .panic ∧ fx.guardGates = false)) PCircuit.Accepted
      (parseMPCLC cfg fx bytes) := by
  simp only [parseMPCLC]
  split
  · exact .inl ((readN_out _ _ _).of_error ‹_›)
  rename_i hd rd0 e0
  obtain ⟨_, a2, a3⟩ := (readN_out _ _ _).of_ok e0
  have l0 : rd0.all.length + 20 = bytes.length := by
    rw [a3, List.length_drop]
    rw [Rd.all_init] at a2 ⊢
    omega
  split
  case h_2 => exact .inr (.inl rfl)
  split
  · exact ((parseIOArgs_out _ _ _ _ _).of_error ‹_›).imp_right (.imp_right fun h => absurd h.2 (by omega))
  have l1 := (parseIOArgs_out _ _ _ _ _).of_ok ‹_›
  dsimp only at l1
  split
  · exact ((parseIOArgs_out _ _ _ _ _).of_error ‹_›).imp_right (.imp_right fun h => absurd h.2 (by omega))
  have l2 := (parseIOArgs_out _ _ _ _ _).of_ok ‹_›
  dsimp only at l2
  split
  · exact .inl ((seenInit_out _ _).of_error ‹_›)
  rename_i hsi
  split
  · exact ((gateLoop_out _ _ _ _ _ _ _).of_error ‹_›).imp_right fun h =>
      .inr (h.resolve_right fun h => absurd h.2 (by omega))
  exact accept_out (.inl rfl) hsi ((gateLoop_out _ _ _ _ _ _ _).of_ok ‹_›)

theorem parseMPCLC_accepted (cfg : RdCfg) (fx : Fix) (bytes : Bytes) (c : PCircuit)
    (h : parseMPCLC cfg fx bytes = .ok c) : c.Accepted :=
  (parseMPCLC_out cfg fx bytes).of_ok h

theorem parseMPCLC_err (cfg : RdCfg) (fx : Fix) (bytes : Bytes) (e : Err)
    (h : parseMPCLC cfg fx bytes = .error e) :
    e = .error ∨ e = .oversize ∨ (e = .panic ∧ fx.guardGates = false) :=
  (parseMPCLC_out cfg fx bytes).of_error h

theorem parseMPCLC_guard_no_panic (cfg : RdCfg) (fx : Fix) (hfx : fx.guardGates = true) (bytes : Bytes) :
    parseMPCLC cfg fx bytes ≠ .error .panic := fun h => by
  rcases parseMPCLC_err _ _ _ _ h with h | h | ⟨_, h⟩
  · cases h
  · cases h
  · rw [hfx] at h; cases h

/-- Both parsers store `Input1 = 0` for an INV gate (neither format has such a field); nothing
reads it.  The round trips return the gates under `normG`, and `compute_congr` says that this
and a change of names and types keep the function. -/
def normG (g : Gate) : Gate :=
  match g.op with
  | .inv => ⟨.inv, g.in0, 0, g.out⟩
  | _ => g

theorem definedAfter_normG : ∀ (gs : List Gate) (d : Nat → Bool),
    definedAfter (gs.map normG) d = definedAfter gs d
  | [], d => rfl
  | g :: gs, d => by
    have : (normG g).out = g.out := by unfold normG; split <;> rfl
    simp only [List.map_cons, definedAfter_cons, this]
    exact definedAfter_normG gs _

theorem evalPlain_normG (g : Gate) (w : Store Bool) : (normG g).evalPlain w = g.evalPlain w := by
  obtain ⟨op, a, b, c⟩ := g
  cases op <;> rfl

theorem evalPlainGates_normG : ∀ (gs : List Gate) (w : Store Bool),
    evalPlainGates (gs.map normG) w = evalPlainGates gs w
  | [], w => rfl
  | g :: gs, w => by
    simp only [evalPlainGates, List.map_cons, List.foldl_cons, evalPlain_normG]
    exact evalPlainGates_normG gs _

theorem compute_congr {c c' : PCircuit} (hw : c'.numWires = c.numWires)
    (hi : c'.inputs.map (fun a => a.ty.bits) = c.inputs.map (fun a => a.ty.bits))
    (ho : c'.outputs.map (fun a => a.ty.bits) = c.outputs.map (fun a => a.ty.bits))
    (hg : c'.gates = c.gates.map normG) (x : List Bool) :
    c'.toCircuit.compute x = c.toCircuit.compute x := by
  simp only [Circuit.compute, Circuit.outputs, Circuit.plainEval, PCircuit.toCircuit, ioSize, hw, hi, ho, hg,
    evalPlainGates_normG]

end Fmt
end Mpc
