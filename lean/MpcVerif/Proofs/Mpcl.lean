/-
Lemmas about the MPCL reference interpreter (`Model/Mpcl.lean`): its arithmetic
(bit patterns as `Nat`, two's complement through `Int`) against `BitVec`; a
defined result does not depend on the fuel; a `for` loop is the sequential
composition of its iterations.
-/
import MpcVerif.Model.Mpcl

namespace Mpc.Mpcl

def bv (s : Bool) {w : Nat} (x : BitVec w) : Val := .num s w x.toNat

theorem toInt_toNat {w : Nat} (x : BitVec w) : toInt w x.toNat = x.toInt := by
  simp [toInt, BitVec.toInt]

theorem ofInt_eq {w : Nat} (i : Int) : ofInt w i = (BitVec.ofInt w i).toNat := by
  simp [ofInt, BitVec.toNat_ofInt]

theorem wrap_lt (w n : Nat) : wrap w n < 2 ^ w := Nat.mod_lt _ (Nat.two_pow_pos w)

theorem binop_num (op : BinOp) (s : Bool) (w a b : Nat) :
    binop op (.num s w a) (.num s w b) = arith op s w a b :=
  if_pos ⟨rfl, rfl⟩

theorem castNum_narrow (s s' : Bool) {w w' : Nat} (v : Nat) (h : w' ≤ w) :
    castNum s w v s' w' = .num s' w' (v % 2 ^ w') := by
  simp [castNum, h, wrap]

theorem castNum_zext (s' : Bool) {w w' : Nat} (v : Nat) (h : w < w') : castNum false w v s' w' = .num s' w' v := by
  simp [castNum, Nat.not_le.2 h]

theorem castNum_sext (s' : Bool) {w w' : Nat} (v : Nat) (h : w < w') :
    castNum true w v s' w' = .num s' w' (ofInt w' (toInt w v)) := by
  simp [castNum, Nat.not_le.2 h]

theorem toNat_ne_zero {w : Nat} {y : BitVec w} (hy : y ≠ 0#w) : y.toNat ≠ 0 :=
  mt (fun h => BitVec.eq_of_toNat_eq h) hy

theorem sdiv_eq_ofInt {w : Nat} (x y : BitVec w) :
    x.sdiv y = BitVec.ofInt w (x.toInt.tdiv y.toInt) := by
  apply BitVec.eq_of_toInt_eq
  rw [BitVec.toInt_sdiv, BitVec.toInt_ofInt]

theorem natAbs_toInt {w : Nat} (x : BitVec w) : x.toInt.natAbs = x.abs.toNat := by
  have := x.isLt
  rw [BitVec.toNat_abs, BitVec.toInt_eq_msb_cond]
  split <;> omega

theorem setWidth_signExtend {w v : Nat} (x : BitVec w) (h : w ≤ v) :
    (x.signExtend v).setWidth w = x := by
  ext i hi
  simp [BitVec.getElem_signExtend, hi, show i < v by omega]

/-! A run `y` on more fuel agrees with the run `x` wherever `x` is defined:
`∀ v, x = some v → y = some v`.  The lemmas are stated in the equivalent form
`x = none ∨ y = x`: as a hypothesis it either makes the clause at hand undefined
or rewrites its recursive call, and it passes through `bind`, any strict context
and the interpreter's sequencing. -/

theorem defined_imp_iff {α : Type} {x y : Option α} : (∀ v, x = some v → y = some v) ↔ x = none ∨ y = x := by
  cases x <;> simp [eq_comm]

theorem bind_ext {α β : Type} {k k' : α → Option β} (hk : ∀ a, k a = none ∨ k' a = k a)
    {x y : Option α} : x = none ∨ y = x → x.bind k = none ∨ y.bind k' = x.bind k := by
  rintro (rfl | rfl)
  · exact .inl rfl
  · cases y with
    | none => exact .inl rfl
    | some a => exact hk a

theorem strict_ext {α β : Type} (F : Option α → Option β) (hF : F none = none) {x y : Option α} :
    x = none ∨ y = x → F x = none ∨ F y = F x := by
  rintro (rfl | rfl)
  · exact .inl hF
  · exact .inr rfl

theorem mapM_ext {α β : Type} {g g' : α → Option β} (h : ∀ a, g a = none ∨ g' a = g a) :
    ∀ l : List α, l.mapM g = none ∨ l.mapM g' = l.mapM g
  | [] => .inr rfl
  | a :: l => by
    simp only [List.mapM_cons]
    exact bind_ext (fun _ => bind_ext (fun _ => .inr rfl) (mapM_ext h l)) (h a)

theorem binE_ext (op : BinOp) (va : Val) {rb rb' : Option Val} (h : rb = none ∨ rb' = rb) :
    binE op va rb = none ∨ binE op va rb' = binE op va rb := by
  unfold binE
  split
  · exact .inr rfl
  · exact .inr rfl
  · exact bind_ext (fun _ => .inr rfl) h

theorem assignTo_ext {ev ev' : Expr → Env → Option Val} (h : ∀ e env, ev e env = none ∨ ev' e env = ev e env)
    (env : Env) (lv : LVal) (v : Val) :
    assignTo ev env lv v = none ∨ assignTo ev' env lv v = assignTo ev env lv v := by
  have hp : ∀ a, pathIdx ev env a = none ∨ pathIdx ev' env a = pathIdx ev env a := by
    rintro (e | k)
    · exact bind_ext (fun _ => .inr rfl) (h e env)
    · exact .inr rfl
  unfold assignTo
  rcases mapM_ext hp lv.path with h | h <;> simp only [h] <;> split <;> simp

theorem assignAll_ext {ev ev' : Expr → Env → Option Val} (h : ∀ e env, ev e env = none ∨ ev' e env = ev e env) :
    ∀ (lvs : List LVal) (env : Env) (vs : List Val),
      assignAll ev env lvs vs = none ∨ assignAll ev' env lvs vs = assignAll ev env lvs vs
  | [], _, [] | [], _, _ :: _ | _ :: _, _, [] => by simp [assignAll]
  | lv :: lvs, env, v :: vs => bind_ext (fun env' => assignAll_ext h lvs env' vs) (assignTo_ext h env lv v)

/-- The `match` is the sequencing step of `execB`, `execFor` and `iterBody`. -/
theorem seq_ext {k k' : Env → Option Outcome} (hk : ∀ env, k env = none ∨ k' env = k env)
    {r r' : Option Outcome} : r = none ∨ r' = r →
    (match r with | some (.normal env) => k env | r => r) = none ∨
      (match r' with | some (.normal env) => k' env | r => r) =
        (match r with | some (.normal env) => k env | r => r) := by
  rintro (rfl | rfl)
  · exact .inl rfl
  · rcases r' with _ | env | vs
    · exact .inl rfl
    · exact hk env
    · exact .inr rfl

theorem fuel_ext (P : Prog) : ∀ {f f' : Nat}, f ≤ f' →
    (∀ e env, evalE P f e env = none ∨ evalE P f' e env = evalE P f e env) ∧
    (∀ s env, execS P f s env = none ∨ execS P f' s env = execS P f s env) ∧
    (∀ ss env, execB P f ss env = none ∨ execB P f' ss env = execB P f ss env) ∧
    (∀ i cur c hi st body env, execFor P f i cur c hi st body env = none ∨
        execFor P f' i cur c hi st body env = execFor P f i cur c hi st body env)
  | 0, _, _ => ⟨fun _ _ => .inl rfl, fun _ _ => .inl rfl, fun _ _ => .inl rfl, fun _ _ _ _ _ _ _ => .inl rfl⟩
  | f + 1, 0, hle => absurd hle (Nat.not_succ_le_zero f)
  | f + 1, f' + 1, hle => by
    obtain ⟨ihE, ihS, ihB, ihF⟩ := fuel_ext P (Nat.le_of_succ_le_succ hle)
    have ihArgs (env : Env) (args : List Expr) := mapM_ext (fun a => ihE a env) args
    refine ⟨?_, ?_, ?_, ?_⟩
    · intro e env
      cases e with
      | lit t n => exact .inr rfl
      | var x => exact .inr rfl
      | bin op a b => exact bind_ext (fun va => binE_ext op va (ihE b env)) (ihE a env)
      | shift l a k | not a | neg a | cast t a => exact bind_ext (fun _ => .inr rfl) (ihE a env)
      | fld a k =>
        simp only [evalE]
        rcases ihE a env with h | h
        · exact .inl (by simp [h])
        · exact .inr (h ▸ rfl)
      | idx a i =>
        simp only [evalE]
        rcases ihE a env with h | h
        · exact .inl (by simp [h])
        · rcases ihE i env with h' | h'
          · exact .inl (by rw [h']; split <;> simp_all)
          · exact .inr (by rw [h, h'])
      | call g args =>
        simp only [evalE]
        cases P[g]? with
        | none => exact .inl rfl
        | some fn =>
          rcases ihArgs env args with h | h
          · exact .inl (by simp [h])
          · simp only [h]
            split
            · exact .inl rfl
            · split
              · exact .inl rfl
              · rename_i sc _
                rcases ihB fn.body [sc] with h' | h'
                · exact .inl (by simp [h'])
                · exact .inr (h' ▸ rfl)
    · intro s env
      match s with
      | .decl _ _ none => exact .inr rfl
      | .decl _ _ (some e) | .define _ e =>
        simp only [execS]
        rcases ihE e env with h | h
        · exact .inl (by simp [h])
        · exact .inr (h ▸ rfl)
      | .assign lvs e =>
        simp only [execS]
        rcases ihE e env with h | h
        · exact .inl (by simp [h])
        · rw [h]
          split
          · exact .inl rfl
          · split
            · exact strict_ext _ rfl (assignTo_ext ihE ..)
            · split
              · exact strict_ext _ rfl (assignAll_ext ihE ..)
              · exact .inl rfl
      | .ifte c th el =>
        simp only [execS]
        rcases ihE c env with h | h
        · exact .inl (by simp [h])
        · rw [h]
          split
          · exact strict_ext _ rfl (ihB th _)
          · exact strict_ext _ rfl (ihB el _)
          · exact .inl rfl
      | .for .. => exact ihF ..
      | .ret es =>
        simp only [execS]
        rcases ihArgs env es with h | h
        · exact .inl (by simp [h])
        · exact .inr (h ▸ rfl)
    · intro ss env
      cases ss with
      | nil => exact .inr rfl
      | cons s ss =>
        simp only [execB]
        exact seq_ext (ihB ss) (ihS s env)
    · intro i cur c hi st body env
      rw [execFor, execFor]
      split
      · exact seq_ext (fun _ => ihF ..) (ihB body _)
      · exact .inr rfl

theorem evalE_mono (P : Prog) {f f' : Nat} (hle : f ≤ f') (e : Expr) (env : Env) (v : Val)
    (h : evalE P f e env = some v) : evalE P f' e env = some v :=
  defined_imp_iff.2 ((fuel_ext P hle).1 e env) v h

theorem execB_ext (P : Prog) {f f' : Nat} (hle : f ≤ f') (ss : List Stmt) (env : Env) :
    execB P f ss env = none ∨ execB P f' ss env = execB P f ss env :=
  (fuel_ext P hle).2.2.1 ss env

theorem execB_mono (P : Prog) {f f' : Nat} (hle : f ≤ f') (ss : List Stmt) (env : Env) (o : Outcome)
    (h : execB P f ss env = some o) : execB P f' ss env = some o :=
  defined_imp_iff.2 (execB_ext P hle ss env) o h

theorem run_ext (P : Prog) {f f' : Nat} (hle : f ≤ f') (main : Nat) (args : List Val) :
    run P f main args = none ∨ run P f' main args = run P f main args := by
  unfold run
  split
  · exact .inr rfl
  · split
    · exact .inr rfl
    · rename_i fn _ _ sc _
      rcases execB_ext P hle fn.body [sc] with h | h
      · exact .inl (by simp [h])
      · exact .inr (h ▸ rfl)

theorem runRaw_ext (P : Prog) {f f' : Nat} (hle : f ≤ f') (main : Nat) (args : List Nat) :
    runRaw P f main args = none ∨ runRaw P f' main args = runRaw P f main args := by
  unfold runRaw
  split
  · exact .inr rfl
  · split
    · exact .inr rfl
    · exact strict_ext _ rfl (run_ext P hle main _)

/-- `Trip c hi st lo n`: the loop `for i := lo; i <c> hi; i += st` makes exactly
`n` iterations. -/
def Trip (c : Cmp) (hi st : Int) : Int → Nat → Bool
  | lo, 0 => !c.holds lo hi
  | lo, n + 1 => c.holds lo hi && Trip c hi st (lo + st) n

/-- The unrolled loop: the `n`-fold sequential composition
`body[i:=lo]; body[i:=lo+st]; ...`. -/
def iterBody (P : Prog) (f : Nat) (i : String) (st : Int) (body : List Stmt) : Int → Nat → Env → Option Outcome
  | _, 0, env => some (.normal env)
  | lo, n + 1, env =>
    match execB P f body ([(i, loopVal lo)] :: env) with
    | some (.normal env') => iterBody P f i st body (lo + st) n env'.tail
    | r => r

/-- The loop and the `n`-fold composition, each against the other on more fuel: the loop spends one
unit per iteration and one on the failing test, the copies all run on the same fuel. -/
theorem for_iter (P : Prog) (i : String) (c : Cmp) (hi st : Int) (body : List Stmt) :
    ∀ (n : Nat) {f f' : Nat} (lo : Int) (env : Env), Trip c hi st lo n = true → f ≤ f' →
      (execFor P f i lo c hi st body env = none ∨
        iterBody P f' i st body lo n env = execFor P f i lo c hi st body env) ∧
      (iterBody P f i st body lo n env = none ∨
        execFor P (f' + n + 1) i lo c hi st body env = iterBody P f i st body lo n env)
  | 0, f, f', lo, env, ht, _ => by
    simp only [Trip, Bool.not_eq_true'] at ht
    exact ⟨by cases f <;> simp [execFor, ht, iterBody], .inr (by simp [execFor, ht, iterBody])⟩
  | n + 1, f, f', lo, env, ht, hle => by
    simp only [Trip, Bool.and_eq_true] at ht
    refine ⟨?_, ?_⟩
    · cases f with
      | zero => exact .inl rfl
      | succ f =>
        rw [iterBody, execFor, if_pos ht.1]
        exact seq_ext (fun _ => (for_iter P i c hi st body n _ _ ht.2 (by omega)).1) (execB_ext P (by omega) body _)
    · rw [iterBody, execFor, if_pos ht.1]
      exact seq_ext (fun _ => (for_iter P i c hi st body n _ _ ht.2 hle).2) (execB_ext P (by omega) body _)

end Mpc.Mpcl
