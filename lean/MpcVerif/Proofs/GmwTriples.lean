/-
C10 (offline phase): the triples dealt by `tripleBatch` are valid Beaver
triples whenever the bit-COT outputs satisfy the COT correlation (C06).
Core Lean only.  The file begins with the algebra of `xorB` / `xorW` (XOR over a list of bits / words)
that all GMW proofs use.
-/
import MpcVerif.Model.Gmw
import MpcVerif.Proofs.ListLemmas

namespace Mpc.Gmw

theorem mkA_size {α : Type} (k : Nat) (f : Nat → α) : (mkA k f).size = k := by
  simp [mkA]

theorem wget_mkA_ite (k : Nat) (f : Nat → Word) (i : Nat) : wget (mkA k f) i = if i < k then f i else 0#64 :=
  getD_range_map_array k f i 0#64

theorem wget_mkA (k : Nat) (f : Nat → Word) (i : Nat) (h : i < k) : wget (mkA k f) i = f i := by
  rw [wget_mkA_ite, if_pos h]

theorem sget_mkA (n : Nat) (f : Nat → Bool) (i : Nat) :
    Store.get (mkA n f) i = if i < n then f i else false :=
  getD_range_map_array n f i false

theorem word_and_xor_left (a b c : Word) : a &&& (b ^^^ c) = a &&& b ^^^ a &&& c := by
  ext i hi; simp [Bool.and_xor_distrib_left]

theorem word_and_xor_right (a b c : Word) : (b ^^^ c) &&& a = b &&& a ^^^ c &&& a := by
  ext i hi; simp [Bool.and_xor_distrib_right]

theorem word_flip_and (a b : Word) : (a ^^^ ~~~0#64) &&& b = a &&& b ^^^ b := by
  ext i hi
  simp only [BitVec.getElem_and, BitVec.getElem_xor, BitVec.getElem_not, BitVec.getElem_zero]
  cases a[i] <;> cases b[i] <;> rfl

theorem foldl_bne_eq (a : Bool) (l : List Bool) :
    l.foldl (fun a b => a != b) a = (a != xorB l) := by
  induction l generalizing a with
  | nil => simp [xorB]
  | cons x l ih =>
    simp only [List.foldl_cons, xorB]
    rw [ih, ih (false != x)]
    cases a <;> cases x <;> simp

theorem xorB_nil : xorB [] = false := rfl

theorem xorB_cons (a : Bool) (l : List Bool) : xorB (a :: l) = (a != xorB l) := by
  have h := foldl_bne_eq (false != a) l
  simpa [xorB] using h

theorem xorB_append (l1 l2 : List Bool) : xorB (l1 ++ l2) = (xorB l1 != xorB l2) := by
  induction l1 with
  | nil => simp [xorB_nil]
  | cons a l ih => rw [List.cons_append, xorB_cons, xorB_cons, ih]; cases a <;> cases xorB l <;> cases xorB l2 <;> rfl

theorem xorB_map_xor {α : Type} (l : List α) (f g : α → Bool) :
    xorB (l.map fun x => f x != g x) = (xorB (l.map f) != xorB (l.map g)) := by
  induction l with
  | nil => rfl
  | cons a l ih =>
    simp only [List.map_cons, xorB_cons, ih]
    cases f a <;> cases g a <;> cases xorB (l.map f) <;> cases xorB (l.map g) <;> rfl

theorem xorB_map_false {α : Type} (l : List α) : xorB (l.map fun _ => false) = false := by
  induction l with
  | nil => rfl
  | cons a l ih => simp only [List.map_cons, xorB_cons, ih]; rfl

theorem xorB_skip {α : Type} (key : α → Nat) (f : α → Bool) : ∀ (l : List α) (a : α), (l.map key).Nodup → a ∈ l →
    xorB (l.map fun q => if key q = key a then false else f q) = (f a != xorB (l.map f)) := by
  intro l
  induction l with
  | nil => intro a _ ha; cases ha
  | cons b l ih =>
    intro a hnd ha
    rw [List.map_cons, List.nodup_cons] at hnd
    rw [List.map_cons, List.map_cons, xorB_cons, xorB_cons]
    rcases List.mem_cons.mp ha with rfl | ha
    · rw [if_pos rfl, List.map_congr_left fun q hq => if_neg fun (e : key q = key a) => hnd.1 (e ▸ List.mem_map_of_mem hq)]
      cases f a <;> cases xorB (l.map f) <;> rfl
    · rw [if_neg fun (e : key b = key a) => hnd.1 (e ▸ List.mem_map_of_mem ha), ih a hnd.2 ha]
      cases f a <;> cases f b <;> cases xorB (l.map f) <;> rfl

theorem xorB_only {α : Type} (key : α → Nat) (v : Bool) (l : List α) (k : Nat) (hnd : (l.map key).Nodup)
    (hk : k ∈ l.map key) : xorB (l.map fun q => if key q = k then v else false) = v := by
  obtain ⟨a, ha, rfl⟩ := List.mem_map.mp hk
  have e : (l.map fun q => if key q = key a then v else false) =
      l.map fun q => (v != if key q = key a then false else v) :=
    List.map_congr_left fun q _ => by split <;> simp
  rw [e, xorB_map_xor, xorB_skip key _ l a hnd ha]
  generalize xorB (l.map fun _ => v) = X
  cases v <;> cases X <;> rfl

theorem xorB_range_split (f : Nat → Bool) (A : Bool) (q n : Nat) (hq : q < n) :
    xorB ((List.range n).map fun p => if p = q then A else f p) =
      (A != xorB ((List.range n).map fun p => if p = q then false else f p)) := by
  have e : ((List.range n).map fun p => if p = q then A else f p) =
      (List.range n).map fun p => ((if p = q then A else false) != if p = q then false else f p) :=
    List.map_congr_left fun p _ => by split <;> simp
  rw [e, xorB_map_xor, xorB_only (fun p => p) A _ q (by rw [List.map_id']; exact List.nodup_range)
    (by rw [List.map_id']; exact List.mem_range.mpr hq)]

theorem foldl_xor_eq (a : Word) (l : List Word) :
    l.foldl (fun a b => a ^^^ b) a = a ^^^ xorW l := by
  induction l generalizing a with
  | nil => simp [xorW]
  | cons x l ih =>
    simp only [List.foldl_cons, xorW]
    rw [ih, ih (0#64 ^^^ x)]
    simp [BitVec.xor_assoc]

theorem xorW_nil : xorW [] = 0#64 := rfl

theorem xorW_cons (a : Word) (l : List Word) : xorW (a :: l) = a ^^^ xorW l := by
  have h := foldl_xor_eq (0#64 ^^^ a) l
  simp only [BitVec.zero_xor] at h
  simpa [xorW] using h

theorem xorW_append (l1 l2 : List Word) : xorW (l1 ++ l2) = xorW l1 ^^^ xorW l2 := by
  induction l1 with
  | nil => simp [xorW_nil]
  | cons a l ih => simp only [List.cons_append, xorW_cons, ih, BitVec.xor_assoc]

theorem xorW_map_xor {α} (l : List α) (f g : α → Word) :
    xorW (l.map fun x => f x ^^^ g x) = xorW (l.map f) ^^^ xorW (l.map g) := by
  induction l with
  | nil => simp [xorW_nil]
  | cons a l ih =>
    simp only [List.map_cons, xorW_cons, ih]
    ac_rfl

theorem xorW_map_and_left {α} (l : List α) (d : Word) (f : α → Word) :
    xorW (l.map fun x => d &&& f x) = d &&& xorW (l.map f) := by
  induction l with
  | nil => simp [xorW_nil]
  | cons a l ih => simp only [List.map_cons, xorW_cons, ih, word_and_xor_left]

theorem xorW_map_and_right {α} (l : List α) (d : Word) (f : α → Word) :
    xorW (l.map fun x => f x &&& d) = xorW (l.map f) &&& d := by
  induction l with
  | nil => simp [xorW_nil]
  | cons a l ih => simp only [List.map_cons, xorW_cons, ih, word_and_xor_right]

theorem xorW_map_zero {α} (l : List α) : xorW (l.map fun _ => (0#64 : Word)) = 0#64 := by
  induction l with
  | nil => simp [xorW_nil]
  | cons a l ih => simp only [List.map_cons, xorW_cons, ih, BitVec.xor_zero]

theorem xorW_swap {α β} (l : List α) (m : List β) (f : α → β → Word) :
    xorW (l.map fun p => xorW (m.map fun q => f p q)) = xorW (m.map fun q => xorW (l.map fun p => f p q)) := by
  induction l with
  | nil => simp only [List.map_nil, xorW_nil, xorW_map_zero]
  | cons a l ih => simp only [List.map_cons, xorW_cons, ih, xorW_map_xor]

theorem getLsbD_xorW (l : List Word) (o : Nat) :
    (xorW l).getLsbD o = xorB (l.map (·.getLsbD o)) := by
  induction l with
  | nil => simp [xorW_nil, xorB_nil]
  | cons a l ih => simp only [List.map_cons, xorW_cons, xorB_cons, BitVec.getLsbD_xor, ih]

theorem xorW_skip {α : Type} (key : α → Nat) (f : α → Word) (l : List α) (a : α) (hnd : (l.map key).Nodup)
    (ha : a ∈ l) : xorW (l.map fun q => if key q = key a then 0#64 else f q) = f a ^^^ xorW (l.map f) := by
  apply BitVec.eq_of_getLsbD_eq
  intro i _
  rw [BitVec.getLsbD_xor, getLsbD_xorW, getLsbD_xorW, List.map_map, List.map_map]
  refine Eq.trans (congrArg xorB (List.map_congr_left fun q _ => ?_))
    (xorB_skip key (fun q => (f q).getLsbD i) l a hnd ha)
  simp only [Function.comp]
  split <;> simp

theorem xorW_only {α : Type} (key : α → Nat) (v : Word) (l : List α) (k : Nat) (hnd : (l.map key).Nodup)
    (hk : k ∈ l.map key) : xorW (l.map fun q => if key q = k then v else 0#64) = v := by
  obtain ⟨a, ha, rfl⟩ := List.mem_map.mp hk
  have e : (l.map fun q => if key q = key a then v else 0#64) =
      l.map fun q => v ^^^ if key q = key a then 0#64 else v :=
    List.map_congr_left fun q _ => by split <;> simp
  rw [e, xorW_map_xor, xorW_skip key _ l a hnd ha, BitVec.xor_comm v, ← BitVec.xor_assoc, BitVec.xor_self,
    BitVec.zero_xor]

/-- The word party `p` XORs into `c[w]` for peer `q`. -/
def crossTerm (words : Nat) (I : BatchIn) (p q w : Nat) : Word :=
  wget (I.s p q) w ^^^ (wget (uOf (I.a p) (I.delta p q) words) w &&& wget (I.b q) w) ^^^
    wget (I.r p q) w

/-- One iteration of the peer loop. -/
def batchStep (words : Nat) (I : BatchIn) (p : Nat) (c : Words) (q : Nat) : Words :=
  if q = p then c else
    let u := uOf (I.a p) (I.delta p q) words
    let v := I.b q
    if p < q then receiverTerm (senderTerm c (I.s p q) u v) (I.r p q)
    else senderTerm (receiverTerm c (I.r p q)) (I.s p q) u v

theorem tripleBatchC_eq (n words : Nat) (I : BatchIn) (p : Nat) :
    tripleBatchC n words I p =
      (List.range n).foldl (batchStep words I p)
        (mkA words fun w => wget (I.a p) w &&& wget (I.b p) w) := rfl

theorem batchStep_size (words : Nat) (I : BatchIn) (p : Nat) (c : Words) (q : Nat) :
    (batchStep words I p c q).size = c.size := by
  unfold batchStep
  split
  · rfl
  · split <;> simp [senderTerm, receiverTerm, mkA_size]

theorem batchStep_wget (words : Nat) (I : BatchIn) (p : Nat) (c : Words) (q w : Nat)
    (hw : w < c.size) :
    wget (batchStep words I p c q) w =
      wget c w ^^^ (if q = p then 0#64 else crossTerm words I p q w) := by
  unfold batchStep
  split
  · simp
  · split
    · simp only [receiverTerm, senderTerm, mkA_size]
      rw [wget_mkA _ _ _ hw, wget_mkA _ _ _ hw, BitVec.xor_assoc]
      rfl
    · simp only [receiverTerm, senderTerm, mkA_size]
      rw [wget_mkA _ _ _ hw, wget_mkA _ _ _ hw, BitVec.xor_assoc, BitVec.xor_comm (wget (I.r p q) w)]
      rfl

theorem foldl_batchStep (words : Nat) (I : BatchIn) (p : Nat) (l : List Nat) (c : Words) :
    (l.foldl (batchStep words I p) c).size = c.size ∧
    ∀ w, w < c.size →
      wget (l.foldl (batchStep words I p) c) w =
        wget c w ^^^ xorW (l.map fun q => if q = p then 0#64 else crossTerm words I p q w) := by
  induction l generalizing c with
  | nil => simp [xorW_nil]
  | cons q l ih =>
    simp only [List.foldl_cons, List.map_cons, xorW_cons]
    have hs := batchStep_size words I p c q
    obtain ⟨h1, h2⟩ := ih (batchStep words I p c q)
    refine ⟨h1.trans hs, fun w hw => ?_⟩
    rw [h2 w (hs ▸ hw), batchStep_wget words I p c q w hw, BitVec.xor_assoc]

theorem tripleBatchC_size (n words : Nat) (I : BatchIn) (p : Nat) :
    (tripleBatchC n words I p).size = words := by
  rw [tripleBatchC_eq, (foldl_batchStep words I p _ _).1, mkA_size]

/-- bit-COT correlation (property C06, packed form) for every ordered pair: the receiver `q`
(choice bits `b q`) of sender `p`'s instance obtains `r = s ⊕ Δ₀·b`. -/
def CotCorr (n words : Nat) (I : BatchIn) : Prop :=
  ∀ p q, p < n → q < n → p ≠ q → ∀ w, w < words →
    wget (I.r q p) w = wget (I.s p q) w ^^^ (if I.delta p q then wget (I.b q) w else 0#64)

theorem tripleBatch_sizes (n words : Nat) (I : BatchIn) (p : Nat) :
    (tripleBatch n words I p).words = words ∧ (tripleBatch n words I p).a.size = words ∧
    (tripleBatch n words I p).b.size = words ∧ (tripleBatch n words I p).c.size = words :=
  ⟨rfl, mkA_size _ _, mkA_size _ _, tripleBatchC_size n words I p⟩

/-- What the receiver `q` of `p`'s instance holds: `I.r q p` under `CotCorr`. -/
def cotG (I : BatchIn) (w p q : Nat) : Word :=
  wget (I.s p q) w ^^^ (if I.delta p q then wget (I.b q) w else 0#64)

theorem crossTerm_eq (n words : Nat) (I : BatchIn) (h : CotCorr n words I) (w : Nat) (hw : w < words)
    (p q : Nat) (hp : p < n) (hq : q < n) (hpq : q ≠ p) :
    crossTerm words I p q w =
      (wget (I.a p) w &&& wget (I.b q) w) ^^^ cotG I w p q ^^^ cotG I w q p := by
  -- `u & b = a & b ⊕ Δ₀·b`; the rest is reordering
  have hu : wget (uOf (I.a p) (I.delta p q) words) w &&& wget (I.b q) w =
      (wget (I.a p) w &&& wget (I.b q) w) ^^^ (if I.delta p q then wget (I.b q) w else 0#64) := by
    unfold uOf
    rw [wget_mkA _ _ _ hw]
    cases I.delta p q
    · simp only [Bool.false_eq_true, if_false, BitVec.xor_zero]
    · simp only [if_true, word_flip_and]
  simp only [crossTerm, cotG, hu, h q p hq hp hpq w hw]
  ac_rfl

theorem tripleBatchC_corr (n words : Nat) (I : BatchIn) (h : CotCorr n words I) (w : Nat)
    (hw : w < words) (p : Nat) (hp : p < n) :
    wget (tripleBatchC n words I p) w =
      xorW ((List.range n).map fun q =>
        (wget (I.a p) w &&& wget (I.b q) w) ^^^ cotG I w p q ^^^ cotG I w q p) := by
  have e : ((List.range n).map fun q => if q = p then 0#64 else crossTerm words I p q w) =
      (List.range n).map fun q => if q = p then 0#64 else
        (wget (I.a p) w &&& wget (I.b q) w) ^^^ cotG I w p q ^^^ cotG I w q p :=
    List.map_congr_left fun q hq => by
      split
      · rfl
      · next hqp => exact crossTerm_eq n words I h w hw p q hp (List.mem_range.mp hq) hqp
  rw [tripleBatchC_eq, (foldl_batchStep words I p _ _).2 w (by rw [mkA_size]; exact hw), wget_mkA _ _ _ hw, e,
    xorW_skip (fun q => q) _ _ p (by rw [List.map_id']; exact List.nodup_range) (List.mem_range.mpr hp),
    BitVec.xor_assoc (wget (I.a p) w &&& wget (I.b p) w), BitVec.xor_self, BitVec.xor_zero, ← BitVec.xor_assoc,
    BitVec.xor_self, BitVec.zero_xor]

/-- For every number of parties, all local randomness `a`, `b`, all sender outputs `s`, all deltas, and
receiver outputs satisfying the bit-COT correlation: the dealt triple is valid in every word, bit for bit. -/
theorem gmw_triple_valid (n words : Nat) (I : BatchIn) (h : CotCorr n words I) (w : Nat) (hw : w < words) :
    xorW ((List.range n).map fun p => wget (tripleBatch n words I p).a w) &&&
    xorW ((List.range n).map fun p => wget (tripleBatch n words I p).b w) =
    xorW ((List.range n).map fun p => wget (tripleBatch n words I p).c w) := by
  have ha : ((List.range n).map fun p => wget (tripleBatch n words I p).a w) =
      (List.range n).map fun p => wget (I.a p) w := List.map_congr_left fun p _ => wget_mkA _ _ _ hw
  have hb : ((List.range n).map fun p => wget (tripleBatch n words I p).b w) =
      (List.range n).map fun p => wget (I.b p) w := List.map_congr_left fun p _ => wget_mkA _ _ _ hw
  have hc : ((List.range n).map fun p => wget (tripleBatch n words I p).c w) =
      (List.range n).map fun p => xorW ((List.range n).map fun q =>
        (wget (I.a p) w &&& wget (I.b q) w) ^^^ cotG I w p q ^^^ cotG I w q p) :=
    List.map_congr_left fun p hp => tripleBatchC_corr n words I h w hw p (List.mem_range.mp hp)
  -- the `cotG` terms occur twice in the double sum, once with the indices swapped
  rw [ha, hb, hc]
  simp only [xorW_map_xor, xorW_map_and_left, xorW_map_and_right]
  rw [xorW_swap _ _ (fun p q => cotG I w q p), BitVec.xor_assoc, BitVec.xor_self, BitVec.xor_zero]

end Mpc.Gmw
