/-
Return trees (`RTree`), their materialisation by phis (`RTree.mat`, the model
of ssa.Block.ReturnBinding) and the merge of the bindings of two branches
(`mergeE` / `joinN`, the model of ssa.Bindings.Merge): in a store in which the
phis' equations hold, the merged bindings and the selected results denote what
those of the branch the condition selects denote.
-/
import MpcVerif.Proofs.MpclSsaAgg

namespace Mpc.Mpcl.Ssa
open Mpc.Mpcl

theorem RTree.eval_seq (st : Nat → Nat) : ∀ (t1 t2 : RTree),
    (t1.seq t2).eval st = match t1.eval st with
      | some r => some r
      | none => t2.eval st
  | .fall, t2 => by simp [RTree.seq, RTree.eval]
  | .ret rs, t2 => by simp [RTree.seq, RTree.eval]
  | .br c t f, t2 => by
    simp only [RTree.seq, RTree.eval]
    split
    · exact RTree.eval_seq st t t2
    · exact RTree.eval_seq st f t2

section
variable {σ : Nat → Nat} {c : Nat} {t f : RTree}

theorem RTree.eval_br (b : Bool) (h : decide (σ c % 2 = 1) = b) : (RTree.br c t f).eval σ = (bif b then t else f).eval σ := by
  cases b <;> simp only [decide_eq_true_eq, decide_eq_false_iff_not] at h <;> simp [RTree.eval, h]

end

/-- `t`: the outcome of the condition as a Boolean, so that the two branches are one statement, here and in the
`*_sound` lemmas below. -/
theorem phi_sat {σ : Nat → Nat} {c i j w k : Nat} (h : Sat σ [⟨.phi, [.var c 1, .var i w, .var j w], some (k, w)⟩]) (t : Bool)
    (ht : decide (σ c % 2 = 1) = t) (hv : σ (bif t then i else j) < 2 ^ w) : σ k = σ (bif t then i else j) := by
  have hk := (Sat.one.1 h).symm
  cases t <;> simp only [decide_eq_true_eq, decide_eq_false_iff_not, cond_true, cond_false] at ht hv ⊢ <;>
    simpa [argVal_var, evalOp, ht, Nat.mod_eq_of_lt hv] using hk

section
variable {σ : Nat → Nat} {c : Nat}

theorem mergeB_sound {b b' : Bind} {k : Nat} {b2 : Bind} {code : List SInstr} {k' : Nat} :
    mergeB c b b' k = some (b2, code, k') → Sat σ code → ∀ t : Bool, decide (σ c % 2 = 1) = t →
    Bind.Fits σ (bif t then b else b') → Bind.Fits σ b2 ∧ Bind.den σ b2 = Bind.den σ (bif t then b else b') := by
  fun_cases mergeB c b b' k <;> intro h <;> cases h <;> intro hs t ht hv
  · rename_i hte
    obtain rfl := tyEq_eq hte
    cases t <;> exact ⟨hv, rfl⟩
  · rename_i i ty j ty' hte hij
    obtain rfl := tyEq_eq hte
    have hk := phi_sat hs t ht (by cases t <;> exact hv)
    cases t <;> exact ⟨(hk ▸ hv : σ k < _), by simp only [Bind.den_val, hk, cond_true, cond_false]⟩
  · cases t <;> exact ⟨hv, rfl⟩

theorem mergeS_sound {s s' : NScope} {k : Nat} {s2 : NScope} {code : List SInstr} {k' : Nat} :
    mergeS c s s' k = some (s2, code, k') → Sat σ code → ∀ t : Bool, decide (σ c % 2 = 1) = t →
    NScope.All (Bind.Fits σ) (bif t then s else s') →
    NScope.All (Bind.Fits σ) s2 ∧ NScope.den σ s2 = NScope.den σ (bif t then s else s') := by
  fun_induction mergeS c s s' k generalizing s2 code k' <;> intro h <;> cases h <;> intro hs t ht hsc
  · cases t <;> exact ⟨.nil _, rfl⟩
  · rename_i hm _ _ _ hr ih
    obtain ⟨hs1, hs2⟩ := Sat.append.1 hs
    have hb := mergeB_sound hm hs1 t ht
    have hr := ih hr hs2 t ht
    cases t <;> obtain ⟨h0, hsc⟩ := List.forall_mem_cons.1 hsc <;> obtain ⟨hb1, hb2⟩ := hb h0 <;>
      obtain ⟨hr1, hr2⟩ := hr hsc <;>
      exact ⟨.cons hb1 hr1, by simp only [NScope.den_cons, cond_true, cond_false] at hb2 hr2 ⊢; rw [hb2, hr2]⟩

theorem mergeE_sound {n n' : NEnv} {k : Nat} {n2 : NEnv} {code : List SInstr} {k' : Nat} :
    mergeE c n n' k = some (n2, code, k') → Sat σ code → ∀ t : Bool, decide (σ c % 2 = 1) = t →
    Fits σ (bif t then n else n') → Fits σ n2 ∧ NEnv.den σ n2 = NEnv.den σ (bif t then n else n') := by
  fun_induction mergeE c n n' k generalizing n2 code k' <;> intro h <;> cases h <;> intro hs t ht henv
  · cases t <;> exact ⟨.nil _, rfl⟩
  · rename_i hm _ _ _ hr ih
    obtain ⟨hs1, hs2⟩ := Sat.append.1 hs
    have hb := mergeS_sound hm hs1 t ht
    have hr := ih hr hs2 t ht
    cases t <;> obtain ⟨hb1, hb2⟩ := hb henv.head <;> obtain ⟨hr1, hr2⟩ := hr henv.tail <;>
      exact ⟨.cons hb1 hr1, by simp only [NEnv.den_cons, cond_true, cond_false] at hb2 hr2 ⊢; rw [hb2, hr2]⟩

theorem joinN_sound {nt nf : Option NEnv} {k : Nat} {nms : Option NEnv} {code : List SInstr} {k' : Nat} :
    joinN c nt nf k = some (nms, code, k') → Sat σ code → ∀ t : Bool, decide (σ c % 2 = 1) = t →
    ∀ n, (bif t then nt else nf) = some n → Fits σ n → ∃ n', nms = some n' ∧ Fits σ n' ∧ NEnv.den σ n' = NEnv.den σ n := by
  fun_cases joinN c nt nf k <;> intro h <;> cases h <;> intro hs t ht n hn henv
  · rename_i hm
    refine ⟨_, rfl, ?_⟩
    cases t <;> cases hn <;> exact mergeE_sound hm hs _ ht henv
  all_goals cases t <;> cases hn <;> exact ⟨_, rfl, henv, rfl⟩

theorem matPhis_sound {rt rf : List (Nat × Ty)} {k : Nat} {rs : List (Nat × Ty)} {code : List SInstr} {k' : Nat} :
    matPhis c rt rf k = some (rs, code, k') → Sat σ code → ∀ t : Bool, decide (σ c % 2 = 1) = t →
    (∀ p ∈ (bif t then rt else rf), σ p.1 < 2 ^ p.2.bits) →
    rs.map (fun p => (σ p.1, p.2)) = (bif t then rt else rf).map (fun p => (σ p.1, p.2)) := by
  fun_induction matPhis c rt rf k generalizing rs code k' <;> intro h <;> cases h <;> intro hs t ht hbd
  · cases t <;> rfl
  · rename_i hte _ _ _ hm ih
    obtain rfl := tyEq_eq hte
    obtain ⟨hs1, hs2⟩ := Sat.cons.1 hs
    have hr := ih hm hs2 t ht
    cases t <;> obtain ⟨hlt, hbd⟩ := List.forall_mem_cons.1 hbd <;>
      simp only [cond_true, cond_false, List.map_cons, phi_sat hs1 _ ht hlt, hr hbd]

theorem mat_sound {t : RTree} {k : Nat} {rs : List (Nat × Ty)} {code : List SInstr} {k' : Nat} {lv : List (Nat × Ty)} :
    t.mat k = some (rs, code, k') → Sat σ code → t.eval σ = some lv → (∀ p ∈ lv, p.1 < 2 ^ p.2.bits) →
    rs.map (fun p => (σ p.1, p.2)) = lv := by
  fun_induction RTree.mat t k generalizing rs code k' <;> intro h <;> cases h <;> intro hs hev hbd
  · exact Option.some.inj hev
  · rename_i c t f k rt _ _ hmt rf _ _ hmf _ _ _ hmp iht ihf
    obtain ⟨h12, h3⟩ := Sat.append.1 hs
    obtain ⟨h1, h2⟩ := Sat.append.1 h12
    generalize ht : decide (σ c % 2 = 1) = b
    rw [RTree.eval_br b ht] at hev
    have e : (bif b then rt else rf).map (fun p => (σ p.1, p.2)) = lv := by
      cases b
      · exact ihf hmf h2 hev hbd
      · exact iht hmt h1 hev hbd
    rw [matPhis_sound hmp h3 b ht (by subst e; exact fun p hp => hbd _ (List.mem_map_of_mem hp))]
    exact e

end

theorem eval_some_of_mat (σ : Nat → Nat) {t : RTree} {k : Nat} {q : List (Nat × Ty) × List SInstr × Nat} :
    t.mat k = some q → ∃ lv, t.eval σ = some lv := by
  fun_induction RTree.mat t k generalizing q <;> intro h <;> cases h
  · exact ⟨_, rfl⟩
  · rename_i ht _ _ _ hf _ _ _ _ iht ihf
    simp only [RTree.eval]
    split
    · exact iht ht
    · exact ihf hf

end Mpc.Mpcl.Ssa
