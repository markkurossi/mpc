/-
Definitions and lemmas about `Ty.inst` (`types.Info.InstantiateWithSizes`,
Model/IoInst.lean) used by Props/C13.lean: which types are *sized* (nothing for
the size inference to decide), the layout invariant of a struct (offsets are
the running sums, `Bits` is the total), the relation "differs only in unsized
leaves", and `Ty.inst_spec`: what a successful instantiation returns, in these
terms, by one induction over the type tree.
-/
import MpcVerif.Model.IoInst

namespace Mpc.IoArg

def Tag.scalar : Tag → Bool
  | .bool | .int | .uint | .float => true
  | _ => false

mutual
/-- every leaf of the type has the size that is written in its declaration.  A
slice is never sized (its length is the input's); a struct also needs its own
`IsConcrete`, which `Ty.inst` sets. -/
def Ty.sized : Ty → Bool
  | .base tag c _ _ _ => c && tag.scalar
  | .elem tag c _ _ _ el => c && (tag.scalar || (tag == .array && el.concrete))
  | .struct c _ _ _ fs => c && sizedAll fs
def sizedAll : List Ty → Bool
  | [] => true
  | f :: fs => f.sized && sizedAll fs
end

mutual
/-- the struct layout that `defineType` and `InstantiateWithSizes` produce:
member offsets are the running sums of the member widths, the struct's `Bits`
is the total. -/
def Ty.layoutOk : Ty → Bool
  | .base _ _ _ _ _ => true
  | .elem _ _ _ _ _ _ => true
  | .struct _ b _ _ fs => layoutAll fs 0 b
def layoutAll : List Ty → Nat → Nat → Bool
  | [], acc, total => acc == total
  | f :: fs, acc, total => f.off == acc && f.layoutOk && layoutAll fs (acc + f.bits) total
end

mutual
/-- how many entries of `sizes` the instantiation needs: a struct member reads
from `sizes[consumed:]`, `consumed` = `numSizes` of the members before it. -/
def Ty.span : Ty → Nat
  | .base _ _ _ _ _ => 1
  | .elem _ _ _ _ _ _ => 1
  | .struct _ _ _ _ fs => max 1 (spanAll fs)
def spanAll : List Ty → Nat
  | [] => 0
  | f :: fs => max f.span (f.numSizes + spanAll fs)
end

mutual
/-- `t'` is `t` except for what the size inference decides: the width of a
scalar that is not `IsConcrete`, the length and width of an array that is not
`IsConcrete` and of a slice, and the bookkeeping fields (`IsConcrete`,
`Offset`, a struct's total `Bits`).  Tags, member count and order, element
types, and width and length of everything else are the same. -/
def Ty.agree : Ty → Ty → Prop
  | .base tag c b n _, t' =>
    ∃ c' b' o', t' = .base tag c' b' n o' ∧ ((tag = .bool ∨ c = true) → b' = b)
  | .elem tag c b n _ el, t' =>
    ∃ c' b' n' o', t' = .elem tag c' b' n' o' el ∧
      ((tag ≠ .slice ∧ (tag = .bool ∨ c = true)) → (b' = b ∧ n' = n))
  | .struct _ _ n _ fs, t' =>
    ∃ c' b' o' fs', t' = .struct c' b' n o' fs' ∧ agreeAll fs fs'
def agreeAll : List Ty → List Ty → Prop
  | [], fs' => fs' = []
  | f :: fs, fs' => ∃ g gs, fs' = g :: gs ∧ f.agree g ∧ agreeAll fs gs
end

theorem Ty.setOff_off (t : Ty) : t.setOff t.off = t := by
  cases t <;> rfl

theorem Ty.setOff_setOff (t : Ty) (a b : Nat) : (t.setOff a).setOff b = t.setOff b := by
  cases t <;> rfl

theorem Ty.setOff_bits (t : Ty) (o : Nat) : (t.setOff o).bits = t.bits := by
  cases t <;> rfl

theorem Ty.off_setOff (t : Ty) (o : Nat) : (t.setOff o).off = o := by
  cases t <;> rfl

theorem Ty.layoutOk_setOff (t : Ty) (o : Nat) : (t.setOff o).layoutOk = t.layoutOk := by
  cases t <;> rfl

theorem Ty.agree_setOff (t t' : Ty) (o : Nat) (h : t.agree t') : t.agree (t'.setOff o) := by
  cases t with
  | base tag c b n off =>
    obtain ⟨c', b', o', rfl, hb⟩ := h
    exact ⟨c', b', o, rfl, hb⟩
  | elem tag c b n off el =>
    obtain ⟨c', b', n', o', rfl, hb⟩ := h
    exact ⟨c', b', n', o, rfl, hb⟩
  | struct c b n off fs =>
    obtain ⟨c', b', o', fs', rfl, hfs⟩ := h
    exact ⟨c', b', o, fs', rfl, hfs⟩

theorem Ty.span_pos (t : Ty) : 1 ≤ t.span := by
  cases t <;> simp [Ty.span] <;> omega

theorem Ty.inst_base_ok {tag : Tag} {c : Bool} {b n o : Nat} {sizes : List Nat} {t' : Ty}
    (h : (Ty.base tag c b n o).inst sizes = .ok t') :
    ∃ s, sizes.head? = some s ∧ t' = .base tag true (if tag = .bool ∨ c = true then b else s) n o := by
  cases sizes with
  | nil => cases h
  | cons s rest =>
    refine ⟨s, rfl, ?_⟩
    cases tag <;> cases c <;> cases h <;> rfl

theorem Ty.inst_elem_ok {tag : Tag} {c : Bool} {b n o : Nat} {el : Ty} {sizes : List Nat} {t' : Ty}
    (h : (Ty.elem tag c b n o el).inst sizes = .ok t') :
    ∃ s b' n', sizes.head? = some s ∧ t' = .elem tag true b' n' o el ∧
      (tag ≠ .slice → tag = .bool ∨ c = true → b' = b ∧ n' = n) ∧
      (tag = .slice → b' = ceilDiv s el.bits * el.bits ∧ n' = ceilDiv s el.bits) := by
  cases sizes with
  | nil => cases h
  | cons s rest =>
    simp only [Ty.inst] at h
    -- one goal per returning branch of the tag switch and its guards
    repeat' split at h
    all_goals cases h
    all_goals refine ⟨s, _, _, rfl, rfl, ?_, ?_⟩ <;> simp_all

theorem Ty.inst_struct_ok {c : Bool} {b n o : Nat} {fs : List Ty} {sizes : List Nat} {t' : Ty}
    (h : (Ty.struct c b n o fs).inst sizes = .ok t') :
    ∃ fs' total, instFields fs sizes 0 = .ok (fs', total) ∧ t' = .struct true total n o fs' := by
  cases sizes with
  | nil => cases h
  | cons s rest =>
    simp only [Ty.inst] at h
    split at h
    · cases h
    · next fs' total hf => cases h; exact ⟨fs', total, hf, rfl⟩

theorem instFields_nil_ok {sizes : List Nat} {acc : Nat} {fs' : List Ty} {total : Nat}
    (h : instFields [] sizes acc = .ok (fs', total)) : fs' = [] ∧ total = acc := by
  cases h; exact ⟨rfl, rfl⟩

theorem instFields_cons_ok {f : Ty} {fs : List Ty} {sizes : List Nat} {acc : Nat} {fs' : List Ty} {total : Nat}
    (h : instFields (f :: fs) sizes acc = .ok (fs', total)) :
    ∃ f' gs, f.inst sizes = .ok f' ∧
      instFields fs (sizes.drop f'.numSizes) (acc + f'.bits) = .ok (gs, total) ∧ fs' = f'.setOff acc :: gs := by
  cases sizes with
  | nil => cases h
  | cons s rest =>
    simp only [instFields] at h
    split at h
    · cases h
    · next f' hf =>
      split at h
      · cases h
      · next gs tot hr => cases h; exact ⟨f', gs, hf, hr, rfl⟩

mutual
theorem Ty.inst_sized : ∀ (t : Ty) (sizes : List Nat), t.sized = true → t.layoutOk = true →
    t.span ≤ sizes.length → t.inst sizes = .ok t
  | .base tag c b n o, sizes, hs, _, hl => by
    cases sizes with
    | nil => cases hl
    | cons s rest =>
      simp only [Ty.sized, Bool.and_eq_true] at hs
      obtain ⟨rfl, ht⟩ := hs
      cases tag <;> cases ht <;> rfl
  | .elem tag c b n o el, sizes, hs, _, hl => by
    cases sizes with
    | nil => cases hl
    | cons s rest =>
      simp only [Ty.sized, Bool.and_eq_true] at hs
      obtain ⟨rfl, ht⟩ := hs
      cases tag <;> simp [Tag.scalar] at ht <;> simp [Ty.inst, ht]
  | .struct c b n o fs, sizes, hs, hlay, hl => by
    simp only [Ty.sized, Bool.and_eq_true] at hs
    obtain ⟨rfl, hfs⟩ := hs
    have hsp : spanAll fs ≤ sizes.length := Nat.le_trans (Nat.le_max_right ..) hl
    cases sizes with
    | nil => exact absurd hl (by simp [Ty.span])
    | cons s rest => simp only [Ty.inst, instFields_sized fs (s :: rest) 0 b hfs hlay hsp]
theorem instFields_sized : ∀ (fs : List Ty) (sizes : List Nat) (acc total : Nat), sizedAll fs = true →
    layoutAll fs acc total = true → spanAll fs ≤ sizes.length → instFields fs sizes acc = .ok (fs, total)
  | [], sizes, acc, total, _, hlay, _ => by
    simp only [layoutAll, beq_iff_eq] at hlay
    rw [instFields, hlay]
  | f :: fs, sizes, acc, total, hs, hlay, hl => by
    simp only [sizedAll, Bool.and_eq_true] at hs
    simp only [layoutAll, Bool.and_eq_true, beq_iff_eq] at hlay
    obtain ⟨⟨rfl, hfl⟩, hrest⟩ := hlay
    simp only [spanAll] at hl
    have hf := Ty.inst_sized f sizes hs.1 hfl (by omega)
    have hr := instFields_sized fs (sizes.drop f.numSizes) (f.off + f.bits) total hs.2 hrest
      (by rw [List.length_drop]; omega)
    cases sizes with
    | nil => exact absurd (Ty.span_pos f) (by simp at hl; omega)
    | cons s rest => simp only [instFields, hf, hr, Ty.setOff_off]
end

theorem Ty.leaves_setOff_erase (t : Ty) (a : Nat) :
    (t.setOff a).leaves.map (fun g => (Except.ok (g.setOff 0) : Except Err Ty)) =
      t.leaves.map (fun g => Except.ok (g.setOff 0)) := by
  cases t <;> simp [Ty.setOff, Ty.leaves]

mutual
theorem Ty.numSizes_eq : ∀ (t : Ty), t.numSizes = t.leaves.length
  | .base _ _ _ _ _ => rfl
  | .elem _ _ _ _ _ _ => rfl
  | .struct _ _ _ _ fs => numSizesAll_eq fs
theorem numSizesAll_eq : ∀ (fs : List Ty), numSizesAll fs = (leavesAll fs).length
  | [] => rfl
  | f :: fs => by
    simp only [numSizesAll, leavesAll, List.length_append]
    rw [Ty.numSizes_eq f, numSizesAll_eq fs]
end

/-- what every leaf should become: leaf `k` instantiated on its own from the
sizes from entry `k` on (offsets erased: they are struct bookkeeping) -/
def instLeavesSpec : List Ty → List Nat → List (Except Err Ty)
  | [], _ => []
  | l :: ls, sizes => (l.inst sizes).map (·.setOff 0) :: instLeavesSpec ls (sizes.drop 1)

theorem instLeavesSpec_length : ∀ (ls : List Ty) (sizes : List Nat), (instLeavesSpec ls sizes).length = ls.length
  | [], _ => rfl
  | l :: ls, sizes => by simp [instLeavesSpec, instLeavesSpec_length ls]

theorem instLeavesSpec_append : ∀ (as bs : List Ty) (sizes : List Nat),
    instLeavesSpec (as ++ bs) sizes = instLeavesSpec as sizes ++ instLeavesSpec bs (sizes.drop as.length)
  | [], bs, sizes => by simp [instLeavesSpec]
  | a :: as, bs, sizes => by
    simp only [List.cons_append, instLeavesSpec, List.length_cons, instLeavesSpec_append as bs, List.drop_drop]
    rw [Nat.add_comm 1 as.length]

theorem instLeavesSpec_get : ∀ (ls : List Ty) (sizes : List Nat) (k : Nat) (hk : k < ls.length),
    (instLeavesSpec ls sizes)[k]? = some ((ls[k].inst (sizes.drop k)).map (·.setOff 0))
  | [], _, k, hk => by simp at hk
  | l :: ls, sizes, 0, _ => by simp [instLeavesSpec]
  | l :: ls, sizes, k + 1, hk => by
    have hk' : k < ls.length := by simpa using hk
    simp only [instLeavesSpec, List.getElem?_cons_succ, List.getElem_cons_succ]
    rw [instLeavesSpec_get ls (sizes.drop 1) k hk', List.drop_drop, Nat.add_comm 1 k]

mutual
/-- What a successful `InstantiateWithSizes` returns: a type that differs from the declared one only in unsized leaves, with
the struct layout, whose leaves are the declared leaves instantiated one by one from the sizes that follow. -/
theorem Ty.inst_spec : ∀ (t : Ty) (sizes : List Nat) (t' : Ty), t.inst sizes = .ok t' →
    t.agree t' ∧ t'.layoutOk = true ∧
      t'.leaves.map (fun g => (Except.ok (g.setOff 0) : Except Err Ty)) = instLeavesSpec t.leaves sizes
  | .base tag c b n o, sizes, t', h => by
    obtain ⟨s, _, rfl⟩ := Ty.inst_base_ok h
    exact ⟨⟨true, _, o, rfl, fun hc => if_pos hc⟩, rfl, by simp [Ty.leaves, instLeavesSpec, h, Except.map]⟩
  | .elem tag c b n o el, sizes, t', h => by
    obtain ⟨s, b', n', _, rfl, hb, _⟩ := Ty.inst_elem_ok h
    exact ⟨⟨true, b', n', o, rfl, fun hc => hb hc.1 hc.2⟩, rfl, by simp [Ty.leaves, instLeavesSpec, h, Except.map]⟩
  | .struct c b n o fs, sizes, t', h => by
    obtain ⟨fs', total, hf, rfl⟩ := Ty.inst_struct_ok h
    obtain ⟨ha, hl, hv⟩ := instFields_spec fs sizes 0 fs' total hf
    exact ⟨⟨true, total, o, fs', rfl, ha⟩, hl, hv⟩
theorem instFields_spec : ∀ (fs : List Ty) (sizes : List Nat) (acc : Nat) (fs' : List Ty) (total : Nat),
    instFields fs sizes acc = .ok (fs', total) →
    agreeAll fs fs' ∧ layoutAll fs' acc total = true ∧
      (leavesAll fs').map (fun g => (Except.ok (g.setOff 0) : Except Err Ty)) = instLeavesSpec (leavesAll fs) sizes
  | [], sizes, acc, fs', total, h => by
    obtain ⟨rfl, rfl⟩ := instFields_nil_ok h
    exact ⟨rfl, by simp [layoutAll], rfl⟩
  | f :: fs, sizes, acc, fs', total, h => by
    obtain ⟨f', gs, hf, hr, rfl⟩ := instFields_cons_ok h
    obtain ⟨ha, hl, hv⟩ := Ty.inst_spec f sizes f' hf
    obtain ⟨has, hls, hvs⟩ := instFields_spec fs _ (acc + f'.bits) gs total hr
    -- the next member reads from the sizes after the `f.leaves.length` entries this one consumed
    have hlen : f'.numSizes = f.leaves.length := by
      have := congrArg List.length hv
      rw [List.length_map, instLeavesSpec_length] at this
      rw [Ty.numSizes_eq, this]
    refine ⟨⟨f'.setOff acc, gs, rfl, Ty.agree_setOff f f' acc ha, has⟩, ?_, ?_⟩
    · simp only [layoutAll, Bool.and_eq_true, beq_iff_eq, Ty.off_setOff, Ty.layoutOk_setOff, Ty.setOff_bits, true_and]
      exact ⟨hl, hls⟩
    · simp only [leavesAll, List.map_append, instLeavesSpec_append, Ty.leaves_setOff_erase, hv, ← hlen, hvs]
end

theorem instFields_agree : ∀ (fs : List Ty) (sizes : List Nat) (acc : Nat) (fs' : List Ty) (total : Nat),
    instFields fs sizes acc = .ok (fs', total) → agreeAll fs fs' :=
  fun fs sizes acc fs' total h => (instFields_spec fs sizes acc fs' total h).1

theorem instFields_layout : ∀ (fs : List Ty) (sizes : List Nat) (acc : Nat) (fs' : List Ty) (total : Nat),
    instFields fs sizes acc = .ok (fs', total) → layoutAll fs' acc total = true :=
  fun fs sizes acc fs' total h => (instFields_spec fs sizes acc fs' total h).2.1

theorem instFields_leaves : ∀ (fs : List Ty) (sizes : List Nat) (acc : Nat) (fs' : List Ty) (total : Nat),
    instFields fs sizes acc = .ok (fs', total) →
    (leavesAll fs').map (fun g => (Except.ok (g.setOff 0) : Except Err Ty)) = instLeavesSpec (leavesAll fs) sizes :=
  fun fs sizes acc fs' total h => (instFields_spec fs sizes acc fs' total h).2.2

theorem Ty.inst_leaf {t t' : Ty} {sizes : List Nat} (h : t.inst sizes = .ok t') :
    t'.leaves.length = t.leaves.length ∧ ∀ k (hk : k < t.leaves.length),
      ∃ l off, t.leaves[k].inst (sizes.drop k) = .ok l ∧ t'.leaves[k]? = some (l.setOff off) := by
  have H := (Ty.inst_spec t sizes t' h).2.2
  have hlen : t'.leaves.length = t.leaves.length := by
    simpa [instLeavesSpec_length] using congrArg List.length H
  refine ⟨hlen, fun k hk => ?_⟩
  have hk' : k < t'.leaves.length := hlen ▸ hk
  have Hk := congrArg (fun l => l[k]?) H
  simp only [List.getElem?_map, instLeavesSpec_get _ _ k hk, List.getElem?_eq_getElem hk', Option.map_some,
    Option.some.injEq] at Hk
  cases hi : t.leaves[k].inst (sizes.drop k) with
  | error e => rw [hi] at Hk; cases Hk
  | ok l =>
    rw [hi] at Hk
    have Hk' : t'.leaves[k].setOff 0 = l.setOff 0 := Except.ok.inj Hk
    refine ⟨l, t'.leaves[k].off, rfl, ?_⟩
    rw [List.getElem?_eq_getElem hk', ← Ty.setOff_setOff l 0, ← Hk', Ty.setOff_setOff, Ty.setOff_off]

theorem agreeAll_append : ∀ (as as' bs bs' : List Ty), agreeAll as as' → agreeAll bs bs' →
    agreeAll (as ++ bs) (as' ++ bs')
  | [], as', bs, bs', ha, hb => by
    simp [agreeAll] at ha; subst ha; simpa using hb
  | a :: as, as', bs, bs', ha, hb => by
    obtain ⟨g, gs, rfl, hg, hgs⟩ := ha
    exact ⟨g, gs ++ bs', by simp, hg, agreeAll_append as gs bs bs' hgs hb⟩

mutual
theorem Ty.agree_leaves : ∀ (t t' : Ty), t.agree t' → agreeAll t.leaves t'.leaves
  | .base tag c b n o, t', h => by
    obtain ⟨c', b', o', rfl, hb⟩ := h
    exact ⟨_, [], rfl, ⟨c', b', o', rfl, hb⟩, rfl⟩
  | .elem tag c b n o el, t', h => by
    obtain ⟨c', b', n', o', rfl, hb⟩ := h
    exact ⟨_, [], rfl, ⟨c', b', n', o', rfl, hb⟩, rfl⟩
  | .struct c b n o fs, t', h => by
    obtain ⟨c', b', o', fs', rfl, hfs⟩ := h
    simp only [Ty.leaves]
    exact agreeAll_leaves fs fs' hfs
theorem agreeAll_leaves : ∀ (fs fs' : List Ty), agreeAll fs fs' → agreeAll (leavesAll fs) (leavesAll fs')
  | [], fs', h => by
    simp [agreeAll] at h; subst h; simp [leavesAll, agreeAll]
  | f :: fs, fs', h => by
    obtain ⟨g, gs, rfl, hg, hgs⟩ := h
    simp only [leavesAll]
    exact agreeAll_append _ _ _ _ (Ty.agree_leaves f g hg) (agreeAll_leaves fs gs hgs)
end

theorem agreeAll_get : ∀ (fs fs' : List Ty), agreeAll fs fs' → fs'.length = fs.length ∧
    ∀ k (hk : k < fs.length), ∃ g, fs'[k]? = some g ∧ fs[k].agree g
  | [], fs', h => by
    simp [agreeAll] at h; subst h; simp
  | f :: fs, fs', h => by
    obtain ⟨g, gs, rfl, hg, hgs⟩ := h
    have ih := agreeAll_get fs gs hgs
    refine ⟨by simp [ih.1], ?_⟩
    intro k hk
    cases k with
    | zero => exact ⟨g, by simp, by simpa using hg⟩
    | succ k =>
      have hk' : k < fs.length := by simpa using hk
      obtain ⟨g', h1, h2⟩ := ih.2 k hk'
      exact ⟨g', by simpa using h1, by simpa using h2⟩

theorem Ty.agree_sized_toInfo (l l' : Ty) (hleaf : ∀ c b n o fs, l ≠ .struct c b n o fs)
    (hs : l.sized = true) (h : l.agree l') : l'.toInfo = l.toInfo := by
  cases l with
  | base tag c b n o =>
    obtain ⟨c', b', o', rfl, hb⟩ := h
    simp only [Ty.sized, Bool.and_eq_true] at hs
    simp [Ty.toInfo, hb (Or.inr hs.1)]
  | elem tag c b n o el =>
    obtain ⟨c', b', n', o', rfl, hb⟩ := h
    simp only [Ty.sized, Bool.and_eq_true] at hs
    obtain ⟨rfl, ht⟩ := hs
    have hns : tag ≠ .slice := by
      intro h; subst h; simp [Tag.scalar] at ht
    obtain ⟨rfl, rfl⟩ := hb ⟨hns, Or.inr rfl⟩
    simp [Ty.toInfo]
  | struct c b n o fs => exact absurd rfl (hleaf c b n o fs)

mutual
theorem Ty.leaves_not_struct : ∀ (t l : Ty), l ∈ t.leaves → ∀ c b n o fs, l ≠ .struct c b n o fs
  | .base tag c b n o, l, h => by
    simp [Ty.leaves] at h; subst h; intros; simp
  | .elem tag c b n o el, l, h => by
    simp [Ty.leaves] at h; subst h; intros; simp
  | .struct c b n o fs, l, h => by
    simp only [Ty.leaves] at h
    exact leavesAll_not_struct fs l h
theorem leavesAll_not_struct : ∀ (fs : List Ty) (l : Ty), l ∈ leavesAll fs → ∀ c b n o gs, l ≠ .struct c b n o gs
  | [], l, h => by simp [leavesAll] at h
  | f :: fs, l, h => by
    simp only [leavesAll, List.mem_append] at h
    rcases h with h | h
    · exact Ty.leaves_not_struct f l h
    · exact leavesAll_not_struct fs l h
end

end Mpc.IoArg
