/-
C09: `Graph.compileChecked` (model of `Compiler.Compile` with its run
validated by `compileChecks`) preserves the input-to-output function.

Proved here: whenever the validated compile returns a circuit, that circuit
computes the function of the graph on every input.  NOT proved (validated on
every run instead, inside the model function): that the breadth-first id
assignment of `Compile` always produces an injective numbering, assigns ids
to all wires of the gates it emits, emits them in topological order and
reaches the producer of every output.
-/
import MpcVerif.Proofs.PassGraph
import MpcVerif.Proofs.Equiv

namespace Mpc

namespace Graph

theorem mem_compile_gates (G : Graph) (gmw : Bool) (st : CState) (C : Circuit)
    (hst : G.compileState = some st) (hC : G.compile gmw = some C) :
    C.numWires = st.next ∧ C.nIn = G.nIn ∧ C.nOut = G.outputs.length ∧
    ∀ g ∈ C.gates, ∃ h ∈ st.assigned.toList, g = G.emitGate st h := by
  unfold compile at hC
  rw [hst] at hC
  simp only [Option.some.injEq] at hC
  subst hC
  refine ⟨rfl, rfl, rfl, fun g hg => ?_⟩
  simp only [List.mem_map] at hg
  obtain ⟨pr, hpr, rfl⟩ := hg
  have hmem : pr ∈ st.assigned.toList.map fun h => (G.emitGate st h, st.level.getD h 0) := by
    cases gmw
    · simpa using hpr
    · simp only [if_true, compileSort] at hpr
      exact (List.mergeSort_perm _ _).mem_iff.mp hpr
  simp only [List.mem_map] at hmem
  obtain ⟨h, hh, rfl⟩ := hmem
  exact ⟨h, hh, rfl⟩

theorem compileChecked_preserves (G : Graph) (gmw : Bool) (C : Circuit) (hwf : G.GWF)
    (hc : G.compileChecked gmw = some C) : ∀ x, C.compute x = G.compute x := by
  unfold compileChecked at hc
  split at hc
  · rename_i st C' hst hC
    split at hc
    · rename_i hchk
      simp only [Option.some.injEq] at hc
      subst hc
      obtain ⟨hnw, hnin, hnout, hmem⟩ := mem_compile_gates G gmw st C' hst hC
      unfold compileChecks at hchk
      simp only [Bool.and_eq_true, decide_eq_true_eq, List.all_eq_true, List.mem_range] at hchk
      obtain ⟨⟨⟨⟨⟨⟨hninle, houtle⟩, hinv⟩, hinp⟩, hasg⟩, habs⟩, hout⟩ := hchk
      intro x
      have hs := evalStore_gsol hwf x
      -- the store of the compiled circuit, read off the graph's solution
      have hsC : ∃ sC : Store Bool, ∀ w k, w < G.wires.size → st.ids.getD w none = some k →
          sC.get k = (G.evalStore x).get w := by
        refine ⟨(Array.range C'.numWires).map fun k =>
          match (G.mkInv st).getD k none with
          | some w => (G.evalStore x).get w
          | none => false, fun w k hw hk => ?_⟩
        have := hinv w hw
        rw [hk] at this
        simp only [Bool.and_eq_true, decide_eq_true_eq, beq_iff_eq] at this
        rw [get_range_map _ _ _ (by rw [hnw]; exact this.1)]
        simp only [this.2]
      obtain ⟨sC, hsC⟩ := hsC
      have hid : ∀ w, w < G.wires.size → (st.ids.getD w none).isSome = true →
          sC.get ((st.ids.getD w none).getD 0) = (G.evalStore x).get w := by
        intro w hw hsome
        obtain ⟨k, hk⟩ := Option.isSome_iff_exists.mp hsome
        rw [hk]
        exact hsC w k hw hk
      have hsem : Sem sC C'.gates := by
        intro g hg
        obtain ⟨h, hh, rfl⟩ := hmem g hg
        have hc := hasg h hh
        simp only [Bool.and_eq_true, decide_eq_true_eq, Bool.or_eq_true, beq_iff_eq,
          Bool.not_eq_true'] at hc
        obtain ⟨⟨⟨⟨hlt, hdead⟩, ha⟩, hb⟩, ho⟩ := hc
        have heq := hs.gate_eq ⟨hlt, hdead⟩
        simp only [emitGate]
        rw [hid _ ha.1 ha.2, hid _ ho.1 ho.2, heq]
        by_cases hop : (G.gate h).op = .inv
        · exact Op.eval_unary _ (by rw [hop]; rfl) _ _ _
        · rcases hb with hb | hb
          · exact absurd hb hop
          · rw [if_neg hop, hid _ hb.1 hb.2]
      have hssa : SSA C'.numWires C'.gates C'.inputDefined :=
        absRun_ssa C' #[] (by rw [hnw, hnin]; exact hninle) habs
      have hsC' := C'.sol (by rw [hnw, hnin]; exact hninle) hssa x
      have hagree := sem_agree C'.numWires (C'.plainEval x) sC C'.gates C'.inputDefined hssa.1
        hsC'.sem hsem (fun w hw => by
          rw [Circuit.inputDefined_eq_true] at hw
          rw [hsC'.inp w hw]
          rw [hnin] at hw ⊢
          have := hinp w hw
          simp only [beq_iff_eq] at this
          rw [hsC w w (by have := hwf.nin; omega) this]
          exact (hs.inp w hw).symm)
      rw [Circuit.compute_eq, Graph.compute]
      rw [map_eq_range_map G.outputs _ 0, hnout, hnw]
      apply List.map_congr_left
      intro i hi
      have ho := hout i (List.mem_range.mp hi)
      simp only [decide_eq_true_eq, beq_iff_eq, Bool.or_eq_true, List.any_eq_true] at ho
      obtain ⟨⟨howb, hoid⟩, hodef⟩ := ho
      rw [hagree _ (by
        rw [definedAfter_iff]
        rcases hodef with hlt | ⟨g, hg, hgo⟩
        · left; simp [Circuit.inputDefined, hnin, hlt]
        · right; exact ⟨g, hg, hgo⟩)]
      exact hsC _ _ howb hoid
    · simp at hc
  · simp at hc

end Graph
end Mpc
