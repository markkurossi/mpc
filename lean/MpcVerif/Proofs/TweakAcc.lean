/-
Lemmas on the per-kind tweak accounting (`Model/TweakAcc.lean`).  About
`garbleCore` (Model/Garble.lean): it reads the hash only at `op.uses id`
(`garbleCore_queries_only`), and whatever XOR preserves and holds of zero, the
offset, the input zero-labels and those hash values holds of its output labels
and rows (`garbleCore_closed`).  About
Model/LabelBV.lean: `hashOf_unary`.
-/
import MpcVerif.Model.LabelBV
import MpcVerif.Proofs.Garble

namespace Mpc
open LabelAlg
variable {L : Type} [LabelAlg L]

theorem streamGarbleAcc_flatten (H : Hash L) (r : L) (tw : TweakAcc) (steps : List (List Gate)) :
    ∀ (ws : Store (WireL L)) (id : Nat),
      streamGarbleAcc H r tw steps ws id = garbleGatesAcc H r tw steps.flatten ws id := by
  induction steps with
  | nil => intro ws id; rfl
  | cons step steps ih =>
    intro ws id
    simp only [streamGarbleAcc, List.flatten_cons, garbleGatesAcc_append, ih]

theorem garbleGatesAcc_id (H : Hash L) (r : L) (tw : TweakAcc) (gs : List Gate) :
    ∀ (ws : Store (WireL L)) (id : Nat),
      (garbleGatesAcc H r tw gs ws id).2.1 = tweakEnd tw (gs.map (·.op)) id := by
  induction gs with
  | nil => intro ws id; rfl
  | cons g gs ih =>
    intro ws id
    simp only [garbleGatesAcc_cons, List.map_cons, tweakEnd]
    exact ih _ _

theorem garbleCore_queries_only (H H' : Hash L) (r : L) (op : Op) (a b : WireL L) (id : Nat)
    (h1 : ∀ x, ∀ t ∈ op.uses id, H.h1 x t = H'.h1 x t)
    (h2 : ∀ x y, ∀ t ∈ op.uses id, H.h2 x y t = H'.h2 x y t) :
    garbleCore H r op a b id = garbleCore H' r op a b id := by
  cases op
  case xor => rfl
  case xnor => rfl
  case and =>
    have e0 : ∀ x, H.h1 x id = H'.h1 x id := fun x => h1 x id (.head _)
    have e1 : ∀ x, H.h1 x (id + 1) = H'.h1 x (id + 1) :=
      fun x => h1 x (id + 1) (.tail _ (.head _))
    simp only [garbleCore, e0, e1]
  case or | inv =>
    have e0 : ∀ x y, H.h2 x y id = H'.h2 x y id := fun x y => h2 x y id (.head _)
    simp only [garbleCore, e0]

theorem mem_uses (op : Op) (id t : Nat) : t ∈ op.uses id ↔ id ≤ t ∧ t < id + op.queries := by
  simp only [Op.uses, List.mem_map, List.mem_range]
  constructor
  · rintro ⟨k, hk, rfl⟩; omega
  · intro ⟨h1, h2⟩; exact ⟨t - id, by omega, by omega⟩

theorem Op.queries_eq_tweaks (op : Op) : op.queries = op.tweaks := by cases op <;> rfl

theorem ite_closed {α : Type} {P : α → Prop} (c : Prop) [Decidable c] {x y : α} (hx : P x) (hy : P y) :
    P (if c then x else y) :=
  iteInduction (fun _ => hx) (fun _ => hy)

omit [LabelAlg L] in
theorem Tab.set_closed {P : L → Prop} {t : Tab L} (ht : ∀ i, P (t i)) (j : Nat) {v : L} (hv : P v)
    (i : Nat) : P (t.set j v i) :=
  ite_closed _ hv (ht i)

theorem garbleCore_closed (P : L → Prop) (H : Hash L) (r : L) (op : Op) (a b : WireL L) (id : Nat)
    (hx : ∀ {x y}, P x → P y → P (x ^^^ y)) (h0 : P LabelAlg.zero) (hr : P r)
    (ha0 : P a.l0) (hb : op.binary = true → P b.l0)
    (h1 : ∀ x, ∀ t ∈ op.uses id, P (H.h1 x t)) (h2 : ∀ x y, ∀ t ∈ op.uses id, P (H.h2 x y t)) :
    let c := garbleCore H r op a b id
    P c.1.l0 ∧ P c.1.l1 ∧ ∀ row ∈ c.2, P row := by
  cases op
  case xor => exact ⟨hx ha0 (hb rfl), hx (hx ha0 (hb rfl)) hr, nofun⟩
  case xnor => exact ⟨hx (hx ha0 (hb rfl)) hr, hx ha0 (hb rfl), nofun⟩
  case and =>
    have e0 : ∀ x, P (H.h1 x id) := fun x => h1 x id (.head _)
    have e1 : ∀ x, P (H.h1 x (id + 1)) := fun x => h1 x (id + 1) (.tail _ (.head _))
    have htg := ite_closed (sbit b.l0 = true) (hx (hx (e0 a.l0) (e0 a.l1)) hr) (hx (e0 a.l0) (e0 a.l1))
    have hte := hx (hx (e1 b.l0) (e1 b.l1)) ha0
    have hl0 := hx (ite_closed (sbit a.l0 = true) (hx (e0 a.l0) htg) (e0 a.l0))
      (ite_closed (sbit b.l0 = true) (hx (hx (e1 b.l0) hte) ha0) (e1 b.l0))
    exact ⟨hl0, hx hl0 hr, List.forall_mem_cons.2 ⟨htg, List.forall_mem_cons.2 ⟨hte, nofun⟩⟩⟩
  case or =>
    have e : ∀ x y, P (H.h2 x y id ^^^ LabelAlg.zero) :=
      fun x y => hx (h2 x y id (.head _)) h0
    have ht := Tab.set_closed (Tab.set_closed (Tab.set_closed (Tab.set_closed (t := fun _ => LabelAlg.zero)
      (fun _ => h0) (idx a.l0 b.l0) (e a.l0 b.l0)) (idx a.l0 b.l1) (e a.l0 b.l1))
      (idx a.l1 b.l0) (e a.l1 b.l0)) (idx a.l1 b.l1) (e a.l1 b.l1)
    have hc0 := ite_closed (idx a.l0 b.l0 = 0) (ht 0) (hx (ht 0) hr)
    have hc1 := ite_closed (idx a.l0 b.l0 = 0) (hx (ht 0) hr) (ht 0)
    have hrow : ∀ i, P _ := fun i => ite_closed (i = idx a.l0 b.l0) (hx (ht i) hc0) (hx (ht i) hc1)
    exact ⟨hc0, hc1, List.forall_mem_cons.2 ⟨hrow 1, List.forall_mem_cons.2 ⟨hrow 2,
      List.forall_mem_cons.2 ⟨hrow 3, nofun⟩⟩⟩⟩
  case inv =>
    have e : ∀ x, P (H.h2 x LabelAlg.zero id ^^^ LabelAlg.zero) :=
      fun x => hx (h2 x _ id (.head _)) h0
    have ht := Tab.set_closed (Tab.set_closed (t := fun _ => LabelAlg.zero)
      (fun _ => h0) (idxUnary a.l0) (e a.l0)) (idxUnary a.l1) (e a.l1)
    have hc0 := ite_closed (idxUnary a.l0 = 0) (hx (ht 0) hr) (ht 0)
    have hc1 := ite_closed (idxUnary a.l0 = 0) (ht 0) (hx (ht 0) hr)
    exact ⟨hc0, hc1, List.forall_mem_cons.2
      ⟨ite_closed (1 = idxUnary a.l0) (hx (ht 1) hc1) (hx (ht 1) hc0), nofun⟩⟩

theorem uses_sorted (op : Op) (id : Nat) : (op.uses id).Pairwise (· < ·) := by
  cases op <;> simp [Op.uses, Op.queries, List.range_succ]

theorem tweakUses_ge (tw : TweakAcc) (ops : List Op) :
    ∀ id, ∀ t ∈ tweakUses tw ops id, id ≤ t := by
  induction ops with
  | nil => intro id t h; cases h
  | cons op ops ih =>
    intro id t h
    simp only [tweakUses, List.mem_append] at h
    rcases h with h | h
    · exact ((mem_uses op id t).mp h).1
    · have := ih _ t h; omega

theorem tweakUses_sorted (tw : TweakAcc) (hs : tw.Safe) (ops : List Op) :
    ∀ id, (tweakUses tw ops id).Pairwise (· < ·) := by
  induction ops with
  | nil => intro id; exact List.Pairwise.nil
  | cons op ops ih =>
    intro id
    simp only [tweakUses]
    rw [List.pairwise_append]
    refine ⟨uses_sorted op id, ih _, ?_⟩
    intro t ht u hu
    have h1 := ((mem_uses op id t).mp ht).2
    have h2 := tweakUses_ge tw ops _ u hu
    have := hs op
    omega

theorem codeAcc_safe : codeAcc.Safe := by intro op; cases op <;> decide

/-- `encrypt(alg, a, zero, c, t)` pads with `π(K) ⊕ K`, `K = 2a ⊕ 4·0 ⊕ t`, which is
`encryptHalf(alg, a, t)`: the INV pad of a label under a tweak is the half-gate hash of that
label under that tweak, so the two gate kinds must not share a tweak. -/
theorem hashOf_unary (π : BitVec 128 → BitVec 128) (x : BitVec 128) (t : Nat) :
    (hashOf π).h2 x (LabelAlg.zero : BitVec 128) t = (hashOf π).h1 x t := by
  show (let k := makeK x 0#128 t; π k ^^^ k) = (let k := makeKHalf x t; π k ^^^ k)
  have : makeK x 0#128 t = makeKHalf x t := by
    simp [makeK, makeKHalf]
  simp only [this]

end Mpc
