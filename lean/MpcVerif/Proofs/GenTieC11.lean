/-
T1 tie (DESIGN.md 1.3) of the fixed-width encoders / decoders of `p2p.Conn` (p2p/protocol.go:
`NeedSpace`, `SendByte`, `SendUint16`, `SendUint32`, `ReceiveByte`, `ReceiveUint16`,
`ReceiveUint32`) to the C11 model Model/Conn.lean: the definitions of MpcVerif/Gen/LeafC11.lean,
regenerated from the current Go source by `gofacts translate -group C11` on every run of
checks/C11.py, are

  * the reservation test of `Sender.reserve` / `Recv.ensure` (`WritePos+n > len(WriteBuf)`,
    `ReadStart+n > ReadEnd`) followed by the opaque `Flush` / `Fill` (parameters `flush`, `fill`:
    `none` = a non-nil error, which the method returns),
  * then exactly the bytes `Conn.beList n v` of the model's wire format written at `WritePos`
    (`wput`), resp. `Conn.decodeList` of the `n` bytes at `ReadStart` (`rtake`), and the position
    advanced by `n`.

A `*p2p.Conn` is `(WriteBuf, WritePos, ReadBuf, ReadStart, ReadEnd)`.  Hypotheses: positions are
inside the buffers, buffers are smaller than 2^62 bytes, and `Flush` / `Fill` return a state
with room for the value (what `Sender.flush` / `Recv.fill` of the model provide).  Each method has one
specification (`SendSpec` / `RecvSpec`, from one evaluation of its test and one of its body); the `tie_*`
theorems of the method are its two fields.
-/
import MpcVerif.Gen.LeafC11
import MpcVerif.Proofs.GenTieLib
import MpcVerif.Model.Conn

namespace Mpc.GenTie
open Mpc Mpc.Gen Mpc.Gen.C11


abbrev Flush := ConnS → Option ConnS
abbrev Fill := ConnS → BitVec 64 → Option ConnS

/-- `WritePos + n ≤ len(WriteBuf)` and `len(WriteBuf) < 2^62` (hence `WritePos`, read as a Go `int`, is not
negative). -/
abbrev WRoom (c : ConnS) (n : Nat) : Prop := c.2.1.toNat + n ≤ c.1.size ∧ c.1.size < 2^62

def beBV (k n : Nat) : List (BitVec 8) := (Conn.beList k n).map UInt8.toBitVec

def wputL : Array (BitVec 8) → Nat → List (BitVec 8) → Array (BitVec 8)
  | a, _, [] => a
  | a, p, b :: bs => wputL (a.setIfInBounds p b) (p + 1) bs

theorem size_wputL (a : Array (BitVec 8)) (p : Nat) (l : List (BitVec 8)) : (wputL a p l).size = a.size := by
  induction l generalizing a p with
  | nil => rfl
  | cons b bs ih => simp [wputL, ih]

theorem take_wputL (a : Array (BitVec 8)) (p : Nat) (l : List (BitVec 8)) (h : p + l.length ≤ a.size) :
    (wputL a p l).toList.take (p + l.length) = a.toList.take p ++ l := by
  induction l generalizing a p with
  | nil => simp [wputL]
  | cons b bs ih =>
    simp only [wputL, List.length_cons] at h ⊢
    have := ih (a.setIfInBounds p b) (p + 1) (by simp; omega)
    rw [show p + (bs.length + 1) = p + 1 + bs.length by omega, this]
    have hp : p < a.size := by omega
    simp only [Array.toList_setIfInBounds]
    rw [List.take_add_one]
    simp [List.take_set_of_le, hp]

/-- `WriteBuf[WritePos+i] = l[i]` for all `i`, then `WritePos += len(l)`. -/
def wput (c : ConnS) (l : List (BitVec 8)) : ConnS :=
  (wputL c.1 c.2.1.toNat l, c.2.1 + BitVec.ofNat 64 l.length, c.2.2)

/-- `WriteBuf[0:WritePos]`: the model's `Sender.cur`. -/
def wcur (c : ConnS) : List (BitVec 8) := c.1.toList.take c.2.1.toNat

/-- `wput` is the model's `Sender.put`: it appends to `cur`. -/
theorem wcur_wput (c : ConnS) (l : List (BitVec 8)) (h : c.2.1.toNat + l.length ≤ c.1.size) (hs : c.1.size < 2^62) :
    wcur (wput c l) = wcur c ++ l := by
  simp only [wcur, wput, add_lit_toNat c.2.1 l.length (by omega)]
  exact take_wputL c.1 c.2.1.toNat l h

theorem beBV1 (n : Nat) : beBV 1 n = [BitVec.ofNat 8 n] := by
  simp [beBV, Conn.beList, u8_bv]
theorem beBV2 (n : Nat) : beBV 2 n = [BitVec.ofNat 8 (n / 256), BitVec.ofNat 8 n] := by
  simp [beBV, Conn.beList, u8_bv]
theorem beBV4 (n : Nat) : beBV 4 n =
    [BitVec.ofNat 8 (n / 256 / 256 / 256), BitVec.ofNat 8 (n / 256 / 256), BitVec.ofNat 8 (n / 256), BitVec.ofNat 8 n] := by
  simp [beBV, Conn.beList, u8_bv]

/-- Go: `byte(x & 0xff) = byte(x)`. -/
theorem byte_mask (x : BitVec 32) : BitVec.setWidth 8 (x &&& 0xff#32) = BitVec.setWidth 8 x := by
  apply BitVec.eq_of_getLsbD_eq; intro i hi
  have hall8 : ∀ j, j < 8 → (0xff#8).getLsbD j = true := by decide
  simp [BitVec.getLsbD_setWidth, hall8 i hi]
/-- Go: `byte(uint32(val) >> s)` for `s + 8 ≤ 32`. -/
theorem byte_shr (val : BitVec 64) (s : Nat) (hs : s + 8 ≤ 32) :
    BitVec.setWidth 8 (BitVec.setWidth 32 val >>> s) = BitVec.ofNat 8 (val.toNat / 2 ^ s) := by
  apply BitVec.eq_of_toNat_eq
  simp only [BitVec.toNat_setWidth, BitVec.toNat_ushiftRight, BitVec.toNat_ofNat, Nat.shiftRight_eq_div_pow]
  have e : (2:Nat) ^ 32 = 2 ^ s * 2 ^ (32 - s) := by rw [← Nat.pow_add]; congr 1; omega
  rw [e, Nat.mod_mul_right_div_self]
  have e2 : (2:Nat) ^ (32 - s) = 2 ^ 8 * 2 ^ (24 - s) := by rw [← Nat.pow_add]; congr 1; omega
  rw [e2, Nat.mod_mul_right_mod]
/-- Go: `byte(uint32(val))`. -/
theorem byte_u32 (val : BitVec 64) : BitVec.setWidth 8 (BitVec.setWidth 32 val) = BitVec.ofNat 8 val.toNat := by
  have := byte_shr val 0 (by omega)
  simpa using this
/-- Go: `byte(val)`. -/
theorem byte_int (val : BitVec 64) : BitVec.setWidth 8 val = BitVec.ofNat 8 val.toNat := by
  apply BitVec.eq_of_toNat_eq
  simp only [BitVec.toNat_setWidth, BitVec.toNat_ofNat]

/-- Closes `some (WriteBuf', WritePos', rest) = some (wput c bytes)` after the guards are evaluated: the bytes whatever the
order in which they were stored (`p` = `WritePos`), the position however it was advanced. -/
macro "wput_close" p:term : tactic =>
  `(tactic| (simp (disch := omega) only [byte_mask, byte_shr, byte_u32, byte_int, wput, wputL, beBV1, beBV2, beBV4,
               List.length_cons, List.length_nil, Nat.pow_succ, Nat.pow_zero, Nat.div_div_eq_div_mul, Nat.div_one, Nat.reduceMul,
               Nat.reduceAdd, Nat.add_zero] <;>
             (refine congrArg some (Prod.ext ?_ (Prod.ext ?_ rfl)) <;>
              first
               | with_reducible rfl
               | (apply BitVec.eq_of_toNat_eq; simp only [BitVec.toNat_add, BitVec.toNat_ofNat]; omega)
               | arr_cases $p)))

/-- `if c.WritePos+n > len(c.WriteBuf)` -/
theorem reserve_cond (c : ConnS) (n : Nat) (h : c.2.1.toNat ≤ c.1.size) (hs : c.1.size < 2^62) (hn : n < 2^62) :
    BitVec.slt (BitVec.ofNat 64 c.1.size) (c.2.1 + BitVec.ofNat 64 n) = decide (c.1.size < c.2.1.toNat + n) := by
  rw [slt_toNat _ _ (by rw [ofNat_size _ (by omega)]; omega) (by rw [add_lit_toNat _ _ (by omega)]; omega),
    ofNat_size _ (by omega), add_lit_toNat _ _ (by omega)]

theorem tie_NeedSpace (c : ConnS) (flush : Flush) (fill : Fill) (n : BitVec 64)
    (h : c.2.1.toNat ≤ c.1.size) (hs : c.1.size < 2^62) (hn : n.toNat < 2^62) :
    Conn.NeedSpace c flush fill n = if c.1.size < c.2.1.toNat + n.toNat then flush c else some c := by
  have ha : (c.2.1 + n).toNat = c.2.1.toNat + n.toNat := by rw [BitVec.toNat_add]; omega
  simp only [Conn.NeedSpace]
  int_norm
  -- the test as written, or negated with the branches exchanged
  by_cases hc : c.1.size < c.2.1.toNat + n.toNat
  · simp [ha, hc, Nat.not_le.mpr hc]
  · simp [ha, hc, Nat.le_of_not_lt hc]

/-- `if test { if err := c.Flush(); err != nil { return err } }; body` (and the same with `Fill`).  The translator copies
`body` into both branches; `hF` (by `fun _ => rfl`) lets the unifier read `b`, `r` and `body` off the generated term.  Under
`I` the test decides `P`; `R` is what `body` needs, and `r` owes it only when it is called. -/
theorem reserve_spec {β : Type} {F g body : ConnS → Option β} {b : ConnS → Bool} {r : ConnS → Option ConnS}
    {I P R : ConnS → Prop} [DecidablePred P] {c : ConnS}
    (hF : ∀ c, F c = if b c then Option.elim (r c) none body else body c)
    (hb : ∀ c, I c → (b c = true ↔ P c))
    (hbody : ∀ c, R c → body c = g c)
    (hI : I c) (hc : ¬ P c → R c) (hr : P c → ∀ c1, r c = some c1 → R c1) :
    F c = (if P c then r c else some c).bind g := by
  by_cases hp : P c
  · rw [hF, if_pos ((hb c hI).mpr hp), if_pos hp]
    cases hrc : r c with
    | none => rfl
    | some c1 => exact hbody c1 (hr hp c1 hrc)
  · rw [hF, if_neg (fun h => hp ((hb c hI).mp h)), if_neg hp]
    exact hbody c (hc hp)

/-- What a `Send*` method `F` that writes the `n` bytes `l` does: on a state with room it stores them; in general it first
reserves (`Flush` owes room only when it is called). -/
structure SendSpec (flush : Flush) (n : Nat) (l : List (BitVec 8)) (F : ConnS → Option ConnS) : Prop where
  room : ∀ c, WRoom c n → F c = some (wput c l)
  tie : ∀ c, WRoom c 0 → (c.1.size < c.2.1.toNat + n → ∀ c1, flush c = some c1 → WRoom c1 n) →
    F c = (if c.1.size < c.2.1.toNat + n then flush c else some c).bind (fun c1 => some (wput c1 l))

theorem SendSpec.of {flush : Flush} {n : Nat} {l : List (BitVec 8)} {F body : ConnS → Option ConnS} {b : ConnS → Bool}
    (hF : ∀ c, F c = if b c then Option.elim (flush c) none body else body c)
    (hb : ∀ c, WRoom c 0 → (b c = true ↔ c.1.size < c.2.1.toNat + n))
    (hbody : ∀ c, WRoom c n → body c = some (wput c l)) : SendSpec flush n l F where
  room c hr := by
    rw [hF, if_neg fun h => absurd ((hb c ⟨by omega, hr.2⟩).mp h) (by omega)]
    exact hbody c hr
  tie c hI hfl :=
    reserve_spec (I := (WRoom · 0)) (P := fun c => c.1.size < c.2.1.toNat + n) (R := (WRoom · n)) hF hb hbody hI
      (fun hp => ⟨by omega, hI.2⟩) hfl

theorem SendByte_spec (flush : Flush) (fill : Fill) (val : BitVec 8) :
    SendSpec flush 1 [val] (fun c => Conn.SendByte c flush fill val) :=
  .of (fun _ => rfl) (fun c hI => by guard_norm <;> int_norm <;> omega)
    (fun c hR => by guard_norm; wput_close c.2.1.toNat)
theorem SendUint16_spec (flush : Flush) (fill : Fill) (val : BitVec 64) :
    SendSpec flush 2 (beBV 2 val.toNat) (fun c => Conn.SendUint16 c flush fill val) :=
  .of (fun _ => rfl) (fun c hI => by guard_norm <;> int_norm <;> omega)
    (fun c hR => by guard_norm; wput_close c.2.1.toNat)
theorem SendUint32_spec (flush : Flush) (fill : Fill) (val : BitVec 64) :
    SendSpec flush 4 (beBV 4 val.toNat) (fun c => Conn.SendUint32 c flush fill val) :=
  .of (fun _ => rfl) (fun c hI => by guard_norm <;> int_norm <;> omega)
    (fun c hR => by guard_norm; wput_close c.2.1.toNat)

theorem tie_SendByte_room (c : ConnS) (flush : Flush) (fill : Fill) (val : BitVec 8) (hr : WRoom c 1) :
    Conn.SendByte c flush fill val = some (wput c ([val])) :=
  (SendByte_spec flush fill val).room c hr

theorem tie_SendByte (c : ConnS) (flush : Flush) (fill : Fill) (val : BitVec 8)
    (h : c.2.1.toNat ≤ c.1.size) (hs : c.1.size < 2^62) (hfl : ∀ c1, flush c = some c1 → WRoom c1 1) :
    Conn.SendByte c flush fill val =
      (if c.1.size < c.2.1.toNat + 1 then flush c else some c).bind (fun c1 => some (wput c1 ([val]))) :=
  (SendByte_spec flush fill val).tie c ⟨h, hs⟩ fun _ => hfl

theorem tie_SendUint16_room (c : ConnS) (flush : Flush) (fill : Fill) (val : BitVec 64) (hr : WRoom c 2) :
    Conn.SendUint16 c flush fill val = some (wput c (beBV 2 val.toNat)) :=
  (SendUint16_spec flush fill val).room c hr

theorem tie_SendUint16 (c : ConnS) (flush : Flush) (fill : Fill) (val : BitVec 64)
    (h : c.2.1.toNat ≤ c.1.size) (hs : c.1.size < 2^62) (hfl : ∀ c1, flush c = some c1 → WRoom c1 2) :
    Conn.SendUint16 c flush fill val =
      (if c.1.size < c.2.1.toNat + 2 then flush c else some c).bind (fun c1 => some (wput c1 (beBV 2 val.toNat))) :=
  (SendUint16_spec flush fill val).tie c ⟨h, hs⟩ fun _ => hfl

theorem tie_SendUint32_room (c : ConnS) (flush : Flush) (fill : Fill) (val : BitVec 64) (hr : WRoom c 4) :
    Conn.SendUint32 c flush fill val = some (wput c (beBV 4 val.toNat)) :=
  (SendUint32_spec flush fill val).room c hr

theorem tie_SendUint32 (c : ConnS) (flush : Flush) (fill : Fill) (val : BitVec 64)
    (h : c.2.1.toNat ≤ c.1.size) (hs : c.1.size < 2^62) (hfl : ∀ c1, flush c = some c1 → WRoom c1 4) :
    Conn.SendUint32 c flush fill val =
      (if c.1.size < c.2.1.toNat + 4 then flush c else some c).bind (fun c1 => some (wput c1 (beBV 4 val.toNat))) :=
  (SendUint32_spec flush fill val).tie c ⟨h, hs⟩ fun _ => hfl

/-- `ReadStart + n ≤ len(ReadBuf)` and `len(ReadBuf) < 2^62` (hence `ReadStart`, read as a Go `int`, is not
negative). -/
abbrev RRoom (c : ConnS) (n : Nat) : Prop := c.2.2.2.1.toNat + n ≤ c.2.2.1.size ∧ c.2.2.1.size < 2^62

/-- The `n` bytes at `ReadStart`, as the model's bytes. -/
def rtake (c : ConnS) (n : Nat) : List UInt8 :=
  (List.range n).map fun i => UInt8.ofBitVec (c.2.2.1.getD (c.2.2.2.1.toNat + i) 0#8)

/-- `ReadStart += n` -/
def radv (c : ConnS) (n : Nat) : ConnS := (c.1, c.2.1, c.2.2.1, c.2.2.2.1 + BitVec.ofNat 64 n, c.2.2.2.2)

/-- `if c.ReadStart+n > c.ReadEnd` -/
theorem ensure_cond (c : ConnS) (n : Nat) (h0 : c.2.2.2.1.toNat < 2^62) (h1 : c.2.2.2.2.toNat < 2^62) (hn : n < 2^62) :
    BitVec.slt c.2.2.2.2 (c.2.2.2.1 + BitVec.ofNat 64 n) = decide (c.2.2.2.2.toNat < c.2.2.2.1.toNat + n) := by
  rw [slt_toNat _ _ (by omega) (by rw [add_lit_toNat _ _ (by omega)]; omega), add_lit_toNat _ _ (by omega)]

/-- `val <<= 8; val |= uint32(b)` while the value (`a`) still fits 24 bits. -/
theorem acc_step {x : BitVec 32} {a : Nat} (b : BitVec 8) (hx : x.toNat = a) (ha : a < 2^24) :
    ((x <<< 8) ||| BitVec.setWidth 32 b).toNat = a * 256 + b.toNat := by
  have hb := b.isLt
  simp only [BitVec.toNat_or, BitVec.toNat_shiftLeft, BitVec.toNat_setWidth, Nat.shiftLeft_eq, hx]
  rw [Nat.mod_eq_of_lt (by omega), Nat.mod_eq_of_lt (by omega)]
  have := Nat.shiftLeft_add_eq_or_of_lt (i := 8) hb a
  rw [Nat.shiftLeft_eq] at this
  omega

theorem toNat_u32 (b : BitVec 8) : (BitVec.setWidth 32 b).toNat = b.toNat :=
  BitVec.toNat_setWidth_of_le (by decide)

/-- `(…, ReadStart', ReadEnd)` is `radv c n`, however `ReadStart` was advanced. -/
theorem eq_radv {c : ConnS} {n : Nat} {p : BitVec 64} (h : p.toNat = (c.2.2.2.1.toNat + n) % 2^64) :
    (c.1, c.2.1, c.2.2.1, p, c.2.2.2.2) = radv c n :=
  congrArg (fun p => (c.1, c.2.1, c.2.2.1, p, c.2.2.2.2)) (BitVec.eq_of_toNat_eq (by simpa using h))

theorem u8_toNat (b : BitVec 8) : (UInt8.ofBitVec b).toNat = b.toNat := rfl

theorem decode2 (b0 b1 : BitVec 8) :
    BitVec.setWidth 64 ((BitVec.setWidth 32 b0 <<< 8) ||| BitVec.setWidth 32 b1) =
      BitVec.ofNat 64 (Conn.decodeList [UInt8.ofBitVec b0, UInt8.ofBitVec b1]) := by
  have hb0 := b0.isLt
  have hb1 := b1.isLt
  apply BitVec.eq_of_toNat_eq
  rw [BitVec.toNat_setWidth, acc_step b1 (toNat_u32 b0) (by omega)]
  simp only [Conn.decodeList, List.foldl, BitVec.toNat_ofNat, u8_toNat]
  omega

theorem decode4 (b0 b1 b2 b3 : BitVec 8) :
    BitVec.setWidth 64 ((((((BitVec.setWidth 32 b0 <<< 8) ||| BitVec.setWidth 32 b1) <<< 8) ||| BitVec.setWidth 32 b2) <<< 8) |||
        BitVec.setWidth 32 b3) =
      BitVec.ofNat 64 (Conn.decodeList [UInt8.ofBitVec b0, UInt8.ofBitVec b1, UInt8.ofBitVec b2, UInt8.ofBitVec b3]) := by
  have hb0 := b0.isLt
  have hb1 := b1.isLt
  have hb2 := b2.isLt
  have hb3 := b3.isLt
  have s2 := acc_step b2 (acc_step b1 (toNat_u32 b0) (by omega)) (by omega)
  apply BitVec.eq_of_toNat_eq
  rw [BitVec.toNat_setWidth, acc_step b3 s2 (by omega)]
  simp only [Conn.decodeList, List.foldl, BitVec.toNat_ofNat, u8_toNat]
  omega

/-- What `Fill(n)` leaves: the `n` bytes at `ReadStart` are inside `ReadBuf[:ReadEnd]`. -/
abbrev RFilled (n : Nat) (c : ConnS) : Prop :=
  RRoom c n ∧ c.2.2.2.1.toNat + n ≤ c.2.2.2.2.toNat ∧ c.2.2.2.2.toNat < 2^62

/-- `ReadStart` and `ReadEnd`, read as Go `int`s, are not negative: all the reservation test of a reader needs. -/
abbrev RPos (c : ConnS) : Prop := c.2.2.2.1.toNat < 2^62 ∧ c.2.2.2.2.toNat < 2^62

/-- What a `Receive*` method `F` that reads `n` bytes and returns `res` of the state it read them in does; the bytes are
inside `ReadBuf` as soon as they are below `ReadEnd`, and `Fill` owes `RFilled` only when it is called. -/
structure RecvSpec {β : Type} (fill : Fill) (n : Nat) (res : ConnS → β) (F : ConnS → Option (ConnS × β)) : Prop where
  room : ∀ c, RFilled n c → F c = some (radv c n, res c)
  tie : ∀ c, RPos c → (c.2.2.2.1.toNat + n ≤ c.2.2.2.2.toNat → RRoom c n) →
    (c.2.2.2.2.toNat < c.2.2.2.1.toNat + n → ∀ c1, fill c (BitVec.ofNat 64 n) = some c1 → RFilled n c1) →
    F c = (if c.2.2.2.2.toNat < c.2.2.2.1.toNat + n then fill c (BitVec.ofNat 64 n) else some c).bind
      (fun c1 => some (radv c1 n, res c1))

theorem RecvSpec.of {β : Type} {fill : Fill} {n : Nat} {res : ConnS → β} {F body : ConnS → Option (ConnS × β)}
    {b : ConnS → Bool}
    (hF : ∀ c, F c = if b c then Option.elim (fill c (BitVec.ofNat 64 n)) none body else body c)
    (hb : ∀ c, RPos c → (b c = true ↔ c.2.2.2.2.toNat < c.2.2.2.1.toNat + n))
    (hbody : ∀ c, RFilled n c → body c = some (radv c n, res c)) : RecvSpec fill n res F where
  room c hr := by
    rw [hF, if_neg fun h => absurd ((hb c ⟨by omega, hr.2.2⟩).mp h) (by omega)]
    exact hbody c hr
  tie c hI hc hfi :=
    reserve_spec (I := RPos) (P := fun c => c.2.2.2.2.toNat < c.2.2.2.1.toNat + n) (R := RFilled n) hF hb hbody hI
      (fun hp => ⟨hc (by omega), by omega, hI.2⟩) hfi

theorem ReceiveByte_spec (flush : Flush) (fill : Fill) :
    RecvSpec fill 1 (fun c => c.2.2.1.getD c.2.2.2.1.toNat 0#8) (fun c => Conn.ReceiveByte c flush fill) :=
  .of (fun _ => rfl) (fun c hI => by guard_norm <;> int_norm <;> omega)
    (fun c hR => by
      guard_norm
      exact congrArg some (Prod.ext (eq_radv (by bv_omega)) rfl))

theorem tie_ReceiveByte_room (c : ConnS) (flush : Flush) (fill : Fill) (hr : RFilled 1 c) :
    Conn.ReceiveByte c flush fill = some (radv c 1, c.2.2.1.getD c.2.2.2.1.toNat 0#8) :=
  (ReceiveByte_spec flush fill).room c hr

theorem tie_ReceiveByte (c : ConnS) (flush : Flush) (fill : Fill)
    (h0 : c.2.2.2.1.toNat < 2^62) (h1 : c.2.2.2.2.toNat ≤ c.2.2.1.size) (hs : c.2.2.1.size < 2^62)
    (hfi : ∀ c1, fill c 1#64 = some c1 → RRoom c1 1 ∧ c1.2.2.2.1.toNat + 1 ≤ c1.2.2.2.2.toNat ∧ c1.2.2.2.2.toNat < 2^62) :
    Conn.ReceiveByte c flush fill =
      (if c.2.2.2.2.toNat < c.2.2.2.1.toNat + 1 then fill c 1#64 else some c).bind
        (fun c1 => some (radv c1 1, c1.2.2.1.getD c1.2.2.2.1.toNat 0#8)) :=
  (ReceiveByte_spec flush fill).tie c ⟨h0, by omega⟩ (fun h => ⟨by omega, hs⟩) fun _ => hfi

theorem ReceiveUint16_spec (flush : Flush) (fill : Fill) :
    RecvSpec fill 2 (fun c => BitVec.ofNat 64 (Conn.decodeList (rtake c 2))) (fun c => Conn.ReceiveUint16 c flush fill) :=
  .of (fun _ => rfl) (fun c hI => by guard_norm <;> int_norm <;> omega)
    (fun c hR => by
      guard_norm
      rw [decode2]
      exact congrArg some (Prod.ext (eq_radv (by bv_omega)) rfl))

theorem tie_ReceiveUint16_room (c : ConnS) (flush : Flush) (fill : Fill) (hr : RFilled 2 c) :
    Conn.ReceiveUint16 c flush fill = some (radv c 2, BitVec.ofNat 64 (Conn.decodeList (rtake c 2))) :=
  (ReceiveUint16_spec flush fill).room c hr

theorem tie_ReceiveUint16 (c : ConnS) (flush : Flush) (fill : Fill)
    (h0 : c.2.2.2.1.toNat < 2^62) (h1 : c.2.2.2.2.toNat ≤ c.2.2.1.size) (hs : c.2.2.1.size < 2^62)
    (hfi : ∀ c1, fill c 2#64 = some c1 → RRoom c1 2 ∧ c1.2.2.2.1.toNat + 2 ≤ c1.2.2.2.2.toNat ∧ c1.2.2.2.2.toNat < 2^62) :
    Conn.ReceiveUint16 c flush fill =
      (if c.2.2.2.2.toNat < c.2.2.2.1.toNat + 2 then fill c 2#64 else some c).bind
        (fun c1 => some (radv c1 2, BitVec.ofNat 64 (Conn.decodeList (rtake c1 2)))) :=
  (ReceiveUint16_spec flush fill).tie c ⟨h0, by omega⟩ (fun h => ⟨by omega, hs⟩) fun _ => hfi

theorem ReceiveUint32_spec (flush : Flush) (fill : Fill) :
    RecvSpec fill 4 (fun c => BitVec.ofNat 64 (Conn.decodeList (rtake c 4))) (fun c => Conn.ReceiveUint32 c flush fill) :=
  .of (fun _ => rfl) (fun c hI => by guard_norm <;> int_norm <;> omega)
    (fun c hR => by
      guard_norm
      rw [decode4]
      exact congrArg some (Prod.ext (eq_radv (by bv_omega)) rfl))

theorem tie_ReceiveUint32_room (c : ConnS) (flush : Flush) (fill : Fill) (hr : RFilled 4 c) :
    Conn.ReceiveUint32 c flush fill = some (radv c 4, BitVec.ofNat 64 (Conn.decodeList (rtake c 4))) :=
  (ReceiveUint32_spec flush fill).room c hr

theorem tie_ReceiveUint32 (c : ConnS) (flush : Flush) (fill : Fill)
    (h0 : c.2.2.2.1.toNat < 2^62) (h1 : c.2.2.2.2.toNat ≤ c.2.2.1.size) (hs : c.2.2.1.size < 2^62)
    (hfi : ∀ c1, fill c 4#64 = some c1 → RRoom c1 4 ∧ c1.2.2.2.1.toNat + 4 ≤ c1.2.2.2.2.toNat ∧ c1.2.2.2.2.toNat < 2^62) :
    Conn.ReceiveUint32 c flush fill =
      (if c.2.2.2.2.toNat < c.2.2.2.1.toNat + 4 then fill c 4#64 else some c).bind
        (fun c1 => some (radv c1 4, BitVec.ofNat 64 (Conn.decodeList (rtake c1 4)))) :=
  (ReceiveUint32_spec flush fill).tie c ⟨h0, by omega⟩ (fun h => ⟨by omega, hs⟩) fun _ => hfi

example : Conn.SendUint16 (#[0#8, 0#8, 0#8], 1#64, #[], 0#64, 0#64) (fun _ => none) (fun _ _ => none) 0x1234#64 =
    some (#[0#8, 0x12#8, 0x34#8], 3#64, #[], 0#64, 0#64) := by decide
example : Conn.SendUint16 (#[0#8, 0#8, 0#8], 2#64, #[], 0#64, 0#64) (fun _ => none) (fun _ _ => none) 0x1234#64 = none := by
  decide
example : Conn.ReceiveUint16 (#[], 0#64, #[0x12#8, 0x34#8], 0#64, 2#64) (fun _ => none) (fun _ _ => none) =
    some ((#[], 0#64, #[0x12#8, 0x34#8], 2#64, 2#64), 0x1234#64) := by decide

end Mpc.GenTie
