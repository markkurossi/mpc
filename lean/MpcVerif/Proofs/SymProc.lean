/-
Symbolic values of a garbler PROCESS (C04): several sessions, each with its own
random tape (offset, input zero-labels) and its own hash key.  A value is a
formal GF(2)-combination of atoms TAGGED with the session whose tape / key made
them: the atoms of different sessions are different atoms (independent tapes;
`Garbler` draws a 32-byte key per session with which `Circuit.Garble` keys the
hash, and the arguments of the queries of different sessions are labels of
different sessions).  A session's labels (`SymL`, `Proofs/Sym.lean`) are embedded by
`lift s`.  Linear functionals of the process are a session's functional applied
to that session's component.  Proof-only, core Lean.
-/
import MpcVerif.Proofs.Sym

namespace Mpc.Sym
open Mpc LabelAlg
variable {Code : Type}

structure PSym (Code : Type) where
  f : Nat → Atom Code → Bool

@[ext] theorem PSym.ext' {x y : PSym Code} (h : ∀ s a, x.f s a = y.f s a) : x = y := by
  cases x; cases y
  simp only [PSym.mk.injEq]
  funext s a; exact h s a

def PSym.xor (x y : PSym Code) : PSym Code := ⟨fun s a => x.f s a != y.f s a⟩
def PSym.zero : PSym Code := ⟨fun _ _ => false⟩

def lift (s : Nat) (x : SymL Code) : PSym Code := ⟨fun t a => decide (t = s) && x.f a⟩

theorem lift_xor (s : Nat) (x y : SymL Code) : lift s (x ^^^ y) = (lift s x).xor (lift s y) := by
  apply PSym.ext'
  intro t a
  simp only [lift, PSym.xor, xor_f]
  cases decide (t = s) <;> simp

theorem lift_injective (s : Nat) (x y : SymL Code) (h : lift s x = lift s y) : ∀ a, x.f a = y.f a := by
  intro a
  have := congrArg (fun v => v.f s a) h
  simpa [lift] using this

def pphi (k : Nat) (S : List (Atom Code)) (x : PSym Code) : Bool := phi S ⟨x.f k, false⟩

theorem pphi_xor (k : Nat) (S : List (Atom Code)) (x y : PSym Code) :
    pphi k S (x.xor y) = (pphi k S x != pphi k S y) :=
  phi_xor S ⟨x.f k, false⟩ ⟨y.f k, false⟩

@[simp] theorem pphi_zero (k : Nat) (S : List (Atom Code)) : pphi k S (PSym.zero : PSym Code) = false :=
  phi_zero S

theorem pphi_lift_same (k : Nat) (S : List (Atom Code)) (t : SymL Code) :
    pphi k S (lift k t) = phi S t := by
  simp only [pphi]
  apply phi_congr
  intro a; simp [lift]

theorem pphi_lift_ne (k s : Nat) (S : List (Atom Code)) (t : SymL Code) (h : s ≠ k) :
    pphi k S (lift s t) = false :=
  phi_eq_false S _ fun a _ => by simp [lift, Ne.symm h]

inductive PSpan (T : PSym Code → Prop) : PSym Code → Prop where
  | zero : PSpan T PSym.zero
  | mem {x} : T x → PSpan T x
  | xor {x y} : PSpan T x → PSpan T y → PSpan T (x.xor y)

theorem pphi_span (k : Nat) (S : List (Atom Code)) (T : PSym Code → Prop)
    (hT : ∀ x, T x → pphi k S x = false) (x : PSym Code) (hx : PSpan T x) : pphi k S x = false := by
  induction hx with
  | zero => simp
  | mem h => exact hT _ h
  | xor _ _ ih1 ih2 => rw [pphi_xor, ih1, ih2]; rfl

end Mpc.Sym
