/-
Helper lemmas for `Props/C01Hist.lean`: a garbling history
(`Model/GarbleHist.lean`) is a schedule of the ownership model, so it reaches
only reachable states and is a finite run.  What the block of steps of one
`Garble` call computes is given in closed form (`inCall`, `garbled`, `failed`,
with `garble_iff`, `fail_iff`: when the call runs, and the state it leaves), so
that what a user needs of a call is a field of that state.  Core Lean only.
-/
import MpcVerif.Model.GarbleHist
import MpcVerif.Proofs.Pool

namespace Mpc.Pool
variable {Mem Job : Type}

section
variable (P : Params Mem Job)

/-- With the single `Put` on the error path a call is exactly its block of
atomic steps. -/
theorem runEv_eq_runSched (σ : State Mem Job) (e : HEv Job) :
    runEv P σ e = runSched P true σ (evSched P σ e) := by
  unfold runEv runEvWith
  cases e <;> cases runSched P true σ _ <;> rfl

theorem runHistWith_cons (dbl : Bool) (σ : State Mem Job) (e : HEv Job) (es : List (HEv Job)) :
    runHistWith dbl P σ (e :: es) = (runEvWith dbl P σ e).bind (runHistWith dbl P · es) := by
  rw [runHistWith]; cases runEvWith dbl P σ e <;> rfl

theorem runHist_induct {I : State Mem Job → Prop}
    (hstep : ∀ σ σ' e, I σ → runEv P σ e = some σ' → I σ') {evs : List (HEv Job)}
    {σ σ' : State Mem Job} (h0 : I σ) (h : runHist P σ evs = some σ') : I σ' := by
  induction evs generalizing σ with
  | nil => cases h; exact h0
  | cons e es ih =>
    obtain ⟨σ1, h1, h⟩ := Option.bind_eq_some_iff.mp ((runHistWith_cons P false σ e es).symm.trans h)
    exact ih (hstep σ σ1 e h0 h1) h

theorem steps_runHist (σ σ' : State Mem Job) (evs : List (HEv Job))
    (h : runHist P σ evs = some σ') : Steps P true σ σ' :=
  runHist_induct P (I := Steps P true σ) (fun σ1 σ2 e ih h1 => steps_trans P true σ σ1 σ2 ih
    (steps_runSched P true σ1 σ2 _ ((runEv_eq_runSched P σ1 e).symm.trans h1))) (.refl σ) h

theorem runHist_singleton (σ : State Mem Job) (e : HEv Job) :
    runHist P σ [e] = runEv P σ e := by
  rw [runHist, runHistWith_cons, runEv]; cases runEvWith false P σ e <;> rfl

theorem reachable_runHist (P : Params Mem Job) (σ σ' : State Mem Job) (evs : List (HEv Job))
    (hr : Reachable P true σ) (h : runHist P σ evs = some σ') : Reachable P true σ' :=
  reachable_steps P true σ σ' hr (steps_runHist P σ σ' evs h)

end

section
variable {P : Params Mem Job} {σ σ' : State Mem Job} {j : Job} {s : Option ScratchId}

/-- `Get` can return `s`: a scratch cached in the pool the call uses, or a new one. -/
def CanGet (σ : State Mem Job) (s : Option ScratchId) : Prop :=
  ∀ x, s = some x → x ∈ σ.free (σ.poolPtr.getD σ.nPools)

theorem canGet_pickFree (σ : State Mem Job) : CanGet σ (pickFree σ) := by
  intro x
  unfold pickFree
  cases hp : σ.poolPtr with
  | none => simp
  | some p => exact List.mem_of_mem_head?

/-- Goroutine 0 inside a `Garble` call with tape and key `j` made in `σ`, after `k` writes: the pool
is the installed one or the one the call installs, `Get` returned `s` (`none`: a new scratch). -/
def inCall (P : Params Mem Job) (σ : State Mem Job) (j : Job) (s : Option ScratchId) (k : Nat) :
    State Mem Job :=
  let p := σ.poolPtr.getD σ.nPools
  let x := s.getD σ.nScratch
  let m0 := match s with | some x => σ.mem x | none => P.fresh
  { σ with
    poolPtr := some p
    nPools := if σ.poolPtr.isNone then σ.nPools + 1 else σ.nPools
    free := match s with | some x => upd σ.free p ((σ.free p).erase x) | none => σ.free
    nScratch := if s.isNone then σ.nScratch + 1 else σ.nScratch
    mem := upd σ.mem x (runFrom P j k m0)
    pc := upd σ.pc 0 (.gRun j p x m0 k) }

theorem acquire_iff : runSched P true σ (acquireSched σ j s) = some σ' ↔
    σ.pc 0 = .idle ∧ CanGet σ s ∧ inCall P σ j s 0 = σ' := by
  -- the block begins with `callGarble`, which only an idle caller can do
  have idle (h : runSched P true σ (acquireSched σ j s) = some σ') : σ.pc 0 = .idle := by
    simp only [acquireSched, List.cons_append] at h
    rw [runSched_cons] at h
    obtain ⟨_, h1, _⟩ := Option.bind_eq_some_iff.mp h
    cases Step.of_step? h1; assumption
  suffices run : σ.pc 0 = .idle →
      (runSched P true σ (acquireSched σ j s) = some σ' ↔ CanGet σ s ∧ inCall P σ j s 0 = σ') from
    ⟨fun h => ⟨idle h, (run (idle h)).mp h⟩, fun h => (run h.1).mpr h.2⟩
  intro hpc
  have lookup : runSched P true σ
      ([(0, .callGarble j), (0, .load)] ++ (if σ.poolPtr.isNone then [(0, .cas)] else [])) =
      some { σ with poolPtr := some (σ.poolPtr.getD σ.nPools)
                    nPools := if σ.poolPtr.isNone then σ.nPools + 1 else σ.nPools
                    pc := upd σ.pc 0 (.gGet j (σ.poolPtr.getD σ.nPools)) } := by
    cases hp : σ.poolPtr <;> simp [runSched, step?, hpc, hp]
  unfold acquireSched
  rw [runSched_append P true _ _ _ _ lookup, runSched_singleton]
  cases s with
  | none => simp [step?, inCall, CanGet]
  | some x =>
    by_cases hx : x ∈ σ.free (σ.poolPtr.getD σ.nPools) <;> simp [step?, inCall, CanGet, hx, upd_eq_self]

theorem write_iff {k : Nat} : step? P true (inCall P σ j s k) 0 .write = some σ' ↔
    k < (P.prog j).length ∧ inCall P σ j s (k + 1) = σ' := by
  by_cases hk : k < (P.prog j).length
  · simp [step?, inCall, hk, runFrom_succ P j k _ _ (List.getElem?_eq_getElem hk)]
  · simp [step?, inCall, hk]

theorem callPrefix_iff {k : Nat} : ∀ {σ'},
    runSched P true σ (acquireSched σ j s ++ List.replicate k (0, Action.write)) = some σ' ↔
      σ.pc 0 = .idle ∧ CanGet σ s ∧ k ≤ (P.prog j).length ∧ inCall P σ j s k = σ' := by
  induction k with
  | zero => simp [acquire_iff]
  | succ k ih =>
    intro σ'
    rw [List.replicate_succ', ← List.append_assoc, runSched_snoc_iff]
    constructor
    · rintro ⟨_, h1, h2⟩
      obtain ⟨hpc, hs, _, rfl⟩ := ih.mp h1
      exact ⟨hpc, hs, write_iff.mp h2⟩
    · rintro ⟨hpc, hs, hk, rfl⟩
      exact ⟨_, ih.mpr ⟨hpc, hs, Nat.le_of_succ_le hk, rfl⟩, write_iff.mpr ⟨hk, rfl⟩⟩

/-- The state after a successful `Garble`: the drawn scratch, every write done, is behind the new
handle `σ.nHandles`. -/
def garbled (P : Params Mem Job) (σ : State Mem Job) (j : Job) (s : Option ScratchId) : State Mem Job :=
  { inCall P σ j s (P.prog j).length with
    nHandles := σ.nHandles + 1
    handle := upd σ.handle σ.nHandles
      (some { scratch := some (s.getD σ.nScratch), pool := some (σ.poolPtr.getD σ.nPools), job := j,
              init := match s with | some x => σ.mem x | none => P.fresh,
              user := none, putDone := false })
    pc := upd σ.pc 0 .idle }

/-- The state after a `Garble` that fails after `k` writes: the drawn scratch is back in the pool. -/
def failed (P : Params Mem Job) (σ : State Mem Job) (j : Job) (s : Option ScratchId) (k : Nat) :
    State Mem Job :=
  let p := σ.poolPtr.getD σ.nPools
  { inCall P σ j s k with
    free := upd (inCall P σ j s k).free p (s.getD σ.nScratch :: (inCall P σ j s k).free p)
    pc := upd σ.pc 0 .idle }

theorem garble_iff : runEv P σ (.garble j s) = some σ' ↔
    σ.pc 0 = .idle ∧ CanGet σ s ∧ garbled P σ j s = σ' := by
  have publish : step? P true (inCall P σ j s (P.prog j).length) 0 .publish = some (garbled P σ j s) := by
    simp [step?, inCall, garbled]
  rw [runEv_eq_runSched, evSched, runSched_snoc_iff]
  constructor
  · rintro ⟨_, h1, h2⟩
    obtain ⟨hpc, hs, _, rfl⟩ := callPrefix_iff.mp h1
    exact ⟨hpc, hs, Option.some.inj (publish.symm.trans h2)⟩
  · rintro ⟨hpc, hs, rfl⟩
    exact ⟨_, callPrefix_iff.mpr ⟨hpc, hs, Nat.le_refl _, rfl⟩, publish⟩

theorem fail_iff {k : Nat} : runEv P σ (.fail j k s) = some σ' ↔
    σ.pc 0 = .idle ∧ CanGet σ s ∧ k ≤ (P.prog j).length ∧ failed P σ j s k = σ' := by
  have abort : step? P true (inCall P σ j s k) 0 .abort = some (failed P σ j s k) := by
    simp [step?, inCall, failed]
  rw [runEv_eq_runSched, evSched, runSched_snoc_iff]
  constructor
  · rintro ⟨_, h1, h2⟩
    obtain ⟨hpc, hs, hk, rfl⟩ := callPrefix_iff.mp h1
    exact ⟨hpc, hs, hk, Option.some.inj (abort.symm.trans h2)⟩
  · rintro ⟨hpc, hs, hk, rfl⟩
    exact ⟨_, callPrefix_iff.mpr ⟨hpc, hs, hk, rfl⟩, abort⟩

theorem runEv_pc {e : HEv Job} (h : runEv P σ e = some σ') : σ'.pc = σ.pc := by
  cases e with
  | garble j s => obtain ⟨hpc, _, rfl⟩ := garble_iff.mp h; exact upd_eq_self hpc
  | fail j k s => obtain ⟨hpc, _, _, rfl⟩ := fail_iff.mp h; exact upd_eq_self hpc
  | eval hh =>
    rw [runEv_eq_runSched, evSched, runSched_singleton] at h
    cases Step.of_step? h; rfl
  | release hh =>
    rw [runEv_eq_runSched] at h
    simp only [evSched] at h
    repeat' split at h
    · obtain ⟨σ2, h12, h3⟩ := (runSched_snoc_iff (l := [_, _])).mp h
      obtain ⟨σ1, h1, h2⟩ := (runSched_snoc_iff (l := [_])).mp h12
      rw [runSched_singleton] at h1
      cases Step.of_step? h1 with
      | relBegin hpc =>
        cases Step.of_step? h2; cases Step.of_step? h3
        simp only [upd_upd, upd_eq_self hpc]
      | relNoop hpc => cases Step.of_step? h2 with | relPut hpc' => cases hpc.symm.trans hpc'
    -- a released handle: `relBegin` returns at once; an unknown one: it is not enabled
    all_goals
      rw [runSched_singleton] at h
      cases Step.of_step? h with
      | relBegin => simp_all
      | relNoop => rfl

theorem runHist_pc {evs : List (HEv Job)} (h : runHist P σ evs = some σ') : σ'.pc = σ.pc :=
  runHist_induct P (I := fun σ1 => σ1.pc = σ.pc) (fun _ _ _ ih h1 => (runEv_pc h1).trans ih) rfl h

end

theorem runHist_append (dbl : Bool) (P : Params Mem Job) (σ σ' : State Mem Job) (l l' : List (HEv Job))
    (h : runHistWith dbl P σ l = some σ') :
    runHistWith dbl P σ (l ++ l') = runHistWith dbl P σ' l' := by
  induction l generalizing σ with
  | nil => simp only [runHistWith] at h; cases h; rfl
  | cons e es ih =>
    rw [runHistWith_cons] at h
    obtain ⟨σ1, h1, h⟩ := Option.bind_eq_some_iff.mp h
    rw [List.cons_append, runHistWith_cons, h1]
    exact ih σ1 h

end Mpc.Pool
