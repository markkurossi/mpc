/-
C09, pass models (`Model/Passes.lean`): effect of the primitive graph updates on gates, wires,
well-formedness and solutions.
-/
import MpcVerif.Proofs.PassGraph

namespace Mpc

theorem getD_modify {α : Type} (a : Array α) (i j : Nat) (f : α → α) (d : α) :
    (a.modify i f).getD j d = if j = i ∧ i < a.size then f (a.getD i d) else a.getD j d := by
  simp only [Array.getD_eq_getD_getElem?, Array.getElem?_modify]
  by_cases hij : i = j
  · subst hij
    by_cases hi : i < a.size
    · simp [hi]
    · simp [hi]
  · have : ¬ (j = i ∧ i < a.size) := fun h => hij h.1.symm
    simp [hij, this]

namespace Graph

/-- `G'` differs from `G` only in wire bookkeeping (values, counts, lists). -/
structure SameGates (G G' : Graph) : Prop where
  gates : G'.gates = G.gates
  wsize : G'.wires.size = G.wires.size
  nIn : G'.nIn = G.nIn
  zero : G'.zero = G.zero
  one : G'.one = G.one
  outputs : G'.outputs = G.outputs

theorem SameGates.refl (G : Graph) : SameGates G G := ⟨rfl, rfl, rfl, rfl, rfl, rfl⟩

theorem SameGates.trans {G G' G'' : Graph} (h : SameGates G G') (h' : SameGates G' G'') : SameGates G G'' :=
  ⟨h'.gates.trans h.gates, h'.wsize.trans h.wsize, h'.nIn.trans h.nIn, h'.zero.trans h.zero,
    h'.one.trans h.one, h'.outputs.trans h.outputs⟩

theorem SameGates.gate {G G' : Graph} (h : SameGates G G') (i : Nat) : G'.gate i = G.gate i := by
  simp [Graph.gate, h.gates]

theorem SameGates.live {G G' : Graph} (h : SameGates G G') (i : Nat) : G'.live i ↔ G.live i := by
  simp [Graph.live, h.gate, h.gates]

theorem SameGates.gwf {G G' : Graph} (h : SameGates G G') (hw : G.GWF) : G'.GWF :=
  hw.mono h.nIn h.wsize fun j hj => ⟨(h.live j).mp hj, h.gate j⟩

theorem SameGates.gsol {G G' : Graph} (h : SameGates G G') {x : List Bool} {s : Store Bool}
    (hs : G.GSol x s) : G'.GSol x s := by
  refine ⟨by rw [h.wsize]; exact hs.size, fun w hw => ?_, fun i hi => ?_, fun w hw hno => ?_⟩
  · rw [h.nIn] at hw ⊢; exact hs.inp w hw
  · rw [h.gate]; exact hs.sem i ((h.live i).mp hi)
  · rw [h.nIn] at hw
    exact hs.undef w hw (fun i hi => by have := hno i ((h.live i).mpr hi); rwa [h.gate] at this)

theorem SameGates.compute {G G' : Graph} (h : SameGates G G') (x : List Bool) :
    G'.compute x = G.compute x := by
  simp only [Graph.compute, Graph.evalStore, Graph.liveGates, h.gates, h.wsize, h.nIn, h.outputs]

/-- `setValue`, `addOutput`, `disconnectOutputs` and a successful `removeOutput` (`removeOutput_eq`) are of
this form. -/
def modWire (G : Graph) (w : Nat) (f : BWire → BWire) : Graph := { G with wires := G.wires.modify w f }

theorem sameGates_modWire (G : Graph) (w : Nat) (f : BWire → BWire) : SameGates G (G.modWire w f) :=
  ⟨rfl, by simp [modWire], rfl, rfl, rfl, rfl⟩

theorem wval_modWire (G : Graph) (w : Nat) (f : BWire → BWire) (hf : ∀ x, (f x).value = x.value) (w' : Nat) :
    (G.modWire w f).wval w' = G.wval w' := by
  simp only [wval, wire, modWire, getD_modify]
  split
  · rename_i h; rw [h.1, hf]
  · rfl

theorem removeOutput_eq {G G' : Graph} {w : Nat} (h : G.removeOutput w = some G') :
    (G.wire w).numOut ≠ 0 ∧ G' = G.modWire w fun x => { x with numOut := x.numOut - 1 } := by
  unfold removeOutput at h
  split at h
  · cases h
  · cases h; exact ⟨‹_›, rfl⟩

theorem sameGates_addOutput (G : Graph) (w g : Nat) : SameGates G (G.addOutput w g) :=
  sameGates_modWire G w _

theorem sameGates_removeOutput {G G' : Graph} {w : Nat} (h : G.removeOutput w = some G') : SameGates G G' :=
  (removeOutput_eq h).2 ▸ sameGates_modWire G w _

theorem wval_setValue (G : Graph) (w w' : Nat) (v : WVal) :
    (G.setValue w v).wval w' = if w' = w ∧ w < G.wires.size then v else G.wval w' := by
  simp only [wval, wire, setValue, getD_modify]
  split <;> rfl

theorem wval_addOutput (G : Graph) (w g w' : Nat) : (G.addOutput w g).wval w' = G.wval w' :=
  wval_modWire G w _ (fun _ => by rfl) w'

theorem wval_removeOutput {G G' : Graph} {w : Nat} (h : G.removeOutput w = some G') (w' : Nat) :
    G'.wval w' = G.wval w' :=
  (removeOutput_eq h).2 ▸ wval_modWire G w _ (fun _ => by rfl) w'

/-- `setA`, `setB`, `setO`, `kill` are of this form. -/
def modGate (G : Graph) (i : Nat) (f : BGate → BGate) : Graph := { G with gates := G.gates.modify i f }

theorem gate_modGate (G : Graph) (i : Nat) (f : BGate → BGate) (j : Nat) :
    (G.modGate i f).gate j = if j = i ∧ i < G.gates.size then f (G.gate i) else G.gate j := by
  simp only [gate, modGate, getD_modify]

theorem size_modGate (G : Graph) (i : Nat) (f : BGate → BGate) :
    (G.modGate i f).gates.size = G.gates.size := by simp [modGate]

/-- An update that rewires inputs only (`Gate.ReplaceInput` and the
constant-input rules of `ConstPropagate`). -/
structure Rewires (f : BGate → BGate) : Prop where
  op   : ∀ g, (f g).op = g.op
  o    : ∀ g, (f g).o = g.o
  dead : ∀ g, (f g).dead = g.dead

section Rewire
variable {G : Graph} {i : Nat} {f : BGate → BGate} (hf : Rewires f)
include hf

theorem Rewires.gate (j : Nat) :
    ((G.modGate i f).gate j).op = (G.gate j).op ∧ ((G.modGate i f).gate j).o = (G.gate j).o ∧
    ((G.modGate i f).gate j).dead = (G.gate j).dead := by
  rw [gate_modGate]; split
  · rename_i h; rw [h.1]; exact ⟨hf.op _, hf.o _, hf.dead _⟩
  · exact ⟨rfl, rfl, rfl⟩

theorem Rewires.live (j : Nat) : (G.modGate i f).live j ↔ G.live j := by
  unfold Graph.live; rw [(hf.gate j).2.2, size_modGate]

theorem Rewires.gwf (hw : G.GWF)
    (hnew : G.live i → ∀ j, i ≤ j → G.live j →
      ((f (G.gate i)).a = (G.gate i).a ∨ (G.gate j).o ≠ (f (G.gate i)).a) ∧
      ((G.gate i).op ≠ .inv → (f (G.gate i)).b = (G.gate i).b ∨ (G.gate j).o ≠ (f (G.gate i)).b)) :
    (G.modGate i f).GWF := by
  refine ⟨hw.nin, fun k hk => ?_, fun k j hk hj ho => ?_, fun k j hkj hk hj => ?_⟩
  · rw [(hf.gate k).2.1]; exact hw.obound k ((hf.live k).mp hk)
  · rw [(hf.gate k).2.1, (hf.gate j).2.1] at ho
    exact hw.odist k j ((hf.live k).mp hk) ((hf.live j).mp hj) ho
  · rw [hf.live] at hk hj
    have ht := hw.topo k j hkj hk hj
    rw [(hf.gate j).2.1, (hf.gate k).1, gate_modGate]; split
    · rename_i h
      obtain ⟨rfl, _⟩ := h
      obtain ⟨ha, hb⟩ := hnew hk j hkj hj
      exact ⟨ha.elim (fun e => e ▸ ht.1) id, fun hop => (hb hop).elim (fun e => e ▸ ht.2 hop) id⟩
    · exact ht

theorem Rewires.gsol {x : List Bool} {s : Store Bool} (hs : G.GSol x s)
    (hval : gateEq s (G.gate i) → gateEq s (f (G.gate i))) : (G.modGate i f).GSol x s := by
  refine ⟨hs.size, hs.inp, fun k hk => ?_, fun w' hw' hno => hs.undef w' hw' (fun k hk => ?_)⟩
  · rw [hf.live] at hk
    rw [gate_modGate]; split
    · rename_i h
      obtain ⟨rfl, _⟩ := h
      exact hval (hs.sem k hk)
    · exact hs.sem k hk
  · rw [← (hf.gate k).2.1]; exact hno k ((hf.live k).mpr hk)

end Rewire

theorem rewires_a (w : Nat) : Rewires fun g => { g with a := w } := ⟨fun _ => rfl, fun _ => rfl, fun _ => rfl⟩
theorem rewires_b (w : Nat) : Rewires fun g => { g with b := w } := ⟨fun _ => rfl, fun _ => rfl, fun _ => rfl⟩

theorem gateEq_setA {s : Store Bool} {g : BGate} {w : Nat} (hv : s.get w = s.get g.a) (e : gateEq s g) :
    gateEq s { g with a := w } := by
  show s.get g.o = g.op.eval (s.get w) (s.get g.b)
  rw [hv]; exact e

theorem gateEq_setB {s : Store Bool} {g : BGate} {w : Nat} (hv : s.get w = s.get g.b) (e : gateEq s g) :
    gateEq s { g with b := w } := by
  show s.get g.o = g.op.eval (s.get g.a) (s.get w)
  rw [hv]; exact e

theorem wval_setA (G : Graph) (i w w' : Nat) : (G.setA i w).wval w' = G.wval w' := rfl
theorem wval_setB (G : Graph) (i w w' : Nat) : (G.setB i w).wval w' = G.wval w' := rfl

end Graph
end Mpc
