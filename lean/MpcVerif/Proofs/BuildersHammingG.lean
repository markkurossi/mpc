/-
Hamming distance on both targets (C07): the adder tree with `NewAdder` of either target, up to `hammingG_num`.
`SumL` says what the buses of the tree add up to, the sum being a variable; the row of XOR gates starts it at
the number of differing positions.
-/
import MpcVerif.Proofs.BuildersKS

namespace Mpc.Bld
open Mpc

variable {s s' : St} {inp : List Bool}

structure SumL (s : St) (inp : List Bool) (L : List (List Nat)) (V : Nat) : Prop where
  bnd : ∀ b ∈ L, Bnd s b ∧ 0 < b.length
  srt : L.Pairwise (fun a b => b.length ≤ a.length)
  val : (L.map fun b => toNat (busVal s inp b)).sum = V

namespace SumL
variable {L : List (List Nat)} {a : List Nat} {n A V : Nat}

theorem mono (e : Ext s s' inp) (h : SumL s inp L V) : SumL s' inp L V :=
  ⟨fun b hb => ⟨(h.bnd b hb).1.mono e, (h.bnd b hb).2⟩, h.srt, by
    rw [← h.val]; exact congrArg _ (List.map_congr_left fun b hb => by rw [busVal_ext e (h.bnd b hb).1])⟩

theorem nil : SumL s inp [] 0 := ⟨nofun, .nil, rfl⟩

theorem of_nil (h : SumL s inp [] V) : V = 0 := h.val.symm

theorem cons (ha : Num s inp a n A) (hn : 0 < n) (hle : ∀ b ∈ L, b.length ≤ n) (h : SumL s inp L V) :
    SumL s inp (a :: L) (A + V) :=
  ⟨List.forall_mem_cons.mpr ⟨⟨ha.bnd, ha.len ▸ hn⟩, h.bnd⟩, List.pairwise_cons.mpr ⟨ha.len ▸ hle, h.srt⟩,
    by rw [← ha.val, ← h.val]; exact List.sum_cons⟩

theorem uncons (h : SumL s inp (a :: L) V) : ∃ A V', Num s inp a a.length A ∧ 0 < a.length ∧
    (∀ b ∈ L, b.length ≤ a.length) ∧ SumL s inp L V' ∧ V = A + V' :=
  have hp := List.pairwise_cons.mp h.srt
  have ha := h.bnd a List.mem_cons_self
  ⟨_, _, .of ha.1, ha.2, hp.1, ⟨fun b hb => h.bnd b (List.mem_cons_of_mem _ hb), hp.2, rfl⟩,
    h.val.symm.trans List.sum_cons⟩

end SumL

theorem xorBits_spec (l : List (Nat × Nat)) : ∀ {lv : List (Bool × Bool)} {s : St} (_ : WF s inp), PBits s inp l lv →
    Spec inp s (xorBits l) (fun L s' => SumL s' inp L (popDiff lv) ∧ L.length = l.length ∧ ∀ b ∈ L, b.length = 1) := by
  induction l with
  | nil => intro lv s hwf hl; obtain rfl := hl.eq_nil; exact Spec.pure hwf ⟨.nil, rfl, nofun⟩
  | cons p rest ih =>
    intro lv s hwf hl
    obtain ⟨a, b⟩ := p
    obtain ⟨av, bv, lv, rfl, ha, hb, hl⟩ := hl.uncons
    simp only [xorBits]
    refine Spec.bind (gate_spec .xor hwf ha hb) ?_
    intro w s1 e1 hw
    refine Spec.bind (ih e1.wf (hl.mono e1)) ?_
    intro r s2 e2 ⟨hr, hrl, hr1⟩
    refine Spec.pure e2.wf ⟨?_, by rw [List.length_cons, hrl, List.length_cons], List.forall_mem_cons.mpr ⟨rfl, hr1⟩⟩
    exact .cons (.single (hw.mono e2)) Nat.one_pos (fun c hc => Nat.le_of_eq (hr1 c hc)) hr

theorem hammingRound_spec (gmw : Bool) : ∀ (L : List (List Nat)) {V : Nat} {s : St} (_ : WF s inp), SumL s inp L V →
    Spec inp s (hammingRound gmw L) (fun L' s' => SumL s' inp L' V ∧
      L'.length = (L.length + 1) / 2 ∧ ∀ m, (∀ b ∈ L, b.length ≤ m) → ∀ b' ∈ L', b'.length ≤ m + 1)
  | [], V, s, hwf, h => by
    simp only [hammingRound]
    exact Spec.pure hwf ⟨h, rfl, fun m _ b' hb' => nomatch hb'⟩
  | [a], V, s, hwf, h => by
    simp only [hammingRound]
    exact Spec.pure hwf ⟨h, by simp, fun m hm c hc => Nat.le_succ_of_le (hm c hc)⟩
  | a :: b :: rest, V, s, hwf, h => by
    obtain ⟨A, _, ha, ha0, hale, hbr, rfl⟩ := h.uncons
    obtain ⟨B, V, hb, _, _, hr, rfl⟩ := hbr.uncons
    simp only [hammingRound]
    refine Spec.bind (newAdder_num hwf gmw (a.length + 1) ha hb (max_pos_left ha0) (Nat.succ_pos _)) ?_
    intro sm s1 e1 hsm
    refine Spec.bind (hammingRound_spec gmw rest e1.wf (hr.mono e1)) ?_
    intro r s2 e2 ⟨hr, hrl, hrm⟩
    -- `b` is no wider than `a`, so `|a| + 1` bits hold the sum
    have hsm := (hsm.mono e2).cast rfl (Nat.mod_eq_of_lt (add_lt_two_pow_succ ha.lt hb.lt (hale b List.mem_cons_self)))
    refine Spec.pure e2.wf ⟨Nat.add_assoc A B V ▸ .cons hsm (Nat.succ_pos _)
      (hrm a.length fun d hd => hale d (List.mem_cons_of_mem _ hd)) hr, ?_, ?_⟩
    · simp only [List.length_cons, hrl]; omega
    · intro m hm c hc
      rcases List.mem_cons.mp hc with rfl | hc
      · exact hsm.len ▸ Nat.succ_le_succ (hm a List.mem_cons_self)
      · exact hrm m (fun d hd => hm d (List.mem_cons_of_mem _ (List.mem_cons_of_mem _ hd))) c hc

theorem hammingTree_spec (gmw : Bool) : ∀ (fuel : Nat) (L : List (List Nat)) {V : Nat} {s : St} (_ : WF s inp),
    SumL s inp L V → L.length ≤ fuel + 2 →
    Spec inp s (hammingTree gmw fuel L) (fun L' s' => SumL s' inp L' V ∧ L'.length = min L.length 2)
  | 0, L, V, s, hwf, h, h1 => by
    simp only [hammingTree]; exact Spec.pure hwf ⟨h, by omega⟩
  | fuel + 1, L, V, s, hwf, h, h1 => by
    simp only [hammingTree]
    split
    · refine Spec.bind (hammingRound_spec gmw L hwf h) ?_
      intro L1 s1 e1 ⟨h1, hl1, _⟩
      refine (hammingTree_spec gmw fuel L1 e1.wf h1 (by omega)).mono ?_
      intro L2 s2 _ ⟨h2, hl2⟩
      exact ⟨h2, by omega⟩
    · exact Spec.pure hwf ⟨h, by omega⟩

/-- `Hamming` on either target, every operand width ≥ 1 and every result width: the
result is the number of differing bit positions modulo `2^nz`. -/
theorem hammingG_num {s : St} {inp : List Bool} (hwf : WF s inp) (gmw : Bool) {x y : List Nat} {xv yv : List Bool}
    (nz : Nat) (hx : Bits s inp x xv) (hy : Bits s inp y yv) (hne : 1 ≤ max xv.length yv.length) (hnz : 0 < nz) :
    Spec inp s (hamming gmw x y nz) (fun z s' => Num s' inp z nz
      (popDiff ((padTo xv (max xv.length yv.length)).zip (padTo yv (max xv.length yv.length))) % 2 ^ nz)) := by
  unfold hamming
  refine Spec.bind (zeroPad_bits hwf hx hy) ?_
  intro p s1 e1 ⟨h1, h2⟩
  have hL := PBits.zip h1 h2
  refine Spec.bind (xorBits_spec _ e1.wf hL) ?_
  intro arr s2 e2 ⟨hsum, hal, _⟩
  rw [hL.length, List.length_zip, padTo_length, padTo_length, Nat.max_eq_right (Nat.le_max_left ..),
    Nat.max_eq_right (Nat.le_max_right ..), Nat.min_self] at hal
  refine Spec.bind (hammingTree_spec gmw arr.length arr e2.wf hsum (Nat.le_add_right ..)) ?_
  intro L s3 e3 ⟨h3, hl3⟩
  -- the tree leaves one bus (one-bit operands: it is added to zero) or two
  rcases L with _ | ⟨a0, _ | ⟨a1, _ | _⟩⟩
  · simp only [List.length_nil] at hl3; omega
  · obtain ⟨A, _, h0, h00, _, hn, hv⟩ := h3.uncons
    obtain rfl := hn.of_nil
    rw [Nat.add_zero] at hv
    simp only [List.length_singleton, if_true, List.getD_cons_zero]
    refine Spec.bind (zeroWire_spec e3.wf) ?_
    intro zw s4 e4 hz
    exact (newAdder_num e4.wf gmw nz (h0.mono e4) (.single hz) (max_pos_left h00) hnz).mono
      fun z s5 _ hz => hz.cast rfl (by rw [hv]; rfl)
  · obtain ⟨A, _, h0, h00, _, h3, hv⟩ := h3.uncons
    obtain ⟨B, _, h1, _, _, hn, rfl⟩ := h3.uncons
    obtain rfl := hn.of_nil
    rw [Nat.add_zero] at hv
    simp only [List.length_cons, List.length_nil, Nat.reduceAdd, Nat.reduceEqDiff, if_false, List.getD_cons_zero,
      List.getD_cons_succ]
    exact (newAdder_num e3.wf gmw nz h0 h1 (max_pos_left h00) hnz).mono fun z s4 _ hz => hz.cast rfl (by rw [hv])
  · simp only [List.length_cons] at hl3; omega

theorem hammingG_spec {s : St} {inp : List Bool} (hwf : WF s inp) (gmw : Bool) {x y : List Nat} (nz : Nat)
    (hx : Bnd s x) (hy : Bnd s y) (hne : 1 ≤ max x.length y.length) (hnz : 0 < nz) :
    Spec inp s (hamming gmw x y nz) (fun z s' => Bnd s' z ∧ z.length = nz ∧
      toNat (busVal s' inp z) = popDiff ((padTo (busVal s inp x) (max x.length y.length)).zip
        (padTo (busVal s inp y) (max x.length y.length))) % 2 ^ nz) := by
  have h := hammingG_num (inp := inp) hwf gmw nz (.of hx) (.of hy) (by rwa [busVal_length, busVal_length]) hnz
  rw [busVal_length, busVal_length] at h
  exact h.mono fun _ _ _ h => ⟨h.bnd, h.len, h.val⟩

theorem hamming_spec {s : St} {inp : List Bool} (hwf : WF s inp) {x y : List Nat} (nz : Nat)
    (hx : Bnd s x) (hy : Bnd s y) (hne : 1 ≤ max x.length y.length) (hnz : 0 < nz) :
    Spec inp s (hamming false x y nz) (fun z s' => Bnd s' z ∧ z.length = nz ∧
      toNat (busVal s' inp z) = popDiff ((padTo (busVal s inp x) (max x.length y.length)).zip
        (padTo (busVal s inp y) (max x.length y.length))) % 2 ^ nz) :=
  hammingG_spec hwf false nz hx hy hne hnz

end Mpc.Bld
