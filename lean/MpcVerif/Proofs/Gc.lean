/-
C05, compile side (Model/Gc.lean): the specification `Safe` of `gc` insertion
over `PointsInto`, and what the safety proof of Proofs/GcQuery.lean takes from
here: a value dead before a suffix is not read in it (`dead_not_read`), and the
`aliasLive` closure reaches everything that points into a value
(`closure_covers`).  `ByList`: the allocator's id slices as lists, through which
the witnesses of Props/C05.lean are evaluated.
-/
import MpcVerif.Model.Gc
import MpcVerif.Proofs.ListLemmas

namespace Mpc.Gc

/-- `PointsInto prog w v`: the id slice of value `w` may contain wire ids from the
range OWNED by `v`.  A value owns its ids iff it is not the output of a
rewiring operand (those outputs only hold copies of their inputs' ids, of the
`{zero}` wire, or of a sign wire of the input). -/
inductive PointsInto (prog : List Step) : Nat → Nat → Prop
  | self (v : Nat) :
      (∀ s ∈ prog, s.op.rewires = true → s.outId ≠ some v) → PointsInto prog v v
  | step (s : Step) (a : Arg) (w v : Nat) :
      s ∈ prog → s.op.rewires = true → s.outId = some w → a ∈ s.ins → a.const = false →
      PointsInto prog a.id v → PointsInto prog w v

/-- Safety of a GC'd step list `out` of program `prog`: after `gc v` no later
instruction reads a value whose ids point into `v`'s range (`GCWires` puts
that range on a free list, the next value of the same size gets it). -/
def Safe (prog out : List Step) : Prop :=
  ∀ pre post g, out = pre ++ g :: post → g.op = .gc →
    ∀ a ∈ g.ins, ∀ t ∈ post, t.op ≠ .gc → ∀ b ∈ t.ins, b.const = false →
      ¬ PointsInto prog b.id a.id

theorem not_safe {prog out : List Step} (i j : Nat) {a b : Arg} {t : Step} (hij : i < j)
    (hg : out[i]? = some (gcStep a)) (ht : out[j]? = some t) (htop : t.op ≠ .gc) (hb : b ∈ t.ins)
    (hbc : b.const = false) (hp : PointsInto prog b.id a.id) : ¬ Safe prog out := by
  intro h
  obtain ⟨hi, hgi⟩ := List.getElem?_eq_some_iff.mp hg
  refine h (out.take i) (out.drop (i + 1)) (gcStep a) ?_ rfl a List.mem_cons_self t ?_ htop b hb hbc hp
  · rw [← hgi, List.getElem_cons_drop, List.take_append_drop]
  · apply List.mem_of_getElem? (i := j - (i + 1))
    rw [List.getElem?_drop, ← ht]
    congr 1
    omega

/-- What the gc insertion relies on for the step list it works on (after
`defineBeforeUse`); `wfSteps` is its executable form. -/
structure WF (prog : List Step) : Prop where
  nogc : ∀ s ∈ prog, s.op ≠ .gc
  ssa : (outs prog).Nodup
  dbu : dbu prog = true

def NoChain (prog : List Step) : Prop :=
  ∀ s ∈ prog, s.op.rewires = true → ∀ a ∈ s.ins, a.const = false →
    ∀ d ∈ prog, d.op.rewires = true → d.outId ≠ some a.id

/-- `concat` (rewired by the streamer, absent from the alias list of
`Program.GC` before 0c2f851) only of constants. -/
def NoConcat (prog : List Step) : Prop :=
  ∀ s ∈ prog, s.op = .concat → ∀ a ∈ s.ins, a.const = true

theorem mem_outs {l : List Step} {x : Nat} : x ∈ outs l ↔ ∃ s ∈ l, s.outId = some x := by
  simp [outs, List.mem_filterMap]

theorem outs_append (a b : List Step) : outs (a ++ b) = outs a ++ outs b := by
  simp [outs, List.filterMap_append]

theorem mem_outs_cons {s : Step} {rest : List Step} {x : Nat} (h : x ∈ outs rest) : x ∈ outs (s :: rest) := by
  rw [show s :: rest = [s] ++ rest from rfl, outs_append]
  exact List.mem_append_right _ h

theorem dbu_cons {s : Step} {rest : List Step} (h : dbu (s :: rest) = true) :
    (∀ a ∈ s.ins, a.const = false → a.id ∉ outs (s :: rest)) ∧ dbu rest = true := by
  simp only [dbu, Bool.and_eq_true, List.all_eq_true] at h
  refine ⟨fun a ha hc => ?_, h.2⟩
  simpa [hc] using h.1 a ha

theorem dbu_drop : ∀ (k : Nat) (prog : List Step), dbu prog = true → dbu (prog.drop k) = true
  | 0, _, h => h
  | _ + 1, [], h => h
  | k + 1, _ :: rest, h => dbu_drop k rest (dbu_cons h).2

theorem def_before_use {prog : List Step} (hdbu : dbu prog = true) {i j : Nat} {s d : Step}
    (hs : prog[i]? = some s) (hd : prog[j]? = some d) {a : Arg} (ha : a ∈ s.ins) (hc : a.const = false)
    (hdo : d.outId = some a.id) : j < i := by
  obtain ⟨hi, rfl⟩ := List.getElem?_eq_some_iff.mp hs
  apply Nat.lt_of_not_le
  intro hij
  -- otherwise the defining step is `prog[i]` or comes after it
  have h1 := dbu_drop i prog hdbu
  rw [List.drop_eq_getElem_cons hi] at h1
  refine (dbu_cons h1).1 a ha hc (mem_outs.mpr ⟨d, ?_, hdo⟩)
  rw [← List.drop_eq_getElem_cons hi]
  apply List.mem_of_getElem? (i := j - i)
  rw [List.getElem?_drop, ← hd]
  congr 1
  omega

/-- Induction on the rewiring chain from `w` down to `v`: if `w` is defined in
`rest`, single assignment puts its defining step there, and that step reads the
next value of the chain; otherwise `w` itself would be in `live`. -/
theorem dead_not_read {prog pre rest : List Step} {live : Live} (hprog : prog = pre ++ rest)
    (hssa : (outs prog).Nodup)
    (hlive : ∀ x, (∃ t ∈ rest, ∃ b ∈ t.ins, b.const = false ∧ b.id = x) → x ∉ outs rest →
      live.contains x = true)
    {v w : Nat} (hundef : v ∉ outs rest)
    (hdead : ∀ w, w = v ∨ PointsInto prog w v → live.contains w = false)
    (hp : w = v ∨ PointsInto prog w v) :
    ¬ ∃ t ∈ rest, ∃ b ∈ t.ins, b.const = false ∧ b.id = w := by
  rcases hp with rfl | hp
  · exact fun hread => Bool.eq_false_iff.mp (hdead _ (.inl rfl)) (hlive _ hread hundef)
  induction hp with
  | self v _ => exact fun hread => Bool.eq_false_iff.mp (hdead v (.inl rfl)) (hlive v hread hundef)
  | step d x w v hd hrw hout hx hxc hrec ih =>
    intro hread
    by_cases hwdef : w ∈ outs rest
    · have hdrest : d ∈ rest := by
        subst hprog
        rcases List.mem_append.mp hd with h | h
        · rw [outs_append] at hssa
          exact absurd rfl ((List.nodup_append.mp hssa).2.2 w (mem_outs.mpr ⟨d, h, hout⟩) w hwdef)
        · exact h
      exact ih hundef hdead ⟨d, hdrest, x, hx, hxc, rfl⟩
    · exact Bool.eq_false_iff.mp (hdead w (.inr (.step d x w v hd hrw hout hx hxc hrec))) (hlive w hread hwdef)

/-- `p` is the `case` list of the alias table of `Program.GC`. -/
theorem mem_aliasTable (p : Op → Bool) (prog : List Step) (v w : Nat) :
    w ∈ prog.filterMap (fun s => if p s.op && s.reads v then s.outId else none) ↔
      ∃ s ∈ prog, p s.op = true ∧ s.reads v = true ∧ s.outId = some w := by
  simp [List.mem_filterMap, and_assoc]

theorem reads_of_mem (s : Step) (a : Arg) (ha : a ∈ s.ins) (hc : a.const = false) :
    s.reads a.id = true := by
  simp only [Step.reads, List.any_eq_true]
  exact ⟨a, ha, by simp [hc]⟩

theorem gcAliasOld_of_rewires (op : Op) (h : op.rewires = true) (hc : op ≠ .concat) :
    op.gcAliasOld = true := by
  cases op <;> simp_all [Op.gcAliasOld, Op.rewires]

theorem gcAlias_eq_rewires (op : Op) : op.gcAlias = op.rewires := by
  cases op <;> rfl

theorem pointsInto_nochain (prog : List Step) (hnc : NoChain prog) (w v : Nat)
    (h : PointsInto prog w v) :
    w = v ∨ ∃ s ∈ prog, s.op.rewires = true ∧ s.outId = some w ∧
      ∃ a ∈ s.ins, a.const = false ∧ a.id = v := by
  cases h with
  | self _ _ => exact Or.inl rfl
  | step s a _ _ hs hrw hout ha hac hrec =>
    right
    refine ⟨s, hs, hrw, hout, a, ha, hac, ?_⟩
    cases hrec with
    | self _ _ => rfl
    | step d a2 _ _ hd hdrw hdout _ _ _ =>
      exact absurd hdout (hnc s hs hrw a ha hac d hd hdrw)

theorem aliasesOfOld_covers (prog : List Step) (hnc : NoChain prog) (hcc : NoConcat prog) (w v : Nat)
    (h : PointsInto prog w v) (hne : w ≠ v) : w ∈ aliasesOfOld prog v := by
  rcases pointsInto_nochain prog hnc w v h with heq | ⟨s, hs, hrw, hout, a, ha, hac, rfl⟩
  · exact absurd heq hne
  · refine (mem_aliasTable _ prog _ w).mpr
      ⟨s, hs, gcAliasOld_of_rewires s.op hrw fun hconcat => ?_, reads_of_mem s a ha hac, hout⟩
    have := hcc s hs hconcat a ha
    rw [hac] at this
    cases this

theorem mem_aliasesOf (prog : List Step) (v w : Nat) :
    w ∈ aliasesOf prog v ↔ ∃ s ∈ prog, s.op.rewires = true ∧ s.reads v = true ∧ s.outId = some w := by
  simpa only [aliasesOf, gcAlias_eq_rewires] using mem_aliasTable Op.gcAlias prog v w

theorem mem_closure_succ {dir : Nat → List Nat} {n v w : Nat} :
    w ∈ aliasClosure dir (n + 1) v ↔ w ∈ dir v ∨ ∃ x ∈ dir v, w ∈ aliasClosure dir n x := by
  simp only [aliasClosure, List.mem_append, List.mem_flatMap]

theorem closure_mono {dir : Nat → List Nat} {w : Nat} :
    ∀ n v, w ∈ aliasClosure dir n v → w ∈ aliasClosure dir (n + 1) v
  | 0, _, h => nomatch h
  | n + 1, v, h => by
    rw [mem_closure_succ] at h ⊢
    exact h.imp_right fun ⟨x, hx, h⟩ => ⟨x, hx, closure_mono n x h⟩

theorem closure_le {dir : Nat → List Nat} {n m v w : Nat} (hnm : n ≤ m) (h : w ∈ aliasClosure dir n v) :
    w ∈ aliasClosure dir m v := by
  induction hnm with
  | refl => exact h
  | step _ ih => exact closure_mono _ _ ih

theorem closure_snoc {dir : Nat → List Nat} {x w : Nat} (hw : w ∈ dir x) :
    ∀ n v, x ∈ aliasClosure dir n v → w ∈ aliasClosure dir (n + 1) v
  | 0, _, h => nomatch h
  | n + 1, v, h => by
    rw [mem_closure_succ] at h ⊢
    rcases h with h | ⟨y, hy, h⟩
    · exact Or.inr ⟨x, h, mem_closure_succ.mpr (Or.inl hw)⟩
    · exact Or.inr ⟨y, hy, closure_snoc hw n y h⟩

/-- By position: a value defined at position `i` that points into `v` is found
with fuel `i + 1`, because the value it is rewired from is defined earlier. -/
theorem closure_at (prog : List Step) (hdbu : dbu prog = true) {w v : Nat} (h : PointsInto prog w v) :
    w ≠ v → ∃ i d, prog[i]? = some d ∧ d.outId = some w ∧ w ∈ aliasClosure (aliasesOf prog) (i + 1) v := by
  induction h with
  | self v _ => exact fun hne => absurd rfl hne
  | step s a w v hs hrw hout ha hac hrec ih =>
    intro _
    obtain ⟨i, hi, rfl⟩ := List.getElem_of_mem hs
    have hsi : prog[i]? = some prog[i] := List.getElem?_eq_getElem hi
    have hw : w ∈ aliasesOf prog a.id :=
      (mem_aliasesOf prog a.id w).mpr ⟨_, hs, hrw, reads_of_mem _ a ha hac, hout⟩
    refine ⟨i, _, hsi, hout, ?_⟩
    by_cases hav : a.id = v
    · exact mem_closure_succ.mpr (Or.inl (hav ▸ hw))
    · obtain ⟨j, d, hd, hdo, hmem⟩ := ih hav
      exact closure_snoc hw _ _ (closure_le (def_before_use hdbu hsi hd ha hac hdo) hmem)

/-- The executable closure of `Program.GC` satisfies the hypothesis of the
safety theorem. -/
theorem closure_covers (prog : List Step) (hdbu : dbu prog = true) (w v : Nat)
    (h : PointsInto prog w v) (hne : w ≠ v) :
    w ∈ aliasClosure (aliasesOf prog) prog.length v := by
  obtain ⟨i, d, hd, _, hmem⟩ := closure_at prog hdbu h hne
  exact closure_le (List.getElem?_eq_some_iff.mp hd).1 hmem

/-- Distinct keys in a chain (a header is inserted only after a failed
lookup). -/
def KeysNodup (c : List Entry) : Prop := (c.map (·.key)).Nodup

theorem find_eraseP_ne (c : List Entry) (k k' : Nat) (h : k' ≠ k) :
    (c.eraseP (·.key == k)).find? (·.key == k') = c.find? (·.key == k') := by
  induction c with
  | nil => rfl
  | cons e es ih =>
    by_cases hk : e.key = k
    · simp [hk, Ne.symm h]
    · simp [hk, List.find?_cons, ih]

theorem find_eraseP_self (c : List Entry) (k : Nat) (hn : KeysNodup c) :
    (c.eraseP (·.key == k)).find? (·.key == k) = none := by
  induction c with
  | nil => rfl
  | cons e es ih =>
    simp only [KeysNodup, List.map_cons, List.nodup_cons] at hn
    by_cases hk : e.key = k
    · subst hk
      simp only [List.eraseP_cons, beq_self_eq_true, cond_true, List.find?_eq_none, beq_iff_eq]
      exact fun x hx hxk => hn.1 (List.mem_map.mpr ⟨x, hx, hxk⟩)
    · have : (e.key == k) = false := beq_false_of_ne hk
      simp only [List.eraseP_cons, List.find?_cons, this, cond_false]
      exact ih hn.2

theorem keysNodup_eraseP (c : List Entry) (k : Nat) (hn : KeysNodup c) :
    KeysNodup (c.eraseP (·.key == k)) := by
  unfold KeysNodup at *
  exact List.Nodup.sublist (List.Sublist.map _ (List.eraseP_sublist)) hn

theorem keysNodup_insert (c : List Entry) (e : Entry) (hn : KeysNodup c)
    (hnew : c.find? (·.key == e.key) = none) : KeysNodup (e :: c) := by
  unfold KeysNodup at *
  simp only [List.map_cons, List.nodup_cons]
  refine ⟨?_, hn⟩
  intro hin
  obtain ⟨x, hx, hxk⟩ := List.mem_map.mp hin
  rw [List.find?_eq_none] at hnew
  have := hnew x hx
  simp only [beq_iff_eq] at this
  exact this hxk

theorem emit_skip (prog : List Step) (f j : Nat) (st : EmitSt) (h : st.emitted.contains j = true) :
    emit prog f j st = st := by
  cases f with
  | zero => rfl
  | succ f => simp only [emit, h, if_true]

theorem followIns_skip (prog : List Step) (f : Nat) (ins : List Arg) (st : EmitSt)
    (h : ∀ a ∈ ins, a.const = false → ∀ j, defAt prog a.id = some j → st.emitted.contains j = true) :
    followIns (emit prog f) prog ins st = st := by
  unfold followIns
  apply foldl_fix
  intro a ha
  show (if a.const then st
        else match defAt prog a.id with
          | some j => emit prog f j st
          | none => st) = st
  by_cases hc : a.const = true
  · simp [hc]
  · simp only [hc, Bool.false_eq_true, if_false]
    cases hd : defAt prog a.id with
    | none => rfl
    | some j => exact emit_skip prog f j st (h a ha (by simpa using hc) j hd)

theorem defAt_spec (prog : List Step) (v j : Nat) (h : defAt prog v = some j) :
    ∃ s, prog[j]? = some s ∧ s.outId = some v := by
  obtain ⟨p, hl, rfl⟩ := Option.map_eq_some_iff.mp h
  obtain ⟨hz, ho⟩ := List.mem_filter.mp (List.mem_of_getLast? hl)
  exact ⟨p.1, by simpa using List.mem_zipIdx_iff_getElem?.mp hz, by simpa using ho⟩

theorem defineBeforeUse_id (prog : List Step) (hdbu : dbu prog = true) : defineBeforeUse prog = prog := by
  have key : ∀ k, k ≤ prog.length →
      (List.range k).foldl (fun st i => emit prog (prog.length + 1) i st) {} =
        ⟨(List.range k).reverse, prog.take k⟩ := by
    intro k
    induction k with
    | zero => intro _; rfl
    | succ k ih =>
      intro hk
      have hget : prog[k]? = some prog[k] := List.getElem?_eq_getElem hk
      have hnot : (List.range k).reverse.contains k = false := by simp
      rw [List.range_succ, List.foldl_append, ih (by omega)]
      simp only [List.foldl_cons, List.foldl_nil, emit, hnot, Bool.false_eq_true, if_false, hget]
      rw [followIns_skip]
      · rw [List.take_add_one, hget, List.reverse_append]
        rfl
      · intro a ha hc j hj
        obtain ⟨d, hd, hdo⟩ := defAt_spec prog a.id j hj
        simpa using Or.inr (def_before_use hdbu hget hd ha hc hdo)
  simp [defineBeforeUse, key prog.length (Nat.le_refl _)]

/-! The kernel evaluates `Array.range`, `Array.map`, `Array.extract` and
`Array.foldl` by pushing and indexing element by element, quadratically and
with a large constant.
`ByList` repeats the functions of the model that build id slices, from
`streamTrace` down, with every `(Array.range n).map f` written as a list
(`tab`), `extract` as `take`, and `rewire` given bit by bit; each agrees with
its original, so a concrete trace is evaluated through `ByList.streamTrace`. -/

namespace ByList

def tab (n : Nat) (f : Nat → Nat) : Array Nat := ((List.range n).map f).toArray

theorem tab_eq (n : Nat) (f : Nat → Nat) : (Array.range n).map f = tab n f :=
  Array.ext' (by simp [tab])

theorem idRange_eq (base n : Nat) : idRange base n = tab n (base + ·) := tab_eq n _

theorem arrMax_eq (l : Array Nat) : arrMax l = l.toList.foldl max 0 := by
  simp [arrMax]

theorem extract_eq (w : Array Nat) (i j : Nat) : w.extract i j = ((w.toList.drop i).take (j - i)).toArray :=
  Array.ext' (by simp)

theorem getId_eq (w : Array Nat) (i pad : Nat) : getId w i pad = w.toList.getD i pad := by
  cases w
  simp [getId]

def assignedIDs (st : WAlloc) (h key bits : Nat) : WAlloc × Array Nat :=
  match st.lookup h key with
  | (st, some e) =>
    match e.ids with
    | some ids => (st, ids)
    | none =>
      let st := (st.popFree bits).1
      let ids := ((e.wires.getD #[]).toList.take bits).toArray
      (st.update h { e with ids := some ids }, ids)
  | (st, none) =>
    if bits == 0 then
      (st.insert h { key := key, base := some st.next, wires := none, ids := some #[] }, #[])
    else
      match st.popFree bits with
      | (st, some base) =>
        let ids := tab bits (base + ·)
        (st.insert h { key := key, base := some base, wires := none, ids := some ids }, ids)
      | (st, none) =>
        let ids := tab bits (st.next + ·)
        ({ st with next := st.next + bits }.insert h
          { key := key, base := some st.next, wires := none, ids := some ids }, ids)

theorem assignedIDs_eq (st : WAlloc) (h key bits : Nat) :
    st.assignedIDs h key bits = assignedIDs st h key bits := by
  unfold WAlloc.assignedIDs
  simp only [idRange_eq, extract_eq]
  rfl

def inputWires (st : WAlloc) (zw : Nat) (a : Arg) : WAlloc × Array Nat :=
  let (st, w) := assignedIDs st a.hash a.key a.bits
  if w.size != a.bits then
    if a.const && a.mpa then
      let o := min a.own a.bits
      (st, tab a.bits fun b =>
        let src := if o ≤ b && a.signed then o - 1 else b
        if decide (src < o) && a.vbits.getD src false then zw + 1 else zw)
    else
      let pad := if a.signed && w.size > 0 then lastD w zw else zw
      (st, tab a.bits fun b => w.toList.getD b pad)
  else (st, w)

theorem inputWires_eq (st : WAlloc) (zw : Nat) (a : Arg) : Gc.inputWires st zw a = inputWires st zw a := by
  unfold Gc.inputWires
  simp only [assignedIDs_eq, tab_eq, getId_eq]
  rfl

def allInputWires (zw : Nat) : List Arg → WAlloc → WAlloc × List (Array Nat)
  | [], st => (st, [])
  | a :: as, st =>
    let (st, w) := inputWires st zw a
    let (st, ws) := allInputWires zw as st
    (st, w :: ws)

theorem allInputWires_eq (zw : Nat) (as : List Arg) (st : WAlloc) :
    Gc.allInputWires zw as st = allInputWires zw as st := by
  induction as generalizing st with
  | nil => rfl
  | cons a as ih => simp only [Gc.allInputWires, allInputWires, inputWires_eq, ih]

def rewireBit (op : Op) (ins : List Arg) (ws : List (Array Nat)) (out : Array Nat) (obits zw b : Nat) : Nat :=
  let w0 := ws.getD 0 #[]
  let w1 := ws.getD 1 #[]
  match op with
  | .concat => if b < w0.size then w0.toList.getD b zw else w1.toList.getD (b - w0.size) zw
  | .lshift =>
    let c := cintAt ins 1
    if c ≤ b ∧ b - c < w0.size then w0.toList.getD (b - c) zw else zw
  | .rshift => w0.toList.getD (b + cintAt ins 1) zw
  | .srshift => w0.toList.getD (b + cintAt ins 1) (lastD w0 zw)
  | .slice =>
    let frm := cintAt ins 1
    if b < cintAt ins 2 - frm then w0.toList.getD (frm + b) zw else out.toList.getD b zw
  | .mov => if b < obits then w0.toList.getD b zw else out.toList.getD b zw
  | .smov => if b < obits then w0.toList.getD b (lastD w0 zw) else out.toList.getD b zw
  | .amov =>
    let frm := cintAt ins 2
    if b < obits then
      (if b < frm ∨ cintAt ins 3 ≤ b then w1.toList.getD b zw else w0.toList.getD (b - frm) zw)
    else out.toList.getD b zw
  | _ => 0

theorem rewire_eq (op : Op) (ins : List Arg) (ws : List (Array Nat)) (out : Array Nat) (obits zw : Nat) :
    rewire op ins ws out obits zw =
      if op.rewires then tab out.size (rewireBit op ins ws out obits zw) else out := by
  cases op <;> simp only [rewire, tab_eq, getId_eq] <;> rfl

def streamStep (zw : Nat) (idx : Nat) (s : Step) (st : WAlloc) (tr : Trace) : WAlloc × Trace :=
  match s.op with
  | .gc =>
    match s.ins with
    | a :: _ => (st.gcWires a.hash a.key, tr)
    | [] => (st, tr)
  | _ =>
    let (st, ws) := allInputWires zw s.ins st
    let (st, out) := match s.out with
      | some o => assignedIDs st o.hash o.key o.bits
      | none => (st, #[])
    match s.op with
    | .ret => (st, { tr with retIds := tr.retIds ++ (ws.map Array.toList).flatten })
    | .circ =>
      let m := max ((ws.map fun w => w.toList.foldl max 0).foldl max 0) (out.toList.foldl max 0)
      (st, { tr with circs := tr.circs ++ [(idx, m + 1)] })
    | op =>
      match s.out with
      | some o => (st.setIds o.hash o.key (tab out.size (rewireBit op s.ins ws out o.bits zw)), tr)
      | none => (st, tr)

theorem streamStep_eq (zw idx : Nat) (s : Step) (st : WAlloc) (tr : Trace) :
    Gc.streamStep zw idx s st tr = streamStep zw idx s st tr := by
  unfold Gc.streamStep streamStep
  simp only [allInputWires_eq, assignedIDs_eq, rewire_eq, funext arrMax_eq]
  cases s.op <;> rfl

def streamSteps (zw : Nat) : List Step → Nat → WAlloc → Trace → WAlloc × Trace
  | [], _, st, tr => (st, tr)
  | s :: rest, idx, st, tr =>
    let (st, tr) := streamStep zw idx s st tr
    streamSteps zw rest (idx + 1) st tr

theorem streamSteps_eq (zw : Nat) (l : List Step) (idx : Nat) (st : WAlloc) (tr : Trace) :
    Gc.streamSteps zw l idx st tr = streamSteps zw l idx st tr := by
  induction l generalizing idx st tr with
  | nil => rfl
  | cons s rest ih => simp only [Gc.streamSteps, streamSteps, streamStep_eq, ih]

def mkIn : List InputDef → Nat → WAlloc → WAlloc
  | [], _, st => st
  | i :: r, ofs, st =>
    let st := match st.lookup i.hash i.key with
      | (st, some _) => st
      | (st, none) =>
        st.insert i.hash { key := i.key, base := none, wires := some (tab i.bits (ofs + ·)), ids := none }
    mkIn r (ofs + i.bits) st

theorem mkIn_eq (l : List InputDef) (ofs : Nat) (st : WAlloc) : Gc.mkIn l ofs st = mkIn l ofs st := by
  induction l generalizing ofs st with
  | nil => rfl
  | cons i r ih =>
    simp only [Gc.mkIn, mkIn, idRange_eq, ih]
    rfl

def streamTrace (inputs : List InputDef) (consts : List ConstDef) (steps : List Step)
    (zk ok : Nat × Nat) : WAlloc × Trace :=
  let nIn := (inputs.map (·.bits)).sum
  let st := mkIn inputs 0 { tab := [], free := [], next := nIn + 2 }
  let st := ((st.lookup zk.2 zk.1).1).insert zk.2
    { key := zk.1, base := some nIn, wires := some #[nIn], ids := some #[nIn] }
  let st := ((st.lookup ok.2 ok.1).1).insert ok.2
    { key := ok.1, base := some (nIn + 1), wires := some #[nIn + 1], ids := some #[nIn + 1] }
  streamSteps nIn steps 0 (mkConsts nIn (nIn + 1) consts st) { circs := [(0, nIn + 1), (0, nIn + 1 + 1)] }

theorem streamTrace_eq (inputs : List InputDef) (consts : List ConstDef) (steps : List Step)
    (zk ok : Nat × Nat) : Gc.streamTrace inputs consts steps zk ok = streamTrace inputs consts steps zk ok := by
  simp only [Gc.streamTrace, initAlloc, mkIn_eq, streamSteps_eq]
  rfl

end ByList

end Mpc.Gc
