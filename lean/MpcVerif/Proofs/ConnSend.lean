/-
The value-level send half `Sender` of Model/Conn.lean.  `Sent s A`: the send half is in order and has accepted
exactly the bytes `A`; every operation maps `Sent s A` to `Sent (s.X ..) (A ++ its encoding)` (`flushS_spec` .. `run_spec`,
`writerSteps_spec`, `close_spec`).  The writer schedule does not reach `Sender.core` (`core_*_congr`).
-/
import MpcVerif.Proofs.ConnBytes

namespace Mpc.Conn
open ByteArray

theorem Sender.writerSteps_eq (m : Nat) (s : Sender) :
    s.writerSteps m = { s with queue := s.queue.drop m, wire := s.wire ++ s.queue.take m } := by
  induction m generalizing s with
  | zero => simp [Sender.writerSteps]
  | succ m ih =>
    rw [Sender.writerSteps, ih]
    unfold Sender.writerStep
    cases hq : s.queue with
    | nil => simp [hq]
    | cons h t => simp [List.append_assoc]

/-- The part of the sender state the writer goroutine cannot influence. -/
def Sender.core (s : Sender) : ByteArray × List ByteArray × Nat × Nat :=
  (s.cur, s.chunks, s.sent, s.flushed)

theorem Sender.core_eq {s : Sender} {c : ByteArray} {ch : List ByteArray} {n f : Nat} :
    s.core = (c, ch, n, f) ↔ s.cur = c ∧ s.chunks = ch ∧ s.sent = n ∧ s.flushed = f := by
  simp only [Sender.core, Prod.mk.injEq]

theorem Sender.stream_of_empty {s : Sender} (h : s.cur = ByteArray.empty) : s.stream = joinB s.chunks := by
  rw [Sender.stream, h, ByteArray.append_empty]

theorem Sender.chunks_of_drained {s : Sender} (h : s.queue = []) : s.chunks = s.wire := by
  rw [Sender.chunks, h, List.append_nil]

theorem core_writerSteps (k : Nat) (s : Sender) : (s.writerSteps k).core = s.core := by
  rw [Sender.writerSteps_eq]
  simp only [Sender.core, Sender.chunks, List.append_assoc, List.take_append_drop]

theorem queue_writerSteps (k : Nat) (s : Sender) :
    (s.writerSteps k).queue.length = s.queue.length - k := by
  rw [Sender.writerSteps_eq, List.length_drop]

theorem Sender.flush_empty (k : Nat) (s : Sender) (h : s.cur.size = 0) : s.flush k = s := by
  rw [Sender.flush, if_pos h]

theorem Sender.flush_nonempty (k : Nat) (s : Sender) (h : s.cur.size ≠ 0) :
    s.flush k =
      { cur := ByteArray.empty, sent := s.sent + s.cur.size, flushed := s.flushed + 1,
        queue := (s.queue ++ [s.cur]).drop (max k ((s.queue ++ [s.cur]).length + 1 - numBuffers)),
        wire := s.wire ++ (s.queue ++ [s.cur]).take (max k ((s.queue ++ [s.cur]).length + 1 - numBuffers)) } := by
  rw [Sender.flush, if_neg h]
  simp only [Sender.writerSteps_eq]

theorem core_flush (k : Nat) (s : Sender) (h : s.cur.size ≠ 0) :
    (s.flush k).core = (ByteArray.empty, s.chunks ++ [s.cur], s.sent + s.cur.size, s.flushed + 1) := by
  rw [Sender.flush_nonempty k s h]
  simp only [Sender.core, Sender.chunks, List.append_assoc, List.take_append_drop]

theorem queue_flush (k : Nat) (s : Sender) (h : s.queue.length ≤ numBuffers - 1) :
    (s.flush k).queue.length ≤ numBuffers - 1 := by
  by_cases h0 : s.cur.size = 0
  · rw [Sender.flush_empty k s h0]; exact h
  · rw [Sender.flush_nonempty k s h0]
    simp only [List.length_drop, List.length_append, List.length_singleton]
    omega

structure Sent (s : Sender) (A : ByteArray) : Prop where
  cur_le : s.cur.size ≤ writeBufSize
  queue_le : s.queue.length ≤ numBuffers - 1
  sent_eq : s.sent = (joinB s.chunks).size
  flushed_eq : s.flushed = s.chunks.length
  chunk_sz : ∀ c ∈ s.chunks, 0 < c.size ∧ c.size ≤ writeBufSize
  acc : s.stream = A

theorem Sent_init : Sent Sender.init ByteArray.empty := by
  constructor <;> simp [Sender.init, Sender.chunks, Sender.stream, joinB, numBuffers]

theorem flushS_spec (sch : Sched) {s : Sender} {A : ByteArray} (h : Sent s A) :
    Sent (s.flushS sch) A ∧ (s.flushS sch).cur = ByteArray.empty := by
  obtain rfl := h.acc
  by_cases h0 : s.cur.size = 0
  · rw [Sender.flushS, Sender.flush_empty _ s h0]
    exact ⟨h, ByteArray.size_eq_zero_iff.mp h0⟩
  · have hc := core_flush (sch s.flushed) s h0
    have hq := queue_flush (sch s.flushed) s h.queue_le
    rw [Sender.flushS]
    generalize s.flush (sch s.flushed) = s' at hc hq
    obtain ⟨h1, h2, h3, h4⟩ := Sender.core_eq.mp hc
    refine ⟨⟨by rw [h1]; exact Nat.zero_le _, hq, ?_, ?_, ?_, ?_⟩, h1⟩
    · rw [h3, h2, joinB_append, joinB_singleton, ByteArray.size_append, h.sent_eq]
    · rw [h4, h2, List.length_append, h.flushed_eq]; rfl
    · rw [h2]
      intro c hc
      rcases List.mem_append.mp hc with hc | hc
      · exact h.chunk_sz c hc
      · rw [List.mem_singleton.mp hc]; exact ⟨by omega, h.cur_le⟩
    · rw [Sender.stream, h1, h2, joinB_append, joinB_singleton, ByteArray.append_empty]; rfl

theorem reserve_spec (sch : Sched) (n : Nat) {s : Sender} {A : ByteArray} (h : Sent s A) :
    Sent (s.reserve sch n) A ∧ (n ≤ writeBufSize → (s.reserve sch n).cur.size + n ≤ writeBufSize) := by
  unfold Sender.reserve
  split
  · obtain ⟨a, c⟩ := flushS_spec sch h
    exact ⟨a, fun hn => by rw [c]; simpa using hn⟩
  · exact ⟨h, fun _ => by omega⟩

theorem put_spec (b : ByteArray) {s : Sender} {A : ByteArray} (h : Sent s A)
    (hb : s.cur.size + b.size ≤ writeBufSize) : Sent (s.put b) (A ++ b) :=
  ⟨by rw [Sender.put, ByteArray.size_append]; exact hb, h.queue_le, h.sent_eq, h.flushed_eq, h.chunk_sz,
   h.acc ▸ (ByteArray.append_assoc).symm⟩

/-- The shape of `SendByte/SendUint16/SendUint32/SendLabel`. -/
theorem reserve_put_spec (sch : Sched) (k : Nat) (b : ByteArray) {s : Sender} {A : ByteArray} (h : Sent s A)
    (hb : b.size = k) (hk : k ≤ writeBufSize) : Sent ((s.reserve sch k).put b) (A ++ b) := by
  obtain ⟨h1, h2⟩ := reserve_spec sch k h
  exact put_spec b h1 (by rw [hb]; exact h2 hk)

/-- The conditional flush at the head of the `SendData` copy loop is `NeedSpace(1)`. -/
theorem Sender.reserve_one (sch : Sched) (s : Sender) :
    (if s.cur.size ≥ writeBufSize then s.flushS sch else s) = s.reserve sch 1 :=
  ite_cond_congr (propext Nat.lt_add_one_iff.symm)

theorem sendDataLoop_spec (sch : Sched) (val : ByteArray) (off : Nat) (s : Sender) :
    ∀ {A : ByteArray}, Sent s A → Sent (s.sendDataLoop sch val off) (A ++ val.extract off val.size) := by
  fun_induction Sender.sendDataLoop sch val off s with
  | case1 off s hlt s1 n =>
    intro A h
    -- unreachable: after the conditional flush there is room
    have room : s1.cur.size + 1 ≤ writeBufSize := by
      have := (reserve_spec sch 1 h).2 (by decide)
      rwa [← Sender.reserve_one] at this
    have : n = min (writeBufSize - s1.cur.size) (val.size - off) := rfl
    omega
  | case2 off s hlt s1 n hn =>
    -- `fun_induction` accepts six names here and binds seven: the last one is the induction hypothesis
    rename_i ih
    intro A h
    have h1 := (reserve_spec sch 1 h).1
    rw [← Sender.reserve_one] at h1
    change Sent s1 A at h1
    have hn1 : n ≤ writeBufSize - s1.cur.size := Nat.min_le_left _ _
    have hn2 : n ≤ val.size - off := Nat.min_le_right _ _
    clear_value n s1
    have hc := h1.cur_le
    have := ih (put_spec (val.extract off (off + n)) h1 (by rw [size_extract_add _ _ _ (by omega)]; omega))
    rwa [ByteArray.append_assoc,
      ← ByteArray.extract_eq_extract_append_extract (off + n) (Nat.le_add_right _ _) (by omega)] at this
  | case3 off s hlt =>
    intro A h
    rw [ByteArray.extract_eq_empty_iff.mpr (by omega), ByteArray.append_empty]
    exact h

theorem sendU32_spec (sch : Sched) (n : Nat) {s : Sender} {A : ByteArray} (h : Sent s A) :
    Sent (s.sendU32 sch n) (A ++ be 4 n) :=
  reserve_put_spec sch 4 _ h (size_be 4 n) (by decide)

theorem sendSizesLoop_spec (sch : Sched) (l : List Nat) {s : Sender} {A : ByteArray} (h : Sent s A) :
    Sent (l.foldl (fun s x => s.sendU32 sch x) s) (A ++ encSizes l) := by
  induction l generalizing s A with
  | nil => exact (ByteArray.append_empty (b := A)).symm ▸ h
  | cons x xs ih => rw [encSizes, ← ByteArray.append_assoc]; exact ih (sendU32_spec sch x h)

theorem sendVal_spec (sch : Sched) (v : Val) {s : Sender} {A : ByteArray} (h : Sent s A) :
    Sent (s.sendVal sch v) (A ++ v.encode) := by
  cases v with
  | byte b => exact reserve_put_spec sch 1 _ h rfl (by decide)
  | u16 n | u32 n | label n => exact reserve_put_spec sch _ _ h (size_be _ n) (by decide)
  | data d | str d =>
    have := sendDataLoop_spec sch d 0 _ (sendU32_spec sch d.size h)
    rwa [ByteArray.extract_zero_size, ByteArray.append_assoc] at this
  | sizes l =>
    rw [Val.encode, ← ByteArray.append_assoc]
    exact sendSizesLoop_spec sch l (sendU32_spec sch l.length h)

theorem step_spec (sch : Sched) (o : Op) {s : Sender} {A : ByteArray} (h : Sent s A) :
    Sent (s.step sch o) (A ++ o.encode) := by
  cases o with
  | send v => exact sendVal_spec sch v h
  | flush => exact (ByteArray.append_empty (b := A)).symm ▸ (flushS_spec sch h).1
  | needSpace n => exact (ByteArray.append_empty (b := A)).symm ▸ (reserve_spec sch n h).1

theorem run_spec (sch : Sched) (ops : List Op) {s : Sender} {A : ByteArray} (h : Sent s A) :
    Sent (s.run sch ops) (A ++ encodeAll ops) := by
  induction ops generalizing s A with
  | nil => exact (ByteArray.append_empty (b := A)).symm ▸ h
  | cons o os ih => rw [encodeAll, ← ByteArray.append_assoc]; exact ih (step_spec sch o h)

theorem run_init (sch : Sched) (ops : List Op) : Sent (Sender.init.run sch ops) (encodeAll ops) :=
  (ByteArray.empty_append (b := encodeAll ops)) ▸ run_spec sch ops Sent_init

theorem writerSteps_spec (j : Nat) {s : Sender} {A : ByteArray} (h : Sent s A) : Sent (s.writerSteps j) A := by
  obtain ⟨h1, h2, h3, h4⟩ := Sender.core_eq.mp (core_writerSteps j s)
  have hq := queue_writerSteps j s
  exact ⟨by rw [h1]; exact h.cur_le, by rw [hq]; have := h.queue_le; omega,
    by rw [h3, h2]; exact h.sent_eq, by rw [h4, h2]; exact h.flushed_eq,
    by rw [h2]; exact h.chunk_sz, by rw [Sender.stream, h1, h2]; exact h.acc⟩

theorem close_spec (sch : Sched) {s : Sender} {A : ByteArray} (h : Sent s A) :
    Sent (s.close sch) A ∧ (s.close sch).queue = [] ∧ (s.close sch).cur = ByteArray.empty ∧
    joinB (s.close sch).wire = A := by
  obtain ⟨h1, h3⟩ := flushS_spec sch h
  have hS : Sent (s.close sch) A := writerSteps_spec _ h1
  have hc : s.close sch = _ := Sender.writerSteps_eq _ (s.flushS sch)
  have hq : (s.close sch).queue = [] := by rw [hc]; exact List.drop_length
  have hcur : (s.close sch).cur = ByteArray.empty := by rw [hc]; exact h3
  exact ⟨hS, hq, hcur, by rw [← hS.acc, Sender.stream_of_empty hcur, Sender.chunks_of_drained hq]⟩

theorem core_flushS_congr (sch sch' : Sched) (s s' : Sender) (h : s.core = s'.core) :
    (s.flushS sch).core = (s'.flushS sch').core := by
  obtain ⟨h1, h2, h3, h4⟩ := Sender.core_eq.mp h
  unfold Sender.flushS
  by_cases h0 : s.cur.size = 0
  · rw [Sender.flush_empty _ s h0, Sender.flush_empty _ s' (h1 ▸ h0)]; exact h
  · rw [core_flush _ s h0, core_flush _ s' (h1 ▸ h0), h1, h2, h3, h4]

theorem core_reserve_congr (sch sch' : Sched) (n : Nat) (s s' : Sender) (h : s.core = s'.core) :
    (s.reserve sch n).core = (s'.reserve sch' n).core := by
  have hc : s.cur = s'.cur := (Sender.core_eq.mp h).1
  unfold Sender.reserve
  rw [hc]
  split
  · exact core_flushS_congr sch sch' s s' h
  · exact h

theorem core_put_congr (b : ByteArray) (s s' : Sender) (h : s.core = s'.core) :
    (s.put b).core = (s'.put b).core := by
  obtain ⟨h1, h2, h3, h4⟩ := Sender.core_eq.mp h
  exact Sender.core_eq.mpr ⟨congrArg (· ++ b) h1, h2, h3, h4⟩

theorem Sender.sendDataLoop_eq (sch : Sched) (val : ByteArray) (off : Nat) (s : Sender) :
    s.sendDataLoop sch val off =
      if off < val.size then
        let s1 := s.reserve sch 1
        let n := min (writeBufSize - s1.cur.size) (val.size - off)
        if n = 0 then s1 else (s1.put (val.extract off (off + n))).sendDataLoop sch val (off + n)
      else s := by
  rw [Sender.sendDataLoop, Sender.reserve_one]
  rfl

theorem core_sendDataLoop_congr (sch sch' : Sched) (val : ByteArray) (off : Nat) (s s' : Sender)
    (h : s.core = s'.core) :
    (s.sendDataLoop sch val off).core = (s'.sendDataLoop sch' val off).core := by
  induction hm : val.size - off using Nat.strongRecOn generalizing off s s' with | _ m ih =>
  rw [Sender.sendDataLoop_eq sch, Sender.sendDataLoop_eq sch']
  have h1 := core_reserve_congr sch sch' 1 s s' h
  have hc : (s.reserve sch 1).cur = (s'.reserve sch' 1).cur := (Sender.core_eq.mp h1).1
  generalize s.reserve sch 1 = a at h1 hc ⊢
  generalize s'.reserve sch' 1 = a' at h1 hc ⊢
  simp only []
  rw [hc]
  split
  · next hlt =>
    split
    · exact h1
    · next hn =>
      exact ih _ (hm ▸ Nat.sub_lt_sub_left hlt (Nat.lt_add_of_pos_right (Nat.pos_of_ne_zero hn)))
        _ _ _ (core_put_congr _ _ _ h1) rfl
  · exact h

theorem core_sendU32_congr (sch sch' : Sched) (n : Nat) (s s' : Sender) (h : s.core = s'.core) :
    (s.sendU32 sch n).core = (s'.sendU32 sch' n).core :=
  core_put_congr _ _ _ (core_reserve_congr sch sch' 4 s s' h)

theorem core_sendVal_congr (sch sch' : Sched) (v : Val) (s s' : Sender) (h : s.core = s'.core) :
    (s.sendVal sch v).core = (s'.sendVal sch' v).core := by
  cases v with
  | byte b | u16 n | u32 n | label n => exact core_put_congr _ _ _ (core_reserve_congr sch sch' _ s s' h)
  | data d | str d =>
    exact core_sendDataLoop_congr sch sch' d 0 _ _ (core_sendU32_congr sch sch' _ s s' h)
  | sizes l =>
    exact List.foldl_rel (r := fun (a a' : Sender) => a.core = a'.core) (core_sendU32_congr sch sch' _ s s' h)
      fun x _ a a' h0 => core_sendU32_congr sch sch' x a a' h0

theorem core_run_congr (sch sch' : Sched) (ops : List Op) (s s' : Sender) (h : s.core = s'.core) :
    (s.run sch ops).core = (s'.run sch' ops).core := by
  refine List.foldl_rel (r := fun (a a' : Sender) => a.core = a'.core) h fun o _ a a' h0 => ?_
  cases o with
  | send v => exact core_sendVal_congr sch sch' v a a' h0
  | flush => exact core_flushS_congr sch sch' a a' h0
  | needSpace n => exact core_reserve_congr sch sch' n a a' h0

end Mpc.Conn
