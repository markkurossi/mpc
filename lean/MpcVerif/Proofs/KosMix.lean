/-
Mixed histories (Model/KosMix.lean): every well-formed call of every kind runs
to completion on in-step streams and leaves them in step (`call_okK` for the
malicious-mode calls, C06's `call_okB` for the others), hence every history
does and every malicious-mode call in it passes its check and is correlated.
-/
import MpcVerif.Model.KosMix
import MpcVerif.Proofs.KosBuf

namespace Mpc.Kos
open Mpc.Iknp Mpc.Clmul

def MCall.WF (SL SW : Nat) : MCall → Prop
  | .kos c => c.WF SL
  | .plain c => c.WF SL SW

def MSpec (delta : Label) : MCall → MOut → Prop
  | .kos c, .kos r sent => KSpec delta c (r, sent)
  | .plain c, .plain o => CallSpecB delta c o
  | _, _ => False

theorem call_okM (X : Label → Nat → Label) (R0 R1 SS : Nat → Nat → Byte) (delta : Label) (hb : BaseOK R0 R1 SS delta)
    (rs : RecvSt) (ss : SendSt) (hs : InStep rs ss) (ar : Arena) (SL SW : Nat) (har : ar.Sized SL SW)
    (c : MCall) (hc : c.WF SL SW) :
    ∃ rs' ss' ar' out, runMCall Store.assign .write X R0 R1 SS delta rs ss ar c = some (rs', ss', ar', out) ∧
      InStep rs' ss' ∧ ar'.Sized SL SW ∧ MSpec delta c out := by
  cases c with
  | kos c =>
    obtain ⟨rs', ss', l', r, sent, h1, h2, h3, h4⟩ := call_okK X R0 R1 SS delta hb rs ss hs ar.labels SL har.1 c hc
    exact ⟨rs', ss', { ar with labels := l' }, .kos r sent, by simp only [runMCall, h1], h2, ⟨h3, har.2.1, har.2.2⟩, h4⟩
  | plain c =>
    obtain ⟨rs', ss', ar', out, u, h1, h2, h3, h4⟩ := call_okB R0 R1 SS delta hb rs ss hs ar SL SW har c hc
    exact ⟨rs', ss', ar', .plain out, by simp only [runMCall, h1], h2, h3, h4⟩

theorem sessionM_ok (X : Label → Nat → Label) (R0 R1 SS : Nat → Nat → Byte) (delta : Label) (hb : BaseOK R0 R1 SS delta)
    (SL SW : Nat) :
    ∀ (cs : List MCall) (rs : RecvSt) (ss : SendSt) (ar : Arena), InStep rs ss → ar.Sized SL SW →
      (∀ c ∈ cs, c.WF SL SW) →
      ∃ outs, sessionM Store.assign .write X R0 R1 SS delta rs ss ar cs = some outs ∧ outs.length = cs.length ∧
        ∀ k (hk : k < cs.length) (hk' : k < outs.length), MSpec delta cs[k] outs[k] :=
  fun cs rs ss ar hs har => Run.session_of_call (σ := RecvSt × SendSt × Arena)
    (run := fun s => sessionM Store.assign .write X R0 R1 SS delta s.1 s.2.1 s.2.2)
    (I := fun s => InStep s.1 s.2.1 ∧ s.2.2.Sized SL SW) (fun _ => rfl)
    (fun s c _ hs hc =>
      let ⟨rs', ss', ar', out, h1, h2, h2', h3⟩ := call_okM X R0 R1 SS delta hb s.1 s.2.1 hs.1 s.2.2 SL SW hs.2 c hc
      ⟨(rs', ss', ar'), out, ⟨h2, h2'⟩, h3, by simp only [sessionM, h1]⟩) cs (rs, ss, ar) ⟨hs, har⟩

end Mpc.Kos
