/-
The number a little-endian bit list stands for.  The models define it several times
(`Bld.toNat`, `packLE`, `Pool.Res.bitsToNat`, the wire store held as one number); `BitList.val` is
that function once.  Its bits are the list read with default `false` (`testBit_val`), and every
other fact is read off the bits through `Nat.eq_of_testBit_eq`.  Core Lean only.
-/
import MpcVerif.Proofs.ListLemmas

namespace Mpc.BitList

def val : List Bool → Nat
  | [] => 0
  | b :: bs => b.toNat + 2 * val bs

@[simp] theorem val_nil : val [] = 0 := rfl
@[simp] theorem val_cons (b : Bool) (bs : List Bool) : val (b :: bs) = b.toNat + 2 * val bs := rfl

theorem testBit_val : ∀ (bs : List Bool) (i : Nat), (val bs).testBit i = bs.getD i false
  | [], i => Nat.zero_testBit i
  | b :: bs, 0 => by
    rw [val_cons, Nat.testBit_zero, Nat.add_mul_mod_self_left]
    cases b <;> rfl
  | b :: bs, i + 1 => by
    have : b.toNat / 2 = 0 := by cases b <;> rfl
    rw [val_cons, Nat.testBit_succ, Nat.add_mul_div_left _ _ (by decide), this, Nat.zero_add,
      List.getD_cons_succ, testBit_val bs i]

theorem val_lt (bs : List Bool) : val bs < 2 ^ bs.length :=
  Nat.lt_pow_two_of_testBit _ fun i hi => by rw [testBit_val, getD_of_le _ _ _ hi]

theorem val_take (bs : List Bool) (n : Nat) : val (bs.take n) = val bs % 2 ^ n :=
  Nat.eq_of_testBit_eq fun i => by
    rw [testBit_val, Nat.testBit_mod_two_pow, testBit_val, getD_take]
    by_cases h : i < n <;> simp [h]

theorem val_drop (bs : List Bool) (n : Nat) : val (bs.drop n) = val bs / 2 ^ n :=
  Nat.eq_of_testBit_eq fun i => by
    rw [testBit_val, Nat.testBit_div_two_pow, testBit_val, getD_drop, Nat.add_comm]

theorem val_append (a b : List Bool) : val (a ++ b) = val a + 2 ^ a.length * val b :=
  Nat.eq_of_testBit_eq fun i => by
    rw [Nat.add_comm, Nat.testBit_two_pow_mul_add _ (val_lt a), testBit_val, testBit_val, testBit_val]
    by_cases h : i < a.length
    · rw [if_pos h, getD_append_left _ _ _ _ h]
    · rw [if_neg h, getD_append_right _ _ _ _ (Nat.le_of_not_lt h)]

theorem val_inj {a b : List Bool} (hl : a.length = b.length) (hv : val a = val b) : a = b :=
  List.ext_getElem hl fun i h1 h2 => by
    rw [← getD_of_lt a i false h1, ← getD_of_lt b i false h2, ← testBit_val, ← testBit_val, hv]

/-- The list is `natBits w n` of Model/Proto2Int. -/
theorem val_bits (w n : Nat) : val ((List.range w).map n.testBit) = n % 2 ^ w :=
  Nat.eq_of_testBit_eq fun i => by
    rw [testBit_val, Nat.testBit_mod_two_pow, getD_range_map]
    by_cases h : i < w <;> simp [h]

theorem bits_val (bs : List Bool) : (List.range bs.length).map (val bs).testBit = bs := by
  apply List.ext_getElem (by simp)
  intro i h1 h2
  rw [List.getElem_map, List.getElem_range, testBit_val, getD_of_lt _ _ _ h2]

theorem val_replicate_false (k : Nat) : val (List.replicate k false) = 0 :=
  Nat.eq_of_testBit_eq fun i => by
    rw [testBit_val, Nat.zero_testBit, List.getD_eq_getElem?_getD, List.getElem?_replicate]
    split <;> rfl

theorem val_zipWith {f : Bool → Bool → Bool} {F : Nat → Nat → Nat} (hf : f false false = false)
    (hF : ∀ a b i, (F a b).testBit i = f (a.testBit i) (b.testBit i)) (xs ys : List Bool)
    (h : xs.length = ys.length) : val (List.zipWith f xs ys) = F (val xs) (val ys) :=
  Nat.eq_of_testBit_eq fun i => by
    rw [hF, testBit_val, testBit_val, testBit_val, getD_zipWith f xs ys i hf h]

theorem foldl_or_getLsbD {w : Nat} (p : Nat → Nat) (f : Nat → Bool) (js : List Nat) (acc : BitVec w) (m : Nat) (hm : m < w) :
    (js.foldl (fun a j => if f j then a ||| (1#w <<< p j) else a) acc).getLsbD m
      = (acc.getLsbD m || js.any fun j => f j && p j == m) := by
  induction js generalizing acc with
  | nil => simp
  | cons j js ih =>
    simp only [List.foldl_cons, List.any_cons]
    rw [ih]
    by_cases hf : f j
    · simp only [hf, if_true, BitVec.getLsbD_or, Bool.true_and, Bool.or_assoc]
      congr 1
      congr 1
      simp only [BitVec.getLsbD_shiftLeft, BitVec.getLsbD_one, hm, decide_true, Bool.true_and]
      by_cases h : p j = m
      · subst h; simp; omega
      · have : (p j == m) = false := by simp [h]
        rw [this]
        simp
        omega
    · simp [hf]

end Mpc.BitList
