/-
The byte-level RSA OT model (Model/RsaOtBytes.lean).  The executable forms equal the specification forms
(`powMod` is `a ^ e % N`).  `Bytes(SetBytes(bs))` is `bs` without its leading zeros, so on the integer of a
block the receiver's last step is the parse of that block (`receiveBlock_fromBytes`); with `received_wire`
(Proofs/CoRsa.lean) and the PKCS#1 block-type-1 round trip, one transfer and a batch deliver for every
randomness.  For the mod-`N` sender the integer the receiver gets is `received_wireModN`,
`received_wireModN_neg`.  Core Lean only.
-/
import MpcVerif.Proofs.CoRsa
import MpcVerif.Proofs.BytesLemmas

namespace Mpc.RsaOt

theorem powModFuel_eq : ∀ (f a e N : Nat), e < 2 ^ f → powModFuel f a e N = a ^ e % N := by
  intro f
  induction f with
  | zero =>
    intro a e N h
    have : e = 0 := by simpa using h
    subst this
    simp [powModFuel]
  | succ f ih =>
    intro a e N h
    unfold powModFuel
    by_cases he : e = 0
    · subst he; simp
    · rw [if_neg he]
      have h2 : e / 2 < 2 ^ f := by
        rw [Nat.pow_succ] at h
        omega
      simp only
      rw [ih (a * a % N) (e / 2) N h2]
      have hsq : (a * a % N) ^ (e / 2) % N = a ^ (2 * (e / 2)) % N := by
        rw [← Nat.pow_mod, Nat.pow_mul, Nat.pow_two]
      rw [hsq]
      by_cases ho : e % 2 = 1
      · rw [if_pos ho]
        have : e = 2 * (e / 2) + 1 := by omega
        conv => rhs; rw [this, Nat.pow_succ, Nat.mul_comm]
        rw [Nat.mul_mod a, Nat.mod_mod, ← Nat.mul_mod]
      · rw [if_neg ho]
        have : e = 2 * (e / 2) := by omega
        conv => rhs; rw [this]

theorem powMod_eq (a e N : Nat) : powMod a e N = a ^ e % N :=
  powModFuel_eq e a e N Nat.lt_two_pow_self

theorem receiverVX_eq (N e xb k : Nat) : receiverVX N e xb k = receiverV N e xb k := by
  simp [receiverVX, receiverV, powMod_eq]

theorem senderKeyX_eq (N d v x : Nat) : senderKeyX N d v x = senderKey N d v x := by
  simp [senderKeyX, senderKey, powMod_eq]

theorem wireX_eq (N e d p0 p1 x0 x1 k : Nat) (bit : Bool) :
    wireX N e d p0 p1 x0 x1 k bit = wire N e d p0 p1 x0 x1 k bit := by
  simp [wireX, wire, receiverVX_eq, senderKeyX_eq]

theorem xferX_eq (N e d size : Nat) (t : XferIn) : xferX N e d size t = xferB N e d size t := by
  have : wireX N e d = wire N e d := by
    funext p0 p1 x0 x1 k bit; exact wireX_eq ..
  simp [xferX, xferB, this]

theorem received_wireModN (N e d p0 p1 x0 x1 k : Nat) (bit : Bool) (hk : k < N)
    (hkey : ∀ c, c < N → (c ^ e % N) ^ d % N = c) :
    (wireModN N e d p0 p1 x0 x1 k bit).received k bit =
      ((((if bit then p1 else p0) + k) % N : Nat) : Int) - (k : Int) := by
  cases bit <;> simp only [wireModN, wire, Wire.received, Bool.false_eq_true, if_false, if_true]
  all_goals rw [key_recovered N e d _ k hk hkey]

theorem received_wireModN_neg (N e d p0 p1 x0 x1 k : Nat) (bit : Bool) (hk : k < N)
    (hkey : ∀ c, c < N → (c ^ e % N) ^ d % N = c)
    (hp : (if bit then p1 else p0) < N) (hov : N ≤ (if bit then p1 else p0) + k) :
    (wireModN N e d p0 p1 x0 x1 k bit).received k bit = (((if bit then p1 else p0) : Nat) : Int) - (N : Int) := by
  rw [received_wireModN N e d p0 p1 x0 x1 k bit hk hkey]
  generalize (if bit then p1 else p0) = p at *
  have : (p + k) % N = p + k - N := by
    rw [Nat.mod_eq_sub_mod hov, Nat.mod_eq_of_lt (by omega)]
  rw [this]
  omega

theorem fromBytes_eq (bs : Octets) : fromBytes bs = ByteList.val id bs := by
  rw [fromBytes, List.foldr_reverse, ByteList.val]
  congr 1
  funext a b
  exact (Nat.add_comm _ _).trans (by rw [Nat.mul_comm]; rfl)

theorem leBytesFuel_zero (f : Nat) : leBytesFuel f 0 = [] := by cases f <;> simp [leBytesFuel]

theorem leBytesFuel_val (l : Octets) : ∀ f, (∀ b ∈ l, b < 256) → ByteList.val id l ≤ f →
    ∃ z, l = List.replicate z 0 ++ (leBytesFuel f (ByteList.val id l)).reverse := by
  induction l using ByteList.snoc_induction with
  | nil => intro f _ _; exact ⟨0, by rw [ByteList.val_nil, leBytesFuel_zero]; rfl⟩
  | snoc t b ih =>
    intro f hb hf
    have hb256 : b < 256 := hb b (List.mem_append_right _ (List.mem_singleton_self b))
    rw [ByteList.val_concat, id, Nat.add_comm] at hf ⊢
    obtain ⟨z, hz⟩ := ih (f - 1) (fun x hx => hb x (List.mem_append_left _ hx)) (by omega)
    generalize ByteList.val id t = v at hz hf ⊢
    by_cases h0 : b + v * 256 = 0
    · obtain ⟨rfl, rfl⟩ : b = 0 ∧ v = 0 := by omega
      rw [leBytesFuel_zero] at hz ⊢
      exact ⟨z + 1, by rw [hz, List.replicate_succ']; simp⟩
    · obtain ⟨f, rfl⟩ : ∃ f', f = f' + 1 := ⟨f - 1, by omega⟩
      refine ⟨z, ?_⟩
      rw [leBytesFuel, if_neg h0, Nat.add_mul_mod_self_right, Nat.mod_eq_of_lt hb256, Nat.add_mul_div_right _ _ (by decide),
        Nat.div_eq_of_lt hb256, Nat.zero_add, List.reverse_cons, ← List.append_assoc]
      exact congrArg (· ++ [b]) hz

theorem natBytes_fromBytes (bs : Octets) (hb : ∀ b ∈ bs, b < 256) :
    ∃ z, bs = List.replicate z 0 ++ natBytes (fromBytes bs) := by
  rw [natBytes, fromBytes_eq]
  exact leBytesFuel_val bs _ hb (Nat.le_refl _)

theorem receiveBlock_fromBytes (bs : Octets) (hb : ∀ b ∈ bs, b < 256) :
    receiveBlock bs.length ((fromBytes bs : Nat) : Int) =
      match pkcs1Parse bs with
      | some m => .ok m
      | none => .err := by
  obtain ⟨z, hz⟩ := natBytes_fromBytes bs hb
  have hl : bs.length = z + (natBytes (fromBytes bs)).length := by
    conv => lhs; rw [hz]
    simp
  rw [receiveBlock, Int.natAbs_natCast, if_neg (by omega), show bs.length - (natBytes (fromBytes bs)).length = z by omega, ← hz]
  cases pkcs1Parse bs <;> rfl

theorem afterZero_pad (n : Nat) (m : Octets) : afterZero (List.replicate n 255 ++ 0 :: m) = some m := by
  induction n with
  | zero => simp [afterZero]
  | succ n ih => simp [List.replicate_succ, afterZero, ih]

theorem pkcs1Parse_pad (size : Nat) (m pad : Octets) (hm : ∀ b ∈ m, b < 256) (hp : pkcs1Pad size m = some pad) :
    pad.length = size ∧ (∀ b ∈ pad, b < 256) ∧ pkcs1Parse pad = some m := by
  unfold pkcs1Pad at hp
  split at hp
  · cases hp
  · injection hp with hp
    subst hp
    refine ⟨by simp; omega, fun b hb => ?_, ?_⟩
    · simp only [List.mem_cons, List.mem_append, List.mem_replicate] at hb
      rcases hb with rfl | rfl | ⟨_, rfl⟩ | rfl | hb
      · decide
      · decide
      · decide
      · decide
      · exact hm b hb
    · rw [pkcs1Parse, if_neg (by simp; omega)]
      simp [afterZero_pad]

theorem receiveBlock_pad (size : Nat) (m pad : Octets) (hm : ∀ b ∈ m, b < 256) (hp : pkcs1Pad size m = some pad) :
    receiveBlock size ((fromBytes pad : Nat) : Int) = .ok m := by
  obtain ⟨hl, hb, hparse⟩ := pkcs1Parse_pad size m pad hm hp
  rw [← hl, receiveBlock_fromBytes pad hb, hparse]

theorem pkcs1Pad_some (size : Nat) (m : Octets) (hs : m.length + 11 ≤ size) :
    pkcs1Pad size m = some (0 :: 1 :: (List.replicate (size - 3 - m.length) 255 ++ 0 :: m)) := by
  unfold pkcs1Pad; rw [if_neg (by omega)]

theorem decB_encB (size : Nat) (m : Octets) (hm : ∀ b ∈ m, b < 256) (hs : m.length + 11 ≤ size) :
    decB size (encB size m : Int) = some m := by
  have hp := pkcs1Pad_some size m hs
  unfold decB encB
  rw [hp, Option.getD_some, receiveBlock_pad size m _ hm hp]
  rfl

def XferIn.WF (N size : Nat) (t : XferIn) : Prop :=
  t.k < N ∧ t.m0.length + 11 ≤ size ∧ t.m1.length + 11 ≤ size ∧ (∀ b ∈ t.m0, b < 256) ∧ (∀ b ∈ t.m1, b < 256)

theorem xferB_delivers (N e d size : Nat) (hkey : ∀ c, c < N → (c ^ e % N) ^ d % N = c) (t : XferIn)
    (hwf : t.WF N size) :
    ∃ w, xferB N e d size t = some (w, .ok t.chosen) := by
  obtain ⟨hk, h0, h1, hb0, hb1⟩ := hwf
  refine ⟨wire N e d (fromBytes (0 :: 1 :: (List.replicate (size - 3 - t.m0.length) 255 ++ 0 :: t.m0)))
    (fromBytes (0 :: 1 :: (List.replicate (size - 3 - t.m1.length) 255 ++ 0 :: t.m1))) t.x0 t.x1 t.k t.bit, ?_⟩
  unfold xferB xferWith
  rw [pkcs1Pad_some size t.m0 h0, pkcs1Pad_some size t.m1 h1]
  simp only
  rw [received_wire N e d _ _ t.x0 t.x1 t.k t.bit hk hkey]
  congr 2
  unfold XferIn.chosen
  cases t.bit
  · exact receiveBlock_pad size t.m0 _ hb0 (pkcs1Pad_some size t.m0 h0)
  · exact receiveBlock_pad size t.m1 _ hb1 (pkcs1Pad_some size t.m1 h1)

theorem sessionOut_delivers (N e d size : Nat) (hkey : ∀ c, c < N → (c ^ e % N) ^ d % N = c) :
    ∀ ts : List XferIn, (∀ t ∈ ts, t.WF N size) → sessionOut N e d size ts = some (ts.map XferIn.chosen) := by
  intro ts
  induction ts with
  | nil => intro _; rfl
  | cons t ts ih =>
    intro h
    obtain ⟨w, hw⟩ := xferB_delivers N e d size hkey t (h t (List.mem_cons_self ..))
    simp only [sessionOut, hw, ih (fun t' ht' => h t' (List.mem_cons_of_mem _ ht')), Option.map_some, List.map_cons]

theorem wireModNX_eq (N e d p0 p1 x0 x1 k : Nat) (bit : Bool) :
    wireModNX N e d p0 p1 x0 x1 k bit = wireModN N e d p0 p1 x0 x1 k bit := by
  simp [wireModNX, wireModN, wireX_eq]

theorem xferModNX_eq (N e d size : Nat) (t : XferIn) : xferModNX N e d size t = xferModN N e d size t := by
  have : wireModNX N e d = wireModN N e d := by
    funext p0 p1 x0 x1 k bit; exact wireModNX_eq ..
  simp [xferModNX, xferModN, this]

end Mpc.RsaOt
