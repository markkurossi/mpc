/-
C14, on Model/Format.lean: the native round trip `parseMPCLC cfg fx (marshal c) = .ok c.norm` for
`c.Valid` (`parseMPCLC_marshal`, with `marshal_norm` and `compute_norm`).  Each reading step has a
`.._prefix` / `.._rt` lemma: on a stream that starts with the marshalled item it returns the item
and leaves the tail; `Good` is carried through them for the variant whose `parseString` makes one
`Read`.
-/
import MpcVerif.Proofs.Format
import MpcVerif.Proofs.FormatText

namespace Mpc
namespace Fmt

/-- Reader states in which `parseString` gets the whole string: it uses
`io.ReadFull`, or everything left already sits in the bufio buffer and its
single `Read` is a full read. -/
def Good (fx : Fix) (rd : Rd) : Prop := fx.readFullStrings = true ∨ rd.rest = []

theorem readN_prefix (cfg : RdCfg) (n : Nat) (rd : Rd) (bs tail : Bytes)
    (hall : rd.all = bs ++ tail) (hn : bs.length = n) :
    ∃ rd', readN cfg n rd = .ok (bs, rd') ∧ rd'.all = tail ∧ (rd.rest = [] → rd'.rest = []) := by
  obtain ⟨rd', h1, h2, h3⟩ := readFull_ok cfg n rd (by rw [hall]; simp; omega)
  refine ⟨rd', (readN_ok_iff ..).2 ?_, ?_, h3⟩
  · rw [h1, hall, List.take_append_of_le_length (by omega), List.take_of_length_le (by omega)]
  · rw [h2, hall, List.drop_append_of_le_length (by omega), List.drop_of_length_le (by omega)]; simp

theorem u32_length (n : Nat) : (u32 n).length = 4 := rfl

theorem be32_u32 (n : Nat) (h : n < 4294967296) : be32 (u32 n) = n := by
  simp only [u32, be32, UInt8.toNat_ofNat', Nat.mod_mod]
  omega

theorem readU32_prefix (cfg : RdCfg) (fx : Fix) (v : Nat) (hv : v < 4294967296) (rd : Rd) (tail : Bytes)
    (hall : rd.all = u32 v ++ tail) :
    ∃ rd', readU32 cfg rd = .ok (v, rd') ∧ rd'.all = tail ∧ (Good fx rd → Good fx rd') := by
  obtain ⟨rd', h1, h2, h3⟩ := readN_prefix cfg 4 rd (u32 v) tail hall rfl
  exact ⟨rd', by simp [readU32, h1, be32_u32 v hv], h2, Or.imp_right h3⟩

theorem cap_lt : cap < 4294967296 := by decide

theorem parseString_prefix (cfg : RdCfg) (fx : Fix) (s : Bytes) (hs : s.length ≤ cap) (rd : Rd)
    (tail : Bytes) (hall : rd.all = marshalString s ++ tail) (hg : Good fx rd) :
    ∃ rd', parseString cfg fx rd = .ok (s, rd') ∧ rd'.all = tail ∧ Good fx rd' := by
  have hc := cap_lt
  simp only [marshalString, List.append_assoc] at hall
  obtain ⟨rd1, h1, h2, h3⟩ := readU32_prefix cfg fx s.length (by omega) rd (s ++ tail) hall
  have hg1 := h3 hg
  simp only [parseString, h1, declare_ok _ hs]
  split
  · obtain rfl : s = [] := List.length_eq_zero_iff.1 ‹_›
    exact ⟨rd1, rfl, by simpa using h2, hg1⟩
  split
  · obtain ⟨rd2, e1, e2, _⟩ := readFull_ok cfg s.length rd1 (by rw [h2]; simp)
    exact ⟨rd2, by rw [e1, h2]; simp, by rw [e2, h2]; simp, Or.inl ‹_›⟩
  · have hr : rd1.rest = [] := hg1.resolve_left ‹_›
    have hbuf : rd1.buf = s ++ tail := by rw [← h2, Rd.all, hr, List.append_nil]
    match s, ‹¬ s.length = 0› with
    | a :: s', _ =>
      exact ⟨⟨(a :: s' ++ tail).drop (s'.length + 1), [], rd1.k⟩, by simp [Rd.read, hbuf, hr],
        by simp [Rd.all], Or.inr rfl⟩

theorem read1_prefix (cfg : RdCfg) (b : UInt8) (rd : Rd) (tail : Bytes)
    (hall : rd.all = b :: tail) :
    ∃ rd', rd.read cfg 1 = some ([b], rd') ∧ rd'.all = tail := by
  cases hr : rd.read cfg 1 with
  | none =>
    have := (read_none_iff cfg 1 rd).1 hr
    rw [hall] at this; simp at this
  | some p =>
    obtain ⟨d, rd'⟩ := p
    obtain ⟨r1, r2, r3, _⟩ := read_some cfg 1 rd d rd' (by omega) hr
    match d, r1, r2 with
    | [x], _, _ =>
      obtain ⟨rfl, ht⟩ : x = b ∧ rd'.all = tail := by simpa [hall] using r3
      exact ⟨rd', rfl, ht⟩
    | _ :: _ :: _, _, r2 => simp at r2

mutual
/-- An argument the native format can carry and `parseIOArg` reads back: type in
the I/O grammar, every length, size and count it declares within `cap`. -/
def IOArg.valid : IOArg → Bool
  | .mk name ty comp =>
    decide (name.length ≤ cap) && ty.inGrammar && decide ((typeString ty).length ≤ cap) &&
    decide (0 ≤ ty.bits) && decide (ty.bits ≤ cap) && decide (comp.length ≤ cap) && IOArg.validL comp
def IOArg.validL : List IOArg → Bool
  | [] => true
  | a :: as => a.valid && IOArg.validL as
end

mutual
/-- What the parser returns for the argument: the type as `types.Parse` reads
its text, `Bits` as stored. -/
def IOArg.norm : IOArg → IOArg
  | .mk name ty comp => .mk name (ty.norm.setBits ty.bits) (IOArg.normL comp)
def IOArg.normL : List IOArg → List IOArg
  | [] => []
  | a :: as => a.norm :: IOArg.normL as
end

mutual
def IOArg.size : IOArg → Nat
  | .mk _ _ comp => 1 + IOArg.sizeL comp
def IOArg.sizeL : List IOArg → Nat
  | [] => 0
  | a :: as => 1 + a.size + IOArg.sizeL as
end

theorem normL_length : ∀ (as : List IOArg), (IOArg.normL as).length = as.length
  | [] => rfl
  | a :: as => by simp [IOArg.normL, normL_length as]

theorem u32i_nonneg (b : Int) (h0 : 0 ≤ b) (h1 : b < 4294967296) : u32i b = u32 b.toNat := by
  rw [u32i, Int.emod_eq_of_lt h0 h1]

mutual
theorem parseIOArg_rt (cfg : RdCfg) (fx : Fix) : ∀ (a : IOArg) (f : Nat) (rd : Rd) (tail : Bytes),
    a.valid = true → a.size ≤ f → rd.all = marshalIOArg a ++ tail → Good fx rd →
    ∃ rd', parseIOArg cfg fx f rd = .ok (a.norm, rd') ∧ rd'.all = tail ∧ Good fx rd'
  | .mk name ty comp, f, rd, tail, hv, hf, hall, hg => by
    have hc := cap_lt
    simp only [IOArg.valid, Bool.and_eq_true, decide_eq_true_eq] at hv
    obtain ⟨⟨⟨⟨⟨⟨v1, v2⟩, v3⟩, v4⟩, v5⟩, v6⟩, v7⟩ := hv
    simp only [IOArg.size] at hf
    cases f with
    | zero => omega
    | succ f =>
      simp only [marshalIOArg, List.append_assoc] at hall
      obtain ⟨rd1, e1, a1, g1⟩ := parseString_prefix cfg fx name v1 rd _ hall hg
      obtain ⟨rd2, e2, a2, g2⟩ := parseString_prefix cfg fx (typeString ty) v3 rd1 _ a1 g1
      rw [u32i_nonneg ty.bits v4 (by omega)] at a2
      obtain ⟨rd3, e3, a3, g3'⟩ := readU32_prefix cfg fx ty.bits.toNat (by omega) rd2 _ a2
      have g3 := g3' g2
      obtain ⟨rd4, e4, a4, g4'⟩ := readU32_prefix cfg fx comp.length (by omega) rd3 _ a3
      have g4 := g4' g3
      obtain ⟨rd5, e5, a5, g5⟩ := parseIOArgs_rt cfg fx comp f rd4 tail v7 (by omega) a4 g4
      refine ⟨rd5, ?_, a5, g5⟩
      simp only [parseIOArg, e1, e2, e3, e4, e5, declare_ok _ v6, typeParse_typeString ty v2,
        declare_ok ty.bits.toNat (by omega), IOArg.norm]
      congr 4
      omega
theorem parseIOArgs_rt (cfg : RdCfg) (fx : Fix) : ∀ (as : List IOArg) (f : Nat) (rd : Rd) (tail : Bytes),
    IOArg.validL as = true → IOArg.sizeL as ≤ f → rd.all = marshalIOArgs as ++ tail → Good fx rd →
    ∃ rd', parseIOArgs cfg fx f as.length rd = .ok (IOArg.normL as, rd') ∧ rd'.all = tail ∧ Good fx rd'
  | [], f, rd, tail, _, _, hall, hg => by
    simp only [marshalIOArgs, List.nil_append] at hall
    exact ⟨rd, by cases f <;> simp [parseIOArgs, IOArg.normL], hall, hg⟩
  | a :: as, f, rd, tail, hv, hf, hall, hg => by
    simp only [IOArg.validL, Bool.and_eq_true] at hv
    simp only [IOArg.sizeL] at hf
    cases f with
    | zero => omega
    | succ f =>
      simp only [marshalIOArgs, List.append_assoc] at hall
      obtain ⟨rd1, e1, a1, g1⟩ := parseIOArg_rt cfg fx a f rd _ hv.1 (by omega) hall hg
      obtain ⟨rd2, e2, a2, g2⟩ := parseIOArgs_rt cfg fx as f rd1 tail hv.2 (by omega) a1 g1
      exact ⟨rd2, by simp [parseIOArgs, e1, e2, IOArg.normL], a2, g2⟩
end

theorem opOfCode_opCode (op : Op) : opOfCode (opCode op) = some op := by cases op <;> decide

theorem take4_u32 (a : Nat) (r : Bytes) : (u32 a ++ r).take 4 = u32 a := by simp [u32]
theorem drop4_u32 (a : Nat) (r : Bytes) : (u32 a ++ r).drop 4 = r := by simp [u32]
theorem drop8_u32 (a b : Nat) (r : Bytes) : (u32 a ++ (u32 b ++ r)).drop 8 = r := by simp [u32]

/-- `gateRec` from the facts about its steps; the record bytes stay a variable here, `be32` on
explicit `u32` lists is slow to unify. -/
theorem gateRec_eq {β : Type} (cfg : RdCfg) (c : UInt8) (op : Op) (in0 in1 out : Nat)
    (seen seen2 : Store Bool) (rd rd2 : Rd) (b : Bytes) (k : Gate → Store Bool → Rd → R β)
    (hoc : opOfCode c = some op) (e2 : readN cfg (if op.binary then 12 else 8) rd = .ok (b, rd2))
    (k1 : be32 (b.take 4) = in0) (k2 : (if op.binary then be32 ((b.drop 4).take 4) else 0) = in1)
    (k3 : be32 (b.drop (if op.binary then 8 else 4)) = out)
    (hp : Passes seen ⟨op, in0, in1, out⟩ seen2) :
    gateRec cfg c seen rd k = k ⟨op, in0, in1, out⟩ seen2 rd2 := by
  have h1 : (if op.binary then needSeen seen in1 else .ok ()) = .ok () := by
    split
    · exact hp.in1 ‹_›
    · rfl
  unfold gateRec
  rw [hoc]
  dsimp only
  rw [e2]
  dsimp only
  rw [k1, k2, k3, hp.in0]
  dsimp only
  rw [h1]
  dsimp only
  rw [hp.out]

theorem gateRec_marshal {β : Type} (cfg : RdCfg) (g : Gate) (seen seen2 : Store Bool)
    (rd : Rd) (rest : Bytes) (hall : opCode g.op :: rd.all = marshalGate g ++ rest)
    (hsz : seen.size ≤ 4294967296) (hp : Passes seen g seen2) :
    ∃ rd2, rd2.all = rest ∧ ∀ k : Gate → Store Bool → Rd → R β,
      gateRec cfg (opCode g.op) seen rd k = k (normG g) seen2 rd2 := by
  obtain ⟨op, in0, in1, out⟩ := g
  obtain ⟨hn0, hn1, hset⟩ := hp
  dsimp only at hall hn0 hn1 hset
  have hi0 := ((needSeen_out _ _).of_ok hn0).1
  have ho := ((seenSet_out _ _).of_ok hset).1
  cases op
  case inv =>
    have hall' : rd.all = (u32 in0 ++ u32 out) ++ rest := by simpa [marshalGate, opCode] using hall
    obtain ⟨rd2, e2, a2, _⟩ := readN_prefix cfg 8 rd _ rest hall' rfl
    exact ⟨rd2, a2, fun k => gateRec_eq cfg _ _ _ _ _ seen seen2 rd rd2 _ k (opOfCode_opCode _) e2
      (by rw [take4_u32, be32_u32 _ (by omega)]) rfl
      (by rw [if_neg (by decide), drop4_u32, be32_u32 _ (by omega)]) ⟨hn0, nofun, hset⟩⟩
  all_goals
    have hi1 := ((needSeen_out _ _).of_ok (hn1 rfl)).1
    have hall' : rd.all = (u32 in0 ++ (u32 in1 ++ u32 out)) ++ rest := by
      simpa [marshalGate, opCode] using hall
    obtain ⟨rd2, e2, a2, _⟩ := readN_prefix cfg 12 rd _ rest hall' rfl
    exact ⟨rd2, a2, fun k => gateRec_eq cfg _ _ _ _ _ seen seen2 rd rd2 _ k (opOfCode_opCode _) e2
      (by rw [take4_u32, be32_u32 _ (by omega)])
      (by rw [if_pos (by rfl), drop4_u32, take4_u32, be32_u32 _ (by omega)])
      (by rw [if_pos (by rfl), drop8_u32, be32_u32 _ (by omega)]) ⟨hn0, hn1, hset⟩⟩

theorem gateLoop_rt (cfg : RdCfg) (fx : Fix) (ng : Nat) :
    ∀ (gs : List Gate) (f gate : Nat) (seen : Store Bool) (rd : Rd),
      rd.all = marshalGates gs → (marshalGates gs).length < f → gate + gs.length ≤ ng →
      seen.size ≤ 4294967296 →
      wfFrom seen.size gs (seenFn seen) = true →
      ∃ seen', gateLoop cfg fx ng f gate seen rd = .ok (gs.map normG, seen')
  | _, 0, _, _, _, _, hf, _, _, _ => nomatch hf
  | [], f + 1, gate, seen, rd, hall, _, _, _, _ =>
    ⟨seen, by rw [gateLoop_succ, (read_none_iff cfg 1 rd).2 hall]; rfl⟩
  | g :: gs, f + 1, gate, seen, rd, hall, hf, hng, hsz, hwf => by
    simp only [List.length_cons] at hng
    obtain ⟨hp, w6⟩ := passes_of_wfFrom_cons hwf
    obtain ⟨body, hbody⟩ : ∃ body, marshalGate g = opCode g.op :: body := by
      unfold marshalGate; split <;> exact ⟨_, rfl⟩
    rw [marshalGates, hbody] at hall hf
    simp only [List.cons_append, List.length_cons, List.length_append] at hf
    obtain ⟨rd1, e1, a1⟩ := read1_prefix cfg _ rd _ hall
    obtain ⟨rd2, a2, e2⟩ := gateRec_marshal (β := List Gate × Store Bool) cfg g seen _ rd1
      (marshalGates gs) (by rw [a1, hbody]; rfl) hsz hp
    obtain ⟨seen', e3⟩ := gateLoop_rt cfg fx ng gs f (gate + 1) _ rd2 a2 (by omega) (by omega)
      (by rw [Store.size_set]; exact hsz) w6
    refine ⟨seen', ?_⟩
    rw [gateLoop_succ, e1]
    dsimp only
    rw [if_neg (by omega), List.headD_cons, e2, if_neg (by omega), e3]
    rfl

/-- After the `subst`, each `drop` / `take` computes on the `u32` lists. -/
theorem header_fields (m a b c d : Nat) (ha : a < 4294967296) (hb : b < 4294967296)
    (hc : c < 4294967296) (hd : d < 4294967296) (h : Bytes)
    (hh : h = u32 m ++ (u32 a ++ (u32 b ++ (u32 c ++ u32 d)))) :
    be32 ((h.drop 4).take 4) = a ∧ be32 ((h.drop 8).take 4) = b ∧
    be32 ((h.drop 12).take 4) = c ∧ be32 ((h.drop 16).take 4) = d := by
  subst hh
  exact ⟨be32_u32 a ha, be32_u32 b hb, be32_u32 c hc, be32_u32 d hd⟩

/-- As `gateRec_eq`: the body is walked once, over variables, not over the marshalled bytes. -/
theorem parseMPCLC_eq (cfg : RdCfg) (fx : Fix) (bytes h : Bytes) (rd0 rd1 rd2 : Rd)
    (m ng nw ni no : Nat) (ins outs : List IOArg) (seen0 seen' : Store Bool) (gs : List Gate)
    (c1 : ng ≤ cap) (c2 : nw ≤ cap) (c3 : ni ≤ cap) (c4 : no ≤ cap)
    (hh : h = u32 m ++ (u32 ng ++ (u32 nw ++ (u32 ni ++ u32 no))))
    (e0 : readN cfg 20 (Rd.init bytes) = .ok (h, rd0))
    (e1 : parseIOArgs cfg fx (bytes.length + 1) ni rd0 = .ok (ins, rd1))
    (e2 : parseIOArgs cfg fx (bytes.length + 1) no rd1 = .ok (outs, rd2))
    (e3 : seenInit nw (ioSize ins) = .ok seen0)
    (e4 : gateLoop cfg fx ng (bytes.length + 1) 0 seen0 rd2 = .ok (gs, seen'))
    (hlen : gs.length = ng) (hall : allSeen seen' = true) :
    parseMPCLC cfg fx bytes = .ok ⟨ng, nw, ins, outs, gs⟩ := by
  have hc := cap_lt
  obtain ⟨k1, k2, k3, k4⟩ := header_fields m ng nw ni no (by omega) (by omega) (by omega) (by omega) h hh
  unfold parseMPCLC
  rw [e0]
  dsimp only
  rw [k1, k2, k3, k4, declare_ok _ c1, declare_ok _ c2, declare_ok _ c3, declare_ok _ c4]
  dsimp only
  rw [e1]
  dsimp only
  rw [e2]
  dsimp only
  rw [e3]
  dsimp only
  rw [e4]
  dsimp only
  rw [if_neg (by simp [hlen]), if_neg (by simp [hall])]

/-- The underlying reader always delivers what is asked (`bytes.Reader`,
regular files). -/
def FullOracle (cfg : RdCfg) : Prop := ∀ req k, req ≤ cfg.oracle req k

theorem readN_init_rest (cfg : RdCfg) (hfull : FullOracle cfg) (bytes : Bytes) (n : Nat)
    (hn0 : 0 < n) (hn : n < cfg.bufSize) (hlen : bytes.length ≤ cfg.bufSize) (b : Bytes) (rd' : Rd)
    (h : readN cfg n (Rd.init bytes) = .ok (b, rd')) : rd'.rest = [] := by
  have hr := (readN_ok_iff ..).1 h
  unfold Rd.readFull at hr
  cases n with
  | zero => omega
  | succ m =>
    simp only [Rd.readFullAux] at hr
    split at hr <;> try contradiction
    rename_i d1 rd1 h1
    split at hr <;> cases hr
    have hd1 := (read_some cfg (m + 1) _ d1 rd1 (by omega) h1).1
    have h2 : Rd.readFullAux cfg _ _ rd1 = some (_, rd') := ‹_›
    refine (readFullAux_some cfg _ _ _ _ _ (by have := List.length_pos_iff.2 hd1; omega) h2).2.2.2 ?_
    -- the first `Read` fills the buffer with the whole file
    unfold Rd.read at h1
    simp only [Rd.init] at h1
    cases hb : bytes with
    | nil => simp [hb] at h1
    | cons a t =>
      rw [hb] at h1
      have hnb : ¬ cfg.bufSize ≤ m + 1 := by omega
      simp only [hnb, if_false, Option.some.injEq, Prod.mk.injEq] at h1
      rw [← h1.2]
      have := hfull cfg.bufSize 0
      apply List.drop_of_length_le
      simp only [RdCfg.deliver]
      rw [← hb]; omega

theorem u32i_length (i : Int) : (u32i i).length = 4 := rfl

mutual
theorem size_le_marshal : ∀ (a : IOArg), a.size + 15 ≤ (marshalIOArg a).length
  | .mk name ty comp => by
    have := sizeL_le_marshal comp
    simp only [IOArg.size, marshalIOArg, marshalString, List.length_append, u32_length, u32i_length]
    omega
theorem sizeL_le_marshal : ∀ (as : List IOArg), IOArg.sizeL as ≤ (marshalIOArgs as).length
  | [] => by simp [IOArg.sizeL, marshalIOArgs]
  | a :: as => by
    have h1 := size_le_marshal a
    have h2 := sizeL_le_marshal as
    simp only [IOArg.sizeL, marshalIOArgs, List.length_append]
    omega
end

theorem setBits_bits (t : Info) (b : Int) : (t.setBits b).bits = b := by
  cases t <;> rfl

theorem normL_bits : ∀ (as : List IOArg), (IOArg.normL as).map (fun a => a.ty.bits) = as.map (fun a => a.ty.bits)
  | [] => rfl
  | (.mk n t c) :: as => by
    have ih := normL_bits as
    simp only [IOArg.normL, List.map_cons]
    rw [ih]
    congr 1
    simp [IOArg.norm, IOArg.ty, setBits_bits]

/-- A circuit the native format can carry: counts within the property's cap,
valid I/O arguments, as many gates as declared, and the parser's own
acceptance conditions (input bits fit the wires, every gate input defined
before use with indices in range, every wire assigned). -/
structure PCircuit.Valid (c : PCircuit) : Prop where
  ngates : c.numGates = c.gates.length
  ng_cap : c.numGates ≤ cap
  nw_cap : c.numWires ≤ cap
  ni_cap : c.inputs.length ≤ cap
  no_cap : c.outputs.length ≤ cap
  ins : IOArg.validL c.inputs = true
  outs : IOArg.validL c.outputs = true
  fits : ioSize c.inputs ≤ c.numWires
  wf : wfFrom c.numWires c.gates c.toCircuit.inputDefined = true
  assigned : ∀ w, w < c.numWires → c.toCircuit.defined w = true

/-- What parsing the marshalled circuit returns. -/
def PCircuit.norm (c : PCircuit) : PCircuit :=
  ⟨c.numGates, c.numWires, IOArg.normL c.inputs, IOArg.normL c.outputs, c.gates.map normG⟩

theorem parseMPCLC_marshal (cfg : RdCfg) (fx : Fix) (c : PCircuit) (hv : c.Valid)
    (hg : fx.readFullStrings = true ∨
      (FullOracle cfg ∧ (marshal c).length ≤ cfg.bufSize ∧ 20 < cfg.bufSize)) :
    parseMPCLC cfg fx (marshal c) = .ok c.norm := by
  have hc := cap_lt
  have { ngates := hng, nw_cap := hnw, .. } := hv
  let hdr : Bytes := u32 magic ++ (u32 c.numGates ++ (u32 c.numWires ++ (u32 c.inputs.length ++ u32 c.outputs.length)))
  let rest : Bytes := marshalIOArgs c.inputs ++ (marshalIOArgs c.outputs ++ marshalGates c.gates)
  have hb : marshal c = hdr ++ rest := by
    simp only [marshal, hdr, rest, List.append_assoc]
  have hlenb : (marshal c).length = 20 + ((marshalIOArgs c.inputs).length +
      ((marshalIOArgs c.outputs).length + (marshalGates c.gates).length)) := by
    rw [hb]; simp [hdr, rest, u32_length]; omega
  obtain ⟨rd0, e0, a0, _⟩ := readN_prefix cfg 20 (Rd.init (marshal c)) hdr rest
    (by rw [Rd.all_init, hb]) rfl
  have g0 : Good fx rd0 :=
    hg.imp_right fun ⟨hf, hl, hbs⟩ => readN_init_rest cfg hf _ 20 (by omega) hbs hl _ _ e0
  have hI := sizeL_le_marshal c.inputs
  have hO := sizeL_le_marshal c.outputs
  obtain ⟨rd1, e1, a1, g1⟩ := parseIOArgs_rt cfg fx c.inputs ((marshal c).length + 1) rd0 _ hv.ins (by omega) a0 g0
  obtain ⟨rd2, e2, a2, g2⟩ := parseIOArgs_rt cfg fx c.outputs ((marshal c).length + 1) rd1 _ hv.outs (by omega) a1 g1
  have hio : ioSize (IOArg.normL c.inputs) = ioSize c.inputs := by
    simp only [ioSize, normL_bits]
  obtain ⟨seen0, e3⟩ := seenInit_of_le (nw := c.numWires) (iw := ioSize (IOArg.normL c.inputs)) (by rw [hio]; exact hv.fits)
  obtain ⟨s1, _, s3⟩ := (seenInit_out _ _).of_ok e3
  obtain ⟨seen', e4⟩ := gateLoop_rt cfg fx c.numGates c.gates ((marshal c).length + 1) 0 _ rd2 a2
    (by omega) (by omega) (by rw [s1]; omega) (by rw [s1, s3, hio]; exact hv.wf)
  have hall := (allSeen_tracks e3 ((gateLoop_out ..).of_ok e4)).2
    (fun w hw => by rw [definedAfter_normG, hio]; exact hv.assigned w hw)
  exact parseMPCLC_eq cfg fx _ hdr rd0 rd1 rd2 magic _ _ _ _ _ _ _ seen' _ hv.ng_cap hv.nw_cap hv.ni_cap hv.no_cap
    rfl e0 e1 e2 e3 e4 (by simp [hng]) hall

mutual
theorem marshalIOArg_norm : ∀ (a : IOArg), marshalIOArg a.norm = marshalIOArg a
  | .mk name ty comp => by
    simp only [IOArg.norm, marshalIOArg, typeString_norm_setBits, setBits_bits, normL_length,
      marshalIOArgs_normL comp]
theorem marshalIOArgs_normL : ∀ (as : List IOArg), marshalIOArgs (IOArg.normL as) = marshalIOArgs as
  | [] => rfl
  | a :: as => by
    simp only [IOArg.normL, marshalIOArgs, marshalIOArg_norm a, marshalIOArgs_normL as]
end

theorem marshalGate_normG (g : Gate) : marshalGate (normG g) = marshalGate g := by
  obtain ⟨op, a, b, c⟩ := g
  cases op <;> rfl

theorem marshalGates_normG : ∀ (gs : List Gate), marshalGates (gs.map normG) = marshalGates gs
  | [] => rfl
  | g :: gs => by simp only [List.map_cons, marshalGates, marshalGate_normG, marshalGates_normG gs]

theorem marshal_norm (c : PCircuit) : marshal c.norm = marshal c := by
  simp only [PCircuit.norm, marshal, normL_length, marshalIOArgs_normL, marshalGates_normG]

theorem compute_norm (c : PCircuit) (x : List Bool) :
    c.norm.toCircuit.compute x = c.toCircuit.compute x :=
  compute_congr (c := c) (c' := c.norm) rfl (normL_bits _) (normL_bits _) rfl x

end Fmt
end Mpc
