/-
Statements: the code `lowerS` / `lowerB` / `lowerFor` (and, through them,
`lowerE` / `lowerCall` / ..) emit (Model/MpclLower.lean) computes what the
reference interpreter computes (`lower_all_sound`), by simultaneous induction on
the fuel over all mutually recursive lowering functions.
-/
import MpcVerif.Proofs.MpclSsaCall

namespace Mpc.Mpcl.Ssa
open Mpc.Mpcl

theorem zeroArg_val (t : Ty) (st : Nat → Nat) : ∃ b, argVal st (zeroArg t) = (0, b) := by
  cases t with
  | bool => exact ⟨1, by simp [zeroArg, argVal_pat]⟩
  | int w => exact ⟨max w 32, by simp [zeroArg, argVal_const]⟩
  | uint w => exact ⟨max w 32, by simp [zeroArg, argVal_const]⟩
  | arr n e => exact ⟨(Ty.arr n e).bits, by simp [zeroArg, argVal_pat]⟩
  | struct fs => exact ⟨(Ty.struct fs).bits, by simp [zeroArg, argVal_pat]⟩

theorem post_basic {σ : Nat → Nat} {nm' : NEnv} {code : List SInstr} {n1 : Nat} {o : Option Outcome}
    (hex : o = some (.normal (NEnv.den σ nm'))) (hfit : Fits σ nm') :
    ∃ x, o = some x ∧ OutRel σ ⟨some nm', .fall, code, n1⟩ x :=
  ⟨_, hex, rfl, nm', rfl, hfit, rfl⟩

theorem declare_post {P : Prog} {f : Nat} {e : Expr} {nm : NEnv} {aa : SArg} {t : Ty} {ce : List SInstr} {n1 n2 : Nat}
    {x : String} {exec : Env → Option Outcome} (he : EPost P f e nm aa t ce)
    (hex : ∀ env a, evalE P f e env = some (t.decode a) → exec env = some (.normal (env.declare x (t.decode a)))) :
    LPost nm ⟨some (nm.declare x (.val n1 t)), .fall, ce ++ [movI aa n1 t.bits], n2⟩ exec := by
  intro σ hfit hsat
  obtain ⟨h1, h2⟩ := Sat.append.1 hsat
  obtain ⟨v, he, hv⟩ := he σ hfit h1
  obtain ⟨a, wa, harg, haw, rfl⟩ := hv.lt
  have hs := mov_sat h2 harg haw
  exact post_basic (by rw [hex _ a he, NEnv.declare_val hs]) (hfit.declare_val hs haw)

/-- `tl`: what becomes of the environment between the two (the scope of a loop body is popped); `hnorm`, `hret`: the
interpreter's clause.  When `r1` returned, nothing is asked of `r2`: its equations hold in `σ` all the same, and the
return tree does not look at them. -/
theorem LPost.seq {r1 r2 : LRes} {nm n0 nm1 : NEnv} {exec1 exec2 exec : Env → Option Outcome} {tl : Env → Env}
    (h1 : LPost nm r1 exec1) (hrn : r1.nms = some n0) (hnm : ∀ σ, Fits σ n0 → Fits σ nm1 ∧ tl (NEnv.den σ n0) = NEnv.den σ nm1)
    (h2 : LPost nm1 r2 exec2)
    (hnorm : ∀ env env1, exec1 env = some (.normal env1) → exec env = exec2 (tl env1))
    (hret : ∀ env vals, exec1 env = some (.returned vals) → exec env = some (.returned vals)) :
    LPost nm ⟨r2.nms, r1.tree.seq r2.tree, r1.code ++ r2.code, r2.next⟩ exec := by
  intro σ hfit hsat
  obtain ⟨hs1, hs2⟩ := Sat.append.1 hsat
  obtain ⟨o1, hex1, ho1⟩ := h1 σ hfit hs1
  cases o1 with
  | normal env1 =>
    obtain ⟨hev1, n', hn', hf1, rfl⟩ := ho1
    cases hrn.symm.trans hn'
    obtain ⟨hf2, htl⟩ := hnm σ hf1
    obtain ⟨o2, hex2, ho2⟩ := h2 σ hf2 hs2
    refine ⟨o2, (hnorm _ _ hex1).trans (htl ▸ hex2), ?_⟩
    cases o2 with
    | normal env2 => exact ⟨by simp only [RTree.eval_seq, hev1, ho2.1], ho2.2⟩
    | returned vals =>
      obtain ⟨lv, hev2, hrv⟩ := ho2
      exact ⟨lv, by simp only [RTree.eval_seq, hev1, hev2], hrv⟩
  | returned vals =>
    obtain ⟨lv, hev1, hrv⟩ := ho1
    exact ⟨_, hret _ vals hex1, lv, by simp only [RTree.eval_seq, hev1], hrv⟩

theorem LPost.of_exec {nm : NEnv} {r : LRes} {exec exec' : Env → Option Outcome} (h : LPost nm r exec)
    (he : ∀ env σ o, exec env = some o → OutRel σ r o → exec' env = some o) : LPost nm r exec' := by
  intro σ hfit hsat
  obtain ⟨o, hex, ho⟩ := h σ hfit hsat
  exact ⟨o, he _ σ o hex ho, ho⟩

theorem OutRel.returned {σ : Nat → Nat} {r : LRes} {o : Outcome} (h : OutRel σ r o) (hn : r.nms = none) :
    ∃ vals, o = .returned vals := by
  cases o with
  | normal env' =>
    obtain ⟨_, n', hn', _⟩ := h
    rw [hn] at hn'; cases hn'
  | returned vals => exact ⟨vals, rfl⟩

theorem OutRel.branch {σ : Nat → Nat} {r : LRes} {o : Outcome} {nms' : Option NEnv} {tree : RTree}
    {code : List SInstr} {next : Nat} (ho : OutRel σ r o) (hev : tree.eval σ = r.tree.eval σ)
    (hj : ∀ n, popN r.nms = some n → Fits σ n → ∃ n', nms' = some n' ∧ Fits σ n' ∧ NEnv.den σ n' = NEnv.den σ n) :
    OutRel σ ⟨nms', tree, code, next⟩ o.pop := by
  cases o with
  | normal env0 =>
    obtain ⟨hev0, n0, hrn, hf0, rfl⟩ := ho
    obtain ⟨n', e, hf', hd⟩ := hj n0.tail (by simp [popN, hrn]) hf0.tail
    exact ⟨hev.trans hev0, n', e, hf', by rw [hd, NEnv.tail_den]⟩
  | returned vals =>
    obtain ⟨lv, hev0, hrv⟩ := ho
    exact ⟨lv, hev.trans hev0, hrv⟩

theorem ite_post {P : Prog} {f : Nat} {c : Expr} {th el : List Stmt} {nm : NEnv} {cid cw n3 n4 : Nat} {cc cm : List SInstr}
    {rt rf : LRes} {nms' : Option NEnv} (hc : EPost P f c nm (.var cid cw) .bool cc)
    (ht : LPost ([] :: nm) rt (execB P f th)) (hf : LPost ([] :: nm) rf (execB P f el))
    (hj : joinN cid (popN rt.nms) (popN rf.nms) n3 = some (nms', cm, n4)) :
    LPost nm ⟨nms', .br cid rt.tree rf.tree, cc ++ rt.code ++ rf.code ++ cm, n4⟩ (execS P (f + 1) (.ifte c th el)) := by
  intro σ hfit hsat
  obtain ⟨h123, h4⟩ := Sat.append.1 hsat
  obtain ⟨h12, h3⟩ := Sat.append.1 h123
  obtain ⟨h1, h2⟩ := Sat.append.1 h12
  obtain ⟨vc, he, hvc⟩ := hc σ hfit h1
  obtain ⟨a, harg, _, rfl⟩ := hvc.nonConst (by simp [SArg.isConst])
  obtain rfl : σ cid = a := congrArg Prod.fst harg
  have hdec : Ty.decode .bool (σ cid) = .bool (decide (σ cid % 2 = 1)) := rfl
  cases hb : decide (σ cid % 2 = 1) with
  | true =>
    obtain ⟨o, hex, ho⟩ := ht σ (.cons (.nil _) hfit) h2
    replace hex : execB P f th ([] :: NEnv.den σ nm) = some o := hex
    refine ⟨o.pop, ?_, ho.branch (RTree.eval_br _ hb) (joinN_sound hj h4 _ hb)⟩
    simp only [execS, he, hdec, hb, hex, Option.map_some]
  | false =>
    obtain ⟨o, hex, ho⟩ := hf σ (.cons (.nil _) hfit) h3
    replace hex : execB P f el ([] :: NEnv.den σ nm) = some o := hex
    refine ⟨o.pop, ?_, ho.branch (RTree.eval_br _ hb) (joinN_sound hj h4 _ hb)⟩
    simp only [execS, he, hdec, hb, hex, Option.map_some]

theorem LPost.loopVar {nm : NEnv} {r : LRes} {exec : Env → Option Outcome} (i : String) {cur : Int}
    (hrange : 0 ≤ cur ∧ cur < 2 ^ 31) (h : LPost ([(i, .konst cur.toNat)] :: nm) r exec) :
    LPost nm r fun env => exec ([(i, loopVal cur)] :: env) := fun σ hfit hsat => by
  have hn31 : cur.toNat < 2 ^ 31 := by omega
  have e := ofInt_natCast (w := 32) (n := cur.toNat) (by omega)
  rw [Int.toNat_of_nonneg hrange.1] at e
  have hden : NEnv.den σ ([(i, .konst cur.toNat)] :: nm) = [(i, loopVal cur)] :: NEnv.den σ nm := by
    simp [NEnv.den_cons, NScope.den_cons, NScope.den_nil, Bind.den_konst, loopVal, e]
  simpa only [hden] using h σ (.cons (.cons hn31 (.nil _)) hfit) hsat

section
variable {P : Prog} {n : Nat} (ih : ∀ f, f < n → SoundAt P f)
include ih

theorem expr_sound {e : Expr} {nm : NEnv} {next : Nat} {aa : SArg} {t : Ty} {code : List SInstr} {next' : Nat} :
    lowerE P n nm e next = some (aa, t, code, next') → EPost P n e nm aa t code := by
  fun_cases lowerE P n nm e next <;> intro h <;> cases h <;> replace ih := ih _ (Nat.lt_succ_self _)
  · exact lit_bool_case _
  · exact lit_num_case rfl (by assumption)
  · exact lit_num_case rfl (by assumption)
  · exact var_val_case (by assumption)
  · exact var_konst_case (by assumption)
  · rename_i hte _ _ _ _
    obtain rfl := tyEq_eq (by simpa using hte)
    exact bin_case (ih.expr (by assumption)) (ih.expr (by assumption)) (by assumption) (by assumption)
  · exact shift_case (ih.expr (by assumption)) (by assumption) _ (by assumption)
  · exact not_case (ih.expr (by assumption)) (by assumption)
  · exact neg_case (ih.expr (by assumption)) (by assumption) (by assumption)
  · exact cast_const_case (ih.expr (by assumption)) (by assumption) (by assumption) (by assumption) (by assumption)
  · exact cast_case (ih.expr (by assumption)) (by assumption) (by assumption) (by assumption) (by assumption)
  · exact idx_const_case (ih.expr (by assumption)) (by assumption) (by assumption) (by assumption)
  · exact idx_dyn_case (ih.expr (by assumption)) (ih.expr (by assumption)) (by assumption) (by assumption)
      (by assumption)
  · exact fld_case (ih.expr (by assumption)) (by assumption) (by assumption)
  · exact call_case (ih.call (by assumption))

theorem stmt_sound {s : Stmt} {nm : NEnv} {next : Nat} {r : LRes} :
    lowerS P n nm next s = some r → LPost nm r (execS P n s) := by
  fun_cases lowerS P n nm next s <;> intro h <;> (try cases h) <;> replace ih := ih _ (Nat.lt_succ_self _)
  · -- `var x t`
    rename_i x t
    intro σ hfit hsat
    obtain ⟨b, hb⟩ := zeroArg_val t σ
    have hs := mov_sat hsat hb (Nat.two_pow_pos _)
    exact post_basic (by rw [NEnv.declare_val hs]; simp [execS, zero_decode t])
      (hfit.declare_val hs (Nat.two_pow_pos _))
  · -- `var x t = e`
    rename_i x t e aa te ce n1 hte hl
    obtain rfl := tyEq_eq hte
    exact declare_post (ih.expr hl) fun env a he => by simp [execS, he, hasTy_decode]
  · -- `x := e`
    rename_i x e aa te ce n1 hnc hl
    exact declare_post (ih.expr hl) fun env a he => by simp [execS, he]
  · -- `x, y, .. := g(..)`
    rename_i x y xs g args rs cc n1 nm' cd n2 hd hc
    intro σ hfit hsat
    obtain ⟨h1, h2⟩ := Sat.append.1 hsat
    obtain ⟨v, hev, hpk, hbd⟩ := ih.call hc σ hfit h1
    obtain ⟨hlen, hfit2, hden⟩ := defineAllVals_sound hd hfit hbd h2
    have hne : rs.length ≠ 1 := by rw [← hlen]; simp
    cases hpk.symm.trans (packResults_many _ _ (resVals_length σ rs) hne)
    exact post_basic (by simp [execS, hev, hlen, resVals_length, hden]) hfit2
  · -- `lv = e`
    rename_i lv e aa te ce n1 nm' ca n2 ha hl
    intro σ hfit hsat
    obtain ⟨h1, h2⟩ := Sat.append.1 hsat
    obtain ⟨v, he, hv⟩ := ih.expr hl σ hfit h1
    obtain ⟨a, wa, harg, haw, rfl⟩ := hv.lt
    obtain ⟨hfit2, hat⟩ := assignVal_sound P ha hfit harg haw h2
    -- the index expressions of the path are evaluated with the fuel of `e`, which is positive
    obtain ⟨f', rfl⟩ := evalE_pos he
    exact post_basic (by simp only [execS, he, hat f', Option.map_some]) hfit2
  · -- `lv1, lv2, .. = g(..)`
    rename_i l1 l2 lvs g args rs cc n1 nm' cd n2 hd hc
    intro σ hfit hsat
    obtain ⟨h1, h2⟩ := Sat.append.1 hsat
    obtain ⟨v, hev, hpk, hbd⟩ := ih.call hc σ hfit h1
    obtain ⟨hlen, hfit2, hall⟩ := assignAllVals_sound P hd hfit hbd h2
    have hne : rs.length ≠ 1 := by rw [← hlen]; simp
    cases hpk.symm.trans (packResults_many _ _ (resVals_length σ rs) hne)
    obtain ⟨f', rfl⟩ := evalE_pos hev
    exact post_basic (by simp only [execS, hev, hall f', Option.map_some]) hfit2
  · -- `if c { th } else { el }`
    exact ite_post (ih.expr (by assumption)) (ih.block (by assumption)) (ih.block (by assumption)) (by assumption)
  · -- `for`
    exact (ih.loop h).of_exec fun env σ o hex _ => by simp only [execS]; exact hex
  · -- `return g(..)`
    rename_i es g args hrc rs cc n1 m hc
    obtain rfl := retCallOf_some hrc
    intro σ hfit hsat
    simp only [m] at hsat ⊢
    obtain ⟨h1, h2⟩ := Sat.append.1 hsat
    obtain ⟨v, hev, hpk, hbd⟩ := ih.call hc σ hfit h1
    have hrv := retMovs_sound rs n1 hbd h2
    have hbd' : ∀ p ∈ (retMovs rs n1).1.map (fun p => (σ p.1, p.2)), p.1 < 2 ^ p.2.bits := by
      rw [hrv]; exact List.forall_mem_map.2 hbd
    refine ⟨.returned [v], by simp [execS, hev], _, rfl, hbd', ?_⟩
    rw [hrv, leaf_resVals, List.length_map, hpk]
    exact packResults_idem (resVals_length σ rs) hpk
  · -- `return e1, .., en`
    rename_i es hrc rs code n1 hl
    intro σ hfit hsat
    obtain ⟨vals, hm, rfl, hbd⟩ := ih.ret hl σ hfit hsat
    exact ⟨.returned (resVals σ rs), by simp [execS, hm], _, rfl, List.forall_mem_map.2 hbd, by rw [leaf_resVals]⟩

theorem block_sound {ss : List Stmt} {nm : NEnv} {next : Nat} {r : LRes} :
    lowerB P n nm next ss = some r → LPost nm r (execB P n ss) := by
  fun_cases lowerB P n nm next ss <;> intro h <;> cases h <;> replace ih := ih _ (Nat.lt_succ_self _)
  · exact fun σ hfit _ => post_basic (by simp [execB]) hfit
  · rename_i s ss r1 nm1 hrn r2 hb hs
    exact (ih.stmt hs).seq (tl := id) hrn (fun _ h => ⟨h, rfl⟩) (ih.block hb) (fun env env1 h => by simp only [execB, h]; rfl)
      (fun env vals h => by simp only [execB, h])
  · rename_i s hrn hs
    refine (ih.stmt hs).of_exec fun env σ o hex horel => ?_
    obtain ⟨vals, rfl⟩ := horel.returned hrn
    simp only [execB, hex]

theorem for_sound {i : String} {cur : Int} {c : Cmp} {hi stp : Int}
    {body : List Stmt} {nm : NEnv} {next : Nat} {r : LRes} :
    lowerFor P n i cur c hi stp body nm next = some r → LPost nm r (execFor P n i cur c hi stp body) := by
  fun_cases lowerFor P n i cur c hi stp body nm next <;> intro h <;> cases h <;> replace ih := ih _ (Nat.lt_succ_self _)
  · rename_i f r1 nm1 hrn r2 hrange hholds hl2 hb
    obtain ⟨n0, hn0, rfl⟩ := popN_some hrn
    exact ((ih.block hb).loopVar i hrange).seq (tl := List.tail) hn0 (fun σ h => ⟨h.tail, NEnv.tail_den σ _⟩) (ih.loop hl2)
      (fun env env1 h => by simp only [execFor, hholds, if_true, h]) (fun env vals h => by simp only [execFor, hholds, if_true, h])
  · rename_i f r1 hrn hrange hholds hb
    obtain ⟨nms1, t1, c1, x1⟩ := r1
    obtain rfl : nms1 = none := by cases nms1 <;> simp_all [popN]
    refine ((ih.block hb).loopVar i hrange).of_exec fun env σ o hex horel => ?_
    obtain ⟨vals, rfl⟩ := horel.returned rfl
    simp only [execFor, hholds, if_true, hex]
  · rename_i hholds
    exact fun σ hfit _ => post_basic (by simp [execFor, hholds]) hfit

end

/-- The front end of C03, for expressions, argument lists, calls, result lists, statements, blocks and unrolled loops
at once: in every store that satisfies the equations of the emitted code and in which the incoming bindings fit, the
interpreter - run with the fuel the lowering was given - is defined and its result is read off the store. -/
theorem lower_all_sound (P : Prog) (n : Nat) : SoundAt P n := by
  induction n using Nat.strongRecOn with
  | ind n ih =>
    exact ⟨expr_sound ih, args_sound ih, call_sound ih, ret_sound ih, stmt_sound ih, block_sound ih, for_sound ih⟩

end Mpc.Mpcl.Ssa
