/-
Expressions: `Post`, the one shape of post-condition in the correctness proof of `Ssa.lower`
(Model/MpclLower.lean), and its instance `EPost` for `lowerE`, with one `*_case` lemma per scalar
expression form (`.idx` / `.fld` in MpclSsaAgg, `.call` in MpclSsaCall), each over the agreement of
its instruction with the interpreter on values (`bin_sound`, `shift_sound`, `cast_sound`, ..).
-/
import MpcVerif.Proofs.MpclSsaBase
import MpcVerif.Proofs.ListLemmas
namespace Mpc.Mpcl.Ssa
open Mpc.Mpcl

theorem and_lt {a b w : Nat} (ha : a < 2 ^ w) : a &&& b < 2 ^ w := Nat.lt_of_le_of_lt Nat.and_le_left ha

theorem ite01_lt (c : Prop) [Decidable c] : (if c then 1 else 0) < 2 ^ 1 := by split <;> decide
theorem ite10_lt (c : Prop) [Decidable c] : (if c then 0 else 1) < 2 ^ 1 := by split <;> decide
theorem decode_ite01 (c : Prop) [Decidable c] : Ty.decode .bool (if c then 1 else 0) = .bool (decide c) := by
  split <;> simp_all [Ty.decode]
theorem decode_ite10 (c : Prop) [Decidable c] : Ty.decode .bool (if c then 0 else 1) = .bool (!decide c) := by
  split <;> simp_all [Ty.decode]

theorem binE_some (op : BinOp) (va vb : Val) (hop : op ≠ .land) (hop' : op ≠ .lor) :
    binE op va (some vb) = binop op va vb := by
  cases op <;> simp_all [binE]

theorem binE_num (op : BinOp) (s : Bool) (w a b : Nat) (hop : op ≠ .land) (hop' : op ≠ .lor) :
    binE op (.num s w a) (some (.num s w b)) = binop op (.num s w a) (.num s w b) :=
  binE_some op _ _ hop hop'

theorem bin_sound_num {op : BinOp} {t : Ty} {s : Bool} {w a b wa wb : Nat} (hnt : numTy t = some (s, w))
    (ha : a < 2 ^ w) (hb : b < 2 ^ w) (hmax : max wa wb = w) {sop : SOp} {tr : Ty} {wr r : Nat}
    (h : lowerBin op t = some (sop, tr)) (hwr : sbits tr = some wr)
    (hev : evalOp sop [(a, wa), (b, wb)] wr = some r) :
    r < 2 ^ wr ∧ arith op s w a b = some (tr.decode r) := by
  have hpos := Nat.two_pow_pos w
  cases t <;> obtain ⟨⟩ := hnt <;> cases op <;> obtain ⟨⟩ := h <;> obtain ⟨⟩ := hwr <;>
    simp only [evalOp, hmax, Option.some.injEq] at hev
  case int.add | uint.add => subst hev; exact ⟨Nat.mod_lt _ hpos, by simp [arith, wrap, Ty.decode]⟩
  case int.sub | uint.sub => subst hev; exact ⟨Nat.mod_lt _ hpos, by simp [arith, wrap, Ty.decode, Nat.mod_eq_of_lt hb]⟩
  case int.mul | uint.mul => subst hev; exact ⟨Nat.mod_lt _ hpos, by simp [arith, wrap, Ty.decode]⟩
  case uint.div =>
    split at hev
    · cases hev
    · rename_i hb0
      cases hev
      have hl : a / b < 2 ^ w := Nat.lt_of_le_of_lt (Nat.div_le_self _ _) ha
      exact ⟨Nat.mod_lt _ hpos, by simp [arith, hb0, Ty.decode, Nat.mod_eq_of_lt hl]⟩
  case uint.mod =>
    split at hev
    · cases hev
    · rename_i hb0
      cases hev
      have hl : a % b < 2 ^ w := Nat.lt_of_le_of_lt (Nat.mod_le _ _) ha
      exact ⟨Nat.mod_lt _ hpos, by simp [arith, hb0, Ty.decode, Nat.mod_eq_of_lt hl]⟩
  case int.div =>
    split at hev
    · cases hev
    · rename_i hb0
      cases hev
      have hl := ofInt_lt w ((toInt w a).tdiv (toInt w b))
      exact ⟨Nat.mod_lt _ hpos, by simp [arith, hb0, Ty.decode, Nat.mod_eq_of_lt hl]⟩
  case int.mod =>
    split at hev
    · cases hev
    · rename_i hb0
      cases hev
      exact ⟨Nat.mod_lt _ hpos, by simp [arith, hb0, Ty.decode, wrap]⟩
  case int.band | uint.band =>
    subst hev
    have hl : a &&& b < 2 ^ w := and_lt ha
    exact ⟨Nat.mod_lt _ hpos, by simp [arith, Ty.decode, Nat.mod_eq_of_lt hl]⟩
  case int.bor | uint.bor =>
    subst hev
    have hl : a ||| b < 2 ^ w := Nat.or_lt_two_pow ha hb
    exact ⟨Nat.mod_lt _ hpos, by simp [arith, Ty.decode, Nat.mod_eq_of_lt hl]⟩
  case int.bxor | uint.bxor =>
    subst hev
    have hl : a ^^^ b < 2 ^ w := Nat.xor_lt_two_pow ha hb
    exact ⟨Nat.mod_lt _ hpos, by simp [arith, Ty.decode, Nat.mod_eq_of_lt hl]⟩
  case int.bclr | uint.bclr =>
    subst hev
    have hl : a &&& (2 ^ w - 1 - b) < 2 ^ w := and_lt ha
    exact ⟨Nat.mod_lt _ hpos, by simp [arith, Ty.decode, Nat.mod_eq_of_lt hl]⟩
  case int.eq | uint.eq => subst hev; exact ⟨ite01_lt _, by simp [arith, decode_ite01, Bool.beq_eq_decide_eq]⟩
  case int.ne | uint.ne => subst hev; exact ⟨ite10_lt _, by simp [arith, decode_ite10, bne, Bool.beq_eq_decide_eq]⟩
  all_goals subst hev; exact ⟨ite01_lt _, by simp [arith, decode_ite01]⟩

theorem bin_sound_bool {op : BinOp} {a b wa wb : Nat} (ha : a < 2) (hb : b < 2) {sop : SOp} {tr : Ty}
    {wr r : Nat} (h : lowerBin op .bool = some (sop, tr)) (hwr : sbits tr = some wr)
    (hev : evalOp sop [(a, wa), (b, wb)] wr = some r) :
    r < 2 ^ wr ∧ binE op (Ty.decode .bool a) (some (Ty.decode .bool b)) = some (tr.decode r) := by
  have ha' : a = 0 ∨ a = 1 := by omega
  have hb' : b = 0 ∨ b = 1 := by omega
  cases op <;> cases h <;> cases hwr <;> cases hev <;>
    rcases ha' with rfl | rfl <;> rcases hb' with rfl | rfl <;> exact ⟨by decide, rfl⟩

/-- `wa`, `wb` may differ: a constant operand narrower than `t` keeps its own width (`constArg`), and the
signed instructions read the sign at `max wa wb`. -/
theorem bin_sound {op : BinOp} {t : Ty} {w a b wa wb : Nat} (hw : sbits t = some w) (ha : a < 2 ^ w) (hb : b < 2 ^ w)
    (hmax : max wa wb = w) {sop : SOp} {tr : Ty} {wr r : Nat} (h : lowerBin op t = some (sop, tr))
    (hwr : sbits tr = some wr) (hev : evalOp sop [(a, wa), (b, wb)] wr = some r) :
    r < 2 ^ wr ∧ binE op (t.decode a) (some (t.decode b)) = some (tr.decode r) := by
  cases hnt : numTy t with
  | some q =>
    obtain ⟨s, w'⟩ := q
    cases (numTy_sbits hnt).symm.trans hw
    have hop : op ≠ .land ∧ op ≠ .lor := by
      constructor <;> rintro rfl <;> cases t <;> cases hnt <;> cases h
    rw [decode_num hnt ha, decode_num hnt hb, binE_num op s w a b hop.1 hop.2, binop_num]
    exact bin_sound_num hnt ha hb hmax h hwr hev
  | none =>
    cases t <;> cases hnt <;> cases hw
    exact bin_sound_bool ha hb h hwr hev

theorem shift_sound (left s : Bool) (w a k r : Nat) (ha : a < 2 ^ w)
    (hev : evalOp (if left then .lshift else if s then .srshift else .rshift) [(a, w), (k, 0)] w = some r) :
    r < 2 ^ w ∧ shiftVal left (.num s w a) k = some (.num s w r) := by
  have hpos := Nat.two_pow_pos w
  cases left with
  | true =>
    simp only [if_true, evalOp, Option.some.injEq] at hev; subst hev
    exact ⟨Nat.mod_lt _ hpos, by simp [shiftVal, wrap]⟩
  | false =>
    cases s with
    | true =>
      simp only [Bool.false_eq_true, if_false, if_true, evalOp, Option.some.injEq, wrapI] at hev; subst hev
      exact ⟨ofInt_lt _ _, by simp [shiftVal]⟩
    | false =>
      simp only [Bool.false_eq_true, if_false, evalOp, Option.some.injEq] at hev; subst hev
      have hl : a >>> k < 2 ^ w := Nat.lt_of_le_of_lt (Nat.shiftRight_le _ _) ha
      exact ⟨Nat.mod_lt _ hpos, by simp [shiftVal, Nat.mod_eq_of_lt hl]⟩

theorem neg_sound (s : Bool) (w a wz r : Nat) (ha : a < 2 ^ w) (hev : evalOp .sub [(0, wz), (a, w)] w = some r) :
    r < 2 ^ w ∧ negVal (.num s w a) = some (.num s w r) := by
  simp only [evalOp, Option.some.injEq] at hev; subst hev
  exact ⟨Nat.mod_lt _ (Nat.two_pow_pos w), by simp [negVal, wrap, Nat.mod_eq_of_lt ha]⟩

theorem not_sound (a r : Nat) (ha : a < 2) (hev : evalOp .lnot [(a, 1)] 1 = some r) :
    r < 2 ^ 1 ∧ notVal (Ty.decode .bool a) = some (Ty.decode .bool r) := by
  simp only [evalOp, Option.some.injEq] at hev; subst hev
  have ha' : a = 0 ∨ a = 1 := by omega
  rcases ha' with rfl | rfl <;> exact ⟨by decide, rfl⟩

theorem cast_sound (s s' : Bool) (w w' a r : Nat) (ha : a < 2 ^ w) (hx : ¬ (s && !s' && decide (w < w')) = true)
    (hev : evalOp (if s && s' && decide (w < w') then .smov else .mov) [(a, w)] w' = some r) :
    r < 2 ^ w' ∧ castNum s w a s' w' = .num s' w' r := by
  have hpos : 0 < 2 ^ w' := Nat.two_pow_pos w'
  by_cases hle : w' ≤ w
  · have hn : ¬ w < w' := by omega
    simp only [hn, decide_false, Bool.and_false, Bool.false_eq_true, if_false, evalOp, Option.some.injEq] at hev
    subst hev
    exact ⟨Nat.mod_lt _ hpos, castNum_narrow s s' a hle⟩
  · have hlt : w < w' := by omega
    cases s with
    | false =>
      have hv : a < 2 ^ w' := lt_two_pow_of_le ha (by omega)
      simp only [Bool.false_and, Bool.false_eq_true, if_false, evalOp, Option.some.injEq, Nat.mod_eq_of_lt hv] at hev
      subst hev
      exact ⟨hv, castNum_zext s' a hlt⟩
    | true =>
      cases s' with
      | false => exact absurd (by simp [hlt]) hx
      | true =>
        simp only [hlt, decide_true, Bool.and_self, if_true, evalOp, wrapI, Option.some.injEq] at hev
        subst hev
        exact ⟨ofInt_lt _ _, castNum_sext true a hlt⟩

theorem cast_const (s s' : Bool) (w w' a : Nat) (ha : a < 2 ^ (if s then w - 1 else w))
    (ha' : a < 2 ^ (if s' then w' - 1 else w')) : castNum s w a s' w' = .num s' w' a := by
  have h1 : a < 2 ^ w' := lt_two_pow_of_le ha' (by split <;> omega)
  by_cases hle : w' ≤ w
  · rw [castNum_narrow s s' a hle, Nat.mod_eq_of_lt h1]
  · cases s with
    | false => exact castNum_zext s' a (Nat.not_le.1 hle)
    | true =>
      simp only [if_true] at ha
      have h2 : 2 * a < 2 ^ w := by
        cases w with
        | zero => simp at ha; subst ha; simp
        | succ n => simp at ha; rw [Nat.pow_succ]; omega
      rw [castNum_sext s' a (Nat.not_le.1 hle), toInt_small h2, ofInt_natCast h1]

def ConstOk (t : Ty) (a : Nat) : Prop := ∀ s w, numTy t = some (s, w) → a < 2 ^ (if s then w - 1 else w)

theorem litOk_lt {s : Bool} {w n : Nat} (h : litOk s w n = true) : n < 2 ^ (if s then w - 1 else w) := by
  simp only [litOk, Bool.and_eq_true, decide_eq_true_eq] at h
  exact h.1

theorem lt_two_pow_of_inRange {s : Bool} {w n : Nat} (h : n < 2 ^ (if s then w - 1 else w)) : n < 2 ^ w :=
  lt_two_pow_of_le h (by split <;> omega)

/-- The post-condition of every lowering function (`run`: the interpreter on the same syntax, with the fuel the
lowering had: it needs no more).  It speaks of any store that satisfies the equations of the code, not of a run:
`Sat` of a division says that its divisor is not zero there, which is what makes the interpreter defined. -/
def Post {α : Type} (nm : NEnv) (code : List SInstr) (run : Env → Option α) (R : (Nat → Nat) → α → Prop) : Prop :=
  ∀ σ : Nat → Nat, Fits σ nm → Sat σ code → ∃ x, run (NEnv.den σ nm) = some x ∧ R σ x

/-- `wa < t.bits` only for a constant, which keeps its own width until an instruction sizes it (`constArg`); its
value and `ConstOk` are what folding a cast of it needs (`cast_const_case`). -/
def Opnd (aa : SArg) (t : Ty) (σ : Nat → Nat) (v : Val) : Prop :=
  ∃ (wa a : Nat), argVal σ aa = (a, wa) ∧ a < 2 ^ wa ∧ wa ≤ t.bits ∧
    (wa = t.bits ∨ aa.isConst = true) ∧ (aa.isConst = true → constVal aa = a ∧ ConstOk t a) ∧ v = t.decode a

def EPost (P : Prog) (f : Nat) (e : Expr) (nm : NEnv) (aa : SArg) (t : Ty) (code : List SInstr) : Prop :=
  Post nm code (evalE P f e) (Opnd aa t)

theorem evalE_pos {P : Prog} {f : Nat} {e : Expr} {env : Env} {v : Val} (h : evalE P f e env = some v) : ∃ f', f = f' + 1 := by
  cases f with
  | zero => simp [evalE] at h
  | succ f' => exact ⟨f', rfl⟩

section
variable {σ : Nat → Nat} {t : Ty}

theorem Opnd.fresh {id r : Nat} (hst : σ id = r) (hr : r < 2 ^ t.bits) : Opnd (.var id t.bits) t σ (t.decode r) :=
  ⟨t.bits, r, by rw [argVal_var, hst], hr, Nat.le_refl _, Or.inl rfl, fun hc => (by cases hc), rfl⟩

theorem Opnd.const {s : Bool} {w n : Nat} (ht : numTy t = some (s, w)) (hlt : n < 2 ^ (if s then w - 1 else w)) :
    Opnd (constArg n s w) t σ (t.decode n) := by
  obtain ⟨b, hb1, hb2, hb3, hb4, hb5⟩ := constArg_val σ n s w (lt_two_pow_of_inRange hlt)
  exact ⟨b, n, hb1, hb2, by rw [numTy_bits ht]; exact hb3, Or.inr hb4,
    fun _ => ⟨hb5, fun s' w' hs => by rw [ht] at hs; cases hs; exact hlt⟩, rfl⟩

theorem Opnd.nonConst {aa : SArg} {v : Val} (h : Opnd aa t σ v) (hnc : ¬ aa.isConst = true) :
    ∃ a, argVal σ aa = (a, t.bits) ∧ a < 2 ^ t.bits ∧ v = t.decode a := by
  obtain ⟨wa, a, harg, hlt, _, hor, _, he⟩ := h
  obtain rfl := hor.resolve_right hnc
  exact ⟨a, harg, hlt, he⟩

theorem Opnd.lt {aa : SArg} {v : Val} (h : Opnd aa t σ v) :
    ∃ a wa, argVal σ aa = (a, wa) ∧ a < 2 ^ t.bits ∧ v = t.decode a := by
  obtain ⟨wa, a, harg, hlt, hle, _, _, he⟩ := h
  exact ⟨a, wa, harg, lt_two_pow_of_le hlt hle, he⟩

end

section
variable {P : Prog} {f : Nat} {nm : NEnv} {a : Expr} {aa1 : SArg} {ta : Ty} {ca : List SInstr} {n1 : Nat}

theorem EPost.step {e : Expr} {op : SOp} {ins : List SArg} {t : Ty} (ha : EPost P f a nm aa1 ta ca)
    (hsem : ∀ σ r va, evalE P f a (NEnv.den σ nm) = some va → Opnd aa1 ta σ va →
      evalOp op (ins.map (argVal σ)) t.bits = some r →
      r < 2 ^ t.bits ∧ evalE P (f + 1) e (NEnv.den σ nm) = some (t.decode r)) :
    EPost P (f + 1) e nm (.var n1 t.bits) t (ca ++ [⟨op, ins, some (n1, t.bits)⟩]) := by
  intro σ hfit hsat
  obtain ⟨h1, h2⟩ := Sat.append.1 hsat
  obtain ⟨va, hea, hva⟩ := ha σ hfit h1
  obtain ⟨hrl, he⟩ := hsem σ _ va hea hva (Sat.one.1 h2)
  exact ⟨_, he, Opnd.fresh rfl hrl⟩

theorem EPost.step2 {b e : Expr} {aa2 : SArg} {tb : Ty} {cb : List SInstr} {n2 : Nat} {op : SOp} {ins : List SArg}
    {t : Ty} (ha : EPost P f a nm aa1 ta ca) (hb : EPost P f b nm aa2 tb cb)
    (hsem : ∀ σ r va vb, evalE P f a (NEnv.den σ nm) = some va → Opnd aa1 ta σ va →
      evalE P f b (NEnv.den σ nm) = some vb → Opnd aa2 tb σ vb → evalOp op (ins.map (argVal σ)) t.bits = some r →
      r < 2 ^ t.bits ∧ evalE P (f + 1) e (NEnv.den σ nm) = some (t.decode r)) :
    EPost P (f + 1) e nm (.var n2 t.bits) t (ca ++ cb ++ [⟨op, ins, some (n2, t.bits)⟩]) := by
  intro σ hfit hsat
  obtain ⟨h12, h3⟩ := Sat.append.1 hsat
  obtain ⟨h1, h2⟩ := Sat.append.1 h12
  obtain ⟨va, hea, hva⟩ := ha σ hfit h1
  obtain ⟨vb, heb, hvb⟩ := hb σ hfit h2
  obtain ⟨hrl, he⟩ := hsem σ _ va vb hea hva heb hvb (Sat.one.1 h3)
  exact ⟨_, he, Opnd.fresh rfl hrl⟩

end

theorem EPost.nil {P : Prog} {f : Nat} {e : Expr} {nm : NEnv} {aa : SArg} {t : Ty}
    (h : ∀ σ, Fits σ nm → ∃ v, evalE P f e (NEnv.den σ nm) = some v ∧ Opnd aa t σ v) : EPost P f e nm aa t [] :=
  fun σ hfit _ => h σ hfit

section
variable {P : Prog} {f : Nat} {nm : NEnv}

theorem lit_bool_case (n : Nat) : EPost P (f + 1) (.lit .bool n) nm (.pat (if n = 0 then 0 else 1) 1) .bool [] :=
  EPost.nil fun σ _ => by
    refine ⟨Ty.decode .bool (if n = 0 then 0 else 1), ?_, 1, if n = 0 then 0 else 1, ?_, ?_, Nat.le_refl _, Or.inl rfl,
      fun _ => ⟨rfl, fun s w hs => by cases hs⟩, rfl⟩
    · by_cases hn : n = 0 <;> simp [evalE, litVal, Ty.decode, hn]
    · by_cases hn : n = 0 <;> simp [argVal_pat, hn]
    · split <;> decide

theorem lit_num_case {s : Bool} {w n : Nat} {t : Ty} (ht : numTy t = some (s, w)) (hok : litOk s w n = true) :
    EPost P (f + 1) (.lit t n) nm (constArg n s w) t [] :=
  EPost.nil fun σ _ =>
    ⟨_, by cases t <;> cases ht <;> simp [evalE, litVal, Ty.decode, wrap], Opnd.const ht (litOk_lt hok)⟩

theorem var_val_case {x : String} {id : Nat} {t : Ty} (hf : nm.find x = some (.val id t)) :
    EPost P (f + 1) (.var x) nm (.var id t.bits) t [] :=
  EPost.nil fun _ hfit => ⟨_, evalE_var_den P f hf, Opnd.fresh rfl (hfit.find hf)⟩

theorem var_konst_case {x : String} {n : Nat} (hf : nm.find x = some (.konst n)) :
    EPost P (f + 1) (.var x) nm (constArg n true 32) (.int 32) [] :=
  EPost.nil fun σ hfit => by
    have hn : n < 2 ^ 31 := hfit.find hf
    have hn32 : n < 2 ^ 32 := by omega
    exact ⟨_, by simp [evalE_var_den P f hf, Bind.den_konst, Ty.decode, Nat.mod_eq_of_lt hn32],
      Opnd.const rfl (by simpa using hn)⟩

variable {a : Expr} {aa1 : SArg} {ta : Ty} {ca : List SInstr} {n1 : Nat} (ha : EPost P f a nm aa1 ta ca)
include ha

theorem bin_case {b : Expr} {ba : SArg} {cb : List SInstr} {n2 : Nat} {op : BinOp} {sop : SOp} {tr : Ty}
    (hb : EPost P f b nm ba ta cb) (hnc : ¬ (aa1.isConst && ba.isConst) = true)
    (hlo : lowerBin op ta = some (sop, tr)) :
    EPost P (f + 1) (.bin op a b) nm (.var n2 tr.bits) tr (ca ++ cb ++ [⟨sop, [aa1, ba], some (n2, tr.bits)⟩]) := by
  obtain ⟨⟨w, hw⟩, ⟨wr, hwr⟩⟩ := lowerBin_sbits hlo
  refine ha.step2 hb fun st r va vb he1 hv1 he2 hv2 hev => ?_
  obtain ⟨wa1, a1, harg1, hlt1, hle1, hor1, _, rfl⟩ := hv1
  obtain ⟨wa2, a2, harg2, hlt2, hle2, hor2, _, rfl⟩ := hv2
  rw [sbits_bits hw] at hle1 hle2 hor1 hor2
  rw [sbits_bits hwr] at hev ⊢
  simp only [List.map_cons, List.map_nil, harg1, harg2] at hev
  have hmax : max wa1 wa2 = w := by
    rcases hor1 with e | e
    · omega
    · rcases hor2 with e2 | e2
      · omega
      · simp [e, e2] at hnc
  obtain ⟨hrl, hbin⟩ := bin_sound hw (lt_two_pow_of_le hlt1 hle1)
    (lt_two_pow_of_le hlt2 hle2) hmax hlo hwr hev
  refine ⟨hrl, ?_⟩
  simp only [evalE, he1, he2, Option.bind_some]
  exact hbin

variable (hnc : ¬ aa1.isConst = true)
include hnc

theorem shift_case {left s : Bool} {w : Nat} (k : Nat) (hnt : numTy ta = some (s, w)) :
    EPost P (f + 1) (.shift left a k) nm (.var n1 w) ta (ca ++ [⟨if left then .lshift else if s then .srshift else .rshift, [aa1, .k k], some (n1, w)⟩]) := by
  obtain rfl := numTy_bits hnt
  refine ha.step fun st r va he hv hev => ?_
  obtain ⟨a1, harg, hlt, rfl⟩ := hv.nonConst hnc
  simp only [List.map_cons, List.map_nil, harg] at hev
  obtain ⟨hrl, hsh⟩ := shift_sound left s _ a1 k r hlt hev
  refine ⟨hrl, ?_⟩
  simp only [evalE, he, Option.bind_some]
  rw [decode_num hnt hlt, decode_num hnt hrl]
  exact hsh

omit ha hnc in
theorem not_case (ha : EPost P f a nm aa1 .bool ca) (hnc : ¬ aa1.isConst = true) :
    EPost P (f + 1) (.not a) nm (.var n1 1) .bool (ca ++ [⟨.lnot, [aa1], some (n1, 1)⟩]) := by
  refine ha.step (t := .bool) fun st r va he hv hev => ?_
  obtain ⟨a1, harg, hlt, rfl⟩ := hv.nonConst hnc
  simp only [List.map_cons, List.map_nil, harg] at hev
  obtain ⟨hrl, hnv⟩ := not_sound a1 r (by simpa [Ty.bits] using hlt) hev
  refine ⟨hrl, ?_⟩
  simp only [evalE, he, Option.bind_some]
  exact hnv

theorem neg_case {s : Bool} {w : Nat} (hnt : numTy ta = some (s, w)) :
    EPost P (f + 1) (.neg a) nm (.var n1 w) ta (ca ++ [⟨.sub, [.const 0 32 32 true 32, aa1], some (n1, w)⟩]) := by
  obtain rfl := numTy_bits hnt
  refine ha.step fun st r va he hv hev => ?_
  obtain ⟨a1, harg, hlt, rfl⟩ := hv.nonConst hnc
  have hz : argVal st (.const 0 32 32 true 32) = (0, 32) := argVal_const st 0 32 32 true
  simp only [List.map_cons, List.map_nil, harg, hz] at hev
  obtain ⟨hrl, hng⟩ := neg_sound s _ a1 32 r hlt hev
  refine ⟨hrl, ?_⟩
  simp only [evalE, he, Option.bind_some]
  rw [decode_num hnt hlt, decode_num hnt hrl]
  exact hng

omit ha hnc in
theorem castVal_num {t0 : Ty} {s s' : Bool} {w w' x v : Nat} (hnt0 : numTy t0 = some (s', w'))
    (hx : castNum s w x s' w' = .num s' w' v) : castVal t0 (.num s w x) = some (.num s' w' v) := by
  cases t0 <;> cases hnt0 <;> simp [castVal, hx]

theorem cast_case {t0 : Ty} {s s' : Bool} {w w' : Nat} (hnt : numTy ta = some (s, w)) (hnt0 : numTy t0 = some (s', w'))
    (hx : ¬ (s && !s' && decide (w < w')) = true) :
    EPost P (f + 1) (.cast t0 a) nm (.var n1 w') t0 (ca ++ [⟨if s && s' && decide (w < w') then .smov else .mov, [aa1], some (n1, w')⟩]) := by
  obtain rfl := numTy_bits hnt
  obtain rfl := numTy_bits hnt0
  refine ha.step fun st r va he hv hev => ?_
  obtain ⟨a1, harg, hlt, rfl⟩ := hv.nonConst hnc
  simp only [List.map_cons, List.map_nil, harg] at hev
  obtain ⟨hrl, hcast⟩ := cast_sound s s' _ _ a1 r hlt hx hev
  refine ⟨hrl, ?_⟩
  simp only [evalE, he, Option.bind_some]
  rw [decode_num hnt hlt, decode_num hnt0 hrl]
  exact castVal_num hnt0 hcast

omit hnc in
theorem cast_const_case {t0 : Ty} {s s' : Bool} {w w' : Nat} (hnt : numTy ta = some (s, w))
    (hnt0 : numTy t0 = some (s', w')) (hisc : aa1.isConst = true) (hok : litOk s' w' (constVal aa1) = true) :
    EPost P (f + 1) (.cast t0 a) nm (constArg (constVal aa1) s' w') t0 ca := by
  intro st hfit hsat
  obtain ⟨va, he1, wa1, a1, harg1, hlt1, hle1, hor1, hc1, rfl⟩ := ha st hfit hsat
  obtain ⟨hcv1, hcok⟩ := hc1 hisc
  rw [hcv1] at hok ⊢
  have hlt := litOk_lt hok
  rw [numTy_bits hnt] at hle1
  refine ⟨_, ?_, Opnd.const hnt0 hlt⟩
  simp only [evalE, he1, Option.bind_some]
  rw [decode_num hnt (lt_two_pow_of_le hlt1 hle1), decode_num hnt0 (lt_two_pow_of_inRange hlt)]
  exact castVal_num hnt0 (cast_const s s' w w' a1 (hcok s w hnt) hlt)

end

end Mpc.Mpcl.Ssa
