/-
C09: `Graph.constPropagate` (model of `Compiler.ConstPropagate`) preserves the
input-to-output function of every well-formed builder graph.
-/
import MpcVerif.Proofs.PassOps

namespace Mpc

def vsound (v : WVal) (b : Bool) : Prop := (v = .zero → b = false) ∧ (v = .one → b = true)

instance (v : WVal) (b : Bool) : Decidable (vsound v b) := by unfold vsound; infer_instance

theorem vsound_unknown (b : Bool) : vsound .unknown b := ⟨nofun, nofun⟩

namespace Graph

theorem cpRule_unknown (op : Op) : cpRule op .unknown .unknown = .none := by
  cases op <;> rfl

def actSound (op : Op) (sa sb : Bool) : CPAction → Prop
  | .none => True
  | .set v => vsound v (op.eval sa sb)
  | .alias toB => op ≠ .inv ∧ op.eval sa sb = (if toB then sb else sa)

instance (op : Op) (sa sb : Bool) (act : CPAction) : Decidable (actSound op sa sb act) := by
  cases act <;> unfold actSound <;> infer_instance

/-- The rule table of `ConstPropagate` is sound: a finite table, checked entry by entry. -/
theorem cpRule_table : ∀ op ∈ [Op.xor, .xnor, .and, .or, .inv], ∀ va ∈ [WVal.unknown, .zero, .one],
    ∀ vb ∈ [WVal.unknown, .zero, .one], ∀ sa ∈ [false, true], ∀ sb ∈ [false, true],
    vsound va sa → vsound vb sb → actSound op sa sb (cpRule op va vb) := by
  decide +kernel

theorem cpRule_sound (op : Op) (va vb : WVal) (sa sb : Bool) (ha : vsound va sa) (hb : vsound vb sb) :
    actSound op sa sb (cpRule op va vb) :=
  cpRule_table op (by cases op <;> decide) va (by cases va <;> decide) vb (by cases vb <;> decide)
    sa (by cases sa <;> decide) sb (by cases sb <;> decide) ha hb

/-- Static facts about the pass input `G0` and one of its solutions `s`; `K` bounds the prefix of gates that builds the constants. -/
structure CPCtx (G0 : Graph) (s : Store Bool) (K : Nat) : Prop where
  nin1    : 1 ≤ G0.nIn
  allLive : ∀ i, i < G0.gates.size → (G0.gate i).dead = false
  zprod   : ∃ iz, iz < K ∧ iz < G0.gates.size ∧ (G0.gate iz).o = G0.zero
  oprod   : ∃ io, io < K ∧ io < G0.gates.size ∧ (G0.gate io).o = G0.one
  zval    : s.get G0.zero = false
  oval    : s.get G0.one = true

/-- Loop invariant of `ConstPropagate`, with one store `s` throughout: `s` solves the input graph and every
graph the loop passes through.  `low` keeps the rules off the constant prefix (a rule fires only on an
annotated input, `CPInv.ge_of_const`), so a gate rewired to `zero` / `one` stands after their producers. -/
structure CPInv (G0 G : Graph) (x : List Bool) (s : Store Bool) (K : Nat) : Prop where
  gsize : G.gates.size = G0.gates.size
  nIn   : G.nIn = G0.nIn
  zero  : G.zero = G0.zero
  one   : G.one = G0.one
  outs  : G.outputs = G0.outputs
  same  : ∀ i, (G.gate i).op = (G0.gate i).op ∧ (G.gate i).o = (G0.gate i).o ∧
            (G.gate i).dead = (G0.gate i).dead
  wf    : G.GWF
  sol   : G.GSol x s
  vs    : ∀ w, vsound (G.wval w) (s.get w)
  low   : ∀ i, i < K → i < G.gates.size → ∀ w, reads (G.gate i) w → G.wval w = .unknown

variable {G0 G : Graph} {x : List Bool} {s : Store Bool} {K : Nat}

theorem CPInv.live (hc : CPCtx G0 s K) (h : CPInv G0 G x s K) {i : Nat} (hi : i < G0.gates.size) : G.live i :=
  ⟨h.gsize ▸ hi, (h.same i).2.2.trans (hc.allLive i hi)⟩

theorem CPInv.annot (hc : CPCtx G0 s K) (h : CPInv G0 G x s K) {G' : Graph} (hg : SameGates G G')
    (hv : ∀ w, G'.wval w = G.wval w ∨
      (vsound (G'.wval w) (s.get w) ∧ ∃ i, K ≤ i ∧ i < G0.gates.size ∧ (G0.gate i).o = w)) :
    CPInv G0 G' x s K := by
  have hlow : ∀ k, k < K → k < G.gates.size → ∀ w, reads (G.gate k) w → G'.wval w = G.wval w := by
    intro k hk hks w hr
    rcases hv w with e | ⟨_, i, hi, his, rfl⟩
    · exact e
    · have := h.wf.lt_of_reads (h.live hc his) (h.live hc (h.gsize ▸ hks)) ((h.same i).2.1 ▸ hr)
      omega
  refine ⟨by rw [hg.gates]; exact h.gsize, hg.nIn.trans h.nIn, hg.zero.trans h.zero, hg.one.trans h.one,
    hg.outputs.trans h.outs, fun i => by rw [hg.gate]; exact h.same i,
    hg.gwf h.wf, hg.gsol h.sol, fun w => ?_, fun k hk hks => ?_⟩
  · rcases hv w with e | ⟨hs, _⟩
    · rw [e]; exact h.vs w
    · exact hs
  · intro w hr
    rw [hg.gates] at hks
    rw [hg.gate] at hr
    rw [hlow k hk hks w hr]
    exact h.low k hk hks w hr

theorem CPInv.book (hc : CPCtx G0 s K) (h : CPInv G0 G x s K) {G' : Graph} (hg : SameGates G G')
    (hv : ∀ w, G'.wval w = G.wval w) : CPInv G0 G' x s K :=
  h.annot hc hg fun w => Or.inl (hv w)

/-- The step `Gate.ReplaceInput` and the constant-input rules share: `RemoveOutput` on the old wire, then
`AddOutput` on the new one and the rewiring `f` of gate `j`, which the two do in different orders. -/
theorem CPInv.moveInput (hc : CPCtx G0 s K) (h : CPInv G0 G x s K) {f : BGate → BGate} (hf : Rewires f)
    (j : Nat) (hj : K ≤ j) {w0 to : Nat} {G1 : Graph} (hrem : G.removeOutput w0 = some G1)
    (hnew : ∀ m, j ≤ m → m < G0.gates.size →
      ((f (G.gate j)).a = (G.gate j).a ∨ (G0.gate m).o ≠ (f (G.gate j)).a) ∧
      ((G.gate j).op ≠ .inv → (f (G.gate j)).b = (G.gate j).b ∨ (G0.gate m).o ≠ (f (G.gate j)).b))
    (hval : gateEq s (G.gate j) → gateEq s (f (G.gate j))) :
    CPInv G0 ((G1.addOutput to j).modGate j f) x s K := by
  have h2 := (h.book hc (sameGates_removeOutput hrem) (wval_removeOutput hrem)).book hc
    (sameGates_addOutput G1 to j) (wval_addOutput _ _ _)
  have e : (G1.addOutput to j).gate j = G.gate j := by
    rw [(sameGates_addOutput G1 to j).gate, (sameGates_removeOutput hrem).gate]
  rw [← e] at hnew hval
  refine ⟨by rw [size_modGate]; exact h2.gsize, h2.nIn, h2.zero, h2.one, h2.outs, fun m => ?_,
    hf.gwf h2.wf (fun _ m hm lm => by rw [(h2.same m).2.1]; exact hnew m hm (h2.gsize ▸ lm.1)),
    hf.gsol h2.sol hval, h2.vs, fun k hk hks => ?_⟩
  · obtain ⟨e1, e2, e3⟩ := hf.gate (G := G1.addOutput to j) (i := j) m
    rw [e1, e2, e3]; exact h2.same m
  · rw [size_modGate] at hks
    rw [gate_modGate, if_neg (fun hh => by omega)]
    exact h2.low k hk hks

theorem gate_default (G : Graph) (j : Nat) (hj : ¬ j < G.gates.size) :
    (G.gate j).a = 0 ∧ (G.gate j).b = 0 := by
  simp only [gate, Array.getD, hj, dite_false]
  exact ⟨rfl, rfl⟩

theorem CPInv.replaceInput (hc : CPCtx G0 s K) (h : CPInv G0 G x s K) (j frm to i : Nat) (G' : Graph)
    (hi : K ≤ i) (his : i < G0.gates.size) (hfrm : (G0.gate i).o = frm)
    (hto : ∀ m, i ≤ m → m < G0.gates.size → (G0.gate m).o ≠ to)
    (hval : s.get to = s.get frm)
    (hr : G.replaceInput j frm to = some G') : CPInv G0 G' x s K := by
  have hfrm1 : 1 ≤ frm := by
    have := (h.wf.obound i (h.live hc his)).1
    rw [(h.same i).2.1, hfrm, h.nIn] at this
    have := hc.nin1; omega
  have hafter : reads (G.gate j) frm → i < j ∧ j < G0.gates.size := by
    intro hread
    have hlt : j < G0.gates.size := by
      by_cases hlt : j < G0.gates.size
      · exact hlt
      · have := gate_default G j (by rw [h.gsize]; exact hlt)
        rcases hread with e | ⟨_, e⟩
        · rw [this.1] at e; omega
        · rw [this.2] at e; omega
    exact ⟨h.wf.lt_of_reads (h.live hc his) (h.live hc hlt) (by rw [(h.same i).2.1, hfrm]; exact hread), hlt⟩
  unfold Graph.replaceInput at hr
  simp only at hr
  split at hr
  · rename_i ha
    obtain ⟨hlt, hsz⟩ := hafter (Or.inl ha)
    simp only [Option.map_eq_some_iff] at hr
    obtain ⟨G1, hrem, rfl⟩ := hr
    exact h.moveInput hc (rewires_a to) j (by omega) hrem
      (fun m hm hms => ⟨Or.inr (hto m (by omega) hms), fun _ => Or.inl rfl⟩)
      (gateEq_setA (by rw [ha]; exact hval))
  · split at hr
    · rename_i hna hb
      obtain ⟨hlt, hsz⟩ := hafter (Or.inr hb)
      simp only [Option.map_eq_some_iff] at hr
      obtain ⟨G1, hrem, rfl⟩ := hr
      exact h.moveInput hc (rewires_b to) j (by omega) hrem
        (fun m hm hms => ⟨Or.inl rfl, fun _ => Or.inr (hto m (by omega) hms)⟩)
        (gateEq_setB (by rw [hb.2]; exact hval))
    · simp at hr

theorem CPInv.replaceInputs (hc : CPCtx G0 s K) (frm to i : Nat)
    (hi : K ≤ i) (his : i < G0.gates.size) (hfrm : (G0.gate i).o = frm)
    (hto : ∀ m, i ≤ m → m < G0.gates.size → (G0.gate m).o ≠ to)
    (hval : s.get to = s.get frm) :
    ∀ (hs : List Nat) (G G' : Graph), CPInv G0 G x s K → replaceInputs frm to hs G = some G' →
      CPInv G0 G' x s K := by
  intro hs
  induction hs with
  | nil => intro G G' h hr; simp only [Graph.replaceInputs, Option.some.injEq] at hr; subst hr; exact h
  | cons a hs ih =>
    intro G G' h hr
    simp only [Graph.replaceInputs] at hr
    split at hr
    · simp at hr
    · rename_i G1 h1
      exact ih G1 G' (h.replaceInput hc a frm to i G1 hi his hfrm hto hval h1) hr

theorem CPInv.shortCircuit (hc : CPCtx G0 s K) (h : CPInv G0 G x s K) (i o' : Nat) (G' : Graph)
    (hi : K ≤ i) (his : i < G0.gates.size)
    (hin : reads (G.gate i) o')
    (hval : s.get o' = s.get (G.gate i).o)
    (hr : G.shortCircuit i o' = some G') : CPInv G0 G' x s K := by
  unfold Graph.shortCircuit at hr
  simp only at hr
  split at hr
  · simp only [Option.some.injEq] at hr; subst hr; exact h
  · simp only [Option.map_eq_some_iff] at hr
    obtain ⟨G1, hr1, rfl⟩ := hr
    have hto : ∀ m, i ≤ m → m < G0.gates.size → (G0.gate m).o ≠ o' := fun m hm hms e => by
      have := h.wf.lt_of_reads (h.live hc hms) (h.live hc his) (by rw [(h.same m).2.1, e]; exact hin)
      omega
    have h1 := CPInv.replaceInputs hc (G.gate i).o o' i hi his ((h.same i).2.1).symm hto hval _ G G1 h hr1
    exact h1.book hc (sameGates_modWire _ _ _) (wval_modWire _ _ _ fun _ => by rfl)

theorem CPInv.ge_of_const (h : CPInv G0 G x s K) (i : Nat) (his : i < G0.gates.size) {w : Nat}
    (hr : reads (G.gate i) w) (hcst : G.wval w ≠ .unknown) : K ≤ i :=
  Nat.le_of_not_lt fun hk => hcst (h.low i hk (h.gsize ▸ his) w hr)

theorem CPInv.cpSwitch (hc : CPCtx G0 s K) (h : CPInv G0 G x s K) (i : Nat) (his : i < G0.gates.size)
    (G' : Graph) (hr : G.cpSwitch i = some G') : CPInv G0 G' x s K := by
  unfold Graph.cpSwitch at hr
  simp only at hr
  have hsem : gateEq s (G.gate i) := h.sol.sem i (h.live hc his)
  have hva := h.vs (G.gate i).a
  have hvb : vsound (if (G.gate i).op = .inv then WVal.unknown else G.wval (G.gate i).b) (s.get (G.gate i).b) := by
    split
    · exact vsound_unknown _
    · exact h.vs _
  -- a non-trivial rule means a constant input
  have hK : cpRule (G.gate i).op (G.wval (G.gate i).a)
      (if (G.gate i).op = .inv then WVal.unknown else G.wval (G.gate i).b) ≠ .none → K ≤ i := by
    intro hne
    by_cases ha : G.wval (G.gate i).a = .unknown
    · by_cases hop : (G.gate i).op = .inv
      · rw [ha, if_pos hop, cpRule_unknown] at hne; exact absurd rfl hne
      · refine h.ge_of_const i his (Or.inr ⟨hop, rfl⟩) fun hb => ?_
        rw [ha, if_neg hop, hb, cpRule_unknown] at hne; exact absurd rfl hne
    · exact h.ge_of_const i his (Or.inl rfl) ha
  have hs := cpRule_sound (G.gate i).op _ _ _ _ hva hvb
  split at hr
  · cases hr; exact h
  · rename_i v hrule
    cases hr
    rw [hrule] at hs
    refine h.annot hc (sameGates_modWire _ _ _) fun w => ?_
    rw [wval_setValue]
    split
    · rename_i hh
      exact Or.inr ⟨by rw [hh.1, hsem]; exact hs, i, hK (by rw [hrule]; simp), his, by rw [hh.1, (h.same i).2.1]⟩
    · exact Or.inl rfl
  · rename_i hrule
    rw [hrule] at hs
    refine h.shortCircuit hc i _ G' (hK (by rw [hrule]; simp)) his (Or.inr ⟨hs.1, rfl⟩) ?_ hr
    rw [hsem, hs.2]; rfl
  · rename_i hrule
    rw [hrule] at hs
    refine h.shortCircuit hc i _ G' (hK (by rw [hrule]; simp)) his (Or.inl rfl) ?_ hr
    rw [hsem, hs.2]; rfl

theorem CPInv.constWire (hc : CPCtx G0 s K) (h : CPInv G0 G x s K) (w c : Nat)
    (hcw : G.constWire (G.wval w) = some c) :
    s.get c = s.get w ∧ G.wval w ≠ .unknown ∧ ∀ m, K ≤ m → m < G0.gates.size → (G0.gate m).o ≠ c := by
  have hv := h.vs w
  have hfresh : ∀ ic, ic < K → ic < G0.gates.size →
      ∀ m, K ≤ m → m < G0.gates.size → (G0.gate m).o ≠ (G0.gate ic).o := by
    intro ic hic hics m hm hms hmo
    have := h.wf.odist m ic (h.live hc hms) (h.live hc hics)
      (by rw [(h.same m).2.1, (h.same ic).2.1, hmo])
    omega
  cases hw : G.wval w <;> rw [hw] at hcw hv <;> simp only [Graph.constWire, Option.some.injEq] at hcw
  · cases hcw
  · subst hcw
    obtain ⟨iz, h1, h2, h3⟩ := hc.zprod
    rw [h.zero]
    exact ⟨by rw [hc.zval, hv.1 rfl], nofun, h3 ▸ hfresh iz h1 h2⟩
  · subst hcw
    obtain ⟨io, h1, h2, h3⟩ := hc.oprod
    rw [h.one]
    exact ⟨by rw [hc.oval, hv.2 rfl], nofun, h3 ▸ hfresh io h1 h2⟩

theorem CPInv.cpFixA (hc : CPCtx G0 s K) (h : CPInv G0 G x s K) (i : Nat) (his : i < G0.gates.size)
    (G' : Graph) (hr : G.cpFixA i = some G') : CPInv G0 G' x s K := by
  unfold Graph.cpFixA at hr
  simp only at hr
  split at hr
  · cases hr; exact h
  · rename_i c hcw
    obtain ⟨hval, hne, hfresh⟩ := h.constWire hc _ c hcw
    have hK : K ≤ i := h.ge_of_const i his (Or.inl rfl) hne
    simp only [Option.map_eq_some_iff] at hr
    obtain ⟨G1, hrem, rfl⟩ := hr
    exact h.moveInput hc (rewires_a c) i hK hrem
      (fun m hm hms => ⟨Or.inr (hfresh m (by omega) hms), fun _ => Or.inl rfl⟩) (gateEq_setA hval)

theorem CPInv.cpFixB (hc : CPCtx G0 s K) (h : CPInv G0 G x s K) (i : Nat) (his : i < G0.gates.size)
    (G' : Graph) (hr : G.cpFixB i = some G') : CPInv G0 G' x s K := by
  unfold Graph.cpFixB at hr
  simp only at hr
  split at hr
  · cases hr; exact h
  · rename_i hop
    split at hr
    · cases hr; exact h
    · rename_i c hcw
      obtain ⟨hval, hne, hfresh⟩ := h.constWire hc _ c hcw
      have hK : K ≤ i := h.ge_of_const i his (Or.inr ⟨hop, rfl⟩) hne
      simp only [Option.map_eq_some_iff] at hr
      obtain ⟨G1, hrem, rfl⟩ := hr
      exact h.moveInput hc (rewires_b c) i hK hrem
        (fun m hm hms => ⟨Or.inl rfl, fun _ => Or.inr (hfresh m (by omega) hms)⟩) (gateEq_setB hval)

theorem CPInv.cpStep (hc : CPCtx G0 s K) (h : CPInv G0 G x s K) (i : Nat) (his : i < G0.gates.size)
    (G' : Graph) (hr : G.cpStep i = some G') : CPInv G0 G' x s K := by
  unfold Graph.cpStep at hr
  simp only [Option.bind_eq_some_iff] at hr
  obtain ⟨G1, h1, G2, h2, h3⟩ := hr
  exact ((h.cpSwitch hc i his G1 h1).cpFixA hc i his G2 h2).cpFixB hc i his G' h3

theorem CPInv.cpLoop (hc : CPCtx G0 s K) : ∀ (is : List Nat) (G G' : Graph),
    (∀ i ∈ is, i < G0.gates.size) → CPInv G0 G x s K → cpLoop is G = some G' → CPInv G0 G' x s K := by
  intro is
  induction is with
  | nil => intro G G' _ h hr; simp only [Graph.cpLoop, Option.some.injEq] at hr; subst hr; exact h
  | cons i is ih =>
    intro G G' hb h hr
    simp only [Graph.cpLoop] at hr
    split at hr
    · simp at hr
    · rename_i G1 h1
      exact ih G1 G' (fun j hj => hb j (List.mem_cons_of_mem _ hj))
        (h.cpStep hc i (hb i List.mem_cons_self) G1 h1) hr

/-- Hypothesis of `constPropagate_preserves`; the executable `wfCPCheck` implies it (`wfCPCheck_sound`, with
`K = 3`). -/
structure WFcp (G : Graph) : Prop where
  wf      : G.GWF
  nin1    : 1 ≤ G.nIn
  allLive : ∀ i, i < G.gates.size → (G.gate i).dead = false
  vzero   : ∀ w, G.wval w = .zero → w = G.zero
  vone    : ∀ w, G.wval w = .one → w = G.one
  pre     : ∃ K, (∃ iz, iz < K ∧ iz < G.gates.size ∧ (G.gate iz).o = G.zero) ∧
              (∃ io, io < K ∧ io < G.gates.size ∧ (G.gate io).o = G.one) ∧
              (∀ i, i < K → i < G.gates.size → G.wval (G.gate i).a = .unknown ∧
                ((G.gate i).op ≠ .inv → G.wval (G.gate i).b = .unknown))
  csem    : ∀ x s, G.GSol x s → s.get G.zero = false ∧ s.get G.one = true

theorem constPropagate_preserves (G G' : Graph) (h : WFcp G) (hr : G.constPropagate = some G') :
    G'.GWF ∧ ∀ x, G'.compute x = G.compute x := by
  obtain ⟨K, hz, ho, hlow⟩ := h.pre
  have hinv : ∀ x, CPInv G G' x (G.evalStore x) K := by
    intro x
    have hsol := evalStore_gsol h.wf x
    have hc : CPCtx G (G.evalStore x) K :=
      ⟨h.nin1, h.allLive, hz, ho, (h.csem x _ hsol).1, (h.csem x _ hsol).2⟩
    have h0 : CPInv G G x (G.evalStore x) K := by
      refine ⟨rfl, rfl, rfl, rfl, rfl, fun i => ⟨rfl, rfl, rfl⟩, h.wf, hsol, fun w => ⟨fun hw => ?_, fun hw => ?_⟩,
        fun i hi hs w hr => ?_⟩
      · rw [h.vzero w hw]; exact (h.csem x _ hsol).1
      · rw [h.vone w hw]; exact (h.csem x _ hsol).2
      · rcases hr with rfl | ⟨hop, rfl⟩
        · exact (hlow i hi hs).1
        · exact (hlow i hi hs).2 hop
    exact CPInv.cpLoop hc _ G G' (fun i hi => List.mem_range.mp hi) h0 hr
  refine ⟨(hinv []).wf, fun x => ?_⟩
  have hi := hinv x
  exact compute_eq_of_sols h.wf hi.wf hi.outs x _ _ (evalStore_gsol h.wf x) hi.sol (fun _ _ => rfl)

end Graph
end Mpc
