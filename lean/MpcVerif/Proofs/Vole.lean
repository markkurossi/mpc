/-
Helper lemmas for C20, vector-OLE (Model/Vole.lean): `bytes32` round trip, the packed-vector message round
trip, the sender's modular arithmetic, and the specification of one `Mul` call (`session_spec`) from which the
theorems of Props/C20.lean about calls and histories are read off.
-/
import MpcVerif.Model.Vole
import MpcVerif.Proofs.Proto2

namespace Mpc
inductive Forall2 {α β : Type} (R : α → β → Prop) : List α → List β → Prop
  | nil : Forall2 R [] []
  | cons {a : α} {b : β} {as : List α} {bs : List β} : R a b → Forall2 R as bs → Forall2 R (a :: as) (b :: bs)

theorem Forall2.length_eq {α β : Type} {R : α → β → Prop} {as : List α} {bs : List β}
    (h : Forall2 R as bs) : as.length = bs.length := by
  induction h with
  | nil => rfl
  | cons _ _ ih => simp [ih]

theorem Forall2.get {α β : Type} {R : α → β → Prop} {as : List α} {bs : List β}
    (h : Forall2 R as bs) : ∀ (k : Nat) (a : α) (b : β), as[k]? = some a → bs[k]? = some b → R a b := by
  induction h with
  | nil => intro k a b ha; cases ha
  | cons hr _ ih =>
    intro k a b ha hb
    cases k with
    | zero => cases ha; cases hb; exact hr
    | succ k => exact ih k a b ha hb
end Mpc

namespace Mpc.Vole

theorem bytes32_roundtrip (v : Nat) (hv : v < 2 ^ 256) :
    ∃ b, bytes32 v = some b ∧ b.length = 32 ∧ bytesToNatBE b = v := by
  have hl := (natToBytesBE_length_le_iff 32 v).mpr hv
  refine ⟨_, if_pos hl, ?_, ?_⟩
  · rw [List.length_append, List.length_replicate, Nat.sub_add_cancel hl]
  · rw [bytesToNatBE_zeros, bytes_roundtrip]

theorem pack32_unpack32 (p : Nat) (vs : List Nat) (hv : ∀ v ∈ vs, v < 2 ^ 256) :
    ∃ msg, pack32 vs = some msg ∧ msg.length = vs.length * 32 ∧
      unpack32 p vs.length msg = vs.map (· % p) := by
  induction vs with
  | nil => exact ⟨[], rfl, rfl, rfl⟩
  | cons v vs ih =>
    obtain ⟨b, hb, hbl, hbv⟩ := bytes32_roundtrip v (hv v List.mem_cons_self)
    obtain ⟨msg, hm, hml, hmu⟩ := ih fun w hw => hv w (List.mem_cons_of_mem _ hw)
    refine ⟨b ++ msg, by rw [pack32, hb, hm],
      by rw [List.length_append, hbl, hml, List.length_cons, Nat.succ_mul, Nat.add_comm], ?_⟩
    simp only [List.length_cons, unpack32, List.map_cons]
    rw [List.take_left' hbl, List.drop_left' hbl, hbv, hmu]

theorem add_mod_sub (p r t : Nat) (hr : r < p) (ht : t < p) : ((r + t) % p + p - r) % p = t := by
  by_cases h : r + t < p
  · rw [Nat.mod_eq_of_lt h, Nat.add_assoc, Nat.add_sub_cancel_left, Nat.add_mod_right, Nat.mod_eq_of_lt ht]
  · have hle := Nat.le_of_not_lt h
    rw [Nat.mod_eq_sub_mod hle, Nat.mod_eq_of_lt (Nat.sub_lt_left_of_lt_add hle (Nat.add_lt_add hr ht)),
      Nat.sub_add_cancel hle, Nat.add_sub_cancel_left, Nat.mod_eq_of_lt ht]

/-- `u - r ≡ x*y (mod p)` in two forms: on integers, the way `vole_test.go` checks it (`big.Int.Sub` then `Mod`,
Euclidean as `Int.emod` is), and on naturals (`u + p - r`). -/
theorem share_arith (p r x y : Nat) (hr : r < p) :
    let u := (r + (x * (y % p)) % p) % p
    u < p ∧ ((u : Int) - (r : Int)) % (p : Int) = ((x : Int) * (y : Int)) % (p : Int) ∧
      (u + p - r) % p = (x * y) % p := by
  intro u
  have hp : 0 < p := Nat.zero_lt_of_lt hr
  have hn : (u + p - r) % p = (x * y) % p := by
    rw [show u = (r + (x * y) % p) % p by simp only [u, Nat.mul_mod_mod]]
    exact add_mod_sub p r _ hr (Nat.mod_lt _ hp)
  refine ⟨Nat.mod_lt _ hp, ?_, hn⟩
  have hc : ((u + p - r : Nat) : Int) = (u : Int) - r + p := by
    rw [Int.ofNat_sub (Nat.le_trans (Nat.le_of_lt hr) (Nat.le_add_left p u)), Int.natCast_add,
      Int.sub_eq_add_neg, Int.sub_eq_add_neg, Int.add_right_comm]
  rw [← Int.add_emod_right, ← hc, ← Int.natCast_mul, ← Int.natCast_emod, ← Int.natCast_emod, hn]

theorem senderUs_eq_map (p : Nat) : ∀ rs xs ys : List Nat,
    senderUs p rs xs ys = (rs.zip (xs.zip ys)).map fun t => (t.1 + t.2.1 * t.2.2 % p) % p
  | _ :: rs, _ :: xs, _ :: ys => congrArg (_ :: ·) (senderUs_eq_map p rs xs ys)
  | [], _, _ => rfl
  | _ :: _, [], _ => rfl
  | _ :: _, _ :: _, [] => rfl

theorem senderUs_lt (p : Nat) (hp : 0 < p) (rs xs ys : List Nat) : ∀ u ∈ senderUs p rs xs ys, u < p := by
  intro u hu
  rw [senderUs_eq_map] at hu
  obtain ⟨t, _, rfl⟩ := List.mem_map.mp hu
  exact Nat.mod_lt _ hp

theorem senderUs_length (p : Nat) (rs xs ys : List Nat) (hx : xs.length = rs.length) (hy : ys.length = rs.length) :
    (senderUs p rs xs ys).length = rs.length := by
  rw [senderUs_eq_map, List.length_map, List.length_zip, List.length_zip, hx, hy, Nat.min_self, Nat.min_self]

theorem senderUs_get (p : Nat) (rs xs ys : List Nat) (i r x y : Nat)
    (hr : rs[i]? = some r) (hx : xs[i]? = some x) (hy : ys[i]? = some y) :
    (senderUs p rs xs ys)[i]? = some ((r + (x * y) % p) % p) := by
  rw [senderUs_eq_map, List.getElem?_map,
    List.getElem?_zip_eq_some (z := (r, x, y)).mpr ⟨hr, List.getElem?_zip_eq_some (z := (x, y)).mpr ⟨hx, hy⟩⟩]
  rfl

theorem map_mod_id (p : Nat) (l : List Nat) (h : ∀ u ∈ l, u < p) : l.map (· % p) = l :=
  (List.map_congr_left fun u hu => Nat.mod_eq_of_lt (h u hu)).trans (List.map_id' l)

/-- The hypotheses of the property on one call.  `p ≤ 2^256` (the bound itself included) and `y < 2^256` are what
`bytes32` needs of the residues and of `ys`; the vectors may be empty; nothing is asked of `xs`. -/
def Call.Ok (c : Call) : Prop :=
  0 < c.p ∧ c.p ≤ 2 ^ 256 ∧ c.ys.length = c.xs.length ∧ ∀ y ∈ c.ys, y < 2 ^ 256

def ShareRel (c : Call) (s : Session) : Prop :=
  s.rs.length = c.xs.length ∧ s.us.length = c.xs.length ∧
  ∀ i, i < c.xs.length → ∃ r u x y,
    s.rs[i]? = some r ∧ s.us[i]? = some u ∧ c.xs[i]? = some x ∧ c.ys[i]? = some y ∧
    r < c.p ∧ u < c.p ∧
    ((u : Int) - (r : Int)) % (c.p : Int) = ((x : Int) * (y : Int)) % (c.p : Int) ∧
    (u + c.p - r) % c.p = (x * y) % c.p

theorem session_spec (prg : BitVec 128 → Nat) (labels : List (BitVec 128)) (c : Call) (h : c.Ok)
    (hll : labels.length = c.xs.length) :
    ∃ s, session prg labels c.xs c.ys c.p = .ok s ∧ s.rs = labels.map (fun l => prg l % c.p) ∧ ShareRel c s ∧
      pack32 c.ys = some s.ymsg ∧ pack32 s.us = some s.umsg ∧
      s.ymsg.length = 32 * c.xs.length ∧ s.umsg.length = 32 * c.xs.length := by
  obtain ⟨hp0, hp, hly, hy⟩ := h
  by_cases hm : c.xs.length = 0
  · obtain ⟨xs, ys, p⟩ := c
    cases List.eq_nil_of_length_eq_zero hm
    cases List.eq_nil_of_length_eq_zero hly
    cases List.eq_nil_of_length_eq_zero hll
    exact ⟨⟨[], [], [], []⟩, rfl, rfl, ⟨rfl, rfl, fun _ hi => nomatch hi⟩, rfl, rfl, rfl, rfl⟩
  · obtain ⟨ymsg, hym, hyl, hyu⟩ := pack32_unpack32 c.p c.ys hy
    have hrl : (senderRs prg labels c.p).length = c.xs.length := (List.length_map _).trans hll
    have hult := senderUs_lt c.p hp0 (senderRs prg labels c.p) c.xs (c.ys.map (· % c.p))
    have hul := (senderUs_length c.p (senderRs prg labels c.p) c.xs (c.ys.map (· % c.p)) hrl.symm
      ((List.length_map _).trans (hly.trans hrl.symm))).trans hrl
    obtain ⟨umsg, hum, hul2, huu⟩ := pack32_unpack32 c.p _ fun u hu => Nat.lt_of_lt_of_le (hult u hu) hp
    rw [hul] at hul2 huu
    rw [map_mod_id c.p _ hult] at huu
    rw [hly] at hyl hyu
    refine ⟨⟨senderRs prg labels c.p, _, ymsg, umsg⟩, ?_, rfl, ⟨hrl, hul, fun i hi => ?_⟩, hym, hum,
      hyl.trans (Nat.mul_comm _ _), hul2.trans (Nat.mul_comm _ _)⟩
    · simp only [session, receiverY, hym, senderMul, receiverUs, hly, hm, hll, hyl, hyu, hum, hul2, huu,
        ne_eq, not_true_eq_false, if_false]
    · obtain ⟨l, hl⟩ : ∃ l, labels[i]? = some l := ⟨_, List.getElem?_eq_getElem (hll ▸ hi)⟩
      obtain ⟨x, hx⟩ : ∃ x, c.xs[i]? = some x := ⟨_, List.getElem?_eq_getElem hi⟩
      obtain ⟨y, hyy⟩ : ∃ y, c.ys[i]? = some y := ⟨_, List.getElem?_eq_getElem (hly ▸ hi)⟩
      have hr : (senderRs prg labels c.p)[i]? = some (prg l % c.p) := by rw [senderRs, List.getElem?_map, hl]; rfl
      have hym : (c.ys.map (· % c.p))[i]? = some (y % c.p) := by rw [List.getElem?_map, hyy]; rfl
      have hrp := Nat.mod_lt (prg l) hp0
      obtain ⟨hup, hint, hnat⟩ := share_arith c.p _ x y hrp
      exact ⟨_, _, _, _, hr, senderUs_get c.p _ _ _ i _ _ _ hr hx hym, hx, hyy, hrp, hup, hint, hnat⟩

theorem callLabels_length (cot : Nat → BitVec 128) (pos m : Nat) : (callLabels cot pos m).length = m := by
  rw [callLabels, List.length_map, List.length_range]

theorem mulStep_spec (prg : BitVec 128 → Nat) (cot : Nat → BitVec 128) (st : St) (c : Call) (h : c.Ok) :
    ∃ s, mulStep prg cot st c = .ok (⟨st.pos + roundUp8 c.xs.length⟩, s) ∧ ShareRel c s ∧
      pack32 c.ys = some s.ymsg ∧ pack32 s.us = some s.umsg ∧
      s.ymsg.length = 32 * c.xs.length ∧ s.umsg.length = 32 * c.xs.length := by
  obtain ⟨s, hs, _, rest⟩ := session_spec prg (callLabels cot st.pos c.xs.length) c h (callLabels_length _ _ _)
  exact ⟨s, by rw [mulStep, hs], rest⟩

theorem runCalls_of_step (prg : BitVec 128 → Nat) (cot : Nat → BitVec 128) (R : Call → Session → Prop)
    (hstep : ∀ st c, c.Ok → ∃ s, mulStep prg cot st c = .ok (⟨st.pos + roundUp8 c.xs.length⟩, s) ∧ R c s) :
    ∀ (calls : List Call) (st : St), (∀ c ∈ calls, c.Ok) →
      ∃ ss, runCalls prg cot st calls =
          .ok (⟨st.pos + (calls.map fun c => roundUp8 c.xs.length).sum⟩, ss) ∧
        Forall2 R calls ss := by
  intro calls
  induction calls with
  | nil => intro st _; exact ⟨[], by simp [runCalls], .nil⟩
  | cons c cs ih =>
    intro st h
    obtain ⟨s, hs, hr⟩ := hstep st c (h c (by simp))
    obtain ⟨ss, hss, hrr⟩ := ih ⟨st.pos + roundUp8 c.xs.length⟩ (fun d hd => h d (by simp [hd]))
    refine ⟨s :: ss, ?_, .cons hr hrr⟩
    simp only [runCalls, hs, hss, List.map_cons, List.sum_cons, Nat.add_assoc]

end Mpc.Vole
