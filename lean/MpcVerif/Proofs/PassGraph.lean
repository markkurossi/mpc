/-
C09, pass models (`Model/Passes.lean`): well-formedness and solutions of a builder-level graph in
index form, and the bridge to the list-level solutions (`Sol`) of `PlainEval.lean`.
-/
import MpcVerif.Proofs.PlainEval
import MpcVerif.Model.Passes

namespace Mpc

namespace Graph

def live (G : Graph) (i : Nat) : Prop := i < G.gates.size ∧ (G.gate i).dead = false

structure GWF (G : Graph) : Prop where
  nin    : G.nIn ≤ G.wires.size
  obound : ∀ i, G.live i → G.nIn ≤ (G.gate i).o ∧ (G.gate i).o < G.wires.size
  odist  : ∀ i j, G.live i → G.live j → (G.gate i).o = (G.gate j).o → i = j
  topo   : ∀ i j, i ≤ j → G.live i → G.live j →
             (G.gate j).o ≠ (G.gate i).a ∧ ((G.gate i).op ≠ .inv → (G.gate j).o ≠ (G.gate i).b)

def gateEq (s : Store Bool) (g : BGate) : Prop :=
  s.get g.o = g.op.eval (s.get g.a) (s.get g.b)

def reads (g : BGate) (w : Nat) : Prop := g.a = w ∨ (g.op ≠ .inv ∧ g.b = w)

structure GSol (G : Graph) (x : List Bool) (s : Store Bool) : Prop where
  size  : s.size = G.wires.size
  inp   : ∀ w, w < G.nIn → s.get w = (x.take G.nIn).getD w false
  sem   : ∀ i, G.live i → gateEq s (G.gate i)
  undef : ∀ w, G.nIn ≤ w → (∀ i, G.live i → (G.gate i).o ≠ w) → s.get w = false

end Graph

def lgOf (l : List BGate) : List Gate := (l.filter fun g => !g.dead).map BGate.toGate

theorem lgOf_cons (b : BGate) (t : List BGate) :
    lgOf (b :: t) = if b.dead then lgOf t else b.toGate :: lgOf t := by
  simp only [lgOf, List.filter_cons]
  cases b.dead <;> simp

theorem mem_lgOf (l : List BGate) (g : Gate) :
    g ∈ lgOf l ↔ ∃ b ∈ l, b.dead = false ∧ b.toGate = g := by
  simp [lgOf, and_assoc]

theorem ins_toGate (b : BGate) (w : Nat) : w ∈ b.toGate.ins ↔ Graph.reads b w := by
  rw [mem_ins]
  simp only [BGate.toGate, Op.binary_iff_ne_inv, Graph.reads, @eq_comm _ w]

theorem Graph.eval_congr_reads (g : BGate) (f f' : Nat → Bool) (h : ∀ w, Graph.reads g w → f w = f' w) :
    g.op.eval (f g.a) (f g.b) = g.op.eval (f' g.a) (f' g.b) :=
  g.toGate.eval_congr f f' fun w hw => h w ((ins_toGate g w).mp hw)

def After (g h : BGate) : Prop :=
  g.dead = false → h.dead = false → h.o ≠ g.o ∧ h.o ≠ g.a ∧ (g.op ≠ .inv → h.o ≠ g.b)

/-- `Graph.GWF` of a gate list, by position instead of by index (`gwf_iff`). -/
structure GatesWF (nIn n : Nat) (l : List BGate) : Prop where
  self : ∀ g ∈ l, g.dead = false → nIn ≤ g.o ∧ g.o < n ∧ g.o ≠ g.a ∧ (g.op ≠ .inv → g.o ≠ g.b)
  pair : l.Pairwise After

theorem GatesWF.listWF {nIn n : Nat} (hn : nIn ≤ n) : ∀ {l : List BGate},
    GatesWF nIn n l → ListWF n nIn (lgOf l)
  | [], _ => ⟨hn, List.nodup_nil, nofun, nofun, trivial⟩
  | b :: t, h => by
    have ht : ListWF n nIn (lgOf t) :=
      GatesWF.listWF hn ⟨fun g hg => h.self g (List.mem_cons_of_mem _ hg), (List.pairwise_cons.mp h.pair).2⟩
    rw [lgOf_cons]
    cases hb : b.dead
    · obtain ⟨h1, h2, h3, h4⟩ := h.self b List.mem_cons_self hb
      have hlater : ∀ g ∈ lgOf t, g.out ≠ b.o ∧ g.out ≠ b.a ∧ (b.op ≠ .inv → g.out ≠ b.b) := by
        intro g hg
        obtain ⟨c, hc, hcd, rfl⟩ := (mem_lgOf t g).mp hg
        exact (List.pairwise_cons.mp h.pair).1 c hc hb hcd
      refine ht.cons h1 h2 (fun g hg => (hlater g hg).1) (fun w hw g hg => ?_)
      rw [ins_toGate] at hw
      rcases List.mem_cons.mp hg with rfl | hg
      · rcases hw with rfl | ⟨hop, rfl⟩
        · exact h3
        · exact h4 hop
      · rcases hw with rfl | ⟨hop, rfl⟩
        · exact (hlater g hg).2.1
        · exact (hlater g hg).2.2 hop
    · exact ht

namespace Graph

theorem getElem_gates (G : Graph) (i : Nat) (hi : i < G.gates.toList.length) :
    G.gates.toList[i] = G.gate i := by
  have : i < G.gates.size := by simpa using hi
  simp [Graph.gate, Array.getD, this]

theorem mem_gates (G : Graph) (b : BGate) : b ∈ G.gates.toList ↔ ∃ i, i < G.gates.size ∧ G.gate i = b := by
  rw [List.mem_iff_getElem]
  constructor
  · rintro ⟨i, hi, rfl⟩; exact ⟨i, by simpa using hi, (getElem_gates G i hi).symm⟩
  · rintro ⟨i, hi, rfl⟩; exact ⟨i, by simpa using hi, getElem_gates G i _⟩

theorem gwf_iff (G : Graph) :
    G.GWF ↔ G.nIn ≤ G.wires.size ∧ GatesWF G.nIn G.wires.size G.gates.toList := by
  have hlen : ∀ {i}, i < G.gates.size → i < G.gates.toList.length := fun h => by simpa using h
  constructor
  · intro h
    refine ⟨h.nin, fun g hg hd => ?_, List.pairwise_iff_getElem.mpr fun i j hi hj hij hdi hdj => ?_⟩
    · obtain ⟨i, hi, rfl⟩ := (mem_gates G g).mp hg
      have t := h.topo i i (Nat.le_refl i) ⟨hi, hd⟩ ⟨hi, hd⟩
      exact ⟨(h.obound i ⟨hi, hd⟩).1, (h.obound i ⟨hi, hd⟩).2, t.1, t.2⟩
    · rw [getElem_gates] at hdi hdj ⊢
      rw [getElem_gates]
      have li : G.live i := ⟨by simpa using hi, hdi⟩
      have lj : G.live j := ⟨by simpa using hj, hdj⟩
      have t := h.topo i j (Nat.le_of_lt hij) li lj
      exact ⟨fun e => Nat.ne_of_gt hij (h.odist j i lj li e), t.1, t.2⟩
  · rintro ⟨hn, hs, hp⟩
    have hp' : ∀ i j, i < j → G.live i → G.live j → After (G.gate i) (G.gate j) := by
      intro i j hij li lj
      have := List.pairwise_iff_getElem.mp hp i j (hlen li.1) (hlen lj.1) hij
      rwa [getElem_gates, getElem_gates] at this
    have hs' := fun i (li : G.live i) => hs _ ((mem_gates G _).mpr ⟨i, li.1, rfl⟩) li.2
    refine ⟨hn, fun i li => ⟨(hs' i li).1, (hs' i li).2.1⟩, fun i j li lj e => ?_, fun i j hij li lj => ?_⟩
    · rcases Nat.lt_trichotomy i j with hij | hij | hij
      · exact absurd e.symm (hp' i j hij li lj li.2 lj.2).1
      · exact hij
      · exact absurd e (hp' j i hij lj li lj.2 li.2).1
    · rcases Nat.eq_or_lt_of_le hij with rfl | hij
      · exact (hs' i li).2.2
      · exact (hp' i j hij li lj li.2 lj.2).2

theorem forall_mem_liveGates (G : Graph) (P : Gate → Prop) :
    (∀ g ∈ G.liveGates, P g) ↔ ∀ i, G.live i → P (G.gate i).toGate := by
  show (∀ g ∈ lgOf G.gates.toList, P g) ↔ _
  simp only [mem_lgOf, mem_gates]
  exact ⟨fun h i hi => h _ ⟨_, ⟨i, hi.1, rfl⟩, hi.2, rfl⟩, fun h g ⟨b, ⟨i, hi, e⟩, hd, e'⟩ => by
    subst e e'; exact h i ⟨hi, hd⟩⟩

theorem GWF.lt_of_reads {G : Graph} (hw : G.GWF) {i j : Nat} (li : G.live i) (lj : G.live j)
    (hr : reads (G.gate j) (G.gate i).o) : i < j := by
  refine Nat.lt_of_not_le fun hle => ?_
  have := hw.topo j i hle lj li
  rcases hr with e | ⟨hop, e⟩
  · exact this.1 e.symm
  · exact this.2 hop e.symm

theorem GWF.mono {G G' : Graph} (hw : G.GWF) (hn : G'.nIn = G.nIn) (hs : G'.wires.size = G.wires.size)
    (h : ∀ j, G'.live j → G.live j ∧ G'.gate j = G.gate j) : G'.GWF := by
  refine ⟨hn ▸ hs ▸ hw.nin, fun j hj => ?_, fun i j hi hj ho => ?_, fun i j hij hi hj => ?_⟩
  · rw [(h j hj).2, hn, hs]; exact hw.obound j (h j hj).1
  · rw [(h i hi).2, (h j hj).2] at ho; exact hw.odist i j (h i hi).1 (h j hj).1 ho
  · rw [(h i hi).2, (h j hj).2]; exact hw.topo i j hij (h i hi).1 (h j hj).1

theorem GWF.listWF {G : Graph} (h : G.GWF) : ListWF G.wires.size G.nIn G.liveGates :=
  ((gwf_iff G).mp h).2.listWF h.nin

theorem GSol.gate_eq {G : Graph} {x : List Bool} {s : Store Bool} (h : G.GSol x s) {i : Nat} (li : G.live i) :
    s.get (G.gate i).o = (G.gate i).op.eval (s.get (G.gate i).a) (s.get (G.gate i).b) :=
  h.sem i li

theorem gsol_iff_sol {G : Graph} {x : List Bool} {s : Store Bool} :
    G.GSol x s ↔ Sol G.wires.size G.nIn G.liveGates x s :=
  ⟨fun h => ⟨h.size, h.inp, (forall_mem_liveGates G _).mpr h.sem,
      fun w hw hno => h.undef w hw ((forall_mem_liveGates G (·.out ≠ w)).mp hno)⟩,
    fun h => ⟨h.size, h.inp, (forall_mem_liveGates G _).mp h.sem,
      fun w hw hno => h.undef w hw ((forall_mem_liveGates G (·.out ≠ w)).mpr hno)⟩⟩

theorem evalStore_gsol {G : Graph} (h : G.GWF) (x : List Bool) : G.GSol x (G.evalStore x) :=
  gsol_iff_sol.mpr (eval_sol _ _ _ x h.listWF)

theorem GSol.unique {G : Graph} {x : List Bool} {s : Store Bool} (h : G.GWF) (hs : G.GSol x s) (w : Nat) :
    (G.evalStore x).get w = s.get w :=
  sol_unique _ _ _ x _ _ h.listWF (gsol_iff_sol.mp (evalStore_gsol h x)) (gsol_iff_sol.mp hs) w

theorem compute_eq_of_gsol {G : Graph} (h : G.GWF) (x : List Bool) (s : Store Bool) (hs : G.GSol x s) :
    G.compute x = G.outputs.map s.get :=
  List.map_congr_left fun w _ => hs.unique h w

/-- The way pass correctness is proved: exhibit a solution of the new graph that agrees on the
outputs with one of the old. -/
theorem compute_eq_of_sols {G G' : Graph} (h : G.GWF) (h' : G'.GWF) (hout : G'.outputs = G.outputs)
    (x : List Bool) (s s' : Store Bool) (hs : G.GSol x s) (hs' : G'.GSol x s')
    (hag : ∀ w ∈ G.outputs, s'.get w = s.get w) : G'.compute x = G.compute x := by
  rw [compute_eq_of_gsol h x s hs, compute_eq_of_gsol h' x s' hs', hout]
  exact List.map_congr_left hag

end Graph
end Mpc
