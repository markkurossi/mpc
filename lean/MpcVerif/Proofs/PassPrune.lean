/-
C09: `Graph.prune` (model of `Compiler.Prune` / `Gate.Prune`) preserves the
input-to-output function of every well-formed builder graph whose fan-out
counters are not smaller than the real fan-out: the invariant `PInv` and its
preservation by the loop; the theorem itself is `C09_prune_preserves`.  The counts of live readers
(`slots`, `rdL`, `readers`) are defined here; Proofs/PassSC.lean and Proofs/PassWF.lean use them.
-/
import MpcVerif.Proofs.PassOps

namespace Mpc
namespace Graph

def slots (w : Nat) (g : BGate) : Nat :=
  (if g.a = w then 1 else 0) + (if g.op ≠ .inv ∧ g.b = w then 1 else 0)

theorem slots_inv {g : BGate} (h : g.op = .inv) (w : Nat) : slots w g = if g.a = w then 1 else 0 := by
  simp [slots, h]

theorem slots_bin {g : BGate} (h : g.op ≠ .inv) (w : Nat) :
    slots w g = (if g.a = w then 1 else 0) + (if g.b = w then 1 else 0) := by
  simp [slots, h]

theorem slots_pos_of_reads (g : BGate) (w : Nat) (h : reads g w) : 1 ≤ slots w g := by
  unfold slots
  rcases h with h | ⟨h1, h2⟩
  · simp [h]
  · simp [h1, h2]

def rdL (w : Nat) : List BGate → Nat
  | [] => 0
  | g :: t => (if g.dead then 0 else slots w g) + rdL w t

/-- Number of input slots of live gates connected to wire `w`. -/
def readers (G : Graph) (w : Nat) : Nat := rdL w G.gates.toList

theorem rdL_ge (w : Nat) : ∀ (l : List BGate), ∀ g ∈ l, g.dead = false → slots w g ≤ rdL w l
  | b :: t, g, hg, hd => by
    rcases List.mem_cons.mp hg with rfl | hg
    · simp only [rdL, hd, Bool.false_eq_true, if_false]; omega
    · have := rdL_ge w t g hg hd
      simp only [rdL]; omega

def killG (g : BGate) : BGate := { g with dead := true }

theorem rdL_kill (w : Nat) : ∀ (l : List BGate) (i : Nat) (hi : i < l.length), l[i].dead = false →
    rdL w (l.modify i killG) = rdL w l - slots w l[i]
  | g :: t, 0, _, hd => by
    rw [List.getElem_cons_zero] at hd ⊢
    simp only [List.modify_cons, if_true, rdL, killG, hd, Bool.false_eq_true, if_false]
    omega
  | g :: t, i + 1, hi, hd => by
    rw [List.getElem_cons_succ] at hd ⊢
    have := rdL_kill w t i (Nat.lt_of_succ_lt_succ hi) hd
    have := rdL_ge w t _ (List.getElem_mem _) hd
    simp only [List.modify_succ_cons, rdL]
    omega

theorem kill_eq (G : Graph) (i : Nat) : (G.kill i).gates = G.gates.modify i killG := rfl

theorem gate_kill (G : Graph) (i j : Nat) :
    (G.kill i).gate j = if j = i ∧ i < G.gates.size then killG (G.gate i) else G.gate j :=
  gate_modGate G i killG j

theorem size_kill (G : Graph) (i : Nat) : (G.kill i).gates.size = G.gates.size := size_modGate G i killG

theorem live_kill (G : Graph) (i j : Nat) : (G.kill i).live j ↔ G.live j ∧ j ≠ i := by
  unfold live
  rw [size_kill, gate_kill]
  constructor
  · rintro ⟨hj, hd⟩
    split at hd
    · simp [killG] at hd
    · rename_i hne
      exact ⟨⟨hj, hd⟩, fun e => hne ⟨e, e ▸ hj⟩⟩
  · rintro ⟨⟨hj, hd⟩, hne⟩
    refine ⟨hj, ?_⟩
    rw [if_neg (fun h => hne h.1)]
    exact hd

theorem gate_kill_ne (G : Graph) (i j : Nat) (h : j ≠ i) : (G.kill i).gate j = G.gate j := by
  rw [gate_kill, if_neg (fun hh => h hh.1)]

theorem wire_removeOutput {G G' : Graph} {w : Nat} (h : G.removeOutput w = some G') (w' : Nat) :
    (G'.wire w').isOut = (G.wire w').isOut ∧
    (G'.wire w').numOut = (G.wire w').numOut - (if w = w' then 1 else 0) := by
  obtain ⟨hpos, rfl⟩ := removeOutput_eq h
  simp only [wire, modWire, getD_modify]
  by_cases hw : w = w'
  · subst hw
    by_cases hs : w < G.wires.size
    · simp [hs]
    · -- outside the array the counter is 0, and `removeOutput` fails
      exact absurd (by simp [wire, Array.getD, hs]; rfl) hpos
  · simp [hw, Ne.symm hw]

theorem kill_preserves (G : Graph) (hwf : G.GWF) (i : Nat) (hlive : G.live i)
    (hnoread : ∀ j, G.live j → ¬ reads (G.gate j) (G.gate i).o)
    (hnotout : (G.gate i).o ∉ G.outputs) :
    (G.kill i).GWF ∧ ∀ x, (G.kill i).compute x = G.compute x := by
  have hsub : ∀ j, (G.kill i).live j → G.live j ∧ j ≠ i := fun j => (live_kill G i j).mp
  have hwf' : (G.kill i).GWF :=
    hwf.mono rfl rfl fun j hj => ⟨(hsub j hj).1, gate_kill_ne G i j (hsub j hj).2⟩
  refine ⟨hwf', fun x => ?_⟩
  have hs := evalStore_gsol hwf x
  have hob := hwf.obound i hlive
  -- the solution of the smaller graph: the killed gate's output reads 0
  have hs' : (G.kill i).GSol x ((G.evalStore x).set (G.gate i).o false) := by
    refine ⟨by simp [hs.size]; rfl, fun w hw => ?_, fun j hj => ?_, fun w hw hno => ?_⟩
    · have : (G.gate i).o ≠ w := by
        have h1 : (G.kill i).nIn = G.nIn := rfl
        rw [h1] at hw; omega
      rw [Store.get_set_ne _ _ _ _ this]
      exact hs.inp w hw
    · obtain ⟨hl, hne⟩ := hsub j hj
      have hoj : (G.gate i).o ≠ (G.gate j).o := fun e => hne (hwf.odist j i hl hlive e.symm)
      rw [gate_kill_ne G i j hne, gateEq, Store.get_set_ne _ _ _ _ hoj, hs.gate_eq hl]
      exact eval_congr_reads _ _ _ fun w hw =>
        (Store.get_set_ne _ (G.gate i).o w _ fun e => hnoread j hl (e ▸ hw)).symm
    · by_cases hw' : (G.gate i).o = w
      · subst hw'
        exact Store.get_set_eq _ _ _ (by rw [hs.size]; exact hob.2)
      · rw [Store.get_set_ne _ _ _ _ hw']
        refine hs.undef w hw (fun j hj => ?_)
        by_cases hji : j = i
        · subst hji; exact hw'
        · have := hno j ((live_kill G i j).mpr ⟨hj, hji⟩)
          rwa [gate_kill_ne G i j hji] at this
  refine compute_eq_of_sols hwf hwf' rfl x _ _ hs hs' (fun w hw => ?_)
  have : (G.gate i).o ≠ w := fun e => hnotout (e ▸ hw)
  exact Store.get_set_ne _ _ _ _ this

structure PInv (G : Graph) : Prop where
  wf    : G.GWF
  flags : ∀ w ∈ G.outputs, (G.wire w).isOut = true
  count : ∀ w, G.readers w ≤ (G.wire w).numOut

theorem readers_kill (G : Graph) (i w : Nat) (hl : G.live i) :
    (G.kill i).readers w = G.readers w - slots w (G.gate i) := by
  have hi : i < G.gates.toList.length := by simpa using hl.1
  simp only [readers, kill_eq, Array.toList_modify]
  rw [rdL_kill w _ i hi (by rw [getElem_gates]; exact hl.2), getElem_gates]

theorem readers_ge (G : Graph) (w i : Nat) (hi : G.live i) : slots w (G.gate i) ≤ G.readers w :=
  rdL_ge w _ _ ((mem_gates G _).mpr ⟨i, hi.1, rfl⟩) hi.2

theorem no_reader_of_count (G : Graph) (w : Nat) (h : G.readers w = 0) (j : Nat) (hj : G.live j) :
    ¬ reads (G.gate j) w := fun hr => by
  have := slots_pos_of_reads _ _ hr
  have := readers_ge G w j hj
  omega

theorem PInv.pruneGate {G G' : Graph} (h : PInv G) (i : Nat) (hi : i < G.gates.size)
    (hr : G.pruneGate i = some G') :
    PInv G' ∧ G'.gates.size = G.gates.size ∧ G'.outputs = G.outputs ∧ ∀ x, G'.compute x = G.compute x := by
  unfold Graph.pruneGate at hr
  simp only at hr
  split at hr
  · cases hr; exact ⟨h, rfl, rfl, fun _ => rfl⟩
  · rename_i hcond
    simp only [Bool.or_eq_true, decide_eq_true_eq, not_or, Bool.not_eq_true, Nat.not_lt,
      Nat.le_zero_eq] at hcond
    obtain ⟨⟨hdead, hnout⟩, hzero⟩ := hcond
    have hlive : G.live i := ⟨hi, hdead⟩
    have hrd0 : G.readers (G.gate i).o = 0 := by
      have := h.count (G.gate i).o; omega
    have hnotout : (G.gate i).o ∉ G.outputs := fun hm => by
      have := h.flags _ hm; rw [hnout] at this; exact Bool.false_ne_true this
    obtain ⟨hkwf, hkc⟩ := kill_preserves G h.wf i hlive (no_reader_of_count G _ hrd0) hnotout
    have fin : ∀ (G1 : Graph), SameGates (G.kill i) G1 →
        (∀ w, (G1.wire w).isOut = (G.wire w).isOut) →
        (∀ w, (G.wire w).numOut - slots w (G.gate i) ≤ (G1.wire w).numOut) →
        PInv G1 ∧ G1.gates.size = G.gates.size ∧ G1.outputs = G.outputs ∧
          ∀ x, G1.compute x = G.compute x := by
      intro G1 hsg hio hno
      refine ⟨⟨hsg.gwf hkwf, fun w hw => ?_, fun w => ?_⟩, by rw [hsg.gates, size_kill], hsg.outputs,
        fun x => (hsg.compute x).trans (hkc x)⟩
      · rw [hio]; exact h.flags w (by rw [hsg.outputs] at hw; exact hw)
      · have e : G1.readers w = (G.kill i).readers w := by simp [readers, hsg.gates]
        rw [e, readers_kill G i w hlive]
        have := h.count w
        have := hno w
        omega
    have hwk : ∀ w, (G.kill i).wire w = G.wire w := fun _ => rfl
    split at hr
    · rename_i hop
      have hw := wire_removeOutput hr
      refine fin G' (sameGates_removeOutput hr) (fun w => (hw w).1) (fun w => ?_)
      rw [(hw w).2, hwk, slots_inv hop]
      exact Nat.le_refl _
    · rename_i hop
      simp only [Option.bind_eq_some_iff] at hr
      obtain ⟨G1, hr1, hr2⟩ := hr
      have hw1 := wire_removeOutput hr1
      have hw2 := wire_removeOutput hr2
      refine fin G' ((sameGates_removeOutput hr1).trans (sameGates_removeOutput hr2))
        (fun w => ((hw2 w).1).trans (hw1 w).1) (fun w => ?_)
      rw [(hw2 w).2, (hw1 w).2, hwk, slots_bin hop]
      omega

theorem PInv.pruneLoop : ∀ (is : List Nat) (G G' : Graph), (∀ i ∈ is, i < G.gates.size) → PInv G →
    pruneLoop is G = some G' → PInv G' ∧ G'.outputs = G.outputs ∧ ∀ x, G'.compute x = G.compute x := by
  intro is
  induction is with
  | nil =>
    intro G G' _ h hr
    simp only [Graph.pruneLoop, Option.some.injEq] at hr; subst hr
    exact ⟨h, rfl, fun _ => rfl⟩
  | cons i is ih =>
    intro G G' hb h hr
    simp only [Graph.pruneLoop] at hr
    split at hr
    · simp at hr
    · rename_i G1 h1
      obtain ⟨hp1, hsz, ho1, hc1⟩ := h.pruneGate i (hb i List.mem_cons_self) h1
      obtain ⟨hp, ho, hc⟩ := ih G1 G' (fun j hj => by rw [hsz]; exact hb j (List.mem_cons_of_mem _ hj)) hp1 hr
      exact ⟨hp, ho.trans ho1, fun x => (hc x).trans (hc1 x)⟩

end Graph
end Mpc
