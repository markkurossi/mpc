/-
Wallace-tree multiplier (C07): column-sum invariant `Σ_i 2^i · (set bits of column i)` for the recursive generator of
Model/Builders.lean, up to `wallace_num`.  `Cols` says which bits the columns carry, the bits being a
variable; the sums (`colsVal`, `cnt`) are taken on those bits and never on the state.
-/
import MpcVerif.Proofs.BuildersKS

namespace Mpc.Bld
open Mpc

def cnt (bs : List Bool) : Nat := (bs.map Bool.toNat).sum

@[simp] theorem cnt_nil : cnt [] = 0 := rfl
@[simp] theorem cnt_cons (b : Bool) (bs : List Bool) : cnt (b :: bs) = b.toNat + cnt bs := by simp [cnt]
theorem cnt_append (a b : List Bool) : cnt (a ++ b) = cnt a + cnt b := by simp [cnt]

def colsVal : List (List Bool) → Nat
  | [] => 0
  | c :: cs => cnt c + 2 * colsVal cs

@[simp] theorem colsVal_nil : colsVal [] = 0 := rfl
@[simp] theorem colsVal_cons (c : List Bool) (cs : List (List Bool)) : colsVal (c :: cs) = cnt c + 2 * colsVal cs := rfl

theorem colsVal_append (l1 l2 : List (List Bool)) :
    colsVal (l1 ++ l2) = colsVal l1 + 2 ^ l1.length * colsVal l2 := by
  induction l1 with
  | nil => simp
  | cons c cs ih =>
    simp only [List.cons_append, colsVal_cons, ih, List.length_cons, Nat.pow_succ', Nat.mul_assoc]
    omega

theorem colsVal_take_mod (l : List (List Bool)) (k : Nat) (hk : k ≤ l.length) :
    colsVal (l.take k) % 2 ^ k = colsVal l % 2 ^ k := by
  conv => rhs; rw [← List.take_append_drop k l, colsVal_append, List.length_take, Nat.min_eq_left hk]
  rw [Nat.add_mul_mod_self_left]

theorem colsVal_replicate_nil (k : Nat) : colsVal (List.replicate k []) = 0 := by
  induction k with
  | zero => rfl
  | succ k ih => simp [List.replicate_succ, ih]

@[simp] theorem addAt_zero_nil {α : Type} (cols : List (List α)) : addAt 0 cols [] = cols := by
  cases cols <;> rfl

theorem addAt_length {α : Type} : ∀ (i : Nat) (cols : List (List α)) (ws : List α),
    i + ws.length ≤ cols.length → (addAt i cols ws).length = cols.length
  | 0, c :: cs, w :: ws, h => by
    simp only [addAt, List.length_cons]
    rw [addAt_length 0 cs ws (by simp at h ⊢; omega)]
  | 0, cs, [], _ => by rw [addAt_zero_nil]
  | 0, [], _ :: _, h => by simp at h
  | i + 1, c :: cs, ws, h => by
    simp only [addAt, List.length_cons]
    rw [addAt_length i cs ws (by simp at h; omega)]
  | _ + 1, [], _, h => by simp at h

theorem addAt_map {α β : Type} (f : α → β) : ∀ (i : Nat) (cols : List (List α)) (ws : List α),
    (addAt i cols ws).map (List.map f) = addAt i (cols.map (List.map f)) (ws.map f)
  | 0, c :: cs, w :: ws => by simp [addAt, addAt_map f 0 cs ws]
  | 0, cs, [] => by simp
  | 0, [], _ :: _ => by simp [addAt]
  | i + 1, c :: cs, ws => by simp [addAt, addAt_map f i cs ws]
  | _ + 1, [], _ => by simp [addAt]

theorem addAt_col {α : Type} : ∀ (i : Nat) (cols : List (List α)) (ws : List α), ∀ c' ∈ addAt i cols ws,
    ∃ c ∈ cols, c' = c ∨ ∃ w ∈ ws, c' = c ++ [w]
  | 0, c0 :: cs, w :: ws, c', hc => by
    simp only [addAt, List.mem_cons] at hc
    rcases hc with rfl | hc
    · exact ⟨c0, List.mem_cons_self, .inr ⟨w, List.mem_cons_self, rfl⟩⟩
    · obtain ⟨c, hc, h⟩ := addAt_col 0 cs ws c' hc
      exact ⟨c, List.mem_cons_of_mem _ hc, h.imp_right fun ⟨w', hw', e⟩ => ⟨w', List.mem_cons_of_mem _ hw', e⟩⟩
  | 0, cs, [], c', hc => ⟨c', by rwa [addAt_zero_nil] at hc, .inl rfl⟩
  | 0, [], _ :: _, _, hc => by simp [addAt] at hc
  | i + 1, c0 :: cs, ws, c', hc => by
    simp only [addAt, List.mem_cons] at hc
    rcases hc with rfl | hc
    · exact ⟨c', List.mem_cons_self, .inl rfl⟩
    · obtain ⟨c, hc, h⟩ := addAt_col i cs ws c' hc
      exact ⟨c, List.mem_cons_of_mem _ hc, h⟩
  | _ + 1, [], _, _, hc => by simp [addAt] at hc

theorem addAt_height {α : Type} {H i : Nat} {cols : List (List α)} {ws : List α}
    (h : ∀ c ∈ cols, c.length ≤ H) : ∀ c ∈ addAt i cols ws, c.length ≤ H + 1 := by
  intro c' hc'
  obtain ⟨c, hc, e | ⟨w, _, e⟩⟩ := addAt_col i cols ws c' hc'
  · rw [e]; exact Nat.le_succ_of_le (h c hc)
  · rw [e, List.length_append]; exact Nat.succ_le_succ (h c hc)

theorem colsVal_addAt : ∀ (i : Nat) (cols : List (List Bool)) (ws : List Bool),
    i + ws.length ≤ cols.length → colsVal (addAt i cols ws) = colsVal cols + 2 ^ i * toNat ws
  | 0, c :: cs, w :: ws, h => by
    simp only [addAt, colsVal_cons, cnt_append, cnt_cons, cnt_nil, toNat_cons]
    rw [colsVal_addAt 0 cs ws (by simp at h ⊢; omega)]
    simp; omega
  | 0, cs, [], _ => by simp
  | 0, [], _ :: _, h => by simp at h
  | i + 1, c :: cs, ws, h => by
    simp only [addAt, colsVal_cons]
    rw [colsVal_addAt i cs ws (by simp at h; omega), Nat.pow_succ', Nat.mul_assoc]
    omega
  | _ + 1, [], _, h => by simp at h

theorem cnt_getD (bv : List Bool) (h : bv.length ≤ 2) : cnt bv = (bv.getD 0 false).toNat + (bv.getD 1 false).toNat := by
  match bv, h with
  | [], _ => rfl
  | [_], _ => simp
  | [_, _], _ => simp
  | _ :: _ :: _ :: _, h => simp at h

theorem two_mul_mod_pow (x y L : Nat) (h : x % 2 ^ L = y % 2 ^ L) : (2 * x) % 2 ^ (L + 1) = (2 * y) % 2 ^ (L + 1) := by
  rw [Nat.pow_succ, Nat.mul_comm (2 ^ L) 2, Nat.mul_mod_mul_left, Nat.mul_mod_mul_left, h]

theorem maxH_le_iff (cols : List (List Nat)) (H : Nat) : maxH cols ≤ H ↔ ∀ c ∈ cols, c.length ≤ H := by
  unfold maxH
  have : ∀ (cols : List (List Nat)) (m : Nat),
      cols.foldl (fun m c => max m c.length) m ≤ H ↔ (m ≤ H ∧ ∀ c ∈ cols, c.length ≤ H) := by
    intro cols
    induction cols with
    | nil => intro m; simp
    | cons c cs ih =>
      intro m
      simp only [List.foldl_cons, ih, List.mem_cons, forall_eq_or_imp, Nat.max_le, and_assoc]
  rw [this cols 0]; simp

variable {s s' : St} {inp : List Bool}

namespace Cols
variable {cols : List (List Nat)} {cv : List (List Bool)} {c : List Nat} {bv : List Bool}

theorem replicate_nil (k : Nat) : Cols s inp (List.replicate k []) (List.replicate k []) :=
  ⟨fun c hc => List.eq_of_mem_replicate hc ▸ Bnd.nil s, by rw [List.map_replicate]; rfl⟩

theorem addAt {ws : List Nat} {bs : List Bool} (h : Cols s inp cols cv) (hw : Bits s inp ws bs) (i : Nat) :
    Cols s inp (addAt i cols ws) (Mpc.Bld.addAt i cv bs) := by
  refine ⟨fun c' hc' => ?_, by rw [← h.val, ← hw.val]; exact addAt_map (s.val inp) i cols ws⟩
  obtain ⟨c, hc, e | ⟨w, hww, e⟩⟩ := addAt_col i cols ws c' hc'
  · rw [e]; exact h.bnd c hc
  · rw [e]; exact (h.bnd c hc).append (Bnd.cons (hw.bnd w hww) (Bnd.nil s))

end Cols

theorem wlRow_bits (ai : Nat) {av : Bool} (b : List Nat) : ∀ {bv : List Bool} {s : St} (_ : WF s inp),
    Holds s inp ai av → Bits s inp b bv → Spec inp s (wlRow ai b) (fun r s' => Bits s' inp r (bv.map (av && ·))) := by
  induction b with
  | nil => intro bv s hwf _ hb; obtain rfl : bv = [] := hb.val.symm; exact Spec.pure hwf .nil
  | cons bj bs ih =>
    intro bv s hwf ha hb
    obtain ⟨b0, bv, rfl, hb0, hb⟩ := hb.uncons
    simp only [wlRow]
    refine Spec.bind (gate_spec .and hwf ha hb0) ?_
    intro w s1 e1 hw
    refine Spec.bind (ih e1.wf (ha.mono e1) (hb.mono e1)) ?_
    intro r s2 e2 hr
    exact Spec.pure e2.wf (.cons (hw.mono e2) hr)

theorem wlPP_cols (b : List Nat) {bv : List Bool} : ∀ (as : List Nat) (i : Nat) (cols : List (List Nat))
    {av : List Bool} {cv : List (List Bool)} {s : St} (_ : WF s inp), Bits s inp b bv → Bits s inp as av →
    Cols s inp cols cv → i + as.length + b.length ≤ cols.length + 1 →
    Spec inp s (wlPP b as i cols) (fun r s' => r.length = cols.length ∧
      (∃ cv', Cols s' inp r cv' ∧ colsVal cv' = colsVal cv + 2 ^ i * (toNat av * toNat bv)) ∧
      ∀ H, (∀ c ∈ cols, c.length ≤ H) → ∀ c ∈ r, c.length ≤ H + as.length)
  | [], i, cols, av, cv, s, hwf, _, ha, hc, _ => by
    obtain rfl : av = [] := ha.val.symm
    simp only [wlPP]
    exact Spec.pure hwf ⟨rfl, ⟨cv, hc, by simp⟩, fun H h => h⟩
  | ai :: as, i, cols, av, cv, s, hwf, hb, ha, hc, hl => by
    obtain ⟨a0, av, rfl, ha0, ha⟩ := ha.uncons
    simp only [wlPP]
    refine Spec.bind (wlRow_bits ai b hwf ha0 hb) ?_
    intro row s1 e1 hrow
    have hbl := hb.num.len
    have hrl : row.length = b.length := by rw [hrow.num.len, List.length_map, hbl]
    rw [List.length_cons] at hl
    have hfit : i + row.length ≤ cols.length := by omega
    refine (wlPP_cols b as (i + 1) (Mpc.Bld.addAt i cols row) e1.wf (hb.mono e1) (ha.mono e1)
      ((hc.mono e1).addAt hrow i) (by rw [addAt_length i cols row hfit]; omega)).mono ?_
    intro r s2 _ ⟨hrl2, ⟨cv', hr, hrv⟩, hrh⟩
    refine ⟨by rw [hrl2, addAt_length i cols row hfit], ⟨cv', hr, ?_⟩, ?_⟩
    · rw [hrv, colsVal_addAt _ _ _ (by rw [List.length_map, hc.length]; omega), toNat_map_and', toNat_cons,
        Nat.pow_succ]
      grind
    · intro H hH c hc'
      have := hrh (H + 1) (addAt_height hH) c hc'
      rw [List.length_cons]; omega

theorem wlReduceCol_bits : ∀ (col : List Nat) {bv : List Bool} {s : St} (_ : WF s inp), Bits s inp col bv →
    Spec inp s (wlReduceCol col) (fun r s' => r.1.length = (col.length + 2) / 3 ∧
      r.2.length = (col.length + 1) / 3 ∧
      ∃ ov cv, Bits s' inp r.1 ov ∧ Bits s' inp r.2 cv ∧ cnt ov + 2 * cnt cv = cnt bv)
  | a :: b :: c :: rest, bv, s, hwf, hb => by
    obtain ⟨av, bv, rfl, ha, hb⟩ := hb.uncons
    obtain ⟨bv', bv, rfl, hb', hb⟩ := hb.uncons
    obtain ⟨cv', bv, rfl, hc', hb⟩ := hb.uncons
    simp only [wlReduceCol]
    refine Spec.bind (fullAdder_h hwf ha hb' hc') ?_
    intro r s1 e1 ⟨hr1, hr2⟩
    refine Spec.bind (wlReduceCol_bits rest e1.wf (hb.mono e1)) ?_
    intro t s2 e2 ⟨ht1l, ht2l, ov, cv, ht1, ht2, htv⟩
    refine Spec.pure e2.wf ⟨by simp [ht1l]; omega, by simp [ht2l]; omega, _, _, .cons (hr1.mono e2) ht1,
      .cons (hr2.mono e2) ht2, ?_⟩
    simp only [cnt_cons]
    have := fullAdder_sum av bv' cv'
    omega
  | [a, b], bv, s, hwf, hb => by
    obtain ⟨av, bv, rfl, ha, hb⟩ := hb.uncons
    obtain ⟨bv', bv, rfl, hb', hb⟩ := hb.uncons
    obtain rfl : bv = [] := hb.val.symm
    simp only [wlReduceCol]
    refine (halfAdder_h hwf ha hb').map ?_
    intro r s1 _ ⟨hr1, hr2⟩
    refine ⟨by simp, by simp, _, _, .cons hr1 .nil, .cons hr2 .nil, ?_⟩
    simp only [cnt_cons, cnt_nil]
    have := halfAdder_sum av bv'
    omega
  | [a], bv, s, hwf, hb => by
    simp only [wlReduceCol]
    exact Spec.pure hwf ⟨by simp, by simp, bv, [], hb, .nil, by simp⟩
  | [], bv, s, hwf, hb => by
    simp only [wlReduceCol]
    exact Spec.pure hwf ⟨by simp, by simp, bv, [], hb, .nil, by simp⟩

/-- Modulo `2^cols.length` only: the carries out of the last column are dropped. -/
theorem wlRound_cols : ∀ (cols : List (List Nat)) (cin : List Nat) {cv : List (List Bool)} {civ : List Bool} {s : St}
    (_ : WF s inp), Cols s inp cols cv → Bits s inp cin civ →
    Spec inp s (wlRound cols cin) (fun r s' => r.length = cols.length ∧
      (∃ cv', Cols s' inp r cv' ∧ colsVal cv' % 2 ^ cols.length = (cnt civ + colsVal cv) % 2 ^ cols.length) ∧
      ∀ H, (∀ c ∈ cols, c.length ≤ H) → cin.length ≤ (H + 1) / 3 →
        ∀ c' ∈ r, c'.length ≤ (H + 2) / 3 + (H + 1) / 3)
  | [], cin, cv, civ, s, hwf, _, _ => by
    simp only [wlRound]
    exact Spec.pure hwf ⟨rfl, ⟨[], .nil, by simp [Nat.mod_one]⟩, fun _ _ _ _ h => nomatch h⟩
  | col :: rest, cin, cv, civ, s, hwf, hc, hcin => by
    obtain ⟨bv, cv, rfl, hcol, hrest⟩ := hc.uncons
    simp only [wlRound]
    refine Spec.bind (wlReduceCol_bits col hwf hcol) ?_
    intro r s1 e1 ⟨hr1l, hr2l, ov, crv, hr1, hr2, hrv⟩
    refine Spec.bind (wlRound_cols rest r.2 e1.wf (hrest.mono e1) hr2) ?_
    intro t s2 e2 ⟨htl, ⟨cv', ht, htv⟩, hth⟩
    refine Spec.pure e2.wf ⟨by simp [htl], ⟨_, .cons ((hcin.mono (e1.trans e2)).append (hr1.mono e2)) ht, ?_⟩, ?_⟩
    · simp only [colsVal_cons, List.length_cons, cnt_append]
      have h2 := two_mul_mod_pow _ _ _ htv
      -- cin + o + 2·new ≡ cin + o + 2·(co + rest) = cin + col + 2·rest
      rw [show cnt civ + (cnt bv + 2 * colsVal cv) = (cnt civ + cnt ov) + 2 * (cnt crv + colsVal cv) by omega,
        Nat.add_mod _ (2 * colsVal _), h2, ← Nat.add_mod]
    · intro H hH hci c' hc'
      have hcolH := hH col (by simp)
      rcases List.mem_cons.mp hc' with rfl | hc'
      · simp only [List.length_append, hr1l]
        omega
      · exact hth H (fun c h => hH c (by simp [h])) (by rw [hr2l]; omega) c' hc'

/-- A round lowers a maximal height `H > 2`, to at most `(H + 2) / 3 + (H + 1) / 3`, so `fuel` rounds suffice from
`maxH cols ≤ fuel + 2`. -/
theorem wlLoop_cols : ∀ (fuel : Nat) (cols : List (List Nat)) {cv : List (List Bool)} {s : St} (_ : WF s inp),
    Cols s inp cols cv → maxH cols ≤ fuel + 2 →
    Spec inp s (wlLoop fuel cols) (fun r s' => r.length = cols.length ∧ maxH r ≤ 2 ∧
      ∃ cv', Cols s' inp r cv' ∧ colsVal cv' % 2 ^ cols.length = colsVal cv % 2 ^ cols.length)
  | 0, cols, cv, s, hwf, hc, hm => by
    simp only [wlLoop]
    exact Spec.pure hwf ⟨rfl, by omega, cv, hc, rfl⟩
  | fuel + 1, cols, cv, s, hwf, hc, hm => by
    simp only [wlLoop]
    split
    · next h => exact Spec.pure hwf ⟨rfl, h, cv, hc, rfl⟩
    · next h =>
      refine Spec.bind (wlRound_cols cols [] hwf hc .nil) ?_
      intro cols' s1 e1 ⟨hcl, ⟨cv1, hc1, hcv⟩, hch⟩
      have hH := (maxH_le_iff cols (maxH cols)).mp (Nat.le_refl _)
      have hnew : maxH cols' ≤ fuel + 2 := by
        rw [maxH_le_iff]
        intro c hc'
        have := hch (maxH cols) hH (by simp) c hc'
        omega
      refine (wlLoop_cols fuel cols' e1.wf hc1 hnew).mono ?_
      intro r s2 _ ⟨hrl, hrm, cv2, hc2, hrv⟩
      rw [hcl] at hrl hrv
      exact ⟨hrl, hrm, cv2, hc2, by rw [hrv, hcv, cnt_nil, Nat.zero_add]⟩

theorem wlRows_num : ∀ (cols : List (List Nat)) {cv : List (List Bool)} {s : St} (_ : WF s inp), Cols s inp cols cv →
    (∀ c ∈ cols, c.length ≤ 2) →
    Spec inp s (wlRows cols) (fun r s' => ∃ R1 R2, Num s' inp r.1 cols.length R1 ∧ Num s' inp r.2 cols.length R2 ∧
      R1 + R2 = colsVal cv)
  | [], cv, s, hwf, hc, _ => by
    obtain rfl := hc.of_nil
    simp only [wlRows]
    exact Spec.pure hwf ⟨0, 0, .nil, .nil, rfl⟩
  | col :: rest, cv, s, hwf, hc, hh => by
    obtain ⟨bv, cv, rfl, hcol, hrest⟩ := hc.uncons
    simp only [wlRows]
    have h1 : Spec inp s (match col with
        | w :: _ => pure w
        | [] => zeroWire) (fun w s' => Holds s' inp w (bv.getD 0 false)) := by
      cases col with
      | nil => obtain rfl : [] = bv := hcol.val; exact zeroWire_spec hwf
      | cons w _ => obtain ⟨b0, _, rfl, h0, _⟩ := hcol.uncons; exact Spec.pure hwf h0
    refine Spec.bind h1 ?_
    intro r1 s1 e1 hr1
    have h2 : Spec inp s1 (match col with
        | _ :: w :: _ => pure w
        | _ => zeroWire) (fun w s' => Holds s' inp w (bv.getD 1 false)) := by
      match col, hcol with
      | [], hcol => obtain rfl : [] = bv := hcol.val; exact zeroWire_spec e1.wf
      | [_], hcol =>
        obtain ⟨_, _, rfl, _, hcol⟩ := hcol.uncons
        obtain rfl : [] = _ := hcol.val
        exact zeroWire_spec e1.wf
      | _ :: w :: _, hcol =>
        obtain ⟨_, _, rfl, _, hcol⟩ := hcol.uncons
        obtain ⟨_, _, rfl, h1, _⟩ := hcol.uncons
        exact Spec.pure e1.wf (h1.mono e1)
    refine Spec.bind h2 ?_
    intro r2 s2 e2 hr2
    refine Spec.bind (wlRows_num rest e2.wf (hrest.mono (e1.trans e2)) (fun c h => hh c (List.mem_cons_of_mem _ h))) ?_
    intro t s3 e3 ⟨R1, R2, ht1, ht2, htv⟩
    refine Spec.pure e3.wf ⟨_, _, .cons (hr1.mono (e2.trans e3)) ht1, .cons (hr2.mono e3) ht2, ?_⟩
    have := cnt_getD bv (by rw [← hcol.num.len]; exact hh col List.mem_cons_self)
    simp only [colsVal_cons]
    omega

/-- `NewWallaceMultiplier` is exact for every operand and result width:
`(a·b) mod 2^nr`. -/
theorem wallace_num (hwf : WF s inp) {a b : List Nat} {na nb A B : Nat} (nr : Nat) (ha : Num s inp a na A)
    (hb : Num s inp b nb B) (hnr : 0 < nr) :
    Spec inp s (wallace a b nr) (fun z s' => Num s' inp z nr ((A * B) % 2 ^ nr)) := by
  unfold wallace
  refine Spec.bind (pad_num hwf nr ha) ?_
  intro a' s1 e1 ha'
  refine Spec.bind (pad_num e1.wf nr (hb.mono e1)) ?_
  intro b' s2 e2 hb'
  simp only
  obtain ⟨av, hab, hal, hav⟩ := ((ha'.mono e2).take nr).bits
  obtain ⟨bv, hbb, hbl, hbv⟩ := (hb'.take nr).bits
  have hal' := hab.num.len
  have hbl' := hbb.num.len
  refine Spec.bind (wlPP_cols (b'.take nr) (a'.take nr) 0 (List.replicate (2 * nr) []) e2.wf hbb hab
    (.replicate_nil _) (by rw [List.length_replicate]; omega)) ?_
  intro cols s3 e3 ⟨hcl, ⟨cv, hc, hcv⟩, hch⟩
  rw [colsVal_replicate_nil, hav, hbv, Nat.pow_zero, Nat.one_mul, Nat.zero_add] at hcv
  rw [List.length_replicate] at hcl
  have hmax : maxH cols ≤ (2 * nr + 8) + 2 := by
    rw [maxH_le_iff]
    intro c hc
    have := hch 0 (fun c hc => by rw [List.eq_of_mem_replicate hc]; exact Nat.le_refl 0) c hc
    omega
  refine Spec.bind (wlLoop_cols (2 * nr + 8) cols e3.wf hc hmax) ?_
  intro cols1 s4 e4 ⟨hc1l, hc1m, cv1, hc1, hc1v⟩
  rw [hcl] at hc1l hc1v
  have hh2 := (maxH_le_iff cols1 2).mp hc1m
  refine Spec.bind (wlRows_num (cols1.take nr) e4.wf (hc1.take nr) (fun c hc => hh2 c (List.mem_of_mem_take hc))) ?_
  intro rows s5 e5 ⟨R1, R2, hr1, hr2, hrv⟩
  rw [List.length_take, hc1l, Nat.min_eq_left (by omega)] at hr1 hr2
  refine (ksAdder_num e5.wf nr hr1 hr2 hnr).mono fun z s6 _ hz => hz.cast rfl ?_
  -- low columns ≡ all columns ≡ a·b
  rw [hrv, colsVal_take_mod _ nr (by rw [hc1.length, hc1l]; omega),
    mod_two_pow_congr (Nat.le_mul_of_pos_left nr Nat.zero_lt_two) hc1v, hcv, ← Nat.mul_mod]

end Mpc.Bld
