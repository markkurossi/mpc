/-
The receive half `Recv` of Model/Conn.lean, for every fragmentation of the transport's reads.  `read_spec`: one
`conn.Read` loses and reorders nothing unread; `Filled`: `Fill` succeeds exactly when the bytes asked for are still to
come, otherwise it reports the end of the stream; `Recvd`: a typed receive returns the value whose encoding heads the
unread bytes (`recv*_spec`), and the end of the stream when the stream ends inside that encoding (`recv*_eof`).
-/
import MpcVerif.Proofs.ConnBytes

namespace Mpc.Conn
open ByteArray

structure RInv (r : Recv) : Prop where
  rs_le : r.rs ≤ r.buf.size
  buf_le : r.buf.size ≤ readBufSize
  pos_le : r.pos ≤ r.pend.size

/-- Accounting between two receiver states: same transport stream, and
`Stats.Recvd` grew by exactly the bytes taken from the transport. -/
structure Acct (r r' : Recv) : Prop where
  pend_eq : r'.pend = r.pend
  pos_mono : r.pos ≤ r'.pos
  recvd_eq : r'.recvd + r.pos = r.recvd + r'.pos

theorem Acct.refl (r : Recv) : Acct r r := ⟨rfl, Nat.le_refl _, rfl⟩

theorem Acct.trans {a b c : Recv} (h1 : Acct a b) (h2 : Acct b c) : Acct a c :=
  ⟨h2.pend_eq.trans h1.pend_eq, Nat.le_trans h1.pos_mono h2.pos_mono,
   by have := h1.recvd_eq; have := h2.recvd_eq; omega⟩

theorem Recv.unread_eq (r : Recv) :
    r.unread = r.buf.extract r.rs r.buf.size ++ r.pend.extract r.pos r.pend.size := rfl

theorem size_unread (r : Recv) : r.unread.size = (r.buf.size - r.rs) + (r.pend.size - r.pos) := by
  simp only [Recv.unread_eq, ByteArray.size_append, ByteArray.size_extract, Nat.min_self]

theorem RInv_init (stream : ByteArray) : RInv (Recv.init stream) :=
  ⟨Nat.le_refl _, Nat.zero_le _, Nat.zero_le _⟩

theorem unread_init (stream : ByteArray) : (Recv.init stream).unread = stream := by
  simp [Recv.init, Recv.unread_eq]

theorem append_pend_spec (r : Recv) (b : ByteArray) (hi : RInv r) :
    RInv { r with pend := r.pend ++ b } ∧ ({ r with pend := r.pend ++ b } : Recv).unread = r.unread ++ b := by
  refine ⟨⟨hi.rs_le, hi.buf_le, ByteArray.size_append ▸ Nat.le_trans hi.pos_le (Nat.le_add_right _ _)⟩, ?_⟩
  simp only [Recv.unread_eq]
  rw [ByteArray.append_assoc, ByteArray.extract_append, ByteArray.size_append,
    extract_ge_size _ _ _ (Nat.le_add_right _ _), Nat.sub_eq_zero_of_le hi.pos_le,
    Nat.add_sub_cancel_left, ByteArray.extract_zero_size]

theorem read_spec (r : Recv) (hi : RInv r) (got nread : Nat) (rlog : UInt64)
    (hc : r.buf.size + got ≤ readBufSize) (hr : r.pos + got ≤ r.pend.size) :
    let r' : Recv := { r with buf := r.buf ++ r.pend.extract r.pos (r.pos + got), pos := r.pos + got,
                              nread := nread, recvd := r.recvd + got, rlog := rlog }
    RInv r' ∧ r'.unread = r.unread ∧ Acct r r' := by
  have hsz := size_extract_add r.pend r.pos got hr
  have hrs := hi.rs_le
  refine ⟨⟨?_, ?_, hr⟩, ?_, rfl, Nat.le_add_right _ _, by simp only; omega⟩
  · simp only [ByteArray.size_append]; omega
  · simp only [ByteArray.size_append, hsz]; exact hc
  · simp only [Recv.unread_eq]
    rw [ByteArray.extract_append, ByteArray.size_append, hsz,
      extract_ge_size r.buf r.rs _ (Nat.le_add_right _ _), Nat.sub_eq_zero_of_le hrs,
      Nat.add_sub_cancel_left, extract_ge_size _ 0 got (Nat.le_of_eq hsz),
      ByteArray.extract_zero_size, ByteArray.append_assoc,
      ← ByteArray.extract_eq_extract_append_extract (r.pos + got) (Nat.le_add_right _ _) hr]

def Filled (n : Nat) (r : Recv) (res : Except Err Recv) : Prop :=
  (n ≤ r.unread.size → ∃ r', res = .ok r' ∧ RInv r' ∧ r'.unread = r.unread ∧
    r'.rs + n ≤ r'.buf.size ∧ Acct r r') ∧
  (r.unread.size < n → res = .error .eof)

theorem Filled.ok {n : Nat} {r : Recv} (hi : RInv r) (h : r.rs + n ≤ r.buf.size) :
    Filled n r (.ok r) := by
  have := size_unread r
  have := hi.rs_le
  exact ⟨fun _ => ⟨r, rfl, hi, rfl, h, Acct.refl r⟩, fun _ => by omega⟩

theorem Filled.of_acct {n : Nat} {r r1 : Recv} {res : Except Err Recv} (h : Filled n r1 res)
    (u : r1.unread = r.unread) (a : Acct r r1) : Filled n r res := by
  rw [Filled, u] at h
  exact ⟨fun hav => let ⟨r', e, i', u', av', a'⟩ := h.1 hav; ⟨r', e, i', u', av', a.trans a'⟩, h.2⟩

theorem fillLoop_spec (frag : Frag) (n : Nat) (r : Recv) (hi : RInv r) (hn : r.rs + n ≤ readBufSize) :
    Filled n r (r.fillLoop frag n) := by
  fun_induction Recv.fillLoop frag n r with
  | case1 r h rem hr =>
    have : rem = r.pend.size - r.pos := rfl
    have := size_unread r
    have := hi.rs_le
    exact ⟨fun _ => by omega, fun _ => rfl⟩
  | case2 r h cap rem hr hc =>
    have : cap = readBufSize - r.buf.size := rfl
    have := hi.rs_le
    omega
  | case3 r h cap rem hr hc got ih =>
    have h1 : got ≤ readBufSize - r.buf.size := Nat.le_trans (Nat.min_le_right _ _) (Nat.min_le_left _ _)
    have h2 : got ≤ r.pend.size - r.pos := Nat.le_trans (Nat.min_le_right _ _) (Nat.min_le_right _ _)
    obtain ⟨i1, u1, a1⟩ := read_spec r hi got (r.nread + 1) (mix64 r.rlog cap got)
      (Nat.add_le_of_le_sub' hi.buf_le h1) (Nat.add_le_of_le_sub' hi.pos_le h2)
    exact (ih i1 hn).of_acct u1 a1
  | case4 r h => exact Filled.ok hi (Nat.le_of_not_gt h)

/-- `Fill` begins by moving the window to the start of the buffer. -/
theorem compact_spec (r : Recv) (hi : RInv r) :
    let rc : Recv := if r.rs < r.buf.size then { r with buf := r.buf.extract r.rs r.buf.size, rs := 0 }
                     else { r with buf := ByteArray.empty, rs := 0 }
    RInv rc ∧ rc.unread = r.unread ∧ rc.rs = 0 ∧ Acct r rc := by
  intro rc
  -- in both cases the new buffer is the old window
  have hrc : rc = { r with buf := r.buf.extract r.rs r.buf.size, rs := 0 } := by
    by_cases h : r.rs < r.buf.size
    · exact if_pos h
    · rw [ByteArray.extract_eq_empty_iff.mpr (by omega : min r.buf.size r.buf.size ≤ r.rs)]
      exact if_neg h
  have hb := hi.buf_le
  rw [hrc]
  refine ⟨⟨Nat.zero_le _, by rw [ByteArray.size_extract]; omega, hi.pos_le⟩, ?_, rfl, rfl, Nat.le_refl _, rfl⟩
  simp only [Recv.unread_eq, ByteArray.extract_zero_size]

theorem fill_spec (frag : Frag) (n : Nat) (r : Recv) (hi : RInv r) (hn : n ≤ readBufSize) :
    Filled n r (r.fill frag n) := by
  obtain ⟨ic, uc, rc0, ac⟩ := compact_spec r hi
  exact (fillLoop_spec frag n _ ic (by rw [rc0, Nat.zero_add]; exact hn)).of_acct uc ac

theorem ensure_spec (frag : Frag) (n : Nat) (r : Recv) (hi : RInv r) (hn : n ≤ readBufSize) :
    Filled n r (r.ensure frag n) := by
  unfold Recv.ensure
  split
  · exact fill_spec frag n r hi hn
  · next h => exact Filled.ok hi (Nat.le_of_not_gt h)

theorem take_spec (k : Nat) (r : Recv) (hi : RInv r) (hk : r.rs + k ≤ r.buf.size)
    (x tail : ByteArray) (hx : x.size = k) (hu : r.unread = x ++ tail) :
    (r.take k).1 = x ∧ RInv (r.take k).2 ∧ (r.take k).2.unread = tail ∧ Acct r (r.take k).2 := by
  have hsplit : r.unread = r.buf.extract r.rs (r.rs + k) ++ (r.take k).2.unread := by
    simp only [Recv.take, Recv.unread_eq]
    rw [← ByteArray.append_assoc,
      ← ByteArray.extract_eq_extract_append_extract (r.rs + k) (Nat.le_add_right _ _) hk]
  have hsz := size_extract_add r.buf r.rs k hk
  obtain ⟨e1, e2⟩ := (ByteArray.append_eq_append_iff_of_size_eq_left (hsz.trans hx.symm)).mp
    (hsplit.symm.trans hu)
  exact ⟨e1, ⟨hk, hi.buf_le, hi.pos_le⟩, e2, rfl, Nat.le_refl _, rfl⟩

def Recvd {α : Type} (r : Recv) (res : Except Err (α × Recv)) (v : α) (tail : ByteArray) : Prop :=
  ∃ r', res = .ok (v, r') ∧ RInv r' ∧ r'.unread = tail ∧ Acct r r'

theorem Recvd.of_acct {α : Type} {r r1 : Recv} {res : Except Err (α × Recv)} {v : α}
    {tail : ByteArray} (h : Recvd r1 res v tail) (a : Acct r r1) : Recvd r res v tail :=
  let ⟨r', e, i, u, a'⟩ := h
  ⟨r', e, i, u, a.trans a'⟩

theorem recvBE_spec (frag : Frag) (k : Nat) (r : Recv) (hi : RInv r) (hk : k ≤ readBufSize)
    (x tail : ByteArray) (hx : x.size = k) (hu : r.unread = x ++ tail) :
    Recvd r (r.recvBE frag k) (decodeBE x) tail := by
  obtain ⟨r1, e1, i1, u1, av1, ac1⟩ := (ensure_spec frag k r hi hk).1
    (by rw [hu, ByteArray.size_append]; omega)
  obtain ⟨t1, t2, t3, t4⟩ := take_spec k r1 i1 av1 x tail hx (u1.trans hu)
  refine ⟨(r1.take k).2, ?_, t2, t3, ac1.trans t4⟩
  rw [Recv.recvBE, e1, ← t1]

theorem recvBE_be (frag : Frag) (k n : Nat) (hn : n < 256 ^ k) (r : Recv) (hi : RInv r)
    (hk : k ≤ readBufSize) (tail : ByteArray) (hu : r.unread = be k n ++ tail) :
    Recvd r (r.recvBE frag k) n tail := by
  have := recvBE_spec frag k r hi hk (be k n) tail (size_be k n) hu
  rwa [decodeBE_be, Nat.mod_eq_of_lt hn] at this

theorem recvByte_spec (frag : Frag) (b : UInt8) (r : Recv) (hi : RInv r)
    (tail : ByteArray) (hu : r.unread = [b].toByteArray ++ tail) :
    Recvd r (r.recvByte frag) b tail := by
  obtain ⟨r1, e1, i1, u1, av1, ac1⟩ := (ensure_spec frag 1 r hi (by decide)).1
    (by rw [hu, ByteArray.size_append]; exact Nat.le_add_right _ _)
  obtain ⟨t1, t2, t3, t4⟩ := take_spec 1 r1 i1 av1 [b].toByteArray tail rfl (u1.trans hu)
  refine ⟨(r1.take 1).2, ?_, t2, t3, ac1.trans t4⟩
  simp only [Recv.take] at t1
  rw [ByteArray.extract_add_one av1] at t1
  have hb : r1.buf[r1.rs] = b := by simpa using List.toByteArray_inj.mp t1
  rw [Recv.recvByte, e1]
  simp only []
  rw [getElem!_pos r1.buf r1.rs (by omega), hb]
  rfl

/-- The conditional `Fill` at the head of the `ReceiveData` copy loop. -/
theorem refill_spec (frag : Frag) (len read : Nat) (hlt : read < len) (r : Recv) (hi : RInv r) :
    match (if _h : r.rs ≥ r.buf.size then r.fill frag (min (len - read) readBufSize) else .ok r) with
    | .ok r1 => RInv r1 ∧ r1.unread = r.unread ∧ r1.rs < r1.buf.size ∧ Acct r r1
    | .error e => e = .eof ∧ read + r.unread.size < len := by
  have hm : min (len - read) readBufSize ≤ len - read := Nat.min_le_left _ _
  have hb : min (len - read) readBufSize ≤ readBufSize := Nat.min_le_right _ _
  have hm0 : 0 < min (len - read) readBufSize := Nat.lt_min.mpr ⟨Nat.sub_pos_of_lt hlt, by decide⟩
  generalize min (len - read) readBufSize = m at hm hb hm0 ⊢
  by_cases hw : r.rs ≥ r.buf.size
  · rw [dif_pos hw]
    have hf := fill_spec frag m r hi hb
    by_cases hs : m ≤ r.unread.size
    · obtain ⟨r', e, i', u', av', a'⟩ := hf.1 hs
      rw [e]
      exact ⟨i', u', by omega, a'⟩
    · rw [hf.2 (by omega)]
      exact ⟨rfl, by omega⟩
  · rw [dif_neg hw]
    exact ⟨hi, rfl, by omega, Acct.refl r⟩

theorem recvDataLoop_spec (frag : Frag) (len read : Nat) (acc : ByteArray) (r : Recv) (hi : RInv r) :
    (∀ x tail, x.size = len - read → r.unread = x ++ tail →
      Recvd r (r.recvDataLoop frag len read acc) (acc ++ x) tail) ∧
    (read + r.unread.size < len → r.recvDataLoop frag len read acc = .error .eof) := by
  fun_induction Recv.recvDataLoop frag len read acc r with
  | case1 read acc r hlt e he =>
    have h := refill_spec frag len read hlt r hi
    rw [he] at h
    refine ⟨fun x tail hx hu => ?_, fun _ => by rw [h.1]⟩
    have := congrArg ByteArray.size hu
    rw [ByteArray.size_append] at this
    omega
  | case2 read acc r hlt r1 he avail ha =>
    have h := refill_spec frag len read hlt r hi
    rw [he] at h
    exact absurd ha (Nat.ne_of_gt (Nat.lt_min.mpr ⟨Nat.sub_pos_of_lt h.2.2.1, Nat.sub_pos_of_lt hlt⟩))
  | case3 read acc r hlt r1 he avail ha ih =>
    have h := refill_spec frag len read hlt r hi
    rw [he] at h
    obtain ⟨i1, u1, -, a1⟩ := h
    have h1 : avail ≤ r1.buf.size - r1.rs := Nat.min_le_left _ _
    have h2 : avail ≤ len - read := Nat.min_le_right _ _
    clear_value avail
    have hk : r1.rs + avail ≤ r1.buf.size := Nat.add_le_of_le_sub' i1.rs_le h1
    obtain ⟨ihs, ihe⟩ := ih ⟨hk, i1.buf_le, i1.pos_le⟩
    refine ⟨fun x tail hx hu => ?_, fun hs => ihe ?_⟩
    · obtain ⟨t1, -, t3, t4⟩ := take_spec avail r1 i1 hk (x.extract 0 avail)
        (x.extract avail x.size ++ tail)
        (by rw [ByteArray.size_extract, Nat.min_eq_left (hx ▸ h2), Nat.sub_zero])
        (by rw [u1, hu, ← ByteArray.append_assoc, extract_cut])
      have h := ihs (x.extract avail x.size) tail
        (by rw [ByteArray.size_extract, Nat.min_self, hx, Nat.sub_sub]) t3
      simp only [Recv.take] at t1
      rw [t1] at h ⊢
      rw [ByteArray.append_assoc, extract_cut] at h
      exact h.of_acct (a1.trans t4)
    · have := size_unread r1
      rw [u1] at this
      rw [size_unread]
      simp only
      omega
  | case4 read acc r hlt =>
    refine ⟨fun x tail hx hu => ?_, fun _ => by omega⟩
    have hx0 : x = ByteArray.empty := ByteArray.size_eq_zero_iff.mp (by omega)
    rw [hx0, ByteArray.append_empty]
    exact ⟨r, rfl, hi, by rw [hu, hx0, ByteArray.empty_append], Acct.refl r⟩

theorem recvData_spec (frag : Frag) (d : ByteArray) (hd : d.size < 2 ^ 32) (r : Recv) (hi : RInv r)
    (tail : ByteArray) (hu : r.unread = (be 4 d.size ++ d) ++ tail) :
    Recvd r (r.recvData frag) d tail := by
  obtain ⟨r1, e1, i1, u1, ac1⟩ := recvBE_be frag 4 d.size hd r hi (by decide) (d ++ tail)
    (by rw [hu, ByteArray.append_assoc])
  have h2 := (recvDataLoop_spec frag d.size 0 ByteArray.empty r1 i1).1 d tail rfl u1
  rw [ByteArray.empty_append] at h2
  rw [Recv.recvData, e1]
  exact h2.of_acct ac1

theorem recvSizesLoop_spec (frag : Frag) (l : List Nat) (hl : ∀ x ∈ l, x < 2 ^ 32) (r : Recv)
    (hi : RInv r) (tail : ByteArray) (hu : r.unread = encSizes l ++ tail) :
    Recvd r (r.recvSizesLoop frag l.length) l tail := by
  induction l generalizing r with
  | nil => exact ⟨r, rfl, hi, by rw [hu]; exact ByteArray.empty_append, Acct.refl r⟩
  | cons x xs ih =>
    obtain ⟨r1, e1, i1, u1, ac1⟩ := recvBE_be frag 4 x (hl x List.mem_cons_self) r hi (by decide)
      (encSizes xs ++ tail) (by rw [hu, encSizes, ByteArray.append_assoc])
    obtain ⟨r2, e2, h2⟩ := ih (fun y hy => hl y (List.mem_cons_of_mem _ hy)) r1 i1 u1
    rw [List.length_cons, Recv.recvSizesLoop, e1]
    simp only []
    rw [e2]
    exact Recvd.of_acct ⟨r2, rfl, h2⟩ ac1

theorem recvSizes_spec (frag : Frag) (l : List Nat) (hlen : l.length < 2 ^ 32)
    (hl : ∀ x ∈ l, x < 2 ^ 32) (r : Recv) (hi : RInv r)
    (tail : ByteArray) (hu : r.unread = (be 4 l.length ++ encSizes l) ++ tail) :
    Recvd r (r.recvSizes frag) l tail := by
  obtain ⟨r1, e1, i1, u1, ac1⟩ := recvBE_be frag 4 l.length hlen r hi (by decide)
    (encSizes l ++ tail) (by rw [hu, ByteArray.append_assoc])
  rw [Recv.recvSizes, e1]
  exact (recvSizesLoop_spec frag l hl r1 i1 tail u1).of_acct ac1

theorem recvVal_spec (frag : Frag) (v : Val) (hv : v.Valid) (r : Recv) (hi : RInv r)
    (tail : ByteArray) (hu : r.unread = v.encode ++ tail) :
    Recvd r (r.recvVal frag v.kind) v tail := by
  cases v with
  | byte b =>
    obtain ⟨r', e, h⟩ := recvByte_spec frag b r hi tail hu
    exact ⟨r', by rw [Val.kind, Recv.recvVal, e], h⟩
  | u16 n | u32 n | label n =>
    obtain ⟨r', e, h⟩ := recvBE_be frag _ n hv r hi (by decide) tail hu
    exact ⟨r', by rw [Val.kind, Recv.recvVal, e], h⟩
  | data d | str d =>
    obtain ⟨r', e, h⟩ := recvData_spec frag d hv r hi tail hu
    exact ⟨r', by rw [Val.kind, Recv.recvVal, e], h⟩
  | sizes l =>
    obtain ⟨r', e, h⟩ := recvSizes_spec frag l hv.1 hv.2 r hi tail hu
    exact ⟨r', by rw [Val.kind, Recv.recvVal, e], h⟩

theorem recvAll_spec_append (frag : Frag) (vs : List Val) (hv : ∀ v ∈ vs, v.Valid) (ks : List Kind)
    (r : Recv) (hi : RInv r) (tail : ByteArray) (hu : r.unread = encodeVals vs ++ tail) :
    ∃ r', RInv r' ∧ r'.unread = tail ∧ Acct r r' ∧
      r.recvAll frag (vs.map Val.kind ++ ks) =
        (vs ++ (r'.recvAll frag ks).1, (r'.recvAll frag ks).2.1, (r'.recvAll frag ks).2.2) := by
  induction vs generalizing r with
  | nil => exact ⟨r, hi, by rw [hu]; exact ByteArray.empty_append, Acct.refl r, rfl⟩
  | cons v vs ih =>
    obtain ⟨r1, e1, i1, u1, a1⟩ := recvVal_spec frag v (hv v List.mem_cons_self) r hi
      (encodeVals vs ++ tail) (by rw [hu, encodeVals, ByteArray.append_assoc])
    obtain ⟨r2, i2, u2, a2, e2⟩ := ih (fun w hw => hv w (List.mem_cons_of_mem _ hw)) r1 i1 u1
    refine ⟨r2, i2, u2, a1.trans a2, ?_⟩
    rw [List.map_cons, List.cons_append, Recv.recvAll, e1]
    simp only []
    rw [e2]
    rfl

theorem recvAll_spec (frag : Frag) (vs : List Val) (hv : ∀ v ∈ vs, v.Valid) (r : Recv) (hi : RInv r)
    (tail : ByteArray) (hu : r.unread = encodeVals vs ++ tail) :
    ∃ r', r.recvAll frag (vs.map Val.kind) = (vs, r', none) ∧ RInv r' ∧ r'.unread = tail ∧ Acct r r' := by
  obtain ⟨r', i, u, a, e⟩ := recvAll_spec_append frag vs hv [] r hi tail hu
  rw [List.append_nil] at e
  exact ⟨r', by rw [e, Recv.recvAll, List.append_nil], i, u, a⟩

theorem recvBE_eof (frag : Frag) (k : Nat) (r : Recv) (hi : RInv r) (hk : k ≤ readBufSize)
    (hshort : r.unread.size < k) : r.recvBE frag k = .error .eof := by
  rw [Recv.recvBE, (ensure_spec frag k r hi hk).2 hshort]

theorem recvByte_eof (frag : Frag) (r : Recv) (hi : RInv r)
    (hshort : r.unread.size < 1) : r.recvByte frag = .error .eof := by
  rw [Recv.recvByte, (ensure_spec frag 1 r hi (by decide)).2 hshort]

theorem recvBE_ok (frag : Frag) (k : Nat) (r : Recv) (hi : RInv r) (hk : k ≤ readBufSize)
    (hav : k ≤ r.unread.size) :
    Recvd r (r.recvBE frag k) (decodeBE (r.unread.extract 0 k)) (r.unread.extract k r.unread.size) :=
  recvBE_spec frag k r hi hk _ _ (by rw [ByteArray.size_extract]; omega) (extract_cut _ _).symm

theorem recvSizesLoop_eof (frag : Frag) (count : Nat) (r : Recv) (hi : RInv r)
    (hshort : r.unread.size < 4 * count) : r.recvSizesLoop frag count = .error .eof := by
  induction count generalizing r with
  | zero => omega
  | succ k ih =>
    rw [Recv.recvSizesLoop]
    by_cases h4 : r.unread.size < 4
    · rw [recvBE_eof frag 4 r hi (by decide) h4]
    · obtain ⟨r1, e1, i1, u1, _⟩ := recvBE_ok frag 4 r hi (by decide) (by omega)
      rw [e1]
      simp only []
      rw [ih r1 i1 (by rw [u1, ByteArray.size_extract]; omega)]

theorem recvHeader_prefix (frag : Frag) (n : Nat) (hn : n < 2 ^ 32) (r : Recv) (hi : RInv r)
    (p q body : ByteArray) (hpq : p ++ q = be 4 n ++ body) (hu : r.unread = p) :
    r.recvBE frag 4 = .error .eof ∨
      ∃ r1, r.recvBE frag 4 = .ok (n, r1) ∧ RInv r1 ∧ r1.unread.size + 4 = p.size := by
  by_cases h4 : p.size < 4
  · exact .inl (recvBE_eof frag 4 r hi (by decide) (by rw [hu]; exact h4))
  · obtain ⟨r1, e1, i1, u1, _⟩ := recvBE_ok frag 4 r hi (by decide) (by rw [hu]; omega)
    have hh := prefix_head p q (be 4 n) body hpq (by rw [size_be]; omega)
    rw [size_be] at hh
    rw [hu, hh, decodeBE_be, Nat.mod_eq_of_lt hn] at e1
    exact .inr ⟨r1, e1, i1, by rw [u1, hu, ByteArray.size_extract]; omega⟩

theorem recvData_eof (frag : Frag) (d : ByteArray) (hd : d.size < 2 ^ 32) (r : Recv) (hi : RInv r)
    (p q : ByteArray) (hp : p.size < (be 4 d.size ++ d).size) (hpq : p ++ q = be 4 d.size ++ d)
    (hu : r.unread = p) : r.recvData frag = .error .eof := by
  rw [ByteArray.size_append, size_be] at hp
  rw [Recv.recvData]
  rcases recvHeader_prefix frag d.size hd r hi p q d hpq hu with e | ⟨r1, e, i1, s1⟩
  · rw [e]
  · rw [e]
    exact (recvDataLoop_spec frag d.size 0 _ r1 i1).2 (by omega)

theorem recvSizes_eof (frag : Frag) (l : List Nat) (hl : l.length < 2 ^ 32) (r : Recv) (hi : RInv r)
    (p q : ByteArray) (hp : p.size < (be 4 l.length ++ encSizes l).size)
    (hpq : p ++ q = be 4 l.length ++ encSizes l)
    (hu : r.unread = p) : r.recvSizes frag = .error .eof := by
  rw [ByteArray.size_append, size_be, size_encSizes] at hp
  rw [Recv.recvSizes]
  rcases recvHeader_prefix frag l.length hl r hi p q _ hpq hu with e | ⟨r1, e, i1, s1⟩
  · rw [e]
  · rw [e]
    exact recvSizesLoop_eof frag l.length r1 i1 (by omega)

theorem recvVal_eof (frag : Frag) (v : Val) (hv : v.Valid) (r : Recv) (hi : RInv r)
    (p q : ByteArray) (hp : p.size < v.encode.size) (hpq : p ++ q = v.encode)
    (hu : r.unread = p) : r.recvVal frag v.kind = .error .eof := by
  rw [← hu] at hp
  cases v with
  | byte b => rw [Val.kind, Recv.recvVal, recvByte_eof frag r hi hp]
  | u16 n | u32 n | label n =>
    rw [Val.kind, Recv.recvVal, recvBE_eof frag _ r hi]
    · decide
    · rwa [Val.encode, size_be] at hp
  | data d | str d => rw [Val.kind, Recv.recvVal, recvData_eof frag d hv r hi p q (hu ▸ hp) hpq hu]
  | sizes l => rw [Val.kind, Recv.recvVal, recvSizes_eof frag l hv.1 r hi p q (hu ▸ hp) hpq hu]

/-- Every typed receive begins by asking the transport for at least one byte. -/
theorem recvVal_exhausted (frag : Frag) (k : Kind) (r : Recv) (hi : RInv r) (hu : r.unread = ByteArray.empty) :
    r.recvVal frag k = .error .eof := by
  have hbe : ∀ n, 0 < n → n ≤ readBufSize → r.recvBE frag n = .error .eof :=
    fun n h0 hn => recvBE_eof frag n r hi hn (by rw [hu]; exact h0)
  cases k with
  | byte => rw [Recv.recvVal, recvByte_eof frag r hi (by rw [hu]; decide)]
  | u16 => rw [Recv.recvVal, hbe 2 (by decide) (by decide)]
  | u32 => rw [Recv.recvVal, hbe 4 (by decide) (by decide)]
  | label => rw [Recv.recvVal, hbe 16 (by decide) (by decide)]
  | data | str => rw [Recv.recvVal, Recv.recvData, hbe 4 (by decide) (by decide)]
  | sizes => rw [Recv.recvVal, Recv.recvSizes, hbe 4 (by decide) (by decide)]

end Mpc.Conn
