/-
The send half with transport faults `FSender` of Model/Conn.lean.  Every writer iteration keeps `FCore` (the wire is a
prefix of what the writer goroutine was handed) and writes nothing once a `Write` has failed (`FCore_writerStep`); an API
call that should leave `A` accepted leaves `FInv .. A` when it reports no error and `FDead .. A` (error flag set for good,
wire a prefix of `A`) when it does (`FOut`, `*_out`, `close_finv`, `close_dead`).
-/
import MpcVerif.Proofs.ConnBytes

namespace Mpc.Conn
open ByteArray

def IsPrefix (a b : ByteArray) : Prop := ∃ rem, a ++ rem = b

theorem IsPrefix.refl (a : ByteArray) : IsPrefix a a := ⟨ByteArray.empty, ByteArray.append_empty⟩

theorem IsPrefix.trans {a b c : ByteArray} (h1 : IsPrefix a b) (h2 : IsPrefix b c) : IsPrefix a c := by
  obtain ⟨r1, e1⟩ := h1
  obtain ⟨r2, e2⟩ := h2
  exact ⟨r1 ++ r2, by rw [← ByteArray.append_assoc, e1, e2]⟩

theorem IsPrefix.append (a b : ByteArray) : IsPrefix a (a ++ b) := ⟨b, rfl⟩

/-- Everything put into `toWriter` so far, taken by the writer goroutine (`handed`) or still queued, as one byte string. -/
def FSender.given (s : FSender) : ByteArray := joinB (s.handed ++ s.queue)

structure FCore (fault : Fault) (s : FSender) : Prop where
  clean : s.werr = false → s.wire = s.handed ∧ ∀ i, i < s.handed.length → fault i = none
  dirty : s.werr = true → ∃ i, fault i ≠ none
  wpre : IsPrefix (joinB s.wire) (joinB s.handed)

theorem FCore_init (fault : Fault) : FCore fault FSender.init :=
  ⟨fun _ => ⟨rfl, fun _ hi => absurd hi (Nat.not_lt_zero _)⟩, nofun,
   IsPrefix.refl _⟩

theorem FCore.congr {fault : Fault} {s s' : FSender} (h : FCore fault s)
    (e1 : s'.handed = s.handed) (e2 : s'.wire = s.wire) (e3 : s'.werr = s.werr) : FCore fault s' :=
  ⟨by rw [e1, e2, e3]; exact h.clean, by rw [e3]; exact h.dirty, by rw [e1, e2]; exact h.wpre⟩

theorem FCore_writerStep (fault : Fault) (s : FSender) (hc : FCore fault s) :
    FCore fault (s.writerStep fault) ∧ (s.writerStep fault).given = s.given ∧
    (s.writerStep fault).cur = s.cur ∧ (s.writerStep fault).sent = s.sent ∧
    (s.writerStep fault).queue.length = s.queue.length - 1 ∧
    (s.werr = true → (s.writerStep fault).werr = true ∧ (s.writerStep fault).wire = s.wire) := by
  unfold FSender.writerStep
  cases hq : s.queue with
  | nil => exact ⟨hc, rfl, rfl, rfl, by rw [hq]; rfl, fun h => ⟨h, rfl⟩⟩
  | cons h t =>
    have hg : joinB ((s.handed ++ [h]) ++ t) = s.given := by
      rw [FSender.given, hq, List.append_assoc]; rfl
    cases hw : s.werr with
    | true =>
      refine ⟨⟨nofun, fun _ => hc.dirty hw, ?_⟩, hg, rfl, rfl, rfl, fun _ => ⟨rfl, rfl⟩⟩
      show IsPrefix (joinB s.wire) (joinB (s.handed ++ [h]))
      rw [joinB_append]
      exact hc.wpre.trans (IsPrefix.append _ _)
    | false =>
      obtain ⟨e, hn⟩ := hc.clean hw
      cases hf : fault s.wire.length with
      | none =>
        refine ⟨⟨fun _ => ⟨congrArg (· ++ [h]) e, fun i hi => ?_⟩, nofun, ?_⟩,
          hg, rfl, rfl, rfl, nofun⟩
        · have hi : i < (s.handed ++ [h]).length := hi
          rw [List.length_append, List.length_singleton] at hi
          by_cases h' : i < s.handed.length
          · exact hn i h'
          · rw [show i = s.wire.length by rw [e]; omega, hf]
        · show IsPrefix (joinB (s.wire ++ [h])) (joinB (s.handed ++ [h]))
          rw [e]; exact IsPrefix.refl _
      | some k =>
        refine ⟨⟨nofun, fun _ => ⟨s.wire.length, by rw [hf]; exact Option.some_ne_none k⟩,
          h.extract k h.size, ?_⟩, hg, rfl, rfl, rfl, nofun⟩
        show joinB (s.wire ++ [h.extract 0 k]) ++ h.extract k h.size = joinB (s.handed ++ [h])
        rw [e, joinB_append, joinB_append, joinB_singleton, joinB_singleton,
          ByteArray.append_assoc, extract_cut]

theorem FCore_writerSteps (fault : Fault) (m : Nat) (s : FSender) (hc : FCore fault s) :
    FCore fault (s.writerSteps fault m) ∧ (s.writerSteps fault m).given = s.given ∧
    (s.writerSteps fault m).cur = s.cur ∧ (s.writerSteps fault m).sent = s.sent ∧
    (s.writerSteps fault m).queue.length = s.queue.length - m := by
  induction m generalizing s with
  | zero => exact ⟨hc, rfl, rfl, rfl, rfl⟩
  | succ m ih =>
    obtain ⟨c1, g1, u1, s1, q1, _⟩ := FCore_writerStep fault s hc
    obtain ⟨c2, g2, u2, s2, q2⟩ := ih _ c1
    exact ⟨c2, g2.trans g1, u2.trans u1, s2.trans s1, by rw [FSender.writerSteps, q2, q1]; omega⟩

structure FInv (fault : Fault) (s : FSender) (A : ByteArray) : Prop where
  core : FCore fault s
  acc : s.given ++ s.cur = A
  cur_le : s.cur.size ≤ writeBufSize
  sent_eq : s.sent = s.given.size

structure FDead (fault : Fault) (s : FSender) (B : ByteArray) : Prop where
  core : FCore fault s
  werr : s.werr = true
  pre : IsPrefix (joinB s.wire) B

theorem FDead.mono {fault : Fault} {s : FSender} {B B' : ByteArray} (h : FDead fault s B)
    (hp : IsPrefix B B') : FDead fault s B' :=
  ⟨h.core, h.werr, h.pre.trans hp⟩

theorem FInv_init (fault : Fault) : FInv fault FSender.init ByteArray.empty :=
  ⟨FCore_init fault, rfl, Nat.zero_le _, rfl⟩

theorem FInv.wire_prefix {fault : Fault} {s : FSender} {T : ByteArray} (h : FInv fault s T) :
    IsPrefix (joinB s.wire) T := by
  refine h.core.wpre.trans ⟨joinB s.queue ++ s.cur, ?_⟩
  rw [← ByteArray.append_assoc, ← joinB_append]
  exact h.acc

theorem FDead_writerSteps (fault : Fault) (m : Nat) (s : FSender) (B : ByteArray)
    (h : FDead fault s B) : FDead fault (s.writerSteps fault m) B := by
  induction m generalizing s with
  | zero => exact h
  | succ m ih =>
    obtain ⟨c1, -, -, -, -, w1⟩ := FCore_writerStep fault s h.core
    -- after a failed write nothing is written any more
    exact ih _ ⟨c1, (w1 h.werr).1, by rw [(w1 h.werr).2]; exact h.pre⟩

theorem FInv_writerSteps (fault : Fault) (m : Nat) (s : FSender) (A : ByteArray)
    (h : FInv fault s A) : FInv fault (s.writerSteps fault m) A := by
  obtain ⟨c, g, u, st, -⟩ := FCore_writerSteps fault m s h.core
  exact ⟨c, by rw [g, u]; exact h.acc, by rw [u]; exact h.cur_le, by rw [st, g]; exact h.sent_eq⟩

theorem handOver_spec (fault : Fault) (s : FSender) (A : ByteArray) (h : FInv fault s A) :
    FCore fault s.handOver ∧ s.handOver.given = A ∧ s.handOver.sent = A.size := by
  refine ⟨h.core.congr rfl rfl rfl, ?_, ?_⟩
  · rw [FSender.given, FSender.handOver, ← List.append_assoc, joinB_append, joinB_singleton]
    exact h.acc
  · rw [FSender.handOver, h.sent_eq, ← h.acc, ByteArray.size_append]

theorem takeNext_spec (s : FSender) :
    s.takeNext.1.handed = s.handed ∧ s.takeNext.1.wire = s.wire ∧ s.takeNext.1.werr = s.werr ∧
    s.takeNext.1.queue = s.queue ∧ s.takeNext.1.sent = s.sent ∧ s.takeNext.2 = !s.werr ∧
    (s.werr = false → s.takeNext.1.cur = ByteArray.empty) := by
  unfold FSender.takeNext
  cases s.werr <;> simp

def FOut (fault : Fault) (res : FSender × Bool) (A : ByteArray) : Prop :=
  (res.2 = true → FInv fault res.1 A) ∧ (res.2 = false → FDead fault res.1 A)

theorem FOut.mono {fault : Fault} {res : FSender × Bool} {A A' : ByteArray}
    (h : res.2 = true → FInv fault res.1 A') (hd : res.2 = false → FDead fault res.1 A)
    (hp : IsPrefix A A') : FOut fault res A' :=
  ⟨h, fun hf => (hd hf).mono hp⟩

theorem FOut.ok {fault : Fault} {s : FSender} {A : ByteArray} (h : FInv fault s A) :
    FOut fault (s, true) A :=
  ⟨fun _ => h, nofun⟩

theorem flush_out (fault : Fault) (k : Nat) (s : FSender) (A : ByteArray) (h : FInv fault s A) :
    FOut fault (s.flush fault k) A ∧
    ((s.flush fault k).2 = true → (s.flush fault k).1.cur.size = 0) := by
  unfold FSender.flush
  by_cases h0 : s.cur.size = 0
  · rw [if_pos h0]
    exact ⟨FOut.ok h, fun _ => h0⟩
  · rw [if_neg h0]
    obtain ⟨hc1, hg1, hs1⟩ := handOver_spec fault s A h
    generalize max k (if s.handOver.free = 0 then 1 else 0) = K
    obtain ⟨c2, g2, -, st2, -⟩ := FCore_writerSteps fault K s.handOver hc1
    generalize s.handOver.writerSteps fault K = s2 at *
    obtain ⟨t1, t2, t3, t4, t5, t6, t7⟩ := takeNext_spec s2
    have hc3 : FCore fault s2.takeNext.1 := c2.congr t1 t2 t3
    have hg3 : s2.takeNext.1.given = A := by
      rw [← hg1, ← g2, FSender.given, t1, t4]; rfl
    unfold FOut
    rw [t6]
    cases hw : s2.werr with
    | false =>
      have hcur := t7 hw
      exact ⟨⟨fun _ => ⟨hc3, by rw [hg3, hcur, ByteArray.append_empty], by rw [hcur]; exact Nat.zero_le _,
        by rw [t5, hg3, st2, hs1]⟩, nofun⟩, fun _ => by rw [hcur]; rfl⟩
    | true =>
      refine ⟨⟨nofun, fun _ => ⟨hc3, t3.trans hw,
        hc3.wpre.trans ⟨joinB s2.takeNext.1.queue, ?_⟩⟩⟩, nofun⟩
      rw [← joinB_append]
      exact hg3

theorem flush_dead (fault : Fault) (k : Nat) (s : FSender) (B : ByteArray) (h : FDead fault s B) :
    FDead fault (s.flush fault k).1 B ∧ (s.cur.size ≠ 0 → (s.flush fault k).2 = false) := by
  unfold FSender.flush
  by_cases h0 : s.cur.size = 0
  · rw [if_pos h0]
    exact ⟨h, fun hne => absurd h0 hne⟩
  · rw [if_neg h0]
    have hd1 : FDead fault s.handOver B := ⟨h.core.congr rfl rfl rfl, h.werr, h.pre⟩
    generalize max k (if s.handOver.free = 0 then 1 else 0) = K
    have hd2 := FDead_writerSteps fault K s.handOver B hd1
    generalize s.handOver.writerSteps fault K = s2 at *
    obtain ⟨t1, t2, t3, -, -, t6, -⟩ := takeNext_spec s2
    exact ⟨⟨hd2.core.congr t1 t2 t3, t3.trans hd2.werr, by rw [t2]; exact hd2.pre⟩,
      fun _ => by rw [t6, hd2.werr]; rfl⟩

/-- The typed sends stop at the first error: what had been accepted is a prefix
of what would have been. -/
theorem FOut.fail {fault : Fault} {s : FSender} {A : ByteArray} (h : FOut fault (s, false) A)
    (c : ByteArray) : FOut fault (s, false) (A ++ c) :=
  FOut.mono nofun h.2 (IsPrefix.append A c)

theorem flushS_out (fault : Fault) (sch : Sched) (s : FSender) (A : ByteArray) (h : FInv fault s A) :
    FOut fault (s.flushS fault sch) A ∧
    ((s.flushS fault sch).2 = true → (s.flushS fault sch).1.cur.size = 0) :=
  flush_out fault (sch s.flushed) s A h

theorem reserve_out (fault : Fault) (sch : Sched) (n : Nat) (s : FSender) (A : ByteArray)
    (h : FInv fault s A) :
    FOut fault (s.reserve fault sch n) A ∧
    ((s.reserve fault sch n).2 = true → n ≤ writeBufSize →
      (s.reserve fault sch n).1.cur.size + n ≤ writeBufSize) := by
  unfold FSender.reserve
  split
  · obtain ⟨h1, h2⟩ := flushS_out fault sch s A h
    exact ⟨h1, fun hok hn => by rw [h2 hok]; omega⟩
  · exact ⟨FOut.ok h, fun _ _ => by simp only; omega⟩

theorem put_finv (fault : Fault) (b : ByteArray) (s : FSender) (A : ByteArray) (h : FInv fault s A)
    (hb : s.cur.size + b.size ≤ writeBufSize) : FInv fault (s.put b) (A ++ b) :=
  ⟨h.core.congr rfl rfl rfl,
   by rw [← h.acc, ByteArray.append_assoc]; rfl,
   by rw [FSender.put, ByteArray.size_append]; exact hb, h.sent_eq⟩

theorem sendBytes_out (fault : Fault) (sch : Sched) (b : ByteArray) (hb : b.size ≤ writeBufSize)
    (s : FSender) (A : ByteArray) (h : FInv fault s A) :
    FOut fault (s.sendBytes fault sch b) (A ++ b) := by
  obtain ⟨r1, r3⟩ := reserve_out fault sch b.size s A h
  unfold FSender.sendBytes
  split
  · next s1 he => rw [he] at r1; exact r1.fail b
  · next s1 he => rw [he] at r1 r3; exact FOut.ok (put_finv fault b s1 A (r1.1 rfl) (r3 rfl hb))

theorem sendBE_out (fault : Fault) (sch : Sched) (k n : Nat) (hk : k ≤ writeBufSize)
    (s : FSender) (A : ByteArray) (h : FInv fault s A) :
    FOut fault (s.sendBytes fault sch (be k n)) (A ++ be k n) :=
  sendBytes_out fault sch _ (by rw [size_be]; exact hk) s A h

theorem FSender.reserve_one (fault : Fault) (sch : Sched) (s : FSender) :
    (if _h : s.cur.size ≥ writeBufSize then s.flushS fault sch else (s, true)) =
      s.reserve fault sch 1 :=
  ite_cond_congr (propext Nat.lt_add_one_iff.symm)

theorem sendDataLoop_out (fault : Fault) (sch : Sched) (val : ByteArray) (off : Nat) (s : FSender)
    (A : ByteArray) (h : FInv fault s A) :
    FOut fault (s.sendDataLoop fault sch val off) (A ++ val.extract off val.size) := by
  fun_induction FSender.sendDataLoop fault sch val off s generalizing A with
  | case1 off s hlt s1 he =>
    -- the conditional flush failed
    rw [FSender.reserve_one] at he
    have := (reserve_out fault sch 1 s A h).1
    rw [he] at this
    exact this.fail _
  | case2 off s hlt s1 he n hn =>
    -- unreachable: room after a successful conditional flush
    rw [FSender.reserve_one] at he
    have := (reserve_out fault sch 1 s A h).2
    rw [he] at this
    have : s1.cur.size + 1 ≤ writeBufSize := this rfl (by decide)
    have : n = min (writeBufSize - s1.cur.size) (val.size - off) := rfl
    omega
  | case3 off s hlt s1 he n hn ih =>
    rw [FSender.reserve_one] at he
    have h1 := (reserve_out fault sch 1 s A h).1.1
    rw [he] at h1
    have hn1 : n ≤ writeBufSize - s1.cur.size := Nat.min_le_left _ _
    have hn2 : n ≤ val.size - off := Nat.min_le_right _ _
    clear_value n
    have hc := (h1 rfl).cur_le
    have hput := put_finv fault (val.extract off (off + n)) s1 A (h1 rfl)
      (by rw [size_extract_add _ _ _ (by omega)]; omega)
    have := ih _ hput
    rwa [ByteArray.append_assoc,
      ← ByteArray.extract_eq_extract_append_extract (off + n) (Nat.le_add_right _ _) (by omega)] at this
  | case4 off s hlt =>
    rw [ByteArray.extract_eq_empty_iff.mpr (by omega), ByteArray.append_empty]
    exact FOut.ok h

theorem sendData_out (fault : Fault) (sch : Sched) (d : ByteArray) (s : FSender) (A : ByteArray)
    (h : FInv fault s A) : FOut fault (s.sendData fault sch d) (A ++ (be 4 d.size ++ d)) := by
  have hb := sendBE_out fault sch 4 d.size (by decide) s A h
  rw [← ByteArray.append_assoc]
  unfold FSender.sendData
  split
  · next s1 he => rw [he] at hb; exact hb.fail d
  · next s1 he =>
    rw [he] at hb
    have := sendDataLoop_out fault sch d 0 s1 _ (hb.1 rfl)
    rwa [ByteArray.extract_zero_size] at this

theorem sendSizesLoop_out (fault : Fault) (sch : Sched) (l : List Nat) (s : FSender) (A : ByteArray)
    (h : FInv fault s A) : FOut fault (s.sendSizesLoop fault sch l) (A ++ encSizes l) := by
  induction l generalizing s A with
  | nil => rw [encSizes, ByteArray.append_empty]; exact FOut.ok h
  | cons x xs ih =>
    have hb := sendBE_out fault sch 4 x (by decide) s A h
    rw [encSizes, ← ByteArray.append_assoc]
    unfold FSender.sendSizesLoop
    split
    · next s1 he => rw [he] at hb; exact hb.fail _
    · next s1 he => rw [he] at hb; exact ih s1 _ (hb.1 rfl)

theorem sendVal_out (fault : Fault) (sch : Sched) (v : Val) (s : FSender) (A : ByteArray)
    (h : FInv fault s A) : FOut fault (s.sendVal fault sch v) (A ++ v.encode) := by
  cases v with
  | byte b => exact sendBytes_out fault sch _ (by simp [writeBufSize]) s A h
  | u16 n | u32 n | label n =>
    rw [FSender.sendVal, Val.encode]
    exact sendBE_out fault sch _ n (by decide) s A h
  | data d | str d => exact sendData_out fault sch d s A h
  | sizes l =>
    have hb := sendBE_out fault sch 4 l.length (by decide) s A h
    rw [Val.encode, ← ByteArray.append_assoc, FSender.sendVal]
    split
    · next s1 he => rw [he] at hb; exact hb.fail _
    · next s1 he => rw [he] at hb; exact sendSizesLoop_out fault sch l s1 _ (hb.1 rfl)

theorem step_out (fault : Fault) (sch : Sched) (o : Op) (s : FSender) (A : ByteArray)
    (h : FInv fault s A) : FOut fault (s.step fault sch o) (A ++ o.encode) := by
  cases o with
  | send v => exact sendVal_out fault sch v s A h
  | flush => exact (ByteArray.append_empty (b := A)).symm ▸ (flushS_out fault sch s A h).1
  | needSpace n => exact (ByteArray.append_empty (b := A)).symm ▸ (reserve_out fault sch n s A h).1

theorem run_out (fault : Fault) (sch : Sched) (ops : List Op) (s : FSender) (A : ByteArray)
    (h : FInv fault s A) :
    FOut fault ((s.run fault sch ops).1, (s.run fault sch ops).2.2) (A ++ encodeAll ops) := by
  induction ops generalizing s A with
  | nil =>
    rw [encodeAll, ByteArray.append_empty]
    exact FOut.ok h
  | cons o os ih =>
    have ho := step_out fault sch o s A h
    rw [FSender.run, encodeAll, ← ByteArray.append_assoc]
    split
    · next s1 he => rw [he] at ho; exact ho.fail _
    · next s1 he => rw [he] at ho; exact ih s1 _ (ho.1 rfl)

theorem run_out_init (fault : Fault) (sch : Sched) (ops : List Op) :
    FOut fault ((FSender.init.run fault sch ops).1, (FSender.init.run fault sch ops).2.2) (encodeAll ops) := by
  have := run_out fault sch ops FSender.init ByteArray.empty (FInv_init fault)
  rwa [ByteArray.empty_append] at this

theorem close_finv (fault : Fault) (sch : Sched) (s : FSender) (T : ByteArray) (h : FInv fault s T) :
    ((s.close fault sch).2 = true → FInv fault (s.close fault sch).1 T ∧
        joinB (s.close fault sch).1.wire = T ∧ (s.close fault sch).1.queue = [] ∧
        (s.close fault sch).1.werr = false ∧ (s.close fault sch).1.sent = T.size) ∧
    ((s.close fault sch).2 = false → FDead fault (s.close fault sch).1 T) := by
  obtain ⟨⟨f1, f2⟩, f3⟩ := flushS_out fault sch s T h
  unfold FSender.close
  generalize s.flushS fault sch = res at *
  obtain ⟨s1, ok⟩ := res
  cases ok with
  | false => exact ⟨nofun, fun _ => f2 rfl⟩
  | true =>
    have hi2 := FInv_writerSteps fault s1.queue.length s1 T (f1 rfl)
    obtain ⟨-, -, u, -, q⟩ := FCore_writerSteps fault s1.queue.length s1 (f1 rfl).core
    have hcur : s1.cur.size = 0 := f3 rfl
    simp only
    generalize s1.writerSteps fault s1.queue.length = s2 at *
    have hq : s2.queue = [] := List.eq_nil_of_length_eq_zero (by omega)
    cases hw : s2.werr with
    | true => exact ⟨nofun, fun _ => ⟨hi2.core, hw, hi2.wire_prefix⟩⟩
    | false =>
      refine ⟨fun _ => ?_, nofun⟩
      have hacc := hi2.acc
      rw [ByteArray.size_eq_zero_iff.mp (u.symm ▸ hcur : s2.cur.size = 0), ByteArray.append_empty] at hacc
      have hs := hi2.sent_eq
      rw [hacc] at hs
      rw [FSender.given, hq, List.append_nil, ← (hi2.core.clean hw).1] at hacc
      exact ⟨hi2, hacc, hq, rfl, hs⟩

theorem close_dead (fault : Fault) (sch : Sched) (s : FSender) (B : ByteArray) (h : FDead fault s B) :
    (s.close fault sch).2 = false ∧ FDead fault (s.close fault sch).1 B := by
  obtain ⟨d1, _⟩ := flush_dead fault (sch s.flushed) s B h
  unfold FSender.close
  rw [show s.flushS fault sch = s.flush fault (sch s.flushed) from rfl]
  generalize s.flush fault (sch s.flushed) = res at *
  obtain ⟨s1, ok⟩ := res
  cases ok with
  | false => exact ⟨rfl, d1⟩
  | true =>
    have d2 := FDead_writerSteps fault s1.queue.length s1 B d1
    exact ⟨by simp only; rw [d2.werr]; rfl, d2⟩

theorem close_out (fault : Fault) (sch : Sched) {res : FSender × Bool} {T : ByteArray}
    (h : FOut fault res T) : FOut fault (res.1.close fault sch) T := by
  obtain ⟨s, ok⟩ := res
  cases ok with
  | true =>
    have c := close_finv fault sch s T (h.1 rfl)
    exact ⟨fun hc => (c.1 hc).1, c.2⟩
  | false =>
    have c := close_dead fault sch s T (h.2 rfl)
    exact ⟨fun hc => absurd (c.1 ▸ hc) Bool.false_ne_true, fun _ => c.2⟩

theorem FOut.wire_prefix {fault : Fault} {res : FSender × Bool} {A : ByteArray} (h : FOut fault res A)
    (j : Nat) : IsPrefix (joinB (res.1.writerSteps fault j).wire) A := by
  obtain ⟨s, ok⟩ := res
  cases ok with
  | true => exact (FInv_writerSteps fault j s A (h.1 rfl)).wire_prefix
  | false => exact (FDead_writerSteps fault j s A (h.2 rfl)).pre

theorem close_reports (fault : Fault) (sch : Sched) (s : FSender) :
    (s.close fault sch).1.werr = true → (s.close fault sch).2 = false := by
  unfold FSender.close
  generalize s.flushS fault sch = res
  obtain ⟨s1, ok⟩ := res
  cases ok with
  | false => exact fun _ => rfl
  | true => simp only; intro hw; rw [hw]; rfl

end Mpc.Conn
