/-
Lemmas on the definitions of `Model/Circuit.lean`, so that no proof opens them by hand: reads of a
`Store`, the gate loop `evalPlainGates`, `wfFrom` / `definedAfter` in closed form.  No other model
file is imported: the garbling, GMW, compiler-pass, format and SHA-2PC proofs all stand on it.
-/
import MpcVerif.Model.Circuit
import MpcVerif.Proofs.ListLemmas

namespace Mpc

theorem Store.get_of_size_le {α : Type} [Inhabited α] (s : Store α) (w : Nat) (h : s.size ≤ w) :
    s.get w = default :=
  getD_of_size_le s w default h

theorem get_range_map {α : Type} [Inhabited α] (n : Nat) (f : Nat → α) (i : Nat) (h : i < n) :
    Store.get ((Array.range n).map f) i = f i := by
  rw [Store.get, getD_range_map_array, if_pos h]

@[simp] theorem initStore_size {α : Type} (n : Nat) (d : α) (l : List α) : (initStore n d l).size = n := by
  simp [initStore]

theorem get_initStore {α : Type} [Inhabited α] (n : Nat) {d : α} (l : List α) (w : Nat) (h : w < n) :
    (initStore n d l).get w = l.getD w d :=
  get_range_map n _ w h

theorem get_initStore_ge (n : Nat) (l : List Bool) (w : Nat) (h : l.length ≤ w) :
    (initStore n false l).get w = false := by
  by_cases hw : w < n
  · rw [get_initStore _ _ _ hw, getD_of_le _ _ _ h]
  · exact Store.get_of_size_le _ _ (by simpa using hw)

theorem Op.binary_iff_ne_inv (op : Op) : op.binary = true ↔ op ≠ .inv := by
  cases op <;> simp [Op.binary]

theorem Op.eq_inv_of_not_binary {op : Op} (h : op.binary = false) : op = .inv := by
  cases op <;> first | rfl | cases h

theorem Op.eval_unary (op : Op) (hb : op.binary = false) (a b b' : Bool) :
    op.eval a b = op.eval a b' := by
  rw [Op.eq_inv_of_not_binary hb]
  rfl

theorem Op.eval_comm (op : Op) (hb : op.binary = true) (a b : Bool) : op.eval a b = op.eval b a := by
  cases op <;> simp [Op.binary] at hb <;> cases a <;> cases b <;> rfl

@[simp] theorem Gate.evalPlain_size (g : Gate) (s : Store Bool) : (g.evalPlain s).size = s.size :=
  Store.size_set _ _ _

theorem evalPlainGates_cons (g : Gate) (gs : List Gate) (s : Store Bool) :
    evalPlainGates (g :: gs) s = evalPlainGates gs (g.evalPlain s) := rfl

theorem evalPlainGates_append (a b : List Gate) (s : Store Bool) :
    evalPlainGates (a ++ b) s = evalPlainGates b (evalPlainGates a s) :=
  List.foldl_append

theorem evalPlainGates_size (gs : List Gate) : ∀ (s : Store Bool), (evalPlainGates gs s).size = s.size := by
  induction gs with
  | nil => intro s; rfl
  | cons g gs ih => intro s; rw [evalPlainGates_cons, ih, Gate.evalPlain_size]

theorem evalPlainGates_frame (gs : List Gate) (w : Nat) :
    ∀ (s : Store Bool), (∀ g ∈ gs, g.out ≠ w) → (evalPlainGates gs s).get w = s.get w := by
  induction gs with
  | nil => intro s _; rfl
  | cons g gs ih =>
    intro s h
    rw [evalPlainGates_cons, ih _ (fun g' hg' => h g' (List.mem_cons_of_mem _ hg'))]
    exact Store.get_set_ne _ _ _ _ (h g List.mem_cons_self)

theorem wfFrom_cons_parts (n : Nat) (g : Gate) (gs : List Gate) (d : Nat → Bool) :
    wfFrom n (g :: gs) d = true ↔
      d g.in0 = true ∧ (g.op.binary = true → d g.in1 = true) ∧ g.in0 < n ∧
      (g.op.binary = true → g.in1 < n) ∧ g.out < n ∧
      wfFrom n gs (fun w => w == g.out || d w) = true := by
  simp only [wfFrom, Bool.and_eq_true, Bool.or_eq_true, Bool.not_eq_true', decide_eq_true_eq]
  constructor
  · rintro ⟨⟨⟨⟨⟨h0, h1⟩, l0⟩, l1⟩, lo⟩, hr⟩
    exact ⟨h0, fun hb => h1.resolve_left (hb ▸ Bool.noConfusion), l0, fun hb => l1.resolve_left (hb ▸ Bool.noConfusion),
      lo, hr⟩
  · rintro ⟨h0, h1, l0, l1, lo, hr⟩
    cases hb : g.op.binary
    · exact ⟨⟨⟨⟨⟨h0, .inl rfl⟩, l0⟩, .inl rfl⟩, lo⟩, hr⟩
    · exact ⟨⟨⟨⟨⟨h0, .inr (h1 hb)⟩, l0⟩, .inr (l1 hb)⟩, lo⟩, hr⟩

theorem wfFrom_cons (n : Nat) (g : Gate) (gs : List Gate) (d : Nat → Bool)
    (h : wfFrom n (g :: gs) d = true) :
    d g.in0 = true ∧ (g.op.binary = true → d g.in1 = true) ∧ g.in0 < n ∧
    (g.op.binary = true → g.in1 < n) ∧ g.out < n ∧
    wfFrom n gs (fun w => w == g.out || d w) = true :=
  (wfFrom_cons_parts n g gs d).mp h

theorem definedAfter_cons (g : Gate) (gs : List Gate) (d : Nat → Bool) :
    definedAfter (g :: gs) d = definedAfter gs (fun w => w == g.out || d w) := rfl

theorem definedAfter_iff (gs : List Gate) : ∀ (d : Nat → Bool) (w : Nat),
    definedAfter gs d w = true ↔ d w = true ∨ ∃ g ∈ gs, g.out = w := by
  induction gs with
  | nil => intro d w; simp [definedAfter]
  | cons g gs ih =>
    intro d w
    simp only [definedAfter_cons, ih, Bool.or_eq_true, beq_iff_eq, List.mem_cons, exists_eq_or_imp, @eq_comm _ w]
    rw [or_comm (a := g.out = w), or_assoc]

theorem definedAfter_mono (gs : List Gate) (D : Nat → Bool) (w : Nat) (h : D w = true) :
    definedAfter gs D w = true :=
  (definedAfter_iff gs D w).mpr (Or.inl h)

theorem wfFrom_of_forall (n : Nat) : ∀ (gs : List Gate) (d : Nat → Bool),
    (∀ g ∈ gs, d g.in0 = true ∧ d g.in1 = true ∧ g.in0 < n ∧ g.in1 < n ∧ g.out < n) → wfFrom n gs d = true
  | [], _, _ => rfl
  | g :: gs, d, h => by
    obtain ⟨h0, h1, l0, l1, lo⟩ := h g List.mem_cons_self
    refine (wfFrom_cons_parts n g gs d).mpr ⟨h0, fun _ => h1, l0, fun _ => l1, lo, ?_⟩
    refine wfFrom_of_forall n gs _ fun g' hg' => ?_
    obtain ⟨h0', h1', l⟩ := h g' (List.mem_cons_of_mem _ hg')
    exact ⟨by simp only [h0', Bool.or_true], by simp only [h1', Bool.or_true], l⟩

@[simp] theorem Circuit.inputDefined_eq_true (c : Circuit) (w : Nat) : c.inputDefined w = true ↔ w < c.nIn :=
  decide_eq_true_iff

@[simp] theorem Circuit.inputDefined_eq_false (c : Circuit) (w : Nat) : c.inputDefined w = false ↔ c.nIn ≤ w := by
  rw [Circuit.inputDefined, decide_eq_false_iff_not, Nat.not_lt]

theorem Circuit.WF_iff (c : Circuit) : c.WF = true ↔
    c.nIn ≤ c.numWires ∧ c.nOut ≤ c.numWires ∧ wfFrom c.numWires c.gates c.inputDefined = true ∧
      ∀ g ∈ c.gates, c.nIn ≤ g.out := by
  simp only [Circuit.WF, Bool.and_eq_true, decide_eq_true_eq, List.all_eq_true, and_assoc]

theorem Circuit.compute_eq (c : Circuit) (x : List Bool) :
    c.compute x = (List.range c.nOut).map fun i => (c.plainEval x).get (c.numWires - c.nOut + i) := rfl

@[simp] theorem Circuit.compute_length (c : Circuit) (x : List Bool) : (c.compute x).length = c.nOut := by
  rw [Circuit.compute_eq, List.length_map, List.length_range]

theorem compute_congr (c c' : Circuit) (x : List Bool) (hw : c'.numWires = c.numWires)
    (ho : c'.nOut = c.nOut) (h : ∀ w, (c'.plainEval x).get w = (c.plainEval x).get w) :
    c'.compute x = c.compute x := by
  rw [Circuit.compute_eq, Circuit.compute_eq, hw, ho]
  exact List.map_congr_left (fun i _ => h _)

end Mpc
