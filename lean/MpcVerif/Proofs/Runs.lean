/-
Sequences of calls on one state.  A session model performs its calls one after the other and returns one
output per call, or nothing when a call fails.  The rule for it is the sequence rule of a Hoare logic: an
invariant of the state, a precondition on the call, a postcondition relating call and output.
-/

namespace Mpc.Run

variable {σ ε ο : Type}

/-- The session is any function `run` with the two unfolding facts `hnil`, `hcons`, so the state may be the
tuple of the model's state arguments. -/
theorem session_of_call {run : σ → List ε → Option (List ο)} {I : σ → Prop} {WF : ε → Prop}
    {Spec : ε → ο → Prop} (hnil : ∀ s, run s [] = some [])
    (hcons : ∀ s c cs, I s → WF c → ∃ s' o, I s' ∧ Spec c o ∧ run s (c :: cs) = (run s' cs).map (o :: ·)) :
    ∀ (cs : List ε) (s : σ), I s → (∀ c ∈ cs, WF c) →
      ∃ outs, run s cs = some outs ∧ outs.length = cs.length ∧
        ∀ k (hk : k < cs.length) (hk' : k < outs.length), Spec cs[k] outs[k] := by
  intro cs
  induction cs with
  | nil => exact fun s _ _ => ⟨[], hnil s, rfl, fun k hk => absurd hk (Nat.not_lt_zero _)⟩
  | cons c cs ih =>
    intro s hs hwf
    obtain ⟨s', o, hs', ho, hrun⟩ := hcons s c cs hs (hwf c List.mem_cons_self)
    obtain ⟨outs, h4, h5, h6⟩ := ih s' hs' fun c' hc' => hwf c' (List.mem_cons_of_mem _ hc')
    refine ⟨o :: outs, by rw [hrun, h4]; rfl, by simp [h5], fun k hk hk' => ?_⟩
    cases k with
    | zero => exact ho
    | succ k => exact h6 k (by simpa using hk) (by simpa using hk')

end Mpc.Run
