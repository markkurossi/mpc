/-
Lemmas about the malicious-mode model (Model/Kos.lean): the sender's
linearity in the received chunks (`sendLoop_xorMsgs`), which carries
`Iknp.label_call` over to chunks altered in transit (`label_call_err`), the
flattening of the challenge block loops, and the algebra of the consistency
check.  From these the outcome of a call under arbitrary error masks and
response (`kos_runWith`, stated for `receiveKosWith`), the masks whose error
matrix is a given one (`maskLike`, `kos_rows_realisable`), and among them the
masks that alter nothing (`zeroLike`, `kos_complete_call`).  Core Lean only.
-/
import MpcVerif.Model.Kos
import MpcVerif.Proofs.Clmul
namespace Mpc.Kos
open Mpc.Iknp Mpc.Clmul

theorem labelBit_and (a b : Label) (j : Nat) : labelBit (a &&& b) j = (labelBit a j && labelBit b j) := by
  simp [labelBit]

theorem exists_labelBit_of_ne_zero (delta : Label) (h : delta ≠ 0#128) : ∃ i, i < 128 ∧ labelBit delta i = true := by
  obtain ⟨j, hj, hc⟩ := exists_coef_of_ne_zero delta h
  exact ⟨j, hj, by rwa [coef_lt _ _ hj] at hc⟩

theorem xor_swap (a b c : Label) : a ^^^ c ^^^ b = a ^^^ b ^^^ c := by ac_rfl

theorem shape_nil_left (E : List Bytes) (h : Shape [] E) : E = [] := by
  cases E with
  | nil => rfl
  | cons e es => exact absurd h (by simp [Shape])

theorem shape_cons_left (u : Bytes) (us E : List Bytes) (h : Shape (u :: us) E) :
    ∃ e es, E = e :: es ∧ e.size = u.size ∧ Shape us es := by
  cases E with
  | nil => exact absurd h (by simp [Shape])
  | cons e es => exact ⟨e, es, rfl, h.1, h.2⟩

theorem sendCols_xorBytes (SS : Nat → Nat → Byte) (delta : Label) (ss : SendSt) (u e : Bytes) (w : Nat)
    (hu : u.size = K * w) (he : e.size = K * w) (i k : Nat) (hi : i < K) (hk : k < w) :
    bget (sendCols SS delta ss (xorBytes u e) w) (i * w + k) =
      bget (sendCols SS delta ss u w) (i * w + k) ^^^ (if labelBit delta i then bget e (i * w + k) else 0#8) := by
  have hlt := idx_lt hi hk
  have hx : bget (xorBytes u e) (i * w + k) = bget u (i * w + k) ^^^ bget e (i * w + k) := by
    rw [bget_xorBytes _ _ _ (by omega), if_pos (by omega)]
  rw [sendCols_get _ _ _ _ _ (by rw [size_xorBytes, hu]) _ _ hi hk, sendCols_get _ _ _ _ _ hu _ _ hi hk, hx]
  split
  · rw [BitVec.xor_assoc]
  · rw [BitVec.xor_zero]

theorem createLabels_xor (len : Nat) (t t' e : Bytes) (w : Nat) (delta : Label)
    (h : ∀ j k, j < K → k < w →
      bget t' (j * w + k) = bget t (j * w + k) ^^^ (if labelBit delta j then bget e (j * w + k) else 0#8)) :
    createLabels len t' w = List.zipWith (fun s r => s ^^^ (r &&& delta)) (createLabels len t w) (createLabels len e w) := by
  unfold createLabels
  rw [List.zipWith_map, List.zipWith_self]
  apply List.map_congr_left
  intro idx hidx
  rw [List.mem_range] at hidx
  apply label_ext
  intro j hj
  rw [labelBit_xor, labelBit_and, labelBit_labelOfBits _ _ hj, labelBit_labelOfBits _ _ hj, labelBit_labelOfBits _ _ hj,
    h j _ hj (by omega)]
  by_cases hd : labelBit delta j <;> simp [hd]

theorem rowsLoop_done (n fuel ofs : Nat) (E : List Bytes) (h : n ≤ ofs) : rowsLoop n fuel ofs E = [] := by
  cases fuel with
  | zero => rfl
  | succ f => simp [rowsLoop, Nat.not_lt.mpr h]

theorem rowsLoop_nil (n fuel ofs : Nat) : rowsLoop n fuel ofs [] = [] := by
  cases fuel <;> simp [rowsLoop]

theorem rowsLoop_cons (n fuel ofs : Nat) (e : Bytes) (es : List Bytes) (h : ofs < n) :
    rowsLoop n (fuel + 1) ofs (e :: es) =
      createLabels (n - ofs) e (e.size / K) ++ rowsLoop n fuel (ofs + e.size / K * 8) es := by
  simp only [rowsLoop, h, if_true]

theorem errRow_lt (n : Nat) (E1 E2 : List Bytes) (r : Nat) (h : r < n) :
    errRow n E1 E2 r = (rowsOf n E1).getD r 0#128 := if_pos h

theorem errRow_ge (n : Nat) (E1 E2 : List Bytes) (r : Nat) (h : n ≤ r) :
    errRow n E1 E2 r = (rowsOf 256 E2).getD (r - n) 0#128 := if_neg (Nat.not_lt.mpr h)

theorem errRow_single (n : Nat) (e : Bytes) (E2 : List Bytes) (q : Nat) (hq : q < n) :
    errRow n [e] E2 q = (createLabels n e (e.size / K)).getD q 0#128 := by
  rw [errRow_lt _ _ _ _ hq, rowsOf, rowsLoop_cons _ _ _ _ _ (Nat.zero_lt_of_lt hq), rowsLoop_nil, List.append_nil,
    Nat.sub_zero]

theorem errRow_nil_right (n : Nat) (E1 : List Bytes) (q : Nat) (hq : n ≤ q) : errRow n E1 [] q = 0#128 := by
  rw [errRow_ge _ _ _ _ hq, rowsOf, rowsLoop_nil]
  rfl

/-- The sender's chunk loop is GF(2)-linear in the received chunks: XORing the masks `E` into them changes
label `i` by `E_i & Delta`, `E_i` row `i` of the mask matrix, and nothing else. -/
theorem sendLoop_xorMsgs (SS : Nat → Nat → Byte) (delta : Label) (n : Nat) :
    ∀ (fuel ofs : Nat) (ss : SendSt) (msgs E more : List Bytes) (ss' : SendSt) (sent : List Label),
      Shape msgs E → sendLoop SS delta n fuel ofs ss msgs = some (ss', sent, []) →
      sendLoop SS delta n fuel ofs ss (xorMsgs msgs E ++ more) =
          some (ss', List.zipWith (fun s r => s ^^^ (r &&& delta)) sent (rowsLoop n fuel ofs E), more) ∧
        (rowsLoop n fuel ofs E).length = sent.length := by
  intro fuel
  induction fuel with
  | zero =>
    intro ofs ss msgs E more ss' sent hsh h
    unfold sendLoop at h
    split at h
    · cases h
    · cases h
      cases shape_nil_left E hsh
      exact ⟨by simp [sendLoop, xorMsgs, *], rfl⟩
  | succ f ih =>
    intro ofs ss msgs E more ss' sent hsh h
    by_cases hlt : ofs < n
    · cases msgs with
      | nil => simp [sendLoop, hlt] at h
      | cons u us =>
        obtain ⟨e, es, rfl, hesz, hshes⟩ := shape_cons_left _ _ _ hsh
        simp only [sendLoop, hlt, if_true] at h
        split at h
        · cases h
        rename_i hmod
        split at h
        · cases h
        rename_i hwle
        split at h
        · cases h
        rename_i rest hrest
        obtain ⟨ss1, sentR, rst⟩ := rest
        simp only [Option.some.injEq, Prod.mk.injEq] at h
        obtain ⟨rfl, rfl, rfl⟩ := h
        obtain ⟨w, hw⟩ : ∃ w, u.size / K = w := ⟨_, rfl⟩
        rw [hw] at hwle hrest ⊢
        have hu : u.size = K * w := by rw [← hw, Nat.mul_div_cancel' (Nat.dvd_of_mod_eq_zero (Decidable.not_not.mp hmod))]
        obtain ⟨g1, g2⟩ := ih (ofs + w * 8) (ss.adv w) us es more ss1 sentR hshes hrest
        rw [rowsLoop_cons _ _ _ _ _ hlt, hesz, hw, List.zipWith_append (by simp only [length_createLabels]),
          ← createLabels_xor _ _ _ _ _ _ (fun j k hj hk => sendCols_xorBytes SS delta ss u e w hu (hesz.trans hu) j k hj hk)]
        refine ⟨?_, by simp only [List.length_append, length_createLabels, g2]⟩
        simp only [xorMsgs, List.zipWith_cons_cons, List.cons_append, sendLoop, hlt, if_true, size_xorBytes, hmod,
          if_false, hw, hwle]
        simp only [xorMsgs] at g1
        rw [g1]
    · rw [sendLoop_done _ _ _ _ _ _ _ (Nat.le_of_not_lt hlt)] at h
      cases h
      cases shape_nil_left E hsh
      exact ⟨sendLoop_done _ _ _ _ _ _ _ (Nat.le_of_not_lt hlt), by rw [rowsLoop_done _ _ _ _ (Nat.le_of_not_lt hlt)]⟩

theorem label_call_err (R0 R1 SS : Nat → Nat → Byte) (delta : Label) (hb : BaseOK R0 R1 SS delta)
    (rs : RecvSt) (ss : SendSt) (hs : InStep rs ss) (b : Array Bool) (E more : List Bytes)
    (hsh : Shape (receive R0 R1 rs b).2.2 E) :
    ∃ ss' sent,
      send SS delta ss b.size (xorMsgs (receive R0 R1 rs b).2.2 E ++ more) = some (ss', sent, more) ∧
      InStep (receive R0 R1 rs b).1 ss' ∧
      sent.length = b.size ∧ (receive R0 R1 rs b).2.1.length = b.size ∧ (rowsOf b.size E).length = b.size ∧
      ∀ i, i < b.size →
        (receive R0 R1 rs b).2.1.getD i 0#128 =
          sent.getD i 0#128 ^^^ (if b.getD i false then delta else 0#128) ^^^ ((rowsOf b.size E).getD i 0#128 &&& delta) := by
  obtain ⟨ss', sent, h1, h2, h3, h4, h5⟩ := label_call R0 R1 SS delta hb rs ss hs b []
  rw [List.append_nil] at h1
  obtain ⟨g1, g2⟩ := sendLoop_xorMsgs SS delta b.size _ _ _ _ E more _ _ hsh h1
  rw [h3] at g2
  refine ⟨ss', _, g1, h2, by rw [List.length_zipWith, h3, g2, Nat.min_self], h4, g2, fun i hi => ?_⟩
  rw [h5 i hi, rowsOf, getD_zipWith _ _ _ i (a := 0#128) (b := 0#128) (by simp) (h3.trans g2.symm)]
  generalize (rowsLoop b.size (b.size + 1) 0 E).getD i 0#128 &&& delta = r
  rw [xor_swap _ _ r, BitVec.xor_assoc _ r r, BitVec.xor_self, BitVec.xor_zero]

theorem lget_chiAt (X : Nat → Label) (pos cnt k : Nat) (h : k < cnt) : lget (chiAt X pos cnt) k = X (pos + k) := by
  unfold lget chiAt
  rw [getD_mk _ _ _ _ h]

@[simp] theorem size_chiAt (X : Nat → Label) (pos cnt : Nat) : (chiAt X pos cnt).size = cnt := by simp [chiAt]

theorem lget_extract (v : Array Label) (i k : Nat) (h : i + k < v.size) : lget (v.extract i v.size) k = lget v (i + k) := by
  unfold lget
  have h1 : k < (v.extract i v.size).size := by simp; omega
  rw [Array.getD_eq_getD_getElem?, Array.getD_eq_getD_getElem?, Array.getElem?_eq_getElem h1, Array.getElem?_eq_getElem h]
  simp

theorem innerNoRed_chi (X : Nat → Label) (pos cnt : Nat) (v : Array Label) (i : Nat) (h : i + cnt ≤ v.size) :
    innerNoRed (chiAt X pos cnt) (v.extract i v.size) = psum cnt fun k => mul128 (X (pos + k)) (lget v (i + k)) := by
  unfold innerNoRed
  have e : min (chiAt X pos cnt).size (v.extract i v.size).size = cnt := by simp; omega
  rw [e]
  apply psum_congr
  intro k hk
  rw [lget_chiAt _ _ _ _ hk, lget_extract _ _ _ (by omega)]

theorem innerNoRed_chi_all (X : Nat → Label) (pos : Nat) (v : Array Label) :
    innerNoRed (chiAt X pos v.size) v = psum v.size fun k => mul128 (X (pos + k)) (lget v k) := by
  have h := innerNoRed_chi X pos v.size v 0 (by omega)
  simpa only [Array.extract_size, Nat.zero_add] using h

theorem selXor_chi (X : Nat → Label) (pos cnt : Nat) (bit : Nat → Bool) :
    selXor (chiAt X pos cnt) bit cnt = lsum cnt fun k => if bit k then X (pos + k) else 0#128 := by
  unfold selXor
  apply lsum_congr
  intro k hk
  rw [lget_chiAt _ _ _ _ hk]
  split <;> simp only [select1, select0, BitVec.and_allOnes, BitVec.and_zero]

theorem chkLoop_eq (X : Nat → Label) (bit : Nat → Bool) (v : Array Label) (len : Nat) (hv : v.size = len) :
    ∀ (fuel i : Nat) (acc : Acc), len - i ≤ fuel →
      chkLoop X bit v len fuel i acc =
        { t := pxor acc.t (psum (len - i) fun k => mul128 (X (acc.pos + k)) (lget v (i + k))),
          x := acc.x ^^^ lsum (len - i) fun k => if bit (i + k) then X (acc.pos + k) else 0#128,
          pos := acc.pos + (len - i) } := by
  intro fuel
  induction fuel with
  | zero =>
    intro i acc h
    have e : len - i = 0 := by omega
    simp [chkLoop, e, psum, lsum]
  | succ f ih =>
    intro i acc h
    unfold chkLoop
    by_cases hi : i < len
    · simp only [hi, if_true]
      rw [ih _ _ (by omega)]
      simp only
      rw [innerNoRed_chi _ _ _ _ _ (by omega), selXor_chi]
      by_cases hc : len - i ≤ 1024
      · have e1 : min 1024 (len - i) = len - i := by omega
        have e2 : len - (i + 1024) = 0 := by omega
        simp [e1, e2, psum, lsum]
      · have e1 : min 1024 (len - i) = 1024 := by omega
        have e2 : len - i = 1024 + (len - (i + 1024)) := by omega
        rw [e1]
        conv => rhs; rw [e2, psum_add, lsum_add]
        simp only [pxor_assoc, BitVec.xor_assoc, Nat.add_assoc]
    · have e : len - i = 0 := by omega
      simp [hi, e, psum, lsum]

theorem chkTail_eq (X : Nat → Label) (bit : Nat → Bool) (cv : Array Label) (acc : Acc) :
    chkTail X bit cv acc =
      { t := pxor acc.t (psum cv.size fun k => mul128 (X (acc.pos + k)) (lget cv k)),
        x := acc.x ^^^ lsum cv.size fun k => if bit k then X (acc.pos + k) else 0#128,
        pos := acc.pos + cv.size } := by
  simp only [chkTail, innerNoRed_chi_all, selXor_chi]

theorem chk_total (X : Nat → Label) (bit1 bit2 : Nat → Bool) (v cv : Array Label) (n : Nat) (hv : v.size = n) :
    chkTail X bit2 cv (chkLoop X bit1 v n (n + 1) 0 {}) =
      { t := psum (n + cv.size) fun r => mul128 (X r) (if r < n then lget v r else lget cv (r - n)),
        x := lsum (n + cv.size) fun r => if (if r < n then bit1 r else bit2 (r - n)) then X r else 0#128,
        pos := n + cv.size } := by
  rw [chkLoop_eq X bit1 v n hv (n + 1) 0 {} (by omega), chkTail_eq, psum_add n, lsum_add n]
  have hn : ∀ k, ¬ n + k < n := fun k => by omega
  simp only [Nat.sub_zero, Nat.zero_add, zero_pxor, BitVec.zero_xor, hn, if_false, Nat.add_sub_cancel_left]
  rw [psum_congr n (fun r => mul128 (X r) (if r < n then lget v r else lget cv (r - n))) _ fun k hk => by rw [if_pos hk],
    lsum_congr n (fun r => if (if r < n then bit1 r else bit2 (r - n)) then X r else 0#128) _ fun k hk => by rw [if_pos hk]]

theorem mul128_sel (chi delta : Label) (bit : Bool) :
    mul128 (if bit then chi else 0#128) delta = mul128 chi (if bit then delta else 0#128) := by
  cases bit
  · simp [mul128_zero_left, mul128_zero_right]
  · simp

theorem check_algebra (chi : Nat → Label) (delta : Label) (N : Nat) (rc q : Nat → Label) (bit : Nat → Bool)
    (e : Nat → Label)
    (h : ∀ r, r < N → rc r = q r ^^^ (if bit r then delta else 0#128) ^^^ (e r &&& delta)) :
    psum N (fun r => mul128 (chi r) (q r)) =
      pxor (pxor (psum N fun r => mul128 (chi r) (rc r)) (mul128 (lsum N fun r => if bit r then chi r else 0#128) delta))
        (psum N fun r => mul128 (chi r) (e r &&& delta)) := by
  rw [mul128_lsum_left, ← psum_pxor, ← psum_pxor]
  apply psum_congr
  intro r hr
  have hq : q r = rc r ^^^ (if bit r then delta else 0#128) ^^^ (e r &&& delta) := by
    rw [h r hr]
    generalize (if bit r then delta else 0#128) = u
    generalize e r &&& delta = v
    grind
  show mul128 (chi r) (q r) = _
  rw [hq, mul128_xor_right, mul128_xor_right, mul128_sel]

theorem pair_eq_iff (q : P) (t0 t1 : Label) : (q.1 = t0 ∧ q.2 = t1) ↔ q = (t0, t1) :=
  (Prod.ext_iff (x := q) (y := (t0, t1))).symm

theorem lget_toArray (l : List Label) (i : Nat) : lget l.toArray i = l.getD i 0#128 := getD_toArray l i _

theorem inStep_unique {rs : RecvSt} {ss ss' : SendSt} (h : InStep rs ss) (h' : InStep rs ss') : ss = ss' := by
  cases ss with | mk p => cases ss' with | mk p' =>
  congr 1
  funext i
  have a := (h i).1
  have b := (h' i).1
  simp only at a b
  omega

/-- `receiveKos` with the choice vector of the check batch as a parameter.  The lemmas below are about
this form with `bcv` a variable: on `bcvOf b0 b1` itself the kernel, whenever it compares two terms
up to reduction, runs `(bcvOf b0 b1).size` through `Array.map`, which takes seconds. -/
def receiveKosWith (X : Label → Nat → Label) (R0 R1 : Nat → Nat → Byte) (st : RecvSt) (b bcv : Array Bool)
    (seed2 : Label) : RecvOut :=
  let r1 := receive R0 R1 st b
  let r2 := receive R0 R1 r1.1 bcv
  let a1 := chkLoop (X seed2) (fun i => b.getD i false) r1.2.1.toArray b.size (b.size + 1) 0 {}
  let a2 := chkTail (X seed2) (fun j => bcv.getD j false) r2.2.1.toArray a1
  { st := r2.1, labels := r1.2.1, cv := r2.2.1, msgs := r1.2.2 ++ r2.2.2,
    seed := seed2, x := a2.x, t0 := a2.t.1, t1 := a2.t.2 }

theorem receiveKos_eq (X : Label → Nat → Label) (R0 R1 : Nat → Nat → Byte) (st : RecvSt) (b : Array Bool)
    (b0 b1 seed2 : Label) :
    receiveKos X R0 R1 st b b0 b1 seed2 = receiveKosWith X R0 R1 st b (bcvOf b0 b1) seed2 := rfl

theorem receiveKosWith_chk (X : Label → Nat → Label) (R0 R1 : Nat → Nat → Byte) (rs : RecvSt) (b bcv : Array Bool)
    (seed2 : Label) (h1 : (receive R0 R1 rs b).2.1.length = b.size)
    (h2 : (receive R0 R1 (receive R0 R1 rs b).1 bcv).2.1.length = 256) :
    (receiveKosWith X R0 R1 rs b bcv seed2).x =
        (lsum (b.size + 256) fun r =>
          if (if r < b.size then b.getD r false else bcv.getD (r - b.size) false) then X seed2 r else 0#128) ∧
      ((receiveKosWith X R0 R1 rs b bcv seed2).t0, (receiveKosWith X R0 R1 rs b bcv seed2).t1) =
        psum (b.size + 256) fun r => mul128 (X seed2 r)
          (if r < b.size then (receive R0 R1 rs b).2.1.getD r 0#128
           else (receive R0 R1 (receive R0 R1 rs b).1 bcv).2.1.getD (r - b.size) 0#128) := by
  have h := chk_total (X seed2) (fun i => b.getD i false) (fun j => bcv.getD j false)
    (receive R0 R1 rs b).2.1.toArray (receive R0 R1 (receive R0 R1 rs b).1 bcv).2.1.toArray b.size
    (by rw [List.size_toArray, h1])
  simp only [List.size_toArray, h2, lget_toArray] at h
  simp only [receiveKosWith, h, and_self]

theorem sendKos_eq (X : Label → Nat → Label) (SS : Nat → Nat → Byte) (delta : Label) (ss : SendSt) (n : Nat)
    (msgs : List Bytes) (r1 r2 : SendSt × List Label × List Bytes) (seed2 x t0 t1 : Label) (more : List Label)
    (h1 : send SS delta ss n msgs = some r1) (h2 : send SS delta r1.1 256 r1.2.2 = some r2) :
    sendKos X SS delta ss n msgs (seed2 :: x :: t0 :: t1 :: more) =
      if pxor (psum (r1.2.1.length + r2.2.1.length) fun r => mul128 (X seed2 r)
            (if r < r1.2.1.length then r1.2.1.getD r 0#128 else r2.2.1.getD (r - r1.2.1.length) 0#128))
          (mul128 x delta) = (t0, t1)
      then some { st := r2.1, labels := r1.2.1, restData := r2.2.2, restLabels := more } else none := by
  have h := chk_total (X seed2) (fun _ => false) (fun _ => false) r1.2.1.toArray r2.2.1.toArray _ rfl
  simp only [List.size_toArray, lget_toArray] at h
  simp only [sendKos, h1, h2, List.size_toArray, h, pair_eq_iff]

/-- The acceptance condition in the form the sender evaluates it. -/
theorem residual_eq_zero_iff (chi : Nat → Label) (delta : Label) (n : Nat) (E1 E2 : List Bytes) (x x' : Label) (t t' : P) :
    pxor (pxor (pxor t (mul128 x delta)) (psum (n + 256) fun r => mul128 (chi r) (errRow n E1 E2 r &&& delta)))
        (mul128 x' delta) = t' ↔ residual chi delta n E1 E2 x x' t t' = pzero := by
  unfold residual
  rw [← pxor_eq_zero_iff, mul128_xor_left]
  generalize (psum (n + 256) fun r => mul128 (chi r) (errRow n E1 E2 r &&& delta)) = er
  have e : pxor (pxor (pxor (pxor t (mul128 x delta)) er) (mul128 x' delta)) t' =
      pxor (pxor er (pxor (mul128 x delta) (mul128 x' delta))) (pxor t t') := by ac_rfl
  rw [e]

/-- The master lemma: a malicious-mode call with error masks `E1` (payload
batch) and `E2` (check batch) on the transmitted chunks, an intact challenge
seed and an arbitrary response `(x', t0', t1')`. -/
theorem kos_runWith (X : Label → Nat → Label) (R0 R1 SS : Nat → Nat → Byte) (delta : Label)
    (hb : BaseOK R0 R1 SS delta) (rs : RecvSt) (ss : SendSt) (hs : InStep rs ss) (b bcv : Array Bool) (hbcv : bcv.size = 256)
    (seed2 : Label) (E1 E2 moreD : List Bytes)
    (h1 : Shape (receive R0 R1 rs b).2.2 E1)
    (h2 : Shape (receive R0 R1 (receive R0 R1 rs b).1 bcv).2.2 E2) :
    ∃ ss' sent,
      InStep (receiveKosWith X R0 R1 rs b bcv seed2).st ss' ∧ sent.length = b.size ∧
      (receiveKosWith X R0 R1 rs b bcv seed2).labels.length = b.size ∧
      (∀ i, i < b.size →
        (receiveKosWith X R0 R1 rs b bcv seed2).labels.getD i 0#128 =
          sent.getD i 0#128 ^^^ (if b.getD i false then delta else 0#128) ^^^ (errRow b.size E1 E2 i &&& delta)) ∧
      ∀ (x' t0' t1' : Label) (moreL : List Label),
        sendKos X SS delta ss b.size
            (xorMsgs (receive R0 R1 rs b).2.2 E1 ++ (xorMsgs (receive R0 R1 (receive R0 R1 rs b).1 bcv).2.2 E2 ++ moreD))
            (seed2 :: x' :: t0' :: t1' :: moreL) =
          if residual (X seed2) delta b.size E1 E2 (receiveKosWith X R0 R1 rs b bcv seed2).x x'
              ((receiveKosWith X R0 R1 rs b bcv seed2).t0, (receiveKosWith X R0 R1 rs b bcv seed2).t1) (t0', t1') = pzero
          then some { st := ss', labels := sent, restData := moreD, restLabels := moreL } else none := by
  obtain ⟨ss1, sent, hs1, hst1, hl1, hl1', _, hc1⟩ :=
    label_call_err R0 R1 SS delta hb rs ss hs b E1 (xorMsgs (receive R0 R1 (receive R0 R1 rs b).1 bcv).2.2 E2 ++ moreD) h1
  obtain ⟨ss2, cvS, hs2, hst2, hl2, hl2', _, hc2⟩ := label_call_err R0 R1 SS delta hb _ ss1 hst1 bcv E2 moreD h2
  rw [hbcv] at hs2 hl2 hl2' hc2
  obtain ⟨hx, ht⟩ := receiveKosWith_chk X R0 R1 rs b bcv seed2 hl1' hl2'
  have herr : ∀ r, r < b.size + 256 →
      (if r < b.size then (receive R0 R1 rs b).2.1.getD r 0#128
        else (receive R0 R1 (receive R0 R1 rs b).1 bcv).2.1.getD (r - b.size) 0#128) =
      (if r < b.size then sent.getD r 0#128 else cvS.getD (r - b.size) 0#128) ^^^
        (if (if r < b.size then b.getD r false else bcv.getD (r - b.size) false) then delta else 0#128) ^^^
        (errRow b.size E1 E2 r &&& delta) := by
    intro r hr
    by_cases hlt : r < b.size
    · simp only [errRow_lt _ _ _ _ hlt, hlt, if_true]
      exact hc1 r hlt
    · simp only [errRow_ge _ _ _ _ (Nat.not_lt.mp hlt), hlt, if_false]
      exact hc2 (r - b.size) (by omega)
  refine ⟨ss2, sent, hst2, hl1, hl1', fun i hi => ?_, fun x' t0' t1' moreL => ?_⟩
  · have := herr i (by omega)
    rwa [if_pos hi, if_pos hi, if_pos hi] at this
  · rw [sendKos_eq X SS delta ss b.size _ (ss1, sent, _) (ss2, cvS, moreD) seed2 x' t0' t1' moreL hs1 hs2]
    simp only [hl1, hl2]
    rw [check_algebra (X seed2) delta (b.size + 256) _ _ _ (errRow b.size E1 E2) herr, ← hx, ← ht]
    simp only [residual_eq_zero_iff]

/-- One chunk of an error mask: the chunk of `size` bytes (`size / K` byte-rows
per column) whose rows, as `createLabels` reads them, are `e ofs, e (ofs+1), …`. -/
def maskChunk (e : Nat → Label) (ofs size : Nat) : Bytes :=
  mk size fun k => byteOfBits fun t => labelBit (e (ofs + 8 * (k % (size / K)) + t)) (k / (size / K))

/-- Error masks with the shape of `msgs` whose rows are `e ofs, e (ofs+1), …`. -/
def maskLike (e : Nat → Label) : Nat → List Bytes → List Bytes
  | _, [] => []
  | ofs, u :: us => maskChunk e ofs u.size :: maskLike e (ofs + u.size / K * 8) us

@[simp] theorem size_maskChunk (e : Nat → Label) (ofs size : Nat) : (maskChunk e ofs size).size = size := by
  simp [maskChunk]

theorem shape_maskLike (e : Nat → Label) : ∀ (msgs : List Bytes) (ofs : Nat), Shape msgs (maskLike e ofs msgs) := by
  intro msgs
  induction msgs with
  | nil => intro _; trivial
  | cons u us ih => intro ofs; exact ⟨size_maskChunk .., ih _⟩

theorem createLabels_maskChunk (e : Nat → Label) (ofs size len idx : Nat) (h : idx < min (size / K * 8) len) :
    (createLabels len (maskChunk e ofs size) (size / K)).getD idx 0#128 = e (ofs + idx) := by
  apply label_ext
  intro j hj
  rw [labelBit_createLabels _ _ _ _ _ h hj]
  have hk : idx / 8 < size / K := by omega
  have hlt : j * (size / K) + idx / 8 < size := by
    have h1 := idx_lt (i := j) (k := idx / 8) (w := size / K) hj hk
    have h2 : K * (size / K) ≤ size := Nat.mul_div_le size K
    omega
  unfold maskChunk
  rw [bget_mk _ _ _ hlt, getLsbD_byteOfBits _ _ (Nat.mod_lt _ (by omega)), idx_div hk, idx_mod hk]
  have : ofs + 8 * (idx / 8) + idx % 8 = ofs + idx := by omega
  rw [this]

theorem rowsLoop_maskLike (e : Nat → Label) (n : Nat) : ∀ (fuel ofs : Nat) (msgs : List Bytes) (i : Nat),
    i < (rowsLoop n fuel ofs (maskLike e ofs msgs)).length →
    (rowsLoop n fuel ofs (maskLike e ofs msgs)).getD i 0#128 = e (ofs + i) := by
  intro fuel
  induction fuel with
  | zero => intro ofs msgs i hi; simp [rowsLoop] at hi
  | succ f ih =>
    intro ofs msgs i hi
    by_cases h : ofs < n
    · cases msgs with
      | nil => simp [maskLike, rowsLoop_nil] at hi
      | cons u us =>
        rw [maskLike, rowsLoop_cons _ _ _ _ _ h, size_maskChunk] at hi ⊢
        by_cases hil : i < min (u.size / K * 8) (n - ofs)
        · rw [getD_append_left _ _ _ _ (by simpa using hil)]
          exact createLabels_maskChunk e ofs u.size (n - ofs) i hil
        · rw [getD_append_right _ _ _ _ (by simp only [length_createLabels]; omega)]
          simp only [List.length_append, length_createLabels] at hi
          by_cases hfull : u.size / K * 8 ≤ n - ofs
          · have hmin : min (u.size / K * 8) (n - ofs) = u.size / K * 8 := by omega
            simp only [length_createLabels, hmin] at hi ⊢
            rw [ih _ _ _ (by omega)]
            congr 1; omega
          · rw [rowsLoop_done _ _ _ _ (by omega)] at hi
            simp at hi; omega
    · rw [rowsLoop_done _ _ _ _ (by omega)] at hi
      simp at hi

theorem rowsOf_maskLike (e : Nat → Label) (n : Nat) (msgs : List Bytes) (i : Nat)
    (hi : i < (rowsOf n (maskLike e 0 msgs)).length) : (rowsOf n (maskLike e 0 msgs)).getD i 0#128 = e i := by
  have := rowsLoop_maskLike e n (n + 1) 0 msgs i hi
  rwa [Nat.zero_add] at this

theorem errRow_maskLike (e : Nat → Label) (n : Nat) (m1 m2 : List Bytes)
    (h1 : (rowsOf n (maskLike e 0 m1)).length = n)
    (h2 : (rowsOf 256 (maskLike (fun r => e (n + r)) 0 m2)).length = 256) (r : Nat) (hr : r < n + 256) :
    errRow n (maskLike e 0 m1) (maskLike (fun r => e (n + r)) 0 m2) r = e r := by
  by_cases h : r < n
  · rw [errRow_lt _ _ _ _ h]
    exact rowsOf_maskLike e n m1 r (by rw [h1]; exact h)
  · rw [errRow_ge _ _ _ _ (Nat.not_lt.mp h), rowsOf_maskLike _ 256 m2 (r - n) (by rw [h2]; omega)]
    congr 1; omega

theorem kos_rows_realisable (R0 R1 SS : Nat → Nat → Byte) (delta : Label) (hb : BaseOK R0 R1 SS delta)
    (rs : RecvSt) (ss : SendSt) (hs : InStep rs ss) (b : Array Bool) (b0 b1 : Label) (e : Nat → Label) :
    ∃ E1 E2 : List Bytes,
      Shape (receive R0 R1 rs b).2.2 E1 ∧
      Shape (receive R0 R1 (receive R0 R1 rs b).1 (bcvOf b0 b1)).2.2 E2 ∧
      ∀ q, q < b.size + 256 → errRow b.size E1 E2 q = e q := by
  have h1 := shape_maskLike e (receive R0 R1 rs b).2.2 0
  have h2 := shape_maskLike (fun r => e (b.size + r)) (receive R0 R1 (receive R0 R1 rs b).1 (bcvOf b0 b1)).2.2 0
  obtain ⟨ss1, _, _, hst1, _, _, hl1, _⟩ := label_call_err R0 R1 SS delta hb rs ss hs b _ [] h1
  obtain ⟨_, _, _, _, _, _, hl2, _⟩ := label_call_err R0 R1 SS delta hb _ ss1 hst1 (bcvOf b0 b1) _ [] h2
  rw [size_bcvOf] at hl2
  exact ⟨_, _, h1, h2, errRow_maskLike e b.size _ _ hl1 hl2⟩

def zeroLike (msgs : List Bytes) : List Bytes := msgs.map fun u => mk u.size fun _ => 0#8

theorem zeroLike_eq_maskLike (msgs : List Bytes) (ofs : Nat) : zeroLike msgs = maskLike (fun _ => 0#128) ofs msgs := by
  induction msgs generalizing ofs with
  | nil => rfl
  | cons u us ih =>
    rw [zeroLike, List.map_cons, maskLike, ← ih, maskChunk]
    simp only [labelBit_zero, zeroLike]
    rfl

theorem shape_zeroLike (msgs : List Bytes) : Shape msgs (zeroLike msgs) :=
  zeroLike_eq_maskLike msgs 0 ▸ shape_maskLike _ msgs 0

theorem bget_zero (n k : Nat) : bget (mk n fun _ => 0#8) k = 0#8 := (getD_mk_ite n _ k _).trans (ite_self _)

theorem xorBytes_zero (u : Bytes) : xorBytes u (mk u.size fun _ => 0#8) = u := by
  apply Array.ext
  · simp
  · intro i h1 h2
    have hb : bget (xorBytes u (mk u.size fun _ => 0#8)) i = bget u i := by
      rw [bget_xorBytes _ _ _ h2, bget_zero]; simp
    simpa [bget, Array.getD, h1, h2] using hb

theorem xorMsgs_zeroLike (msgs : List Bytes) : xorMsgs msgs (zeroLike msgs) = msgs := by
  induction msgs with
  | nil => rfl
  | cons u us ih =>
    simp only [xorMsgs, zeroLike, List.map_cons, List.zipWith_cons_cons, xorBytes_zero]
    congr 1

theorem errRow_zeroLike (n : Nat) (m1 m2 : List Bytes) (r : Nat) : errRow n (zeroLike m1) (zeroLike m2) r = 0#128 := by
  have key : ∀ k (ms : List Bytes) i, (rowsOf k (zeroLike ms)).getD i 0#128 = 0#128 := fun k ms i => by
    rw [zeroLike_eq_maskLike ms 0]
    by_cases h : i < (rowsOf k (maskLike (fun _ => 0#128) 0 ms)).length
    · exact rowsOf_maskLike _ k ms i h
    · exact getD_of_le _ _ _ (Nat.not_lt.mp h)
  by_cases h : r < n
  · rw [errRow_lt _ _ _ _ h, key]
  · rw [errRow_ge _ _ _ _ (Nat.not_lt.mp h), key]

theorem residual_intact (chi : Nat → Label) (delta : Label) (n : Nat) (E1 E2 : List Bytes) (x : Label) (t : P) :
    residual chi delta n E1 E2 x x t t = psum (n + 256) fun r => mul128 (chi r) (errRow n E1 E2 r &&& delta) := by
  unfold residual
  simp [mul128_zero_left]

theorem residual_zero (chi : Nat → Label) (delta : Label) (n : Nat) (E1 E2 : List Bytes) (x : Label) (t : P)
    (h : ∀ r, r < n + 256 → errRow n E1 E2 r &&& delta = 0#128) : residual chi delta n E1 E2 x x t t = pzero := by
  rw [residual_intact, psum_zero _ _ fun r hr => by rw [h r hr, mul128_zero_right]]

theorem receiveKos_resp (X : Label → Nat → Label) (R0 R1 : Nat → Nat → Byte) (rs : RecvSt) (b : Array Bool)
    (b0 b1 seed2 : Label) (moreL : List Label) :
    (receiveKos X R0 R1 rs b b0 b1 seed2).resp ++ moreL =
      seed2 :: (receiveKos X R0 R1 rs b b0 b1 seed2).x :: (receiveKos X R0 R1 rs b b0 b1 seed2).t0 ::
        (receiveKos X R0 R1 rs b b0 b1 seed2).t1 :: moreL := rfl

theorem kos_complete_call (X : Label → Nat → Label) (R0 R1 SS : Nat → Nat → Byte) (delta : Label)
    (hb : BaseOK R0 R1 SS delta) (rs : RecvSt) (ss : SendSt) (hs : InStep rs ss) (b : Array Bool)
    (b0 b1 seed2 : Label) (moreD : List Bytes) (moreL : List Label) :
    ∃ ss' sent,
      sendKos X SS delta ss b.size ((receiveKos X R0 R1 rs b b0 b1 seed2).msgs ++ moreD)
          ((receiveKos X R0 R1 rs b b0 b1 seed2).resp ++ moreL) =
        some { st := ss', labels := sent, restData := moreD, restLabels := moreL } ∧
      InStep (receiveKos X R0 R1 rs b b0 b1 seed2).st ss' ∧ sent.length = b.size ∧
      (receiveKos X R0 R1 rs b b0 b1 seed2).labels.length = b.size ∧
      ∀ i, i < b.size →
        (receiveKos X R0 R1 rs b b0 b1 seed2).labels.getD i 0#128 =
          sent.getD i 0#128 ^^^ (if b.getD i false then delta else 0#128) := by
  rw [receiveKos_eq]
  have hbcv := size_bcvOf b0 b1
  generalize bcvOf b0 b1 = bcv at hbcv ⊢
  obtain ⟨ss', sent, h1, h2, h3, h4, h5⟩ := kos_runWith X R0 R1 SS delta hb rs ss hs b bcv hbcv seed2
    (zeroLike (receive R0 R1 rs b).2.2) (zeroLike (receive R0 R1 (receive R0 R1 rs b).1 bcv).2.2) moreD
    (shape_zeroLike _) (shape_zeroLike _)
  refine ⟨ss', sent, ?_, h1, h2, h3, ?_⟩
  · have := h5 (receiveKosWith X R0 R1 rs b bcv seed2).x (receiveKosWith X R0 R1 rs b bcv seed2).t0
      (receiveKosWith X R0 R1 rs b bcv seed2).t1 moreL
    rw [xorMsgs_zeroLike, xorMsgs_zeroLike,
      residual_zero _ _ _ _ _ _ _ (fun r _ => by rw [errRow_zeroLike]; simp), if_pos rfl] at this
    rw [← this]
    simp [receiveKosWith, RecvOut.resp, List.append_assoc]
  · intro i hi
    have := h4 i hi
    rw [errRow_zeroLike] at this
    simpa using this

theorem residual_matrix_intact (chi : Nat → Label) (delta : Label) (n : Nat) (E1 E2 : List Bytes) (x x' : Label) (t t' : P)
    (h : ∀ r, r < n + 256 → errRow n E1 E2 r &&& delta = 0#128) :
    residual chi delta n E1 E2 x x' t t' = pxor (mul128 (x ^^^ x') delta) (pxor t t') := by
  unfold residual
  rw [psum_zero _ _ (fun r hr => by rw [h r hr, mul128_zero_right])]
  simp

theorem list_ext_getD (l l' : List Label) (hl : l.length = l'.length)
    (h : ∀ i, i < l.length → l.getD i 0#128 = l'.getD i 0#128) : l = l' :=
  List.ext_getElem hl fun i h1 h2 => (getD_of_lt l i _ h1).symm.trans ((h i h1).trans (getD_of_lt l' i _ h2))

theorem xor_err_zero (u e : Label) (h : u = u ^^^ e) : e = 0#128 :=
  ((BitVec.xor_right_inj u).mp (by rwa [BitVec.xor_zero])).symm

end Mpc.Kos
