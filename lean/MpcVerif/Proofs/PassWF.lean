/-
C09: the executable well-formedness checkers of `Model/PassesWF.lean` imply
the hypotheses of the pass theorems.
-/
import MpcVerif.Model.PassesWF
import MpcVerif.Proofs.PassCP
import MpcVerif.Proofs.PassSC

namespace Mpc
namespace Graph

theorem wfStep_live {nIn : Nat} {g : BGate} {Wt W : Array Bool} (hd : g.dead = false)
    (h : wfStep nIn g (some Wt) = some W) :
    nIn ≤ g.o ∧ g.o < Wt.size ∧ Wt.getD g.o false = false ∧ W = Wt.setIfInBounds g.o true ∧
    W.getD g.a false = false ∧ (g.op ≠ .inv → W.getD g.b false = false) := by
  simp only [wfStep, hd, Bool.false_eq_true, if_false] at h
  rw [Option.ite_none_right_eq_some, Option.ite_none_right_eq_some] at h
  obtain ⟨hc1, hc2, h⟩ := h
  cases h
  simp only [Bool.and_eq_true, decide_eq_true_eq, Bool.not_eq_true', Bool.or_eq_true, beq_iff_eq] at hc1 hc2
  exact ⟨hc1.1.1, hc1.1.2, hc1.2, rfl, hc2.1, fun hop => hc2.2.resolve_left hop⟩

/-- Why an accepted backward scan certifies `GatesWF`: a live gate must find its output unmarked,
so no later live gate writes it, and its inputs unmarked after marking its
own output, so neither it nor a later live gate writes them. -/
theorem foldr_wf (nIn n : Nat) : ∀ (l : List BGate) (W : Array Bool),
    l.foldr (wfStep nIn) (some (Array.replicate n false)) = some W →
    W.size = n ∧ (∀ g ∈ l, g.dead = false → W.getD g.o false = true) ∧ GatesWF nIn n l
  | [], W, h => by
    cases h
    exact ⟨Array.size_replicate, nofun, nofun, List.Pairwise.nil⟩
  | g :: t, W, h => by
    rw [List.foldr_cons] at h
    cases hacc : t.foldr (wfStep nIn) (some (Array.replicate n false)) with
    | none => rw [hacc] at h; cases h
    | some Wt =>
      rw [hacc] at h
      obtain ⟨hsz, hmark, hwf⟩ := foldr_wf nIn n t Wt hacc
      cases hd : g.dead
      · obtain ⟨hnin, hosz, hfree, rfl, ha, hb⟩ := wfStep_live hd h
        have hself : (Wt.setIfInBounds g.o true).getD g.o false = true := getD_set_eq _ _ _ _ hosz
        have hlater : ∀ c ∈ t, c.dead = false → c.o ≠ g.o ∧ (Wt.setIfInBounds g.o true).getD c.o false = true := by
          intro c hc hcd
          have hne : c.o ≠ g.o := fun e => by rw [← e, hmark c hc hcd] at hfree; cases hfree
          exact ⟨hne, by rw [getD_set_ne _ _ _ _ _ (Ne.symm hne)]; exact hmark c hc hcd⟩
        have hin : ∀ w, (Wt.setIfInBounds g.o true).getD w false = true → w ≠ g.a ∧ (g.op ≠ .inv → w ≠ g.b) :=
          fun w hw => ⟨fun e => (by rw [e, ha] at hw; cases hw), fun hop e => (by rw [e, hb hop] at hw; cases hw)⟩
        refine ⟨by rw [Array.size_setIfInBounds, hsz], List.forall_mem_cons.mpr
          ⟨fun _ => hself, fun c hc hcd => (hlater c hc hcd).2⟩, List.forall_mem_cons.mpr
          ⟨fun _ => ⟨hnin, hsz ▸ hosz, (hin _ hself).1, (hin _ hself).2⟩, hwf.self⟩,
          List.pairwise_cons.mpr ⟨fun c hc _ hcd => ?_, hwf.pair⟩⟩
        exact ⟨(hlater c hc hcd).1, (hin _ (hlater c hc hcd).2).1, (hin _ (hlater c hc hcd).2).2⟩
      · simp only [wfStep, hd, if_true] at h
        cases h
        have hnl : ∀ {p : Prop}, g.dead = false → p := fun e => by rw [hd] at e; cases e
        exact ⟨hsz, List.forall_mem_cons.mpr ⟨hnl, hmark⟩, List.forall_mem_cons.mpr ⟨hnl, hwf.self⟩,
          List.pairwise_cons.mpr ⟨fun _ _ e => hnl e, hwf.pair⟩⟩

theorem gwfCheck_sound (G : Graph) (h : G.gwfCheck = true) : G.GWF := by
  unfold gwfCheck at h
  simp only [Bool.and_eq_true, decide_eq_true_eq, Option.isSome_iff_exists] at h
  obtain ⟨hnin, W, hW⟩ := h
  exact (gwf_iff G).mpr ⟨hnin, (foldr_wf G.nIn G.wires.size _ W hW).2.2⟩

theorem gate_mem (G : Graph) (i : Nat) (hi : i < G.gates.size) : G.gate i ∈ G.gates.toList :=
  (mem_gates G _).mpr ⟨i, hi, rfl⟩

theorem allLiveCheck_sound (G : Graph) (h : G.allLiveCheck = true) :
    ∀ i, i < G.gates.size → (G.gate i).dead = false := by
  intro i hi
  unfold allLiveCheck at h
  simp only [List.all_eq_true, Bool.not_eq_true'] at h
  exact h _ (gate_mem G i hi)

theorem iboundCheck_sound (G : Graph) (h : G.iboundCheck = true) :
    ∀ i, i < G.gates.size → (G.gate i).a < G.wires.size ∧
      ((G.gate i).op ≠ .inv → (G.gate i).b < G.wires.size) := by
  intro i hi
  unfold iboundCheck at h
  simp only [List.all_eq_true, Bool.and_eq_true, decide_eq_true_eq, Bool.or_eq_true, beq_iff_eq] at h
  have := h _ (gate_mem G i hi)
  exact ⟨this.1, fun hop => this.2.resolve_left hop⟩

theorem cntStep_size (c : Array Nat) (g : BGate) : (cntStep c g).size = c.size := by
  unfold cntStep
  split
  · rfl
  · split <;> simp

theorem foldl_cnt_size : ∀ (l : List BGate) (c : Array Nat), (l.foldl cntStep c).size = c.size := by
  intro l
  induction l with
  | nil => intro c; rfl
  | cons g t ih => intro c; simp only [List.foldl_cons]; rw [ih, cntStep_size]

theorem getD_modify_add (c : Array Nat) (a w : Nat) (ha : a < c.size) :
    (c.modify a fun x => x + 1).getD w 0 = c.getD w 0 + (if a = w then 1 else 0) := by
  rw [getD_modify]
  by_cases e : w = a
  · subst e; simp [ha]
  · have : ¬ a = w := fun h => e h.symm
    simp [e, this]

theorem cntStep_getD (c : Array Nat) (g : BGate) (w : Nat)
    (hb : g.dead = false → g.a < c.size ∧ (g.op ≠ .inv → g.b < c.size)) :
    (cntStep c g).getD w 0 = c.getD w 0 + (if g.dead then 0 else slots w g) := by
  unfold cntStep slots
  by_cases hd : g.dead = true
  · simp [hd]
  · have hdf : g.dead = false := by cases hg : g.dead <;> simp_all
    obtain ⟨ha, hbb⟩ := hb hdf
    rw [if_neg hd, if_neg hd]
    by_cases hop : g.op = .inv
    · simp only [hop, if_true, ne_eq, not_true_eq_false, false_and, if_false, Nat.add_zero]
      exact getD_modify_add c g.a w ha
    · simp only [hop, if_false, ne_eq, not_false_eq_true, true_and]
      rw [getD_modify_add _ g.b w (by simp; exact hbb hop), getD_modify_add c g.a w ha]
      omega

theorem foldl_cnt_getD (w : Nat) : ∀ (l : List BGate) (c : Array Nat),
    (∀ g ∈ l, g.dead = false → g.a < c.size ∧ (g.op ≠ .inv → g.b < c.size)) →
    (l.foldl cntStep c).getD w 0 = c.getD w 0 + rdL w l := by
  intro l
  induction l with
  | nil => intro c _; simp [rdL]
  | cons g t ih =>
    intro c hb
    simp only [List.foldl_cons, rdL]
    rw [ih (cntStep c g) (fun g' hg' hd => by
      rw [cntStep_size]; exact hb g' (List.mem_cons_of_mem _ hg') hd)]
    rw [cntStep_getD c g w (hb g List.mem_cons_self)]
    omega

theorem readerCounts_spec (G : Graph) (hib : G.iboundCheck = true) (w : Nat) :
    G.readerCounts.getD w 0 = G.readers w := by
  unfold readerCounts readers
  rw [foldl_cnt_getD w _ _ (fun g hg _ => by
    obtain ⟨i, hi, rfl⟩ := (mem_gates G g).mp hg
    rw [Array.size_replicate]
    exact iboundCheck_sound G hib i hi)]
  simp [Array.getD]

theorem countCheck_sound (G : Graph) (hib : G.iboundCheck = true) (h : G.countCheck = true) :
    ∀ w, G.readers w ≤ (G.wire w).numOut := by
  intro w
  rw [← readerCounts_spec G hib]
  by_cases hw : w < G.wires.size
  · unfold countCheck at h
    simp only [List.all_eq_true, List.mem_range, decide_eq_true_eq] at h
    exact h w hw
  · have : G.readerCounts.getD w 0 = 0 := by
      have hs : G.readerCounts.size = G.wires.size := by
        unfold readerCounts; rw [foldl_cnt_size]; simp
      simp [Array.getD, hs, hw]
    rw [this]; exact Nat.zero_le _

theorem unreadCheck_sound (G : Graph) (hib : G.iboundCheck = true) (h : G.unreadCheck = true) :
    ∀ w ∈ G.outputs, ∀ j, j < G.gates.size → (G.gate j).dead = false → ¬ reads (G.gate j) w := by
  intro w hw j hj hd hr
  unfold unreadCheck at h
  simp only [List.all_eq_true, Bool.and_eq_true, decide_eq_true_eq, beq_iff_eq] at h
  have h0 := (h w hw).2
  rw [readerCounts_spec G hib] at h0
  exact no_reader_of_count G w h0 j ⟨hj, hd⟩ hr

structure ConstShape (G : Graph) : Prop where
  nin1 : 1 ≤ G.nIn
  size : 3 ≤ G.gates.size
  g0 : (G.gate 0).op = .inv ∧ (G.gate 0).a = 0 ∧ (G.gate 0).dead = false
  g1 : (G.gate 1).op = .and ∧ (G.gate 1).a = 0 ∧ (G.gate 1).b = (G.gate 0).o ∧ (G.gate 1).o = G.zero ∧
        (G.gate 1).dead = false
  g2 : (G.gate 2).op = .xor ∧ (G.gate 2).a = 0 ∧ (G.gate 2).b = (G.gate 0).o ∧ (G.gate 2).o = G.one ∧
        (G.gate 2).dead = false

theorem constShapeCheck_sound (G : Graph) (h : G.constShapeCheck = true) : ConstShape G := by
  unfold constShapeCheck at h
  simp only [Bool.and_eq_true, decide_eq_true_eq, beq_iff_eq, Bool.not_eq_true'] at h
  obtain ⟨⟨h1, h3⟩, hg⟩ := h
  obtain ⟨⟨⟨⟨⟨⟨⟨⟨⟨⟨⟨⟨a1, a2⟩, a3⟩, b1⟩, b2⟩, b3⟩, b4⟩, b5⟩, c1⟩, c2⟩, c3⟩, c4⟩, c5⟩ := hg
  exact ⟨h1, h3, ⟨a1, a2, a3⟩, ⟨b1, b2, b3, b4, b5⟩, ⟨c1, c2, c3, c4, c5⟩⟩

theorem ConstShape.csem {G : Graph} (h : ConstShape G) (x : List Bool) (s : Store Bool) (hs : G.GSol x s) :
    s.get G.zero = false ∧ s.get G.one = true := by
  have e0 := hs.gate_eq (i := 0) ⟨by have := h.size; omega, h.g0.2.2⟩
  have e1 := hs.gate_eq (i := 1) ⟨by have := h.size; omega, h.g1.2.2.2.2⟩
  have e2 := hs.gate_eq (i := 2) ⟨by have := h.size; omega, h.g2.2.2.2.2⟩
  simp only [h.g0.1, h.g0.2.1, Op.eval] at e0
  simp only [h.g1.1, h.g1.2.1, h.g1.2.2.1, h.g1.2.2.2.1, Op.eval] at e1
  simp only [h.g2.1, h.g2.2.1, h.g2.2.2.1, h.g2.2.2.2.1, Op.eval] at e2
  rw [e1, e2, e0]
  cases s.get 0 <;> simp

theorem wval_oob (G : Graph) (w : Nat) (h : ¬ w < G.wires.size) : G.wval w = .unknown := by
  simp [wval, wire, Array.getD, h]
  rfl

theorem wfCPCheck_sound (G : Graph) (h : G.wfCPCheck = true) : G.WFcp := by
  unfold wfCPCheck at h
  simp only [Bool.and_eq_true, decide_eq_true_eq] at h
  obtain ⟨⟨⟨⟨⟨hg, hl⟩, hs⟩, hv⟩, hv0⟩, hvt⟩ := h
  have hsh := constShapeCheck_sound G hs
  have hval : ∀ w, (G.wval w = .zero → w = G.zero) ∧ (G.wval w = .one → w = G.one) := by
    intro w
    by_cases hw : w < G.wires.size
    · unfold valuesCheck at hv
      simp only [List.all_eq_true, List.mem_range] at hv
      have := hv w hw
      cases hvw : G.wval w <;> rw [hvw] at this <;> simp at this ⊢
      · exact this
      · exact this
    · rw [wval_oob G w hw]; simp
  refine ⟨gwfCheck_sound G hg, hsh.nin1, allLiveCheck_sound G hl, fun w => (hval w).1, fun w => (hval w).2,
    ⟨3, ⟨1, by omega, by have := hsh.size; omega, hsh.g1.2.2.2.1⟩,
      ⟨2, by omega, by have := hsh.size; omega, hsh.g2.2.2.2.1⟩, fun i hi _ => ?_⟩,
    fun x s hsol => hsh.csem x s hsol⟩
  have : i = 0 ∨ i = 1 ∨ i = 2 := by omega
  rcases this with rfl | rfl | rfl
  · exact ⟨by rw [hsh.g0.2.1]; exact hv0, fun hop => absurd hsh.g0.1 hop⟩
  · exact ⟨by rw [hsh.g1.2.1]; exact hv0, fun _ => by rw [hsh.g1.2.2.1]; exact hvt⟩
  · exact ⟨by rw [hsh.g2.2.1]; exact hv0, fun _ => by rw [hsh.g2.2.2.1]; exact hvt⟩

theorem wfPruneCheck_sound (G : Graph) (h : G.wfPruneCheck = true) : G.PInv := by
  unfold wfPruneCheck at h
  simp only [Bool.and_eq_true] at h
  obtain ⟨⟨⟨hg, hib⟩, hf⟩, hc⟩ := h
  refine ⟨gwfCheck_sound G hg, fun w hw => ?_, countCheck_sound G hib hc⟩
  unfold flagsCheck at hf
  simp only [List.all_eq_true] at hf
  exact hf w hw

theorem wfSCCheck_sound (G : Graph) (h : G.wfSCCheck = true) : G.SCInv 0 := by
  unfold wfSCCheck at h
  simp only [Bool.and_eq_true] at h
  obtain ⟨⟨⟨⟨⟨⟨⟨hg, hl⟩, hib⟩, hc⟩, hu⟩, hs⟩, hxz⟩, hp⟩ := h
  have hwf := gwfCheck_sound G hg
  have hlive := allLiveCheck_sound G hl
  have hsh := constShapeCheck_sound G hs
  refine ⟨⟨hwf, hlive, iboundCheck_sound G hib, countCheck_sound G hib hc,
    fun w hw j hj => unreadCheck_sound G hib hu w hw j hj (hlive j hj)⟩, ?_, ?_⟩
  · intro x i hi hx
    have hz := (hsh.csem x _ (evalStore_gsol hwf x)).1
    unfold xorZeroCheck at hxz
    simp only [List.all_eq_true, Bool.or_eq_true, Bool.and_eq_true, bne_iff_ne, ne_eq, beq_iff_eq] at hxz
    rcases hxz _ (gate_mem G i hi) with hne | ⟨ha, hb⟩
    · exact absurd hx hne
    · exact ⟨fun hv => by rw [ha.resolve_left (not_not_intro hv)]; exact hz,
        fun hv => by rw [hb.resolve_left (not_not_intro hv)]; exact hz⟩
  · intro w q hin
    by_cases hw : w < G.wires.size
    · unfold ptrCheck at hp
      simp only [List.all_eq_true, List.mem_range] at hp
      have := hp w hw
      rw [hin] at this
      simp only [Bool.and_eq_true, decide_eq_true_eq, Bool.or_eq_true, beq_iff_eq] at this
      refine ⟨this.1, (or_assoc.mp this.2).imp_right (Or.imp_right fun e j _ hj => ?_)⟩
      rw [readerCounts_spec G hib] at e
      exact no_reader_of_count G w e j ⟨hj, hlive j hj⟩
    · exfalso
      have : (G.wire w).input = none := by simp [wire, Array.getD, hw]; rfl
      rw [this] at hin; cases hin

end Graph
end Mpc
