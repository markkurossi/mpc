/-
C08 — lemmas about concurrent history elements (Model/ProcConc.lean).  The frame lemma: when the output of a
micro-step depends on the state only through `reads` and no micro-step changes `reads`, every task under every
schedule returns what it returns alone from the state the element started in (`concurrent_frame`,
`runElements_frame`).  For the code as it is the pieces of a step assemble to the output of `stepNowK`
(`assembleK_solo`); the scratch cell is run task after task (`drain_nameTasks`).
-/
import MpcVerif.Model.ProcConc

namespace Mpc.PSt

theorem runTodo_cons {σ ρ ο : Type} (micro : Micro σ ρ ο) (r : ρ) (rs : List ρ) (s : σ) :
    runTodo micro (r :: rs) s =
      ((micro r s).1 :: (runTodo micro rs (micro r s).2).1, (runTodo micro rs (micro r s).2).2) := rfl

section frame
variable {σ ρ ο κ : Type} (micro : Micro σ ρ ο) (reads : σ → κ)
  (hread : ∀ r s s', reads s = reads s' → (micro r s).1 = (micro r s').1)
  (hkeep : ∀ r s, reads (micro r s).2 = reads s)
include hread hkeep

theorem runTodo_frame (l : List ρ) : ∀ s s0 : σ, reads s = reads s0 →
    (runTodo micro l s).1 = (runTodo micro l s0).1 ∧ reads (runTodo micro l s).2 = reads s0 := by
  induction l with
  | nil => exact fun _ _ h => ⟨rfl, h⟩
  | cons r rs ih =>
    intro s s0 h
    have h1 : reads (micro r s).2 = reads (micro r s0).2 := by rw [hkeep, hkeep, h]
    have ih := ih (micro r s).2 (micro r s0).2 h1
    simp only [runTodo_cons]
    refine ⟨by rw [hread r s s0 h, ih.1], ?_⟩
    rw [ih.2, hkeep]

/-- What a running task will have returned at its end, had what is left of it run alone from the state `s0` the
element started in: the quantity a scheduler step leaves unchanged (`stepTask_frame`). -/
def expect (s0 : σ) (t : Task ρ ο) : List ο := t.done ++ (runTodo micro t.todo s0).1

theorem drain_frame (ts : List (Task ρ ο)) : ∀ s s0 : σ, reads s = reads s0 →
    (drain micro ts s).1 = ts.map (expect micro s0) ∧ reads (drain micro ts s).2 = reads s0 := by
  induction ts with
  | nil => exact fun _ _ h => ⟨rfl, h⟩
  | cons t ts ih =>
    intro s s0 h
    have a := runTodo_frame micro reads hread hkeep t.todo s s0 h
    have ih := ih (runTodo micro t.todo s).2 s0 a.2
    simp only [drain, List.map_cons, expect]
    exact ⟨by rw [a.1, ih.1], ih.2⟩

theorem stepTask_frame (i : Nat) (ts : List (Task ρ ο)) (s s0 : σ) (h : reads s = reads s0) :
    (stepTask micro i ts s).1.map (expect micro s0) = ts.map (expect micro s0) ∧
    reads (stepTask micro i ts s).2 = reads s0 := by
  induction ts generalizing i with
  | nil => cases i <;> exact ⟨rfl, h⟩
  | cons t ts ih =>
    cases i with
    | succ i => exact ⟨congrArg (_ :: ·) (ih i).1, (ih i).2⟩
    | zero =>
      obtain ⟨_ | ⟨r, rest⟩, done⟩ := t
      · exact ⟨rfl, h⟩
      · have a := runTodo_frame micro reads hread hkeep rest (micro r s0).2 s0 (hkeep r s0)
        refine ⟨congrArg (· :: _) ?_, (hkeep r s).trans h⟩
        simp only [expect, runTodo_cons, hread r s s0 h, a.1, List.append_assoc, List.singleton_append]

theorem runSched_frame (sched : List Nat) : ∀ (ts : List (Task ρ ο)) (s s0 : σ), reads s = reads s0 →
    (runSched micro sched ts s).1 = ts.map (expect micro s0) ∧ reads (runSched micro sched ts s).2 = reads s0 := by
  induction sched with
  | nil => exact drain_frame micro reads hread hkeep
  | cons i sched ih =>
    intro ts s s0 h
    have a := stepTask_frame micro reads hread hkeep i ts s s0 h
    have ih := ih (stepTask micro i ts s).1 (stepTask micro i ts s).2 s0 a.2
    simp only [runSched]
    exact ⟨by rw [ih.1, a.1], ih.2⟩

theorem concurrent_frame (sched : List Nat) (tasks : List (List ρ)) (s s0 : σ) (h : reads s = reads s0) :
    (concurrent micro sched tasks s).1 = tasks.map (fun t => solo micro t s0) ∧
    reads (concurrent micro sched tasks s).2 = reads s0 := by
  have a := runSched_frame micro reads hread hkeep sched (tasks.map fun t => ⟨t, []⟩) s s0 h
  refine ⟨?_, a.2⟩
  simp only [concurrent]
  rw [a.1, List.map_map]
  apply List.map_congr_left
  intro t _
  simp [expect, solo]

theorem runElements_frame (els : List (List Nat × List (List ρ))) (s0 : σ) : ∀ s : σ, reads s = reads s0 →
    runElements micro s els = els.map fun e => e.2.map fun t => solo micro t s0 := by
  induction els with
  | nil => exact fun _ _ => rfl
  | cons e rest ih =>
    intro s h
    have a := concurrent_frame micro reads hread hkeep e.1 e.2 s s0 h
    rw [runElements, a.1, ih _ a.2, List.map_cons]

end frame

theorem runTodo_microNow {σ : Type} (l : List MReq) (s : σ) :
    runTodo microNow l s = (l.map fun m => (microNow m s).1, s) := by
  induction l with
  | nil => rfl
  | cons m ms ih =>
    have hs : (microNow m s).2 = s := by cases m <;> rfl
    simp only [runTodo_cons, hs, ih, List.map_cons]

theorem pieces_folds {σ : Type} (l : List FoldReq) (s : σ) :
    (l.map MReq.fold).map (fun m => (microNow m s).1) = l.map fun f => Piece.const (foldNow f) := by
  simp [List.map_map, Function.comp_def, microNow]

theorem filterMap_const_folds (l : List FoldReq) :
    (l.map fun f => Piece.const (foldNow f)).filterMap Piece.const? = l.map foldNow := by
  rw [List.filterMap_map]; exact congrFun List.filterMap_eq_map' l

theorem filterMap_folds {β : Type} (g : Piece → Option β) (hg : ∀ v, g (.const v) = none) (l : List FoldReq) :
    (l.map fun f => Piece.const (foldNow f)).filterMap g = [] := by
  rw [List.filterMap_map]; exact List.filterMap_eq_nil_iff.mpr fun f _ => hg _

theorem microNow_wires {σ : Type} (a : List Nat) (s : σ) :
    (microNow (.wires a) s).1 = .wires (compileAlloc a WAlloc.empty).1.1 (compileAlloc a WAlloc.empty).1.2 := rfl

theorem microNow_run {σ : Type} (p : Prog) (ins : List Nat) (s : σ) :
    (microNow (.run p ins) s).1 = .vals (runVals p ins) := rfl

theorem assembleK_folds_append (l : List FoldReq) (ps : List Piece) :
    assembleK ((l.map fun f => Piece.const (foldNow f)) ++ ps) =
      { assembleK ps with consts := l.map foldNow ++ (assembleK ps).consts } := by
  simp only [assembleK, List.filterMap_append, filterMap_const_folds, filterMap_folds Piece.ids? fun _ => rfl,
    filterMap_folds Piece.inw? fun _ => rfl, filterMap_folds Piece.vals? fun _ => rfl, List.nil_append]

theorem assembleK_solo {σ π : Type} (r : Req π) (s : σ) :
    assembleK (solo microNow (microsK r) s) = (stepNowK r s).1 := by
  obtain ⟨kind, prog, par, ins, dies⟩ := r
  rw [solo, runTodo_microNow]
  cases kind <;> simp only [microsK, List.map_append, pieces_folds, assembleK_folds_append]
  -- what is left evaluates, field by field, up to the `++ []` that `flatten` and the lemma above leave behind
  case ssa => rfl
  case stream => exact Out.mk.injEq .. |>.mpr ⟨rfl, rfl, rfl, List.append_nil _⟩
  case compile | roundtrip => exact Out.mk.injEq .. |>.mpr ⟨List.append_nil _, List.append_nil _, rfl, rfl⟩
  case compute | garble =>
    exact Out.mk.injEq .. |>.mpr ⟨List.append_nil _, List.append_nil _, rfl, List.append_nil _⟩

theorem runTodo_nameTask : ∀ (vs : List Nat) (cell : Nat),
    namesOf (runTodo microScratch (nameTask vs) cell).1 = vs
  | [], _ => rfl
  | v :: vs, cell => by
    have ih := runTodo_nameTask vs v
    simp only [nameTask, runTodo_cons, microScratch, namesOf, List.filterMap_cons, id] at ih ⊢
    rw [ih]

theorem drain_nameTasks (tasks : List (List Nat)) : ∀ cell : Nat,
    (drain microScratch (tasks.map fun t => (⟨nameTask t, []⟩ : Task ScReq (Option Nat))) cell).1.map namesOf =
      tasks := by
  induction tasks with
  | nil => exact fun _ => rfl
  | cons t ts ih =>
    intro cell
    simp only [List.map_cons, drain, List.nil_append]
    rw [runTodo_nameTask t cell, ih]

end Mpc.PSt
