/-
C10: the online phase of the GMW model keeps, on every wire, the XOR of the
parties' shares equal to the plain value (`Sim`; with the stores a function of the party: `Shares`), through
local gates (`Shares.restFold`) and Beaver AND batches (`andStep_spec`), for any positive number of parties;
over a list of level blocks: `sim_blocks`.
-/
import MpcVerif.Proofs.CircuitLemmas
import MpcVerif.Proofs.BitsLemmas
import MpcVerif.Proofs.GmwPool

namespace Mpc.Gmw
open Mpc

theorem xorB_map_and {α : Type} (l : List α) (f g : α → Bool) (h : ∀ x ∈ l, f x = g x) :
    xorB (l.map f) = xorB (l.map g) := by
  rw [List.map_congr_left h]

def Ids (n : Nat) (ps : List Party) : Prop := ps.map (·.id) = List.range n

theorem ids_nodup {n : Nat} {ps : List Party} (h : Ids n ps) : (ps.map (·.id)).Nodup := by
  rw [h]; exact List.nodup_range

theorem ids_length {n : Nat} {ps : List Party} (h : Ids n ps) : ps.length = n := by
  simpa using congrArg List.length h

theorem ids_map {n : Nat} {ps : List Party} (h : Ids n ps) (F : Party → Party) (hF : ∀ p, (F p).id = p.id) :
    Ids n (ps.map F) := by
  unfold Ids at h ⊢
  rw [List.map_map, ← h]
  exact List.map_congr_left fun p _ => hF p

def restStep (g : Gate) (ps : List Party) : List Party :=
  ps.map fun p => { p with wires := evalRest p.id g p.wires }

theorem restStep_ids {n : Nat} {ps : List Party} (g : Gate) (h : Ids n ps) : Ids n (restStep g ps) :=
  ids_map h _ fun _ => rfl

theorem ids_lt {n : Nat} {ps : List Party} (h : Ids n ps) (p : Party) (hp : p ∈ ps) : p.id < n := by
  have : p.id ∈ ps.map (·.id) := List.mem_map_of_mem hp
  rw [h] at this
  exact List.mem_range.mp this

theorem xorB_flip0 {n : Nat} {ps : List Party} (h : Ids n ps) (hn : 0 < n) (f : Party → Bool) :
    xorB (ps.map fun p => f p != (p.id == 0)) = !(xorB (ps.map f)) := by
  have e : (ps.map fun p => f p != (p.id == 0)) = ps.map fun p => (f p != if p.id = 0 then true else false) :=
    List.map_congr_left fun p _ => by cases h0 : p.id == 0 <;> simp_all
  rw [e, xorB_map_xor, xorB_only (·.id) true ps 0 (ids_nodup h) (by rw [h]; exact List.mem_range.mpr hn)]
  cases xorB (ps.map f) <;> rfl

theorem recon_def (ps : List Party) (w : Nat) : recon ps w = xorB (ps.map fun p => p.wires.get w) := rfl

def Sim (N : Nat) (ps : List Party) (S : Store Bool) : Prop :=
  S.size = N ∧ (∀ p ∈ ps, p.wires.size = N) ∧ ∀ w, recon ps w = S.get w

/-! `setOuts` and `setWires` write a list of wires: folds of `Store.set`. -/

section
variable {α : Type} (ix : α → Nat) (val : α → Bool)

theorem foldl_set_size (l : List α) (w : Store Bool) :
    (l.foldl (fun w a => w.set (ix a) (val a)) w).size = w.size := by
  induction l generalizing w with
  | nil => rfl
  | cons a l ih => rw [List.foldl_cons, ih, Store.size_set]

theorem foldl_set_frame (x : Nat) (l : List α) (w : Store Bool) (h : ∀ a ∈ l, ix a ≠ x) :
    (l.foldl (fun w a => w.set (ix a) (val a)) w).get x = w.get x := by
  induction l generalizing w with
  | nil => rfl
  | cons a l ih =>
    rw [List.foldl_cons, ih _ fun b hb => h b (List.mem_cons_of_mem _ hb)]
    exact Store.get_set_ne _ _ _ _ (h a List.mem_cons_self)

theorem foldl_set_get (l : List α) (w : Store Bool) (hnd : (l.map ix).Nodup) (hsz : ∀ a ∈ l, ix a < w.size)
    (a : α) (ha : a ∈ l) : (l.foldl (fun w a => w.set (ix a) (val a)) w).get (ix a) = val a := by
  induction l generalizing w with
  | nil => cases ha
  | cons b l ih =>
    rw [List.map_cons, List.nodup_cons] at hnd
    rw [List.foldl_cons]
    rcases List.mem_cons.mp ha with rfl | ha
    · rw [foldl_set_frame ix val _ l _ fun b hb (e : ix b = ix a) => hnd.1 (e ▸ List.mem_map_of_mem hb)]
      exact Store.get_set_eq _ _ _ (hsz a List.mem_cons_self)
    · exact ih _ hnd.2 (fun c hc => by rw [Store.size_set]; exact hsz c (List.mem_cons_of_mem _ hc)) ha

end

/-- The stores `W p` of the parties `ps`, all of size `N`, reconstruct to `S`.  `Sim N ps S` is the case
`W p = p.wires`.  With the stores a function of the party, a step of the online phase changes `W` and keeps the
list of parties, so that a loop over gates is an induction with `ps` fixed. -/
def Shares (N : Nat) (ps : List Party) (W : Party → Store Bool) (S : Store Bool) : Prop :=
  S.size = N ∧ (∀ p ∈ ps, (W p).size = N) ∧ ∀ w, xorB (ps.map fun p => (W p).get w) = S.get w

theorem Sim.shares {N : Nat} {ps : List Party} {S : Store Bool} (h : Sim N ps S) : Shares N ps (·.wires) S := h

theorem Shares.sim {N : Nat} {ps : List Party} {W : Party → Store Bool} {S : Store Bool} (h : Shares N ps W S)
    (F : Party → Party) (hF : ∀ p, (F p).wires = W p) : Sim N (ps.map F) S := by
  refine ⟨h.1, fun q hq => ?_, fun w => ?_⟩
  · obtain ⟨p, hp, rfl⟩ := List.mem_map.mp hq
    rw [hF]; exact h.2.1 p hp
  · rw [← h.2.2 w, recon_def, List.map_map]
    exact congrArg xorB (List.map_congr_left fun p _ => by simp only [Function.comp, hF])

def reconStore (N : Nat) (ps : List Party) (W : Party → Store Bool) : Store Bool :=
  mkA N fun w => xorB (ps.map fun p => (W p).get w)

theorem shares_reconStore (N : Nat) (ps : List Party) (W : Party → Store Bool) (hsz : ∀ p ∈ ps, (W p).size = N) :
    Shares N ps W (reconStore N ps W) := by
  refine ⟨mkA_size _ _, hsz, fun w => ?_⟩
  rw [reconStore, sget_mkA]
  split
  · rfl
  · next h =>
    rw [List.map_congr_left fun p hp => Store.get_of_size_le (W p) w (by rw [hsz p hp]; omega)]
    exact xorB_map_false _

theorem Shares.set {N : Nat} {ps : List Party} {W : Party → Store Bool} {S : Store Bool} (h : Shares N ps W S)
    (o : Nat) (ho : o < N) (v : Party → Bool) :
    Shares N ps (fun p => (W p).set o (v p)) (S.set o (xorB (ps.map v))) := by
  obtain ⟨hS, hW, hrec⟩ := h
  refine ⟨by rw [Store.size_set]; exact hS, fun p hp => by rw [Store.size_set]; exact hW p hp, fun w => ?_⟩
  rw [Store.get_set _ _ _ _ (hS ▸ ho), List.map_congr_left fun p hp => Store.get_set _ _ w _ (by rw [hW p hp]; exact ho)]
  split
  · rfl
  · exact hrec w

theorem Shares.sets {N : Nat} {ps : List Party} {α : Type} (ix : α → Nat) (val : Party → α → Bool) :
    ∀ (l : List α) {W : Party → Store Bool} {S : Store Bool}, Shares N ps W S → (∀ a ∈ l, ix a < N) →
    Shares N ps (fun p => l.foldl (fun w a => w.set (ix a) (val p a)) (W p))
      (l.foldl (fun S a => S.set (ix a) (xorB (ps.map (val · a)))) S)
  | [], _, _, h, _ => h
  | a :: t, _, _, h, hix => Shares.sets ix val t (h.set (ix a) (hix a List.mem_cons_self) (val · a))
      fun b hb => hix b (List.mem_cons_of_mem _ hb)

theorem Shares.rest {n N : Nat} {ps : List Party} {W : Party → Store Bool} {S : Store Bool} (hid : Ids n ps) (hn : 0 < n)
    (h : Shares N ps W S) (g : Gate) (ho : g.out < N) (hs : g.op = .xor ∨ g.op = .xnor ∨ g.op = .inv) :
    Shares N ps (fun p => evalRest p.id g (W p)) (g.evalPlain S) := by
  have hrec := h.2.2
  -- every supported local gate sets `g.out` to a share `v p`; the shares XOR to the plain output
  have key : ∀ v : Party → Bool, (∀ p : Party, evalRest p.id g (W p) = (W p).set g.out (v p)) →
      xorB (ps.map v) = g.op.eval (S.get g.in0) (S.get g.in1) →
      Shares N ps (fun p => evalRest p.id g (W p)) (g.evalPlain S) :=
    fun v he hv => by rw [funext he, Gate.evalPlain, ← hv]; exact h.set g.out ho v
  rcases hs with e | e | e
  · refine key (fun p => (W p).get g.in0 != (W p).get g.in1) (fun p => by simp only [evalRest, e]) ?_
    rw [xorB_map_xor, hrec, hrec, e]
    rfl
  · refine key (fun p => ((W p).get g.in0 != (W p).get g.in1) != (p.id == 0))
      (fun p => by simp only [evalRest, e]) ?_
    rw [xorB_flip0 hid hn, xorB_map_xor, hrec, hrec, e]
    cases S.get g.in0 <;> cases S.get g.in1 <;> rfl
  · refine key (fun p => (W p).get g.in0 != (p.id == 0)) (fun p => by simp only [evalRest, e]) ?_
    rw [xorB_flip0 hid hn, hrec, e]
    rfl

theorem Shares.restFold {n N : Nat} {ps : List Party} (hid : Ids n ps) (hn : 0 < n) :
    ∀ (rest : List Gate) {W : Party → Store Bool} {S : Store Bool}, Shares N ps W S →
    (∀ g ∈ rest, (g.op = .xor ∨ g.op = .xnor ∨ g.op = .inv) ∧ g.out < N) →
    Shares N ps (fun p => rest.foldl (fun w g => evalRest p.id g w) (W p)) (evalPlainGates rest S)
  | [], _, _, h, _ => h
  | g :: t, _, _, h, hok => Shares.restFold hid hn t
      (h.rest hid hn g (hok g List.mem_cons_self).2 (hok g List.mem_cons_self).1)
      fun g' hg' => hok g' (List.mem_cons_of_mem _ hg')

theorem beaver_word (A B X Y : Word) :
    (A &&& B) ^^^ ((X ^^^ A) &&& B) ^^^ ((Y ^^^ B) &&& A) ^^^ ((X ^^^ A) &&& (Y ^^^ B)) = X &&& Y := by
  apply BitVec.eq_of_getLsbD_eq
  intro i hi
  simp only [BitVec.getLsbD_xor, BitVec.getLsbD_and]
  cases A.getLsbD i <;> cases B.getLsbD i <;> cases X.getLsbD i <;> cases Y.getLsbD i <;> rfl

theorem getLsbD_wordOfBits (f : Nat → Bool) (o : Nat) :
    (wordOfBits f).getLsbD o = (decide (o < 64) && f o) := by
  by_cases ho : o < 64
  · rw [wordOfBits, BitList.foldl_or_getLsbD (fun j => j) f _ _ o ho]
    simp only [BitVec.getLsbD_zero, Bool.false_or, ho, decide_true, Bool.true_and]
    rw [Bool.eq_iff_iff, List.any_eq_true]
    constructor
    · rintro ⟨j, _, hj⟩
      simp only [Bool.and_eq_true, beq_iff_eq] at hj
      exact hj.2 ▸ hj.1
    · intro hf
      exact ⟨o, List.mem_range.mpr ho, by simp [hf]⟩
  · rw [BitVec.getLsbD_of_ge _ _ (Nat.le_of_not_lt ho)]; simp [ho]

theorem wget_xorBitvec (r v : Words) (k : Nat) (hk : k < r.size) (hv : v.size = r.size) :
    wget (xorBitvec r v) k = wget r k ^^^ wget v k := by
  unfold xorBitvec
  rw [wget_mkA _ _ _ hk]
  simp [hv, hk]

theorem openAt_cons (id : Nat) (own : Words) (q : Nat × Words) (all : List (Nat × Words)) :
    openAt id own (q :: all) = openAt id (if q.1 = id then own else xorBitvec own q.2) all := rfl

theorem openAt_fold (id W : Nat) (d : Party → Words) : ∀ (ps : List Party) (own : Words), own.size = W →
    (∀ q ∈ ps, (d q).size = W) →
    (openAt id own (ps.map fun q => (q.id, d q))).size = W ∧
    ∀ k, k < W → wget (openAt id own (ps.map fun q => (q.id, d q))) k =
      wget own k ^^^ xorW (ps.map fun q => if q.id = id then 0#64 else wget (d q) k) := by
  intro ps
  induction ps with
  | nil => intro own ho _; exact ⟨ho, fun k _ => by simp [openAt, xorW_nil]⟩
  | cons q t ih =>
    intro own ho hall
    have ht : ∀ q' ∈ t, (d q').size = W := fun q' h => hall q' (List.mem_cons_of_mem _ h)
    simp only [List.map_cons, openAt_cons, xorW_cons]
    by_cases hid : q.id = id
    · simpa [hid] using ih own ho ht
    · simp only [hid, if_false]
      obtain ⟨h1, h2⟩ := ih (xorBitvec own (d q)) (by simp [xorBitvec, mkA_size, ho]) ht
      refine ⟨h1, fun k hk => ?_⟩
      rw [h2 k hk, wget_xorBitvec _ _ _ (by omega) (by rw [ho]; exact hall q List.mem_cons_self), BitVec.xor_assoc]

theorem open_all {n W : Nat} {ps : List Party} (hid : Ids n ps) (d : Party → Words)
    (hsz : ∀ q ∈ ps, (d q).size = W) (p : Party) (hp : p ∈ ps) (k : Nat) (hk : k < W) :
    wget (openAt p.id (d p) (ps.map fun q => (q.id, d q))) k = xorW (ps.map fun q => wget (d q) k) := by
  rw [(openAt_fold p.id W d ps (d p) (hsz p hp) hsz).2 k hk,
    xorW_skip (·.id) (fun q => wget (d q) k) ps p (ids_nodup hid) hp, ← BitVec.xor_assoc, BitVec.xor_self,
    BitVec.zero_xor]

/-- `nw.Pool.Get(len, nw.triples)` at one party (pool holds enough words). -/
def getT (len : Nat) (p : Party) : Party :=
  { p with trip := (p.trip.append p.pool len).1, pool := (p.trip.append p.pool len).2.1 }

/-- steps 2 and 3 at party `q`: the `z` vector from the opened `d`, `e`; `ps`: all parties after `Get` -/
def zOf (ba : Array Gate) (W : Nat) (ps : List Party) (q : Party) : Words :=
  andZ q (openAt q.id (maskedDE q ba W).1 (ps.map fun r => (r.id, (maskedDE r ba W).1)))
    (openAt q.id (maskedDE q ba W).2 (ps.map fun r => (r.id, (maskedDE r ba W).2))) W

/-- `andBatchFlush` after `Get` at one party: result wires from `zOf`, `nw.triples` cleared -/
def finP (batch : List Gate) (ps1 : List Party) (p : Party) : Party :=
  { p with
    wires := setOuts p.wires batch (zOf batch.toArray ((batch.length + 63) / 64) ps1 p)
    trip := p.trip.clear }

theorem andStep_eq (batch : List Gate) (ps : List Party) (hne : batch.isEmpty = false)
    (hall : ∀ p ∈ ps, (batch.length + 63) / 64 ≤ p.pool.words) :
    andStep batch ps =
      some ((ps.map (getT batch.length)).map fun p => finP batch (ps.map (getT batch.length)) p) := by
  unfold andStep
  have : (ps.all fun p => decide ((batch.length + 63) / 64 ≤ p.pool.words)) = true := by
    simp only [List.all_eq_true, decide_eq_true_eq]; exact hall
  simp only [hne, this, Bool.false_eq_true, if_false, Bool.not_true, List.map_map, finP, zOf]
  rfl

theorem packIn_bit (w : Store Bool) (ba : Array Gate) (W : Nat) (sec : Bool) (j : Nat) (hj : j < ba.size)
    (hW : j / 64 < W) :
    (wget (packIn w ba W sec) (j / 64)).getLsbD (j % 64) = w.get (if sec then ba[j].in1 else ba[j].in0) := by
  unfold packIn
  rw [wget_mkA _ _ _ hW, getLsbD_wordOfBits]
  have e : 64 * (j / 64) + j % 64 = j := Nat.div_add_mod j 64
  have hlt : j % 64 < 64 := Nat.mod_lt _ (by decide)
  simp only [hlt, decide_true, Bool.true_and, e, hj, dite_true]

theorem getT_spec (len : Nat) (p : Party) (hw : p.trip.words = 0) (hp : p.pool.WF)
    (hk : (len + 63) / 64 ≤ p.pool.words) :
    (getT len p).pool.WF ∧
    (getT len p).pool.words = p.pool.words - (len + 63) / 64 ∧
    (∀ i, i < (len + 63) / 64 → tw (getT len p).trip i = tw p.pool i) ∧
    (∀ i, i < p.pool.words - (len + 63) / 64 → tw (getT len p).pool i = tw p.pool (i + (len + 63) / 64)) := by
  have hmin : min ((len + 63) / 64) p.pool.words = (len + 63) / 64 := Nat.min_eq_left hk
  refine ⟨pool_append_WF_snd p.trip p.pool len hp, ?_, fun i hi => ?_, fun i hi => ?_⟩
  · exact (pool_append_words_snd p.trip p.pool len).trans (by rw [hmin])
  · have := pool_append_wget_fst p.trip p.pool len i (by omega)
    rwa [hw, if_pos (Nat.zero_le i), Nat.sub_zero] at this
  · have := pool_append_wget_snd p.trip p.pool len i hp (by omega)
    rwa [hmin] at this

theorem wget_andZ (p : Party) (dO eO : Words) (W k : Nat) (hk : k < W) :
    wget (andZ p dO eO W) k =
      ((wget p.trip.c k ^^^ (wget dO k &&& wget p.trip.b k)) ^^^ (wget eO k &&& wget p.trip.a k)) ^^^
        (if p.id = 0 then wget dO k &&& wget eO k else 0#64) := by
  unfold andZ
  rw [wget_mkA _ _ _ hk]
  split <;> simp

theorem wget_maskedDE (p : Party) (ba : Array Gate) (W k : Nat) (hk : k < W) :
    wget (maskedDE p ba W).1 k = wget (packIn p.wires ba W false) k ^^^ wget p.trip.a k ∧
    wget (maskedDE p ba W).2 k = wget (packIn p.wires ba W true) k ^^^ wget p.trip.b k := by
  unfold maskedDE
  exact ⟨wget_mkA _ _ _ hk, wget_mkA _ _ _ hk⟩

theorem size_maskedDE (p : Party) (ba : Array Gate) (W : Nat) :
    (maskedDE p ba W).1.size = W ∧ (maskedDE p ba W).2.size = W := by
  unfold maskedDE
  exact ⟨mkA_size _ _, mkA_size _ _⟩

/-- What holds of the parties between two AND batches; `L`: the words left in every pool. -/
structure St (n L : Nat) (ps : List Party) : Prop where
  ids : Ids n ps
  trip : ∀ p ∈ ps, p.trip.words = 0 ∧ p.trip.WF
  pwf : ∀ p ∈ ps, p.pool.WF ∧ p.pool.words = L
  valid : ∀ k, k < L →
    xorW (ps.map fun p => wget p.pool.a k) &&& xorW (ps.map fun p => wget p.pool.b k) =
      xorW (ps.map fun p => wget p.pool.c k)

theorem valid_of_tw {α β : Type} (l : List α) (G : α → β) (X : β → Triples) (Y : α → Triples) (k k' : Nat)
    (h : ∀ p ∈ l, tw (X (G p)) k = tw (Y p) k')
    (hv : xorW (l.map fun p => wget (Y p).a k') &&& xorW (l.map fun p => wget (Y p).b k') =
      xorW (l.map fun p => wget (Y p).c k')) :
    xorW ((l.map G).map fun q => wget (X q).a k) &&& xorW ((l.map G).map fun q => wget (X q).b k) =
      xorW ((l.map G).map fun q => wget (X q).c k) := by
  have e : ∀ sel : Word × Word × Word → Word,
      ((l.map G).map fun q => sel (tw (X q) k)) = l.map fun p => sel (tw (Y p) k') := fun sel => by
    rw [List.map_map]
    exact List.map_congr_left fun p hp => congrArg sel (h p hp)
  show xorW ((l.map G).map fun q => (tw (X q) k).1) &&& xorW ((l.map G).map fun q => (tw (X q) k).2.1) =
    xorW ((l.map G).map fun q => (tw (X q) k).2.2)
  rw [e (·.1), e (·.2.1), e (·.2.2)]
  exact hv

/-- Beaver's identity summed over the parties: with `D`, `E` the opened masked
inputs, the shares `c ⊕ D&b ⊕ E&a` (party 0 adds `D&E`) of a valid triple XOR
to the AND of the inputs. -/
theorem beaver_sum {n : Nat} {ps : List Party} (hid : Ids n ps) (hn : 0 < n) (A B C : Party → Word)
    (x y D E : Word) (hD : D = x ^^^ xorW (ps.map A)) (hE : E = y ^^^ xorW (ps.map B))
    (hv : xorW (ps.map A) &&& xorW (ps.map B) = xorW (ps.map C)) :
    xorW (ps.map fun q => ((C q ^^^ (D &&& B q)) ^^^ (E &&& A q)) ^^^ (if q.id = 0 then D &&& E else 0#64)) =
      x &&& y := by
  rw [xorW_map_xor, xorW_map_xor, xorW_map_xor, xorW_map_and_left, xorW_map_and_left,
    xorW_only (·.id) _ ps 0 (ids_nodup hid) (by rw [hid]; exact List.mem_range.mpr hn), ← hv,
    hD, hE]
  exact beaver_word _ _ _ _

theorem and_words_opened {n : Nat} {ps : List Party} (hid : Ids n ps) (hn : 0 < n) (ba : Array Gate) (W k : Nat)
    (hk : k < W)
    (hv : xorW (ps.map fun q => wget q.trip.a k) &&& xorW (ps.map fun q => wget q.trip.b k) =
      xorW (ps.map fun q => wget q.trip.c k)) :
    xorW (ps.map fun q => wget (zOf ba W ps q) k) =
      xorW (ps.map fun p => wget (packIn p.wires ba W false) k) &&&
      xorW (ps.map fun p => wget (packIn p.wires ba W true) k) := by
  -- opening vectors `dv r = x r ⊕ t r` gives `(⊕ x) ⊕ (⊕ t)` at every party
  have hO : ∀ (dv : Party → Words) (x t : Party → Word), (∀ r, (dv r).size = W) → (∀ r, wget (dv r) k = x r ^^^ t r) →
      ∀ q ∈ ps, wget (openAt q.id (dv q) (ps.map fun r => (r.id, dv r))) k = xorW (ps.map x) ^^^ xorW (ps.map t) :=
    fun dv x t hsz hdv q hq => by
      rw [open_all hid dv (fun r _ => hsz r) q hq k hk, ← xorW_map_xor]
      exact congrArg xorW (List.map_congr_left fun r _ => hdv r)
  rw [List.map_congr_left fun q hq => by
    rw [zOf, wget_andZ _ _ _ _ _ hk,
      hO (fun r => (maskedDE r ba W).1) _ _ (fun r => (size_maskedDE r _ _).1) (fun r => (wget_maskedDE r ba W k hk).1) q hq,
      hO (fun r => (maskedDE r ba W).2) _ _ (fun r => (size_maskedDE r _ _).2) (fun r => (wget_maskedDE r ba W k hk).2) q hq]]
  exact beaver_sum hid hn _ _ _ _ _ _ _ rfl rfl hv

theorem getT_ids {n : Nat} {ps : List Party} (len : Nat) (h : Ids n ps) : Ids n (ps.map (getT len)) :=
  ids_map h _ fun _ => rfl

theorem getT_valid {n L : Nat} {ps : List Party} (hst : St n L ps) (len : Nat) (hW : (len + 63) / 64 ≤ L) (k : Nat)
    (hk : k < (len + 63) / 64) :
    xorW ((ps.map (getT len)).map fun q => wget q.trip.a k) &&&
      xorW ((ps.map (getT len)).map fun q => wget q.trip.b k) =
      xorW ((ps.map (getT len)).map fun q => wget q.trip.c k) :=
  valid_of_tw ps (getT len) (·.trip) (·.pool) k k
    (fun p hp => (getT_spec len p (hst.trip p hp).1 (hst.pwf p hp).1 (by rw [(hst.pwf p hp).2]; exact hW)).2.2.1 k hk)
    (hst.valid k (Nat.lt_of_lt_of_le hk hW))

theorem bit_def (z : Words) (i : Nat) : bit z i = (wget z (i / 64)).getLsbD (i % 64) := rfl

theorem and_bits {n N : Nat} {ps : List Party} {S : Store Bool} (hid : Ids n ps) (hn : 0 < n) (hsim : Sim N ps S)
    (batch : List Gate) (W j : Nat) (hj : j < batch.length) (hjW : j / 64 < W)
    (hv : xorW (ps.map fun q => wget q.trip.a (j / 64)) &&& xorW (ps.map fun q => wget q.trip.b (j / 64)) =
      xorW (ps.map fun q => wget q.trip.c (j / 64))) :
    xorB (ps.map fun q => bit (zOf batch.toArray W ps q) j) =
      (S.get batch[j].in0 && S.get batch[j].in1) := by
  have hjs : j < batch.toArray.size := by simpa using hj
  have hbit : ∀ (sec : Bool), (ps.map fun p => wget (packIn p.wires batch.toArray W sec) (j / 64)).map
        (·.getLsbD (j % 64)) =
      ps.map fun p => p.wires.get (if sec then batch[j].in1 else batch[j].in0) := fun sec => by
    rw [List.map_map]
    exact List.map_congr_left fun p _ => packIn_bit _ _ _ _ j hjs hjW
  have h := congrArg (·.getLsbD (j % 64)) (and_words_opened hid hn batch.toArray W (j / 64) hjW hv)
  simp only [BitVec.getLsbD_and, getLsbD_xorW, hbit, List.map_map] at h
  rw [← hsim.2.2, ← hsim.2.2, recon_def, recon_def]
  exact h

theorem evalPlainGates_par (S0 : Store Bool) : ∀ (batch : List Gate) (S : Store Bool),
    (∀ g ∈ batch, ∀ h ∈ batch, h.out ≠ g.in0 ∧ h.out ≠ g.in1) →
    (∀ g ∈ batch, S.get g.in0 = S0.get g.in0 ∧ S.get g.in1 = S0.get g.in1) →
    evalPlainGates batch S =
      batch.foldl (fun S g => S.set g.out (g.op.eval (S0.get g.in0) (S0.get g.in1))) S := by
  intro batch
  induction batch with
  | nil => intro S _ _; rfl
  | cons g t ih =>
    intro S hind hS
    have hg := hS g List.mem_cons_self
    rw [evalPlainGates_cons, List.foldl_cons, Gate.evalPlain, hg.1, hg.2]
    refine ih _ (fun a ha b hb => hind a (List.mem_cons_of_mem _ ha) b (List.mem_cons_of_mem _ hb)) fun a ha => ?_
    have hn := hind a (List.mem_cons_of_mem _ ha) g List.mem_cons_self
    have ha' := hS a (List.mem_cons_of_mem _ ha)
    exact ⟨(Store.get_set_ne _ _ _ _ hn.1).trans ha'.1, (Store.get_set_ne _ _ _ _ hn.2).trans ha'.2⟩

theorem Shares.setOuts {N : Nat} {ps : List Party} {W : Party → Store Bool} {S : Store Bool} (h : Shares N ps W S)
    (batch : List Gate) (hop : ∀ g ∈ batch, g.op = .and) (hout : ∀ g ∈ batch, g.out < N)
    (hind : ∀ g ∈ batch, ∀ h ∈ batch, h.out ≠ g.in0 ∧ h.out ≠ g.in1) (z : Party → Words)
    (hz : ∀ j (hj : j < batch.length),
      xorB (ps.map fun p => bit (z p) j) = (S.get batch[j].in0 && S.get batch[j].in1)) :
    Shares N ps (fun p => setOuts (W p) batch (z p)) (evalPlainGates batch S) := by
  have h := Shares.sets (fun gi : Gate × Nat => gi.1.out) (fun p gi => bit (z p) gi.2) batch.zipIdx h
    fun gi hgi => hout gi.1 (List.fst_mem_of_mem_zipIdx hgi)
  -- the plain store written with the XORs of the `z` bits is the batch evaluated on `S`
  have e : evalPlainGates batch S =
      batch.zipIdx.foldl (fun S gi => S.set gi.1.out (xorB (ps.map fun p => bit (z p) gi.2))) S := by
    conv => lhs; rw [evalPlainGates_par S batch S hind (fun _ _ => ⟨rfl, rfl⟩), ← List.zipIdx_map_fst 0 batch, List.foldl_map]
    refine foldl_congr_mem _ _ _ (fun gi hgi S' => ?_) S
    obtain ⟨hj, e⟩ := List.getElem_of_getElem? (List.mem_zipIdx_iff_getElem?.mp hgi)
    rw [hz gi.2 hj, ← e, hop _ (List.getElem_mem _)]
    rfl
  rw [e]
  exact h

theorem St_get {n L : Nat} {ps : List Party} (hst : St n L ps) (len : Nat) (hW : (len + 63) / 64 ≤ L)
    (F : Party → Party) (hid : ∀ p, (F p).id = p.id) (hpool : ∀ p, (F p).pool = p.pool)
    (htrip : ∀ p, (F p).trip = p.trip.clear) :
    St n (L - (len + 63) / 64) ((ps.map (getT len)).map F) := by
  have hspec := fun p hp => getT_spec len p (hst.trip p hp).1 (hst.pwf p hp).1
    (by rw [(hst.pwf p hp).2]; exact hW)
  rw [List.map_map]
  refine ⟨?_, fun q hq => ?_, fun q hq => ?_, fun k hk => ?_⟩
  · exact ids_map hst.ids _ fun p => (hid _).trans rfl
  · obtain ⟨p, hp, rfl⟩ := List.mem_map.mp hq
    simp only [Function.comp, htrip]
    exact ⟨clear_words _, clear_WF _⟩
  · obtain ⟨p, hp, rfl⟩ := List.mem_map.mp hq
    simp only [Function.comp, hpool]
    exact ⟨(hspec p hp).1, by rw [(hspec p hp).2.1, (hst.pwf p hp).2]⟩
  · -- word `k` of the pool after `Get` is word `k + ⌈len/64⌉` before
    exact valid_of_tw ps (F ∘ getT len) (·.pool) (·.pool) k (k + (len + 63) / 64)
      (fun p hp => by rw [Function.comp, hpool]; exact (hspec p hp).2.2.2 k (by rw [(hst.pwf p hp).2]; exact hk))
      (hst.valid _ (by omega))

def poolViews (ps : List Party) : List (List (Word × Word × Word)) := ps.map fun p => p.pool.view

theorem poolViews_map {α : Type} (l : List α) (F : α → Party) :
    poolViews (l.map F) = l.map fun a => (F a).pool.view :=
  List.map_map ..

theorem getT_views {n L : Nat} {ps : List Party} (hst : St n L ps) (len : Nat) (hW : (len + 63) / 64 ≤ L)
    (F : Party → Party) (hpool : ∀ p, (F p).pool = p.pool) :
    poolViews ((ps.map (getT len)).map F) = (poolViews ps).map (·.drop ((len + 63) / 64)) := by
  unfold poolViews
  rw [List.map_map, List.map_map, List.map_map]
  refine List.map_congr_left fun p hp => ?_
  simp only [Function.comp, hpool]
  exact (pool_append_view_snd p.trip p.pool len (hst.pwf p hp).1).trans
    (by rw [Nat.min_eq_left (by rw [(hst.pwf p hp).2]; exact hW)])

theorem andStep_spec {n N L : Nat} {ps : List Party} {S : Store Bool} (hst : St n L ps) (hn : 0 < n)
    (hsim : Sim N ps S) (batch : List Gate) (hop : ∀ g ∈ batch, g.op = .and)
    (hout : ∀ g ∈ batch, g.out < N)
    (hind : ∀ g ∈ batch, ∀ h ∈ batch, h.out ≠ g.in0 ∧ h.out ≠ g.in1)
    (hW : (batch.length + 63) / 64 ≤ L) :
    ∃ ps', andStep batch ps = some ps' ∧ St n (L - (batch.length + 63) / 64) ps' ∧
      Sim N ps' (evalPlainGates batch S) ∧
      poolViews ps' = (poolViews ps).map (·.drop ((batch.length + 63) / 64)) := by
  by_cases hemp : batch = []
  · -- no AND gate on this level: `andBatchFlush` returns at once
    subst hemp
    exact ⟨ps, rfl, hst, hsim, by simp⟩
  replace hemp : batch.isEmpty = false := by simpa using hemp
  have hjW : ∀ j, j < batch.length → j / 64 < (batch.length + 63) / 64 := fun j hj => by omega
  have hsim1 : Sim N (ps.map (getT batch.length)) S := hsim.shares.sim _ fun _ => rfl
  exact ⟨_, andStep_eq batch ps hemp (fun p hp => by rw [(hst.pwf p hp).2]; exact hW),
    St_get hst batch.length hW (finP batch (ps.map (getT batch.length))) (fun _ => rfl) (fun _ => rfl) (fun _ => rfl),
    (hsim1.shares.setOuts batch hop hout hind _ fun j hj =>
      and_bits (getT_ids _ hst.ids) hn hsim1 batch _ j hj (hjW j hj) (getT_valid hst _ hW _ (hjW j hj))).sim
      (finP batch (ps.map (getT batch.length))) fun _ => rfl,
    getT_views hst batch.length hW _ fun _ => rfl⟩

theorem St_wires {n L : Nat} {ps : List Party} (hst : St n L ps) (f : Party → Store Bool) :
    St n L (ps.map fun p => { p with wires := f p }) := by
  refine ⟨ids_map hst.ids _ fun _ => rfl, fun q hq => ?_, fun q hq => ?_, fun k hk => ?_⟩
  · obtain ⟨p, hp, rfl⟩ := List.mem_map.mp hq
    exact hst.trip p hp
  · obtain ⟨p, hp, rfl⟩ := List.mem_map.mp hq
    exact hst.pwf p hp
  · simp only [List.map_map]
    exact hst.valid k hk

def BlockOK (N : Nat) (b : List Gate × List Gate) : Prop :=
  (∀ g ∈ b.1, (g.op = .xor ∨ g.op = .xnor ∨ g.op = .inv) ∧ g.out < N) ∧
  (∀ g ∈ b.2, g.op = .and ∧ g.out < N) ∧
  (∀ g ∈ b.2, ∀ h ∈ b.2, h.out ≠ g.in0 ∧ h.out ≠ g.in1)

/-- Triple words the level loop consumes. -/
def needW (bs : List (List Gate × List Gate)) : Nat := (bs.map fun b => (b.2.length + 63) / 64).sum

theorem needW_cons (rest ands : List Gate) (bs : List (List Gate × List Gate)) :
    needW ((rest, ands) :: bs) = (ands.length + 63) / 64 + needW bs := rfl

theorem sim_blocks {n N : Nat} (hn : 0 < n) : ∀ (bs : List (List Gate × List Gate)) (ps : List Party)
    (S : Store Bool) (L : Nat), St n L ps → Sim N ps S → (∀ b ∈ bs, BlockOK N b) → needW bs ≤ L →
    ∃ ps', runBlocks bs ps = some ps' ∧ St n (L - needW bs) ps' ∧
      Sim N ps' (evalPlainGates (bs.flatMap fun b => b.1 ++ b.2) S) ∧
      poolViews ps' = (poolViews ps).map (·.drop (needW bs)) := by
  intro bs
  induction bs with
  | nil =>
    intro ps S L hst hsim _ _
    exact ⟨ps, rfl, hst, hsim, by simp [needW]⟩
  | cons b bs ih =>
    intro ps S L hst hsim hok hL
    obtain ⟨rest, ands⟩ := b
    have hb := hok (rest, ands) List.mem_cons_self
    have hbs : ∀ b ∈ bs, BlockOK N b := fun b hb => hok b (List.mem_cons_of_mem _ hb)
    rw [needW_cons] at hL ⊢
    have hst1 := St_wires hst fun p => rest.foldl (fun w g => evalRest p.id g w) p.wires
    have hsim1 := (hsim.shares.restFold hst.ids hn rest hb.1).sim
      (fun p => { p with wires := rest.foldl (fun w g => evalRest p.id g w) p.wires }) fun _ => rfl
    have hv1 : poolViews (ps.map fun p => { p with wires := rest.foldl (fun w g => evalRest p.id g w) p.wires }) =
        poolViews ps := poolViews_map ..
    rw [runBlocks, List.flatMap_cons, evalPlainGates_append, evalPlainGates_append]
    obtain ⟨ps2, h1, hst2, hsim2, hv2⟩ := andStep_spec hst1 hn hsim1 ands (fun g hg => (hb.2.1 g hg).1)
      (fun g hg => (hb.2.1 g hg).2) hb.2.2 (by omega)
    rw [h1]
    obtain ⟨ps', h3, h4, h5, h6⟩ := ih ps2 _ (L - (ands.length + 63) / 64) hst2 hsim2 hbs (by omega)
    refine ⟨ps', h3, by rw [← Nat.sub_sub]; exact h4, h5, ?_⟩
    rw [h6, hv2, hv1, List.map_map]
    exact List.map_congr_left fun v _ => List.drop_drop

end Mpc.Gmw
