/-
Gate-list evaluation on one number.  `evalGates` keeps the wire values in an
array that grows by `push`; the kernel evaluates lazily, so every read walks
the whole chain of pushes again.  `evalBits` keeps them as the bits of a `Nat`,
on which the kernel computes strictly (GMP): witnesses that have to be found
by running a circuit are evaluated through `St.vals_getD`.
-/
import MpcVerif.Proofs.BuildersBits

namespace Mpc.Bld

/-- Bit `w` of `V` is the value of wire `w`; `n` is the number of the next wire. -/
def evalBits : List Gate → Nat → Nat → Nat
  | [], V, _ => V
  | g :: gs, V, n => evalBits gs (V + 2 ^ n * (g.op.eval (V.testBit g.in0) (V.testBit g.in1)).toNat) (n + 1)

theorem evalGates_getD (gs : List Gate) (v : Array Bool) (w : Nat) :
    (evalGates gs v).getD w false = (evalBits gs (toNat v.toList) v.size).testBit w := by
  induction gs generalizing v with
  | nil => simp [evalGates, evalBits, testBit_toNat]
  | cons g gs ih =>
    have hv (i : Nat) : (toNat v.toList).testBit i = v.getD i false := by
      rw [testBit_toNat, Array.getD_eq_getD_getElem?, List.getD_eq_getElem?_getD, Array.getElem?_toList]
    have hs : toNat (step v g).toList =
        toNat v.toList + 2 ^ v.size * (g.op.eval (v.getD g.in0 false) (v.getD g.in1 false)).toNat := by
      simp [step, toNat_append]
    have hn : (step v g).size = v.size + 1 := Array.size_push _
    rw [evalBits, hv, hv, ← hs, ← hn]
    exact ih (step v g)

theorem St.vals_getD (s : St) (inp : List Bool) (w : Nat) :
    (s.vals inp).getD w false = (evalBits s.gates.toList (toNat inp) inp.length).testBit w := by
  simpa [St.vals] using evalGates_getD s.gates.toList inp.toArray w

end Mpc.Bld
