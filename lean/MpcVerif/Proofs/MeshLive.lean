/-
Consequences of the invariant of the mesh system: complete tables at
return, nothing under way towards a party that has returned, what each event
waits for (`Pre`, `step_isSome`) and deadlock freedom.
-/
import MpcVerif.Proofs.MeshAccept

namespace Mpc.Mesh

variable {c : Cfg} {s s' : State}

theorem Inv.done_waited (h : Inv c s) {p : Nat} (hp : p < c.n) (hd : s.phase p = .done) :
    s.acc p = true ∧ ∀ k, k < c.m → s.need p k = 0 := by
  by_cases hp0 : p = 0
  · subst hp0
    exact ⟨(h.leader.started (by rw [hd]; simp)).1, fun k hk => h.leader.waited k (by rw [hd]; exact hk) hk⟩
  · have hA := (h.peer p (Nat.pos_of_ne_zero hp0) hp).active_done hd
    exact ⟨hA.acc, fun k hk => hA.waited k hk hk⟩

theorem done_table (h : Inv c s) {p : Nat} (hp : p < c.n)
    (hd : s.phase p = .done) {q k : Nat} (hq : q < c.n) (hqp : q ≠ p) (hk : k < c.m) :
    s.conn p q k = some (wire p q k) := by
  have hset : (s.conn p q k).isSome := by
    by_cases hdl : Dials p q
    · -- p dials q, and has gone through all rounds
      exact (((h.peer p hdl.1 hp).active_done hd).dialed_waiting hdl).mpr
        ⟨hq, Or.inr ⟨Nat.le_of_lt hk, hk⟩⟩
    · -- q dials p, and p has waited for it
      obtain ⟨hacc, hw⟩ := h.done_waited hp hd
      have h0 := hw k hk
      rw [h.need_eq hp hacc hk] at h0
      have hqd : Dials q p := (dials_total (Ne.symm hqp)).resolve_left hdl
      cases hcn : s.conn p q k with
      | some _ => rfl
      | none => have := (missing_pos_dials s hp k).mpr ⟨q, hqd, hq, hcn⟩; omega
  exact (h.slot_isSome hset).1

theorem done_quiet_at (h : Inv c s) {j : Nat} (hj : j < c.n) (hd : s.phase j = .done) :
    (∀ i k, s.pend j i k = false) ∧ s.mail j = none ∧ s.infl j = Infl.none := by
  refine ⟨fun i k => ?_, ?_, ?_⟩
  · cases hp : s.pend j i k with
    | false => rfl
    | true =>
      have hf := h.pendFacts hp
      simpa [hf.anone] using done_table h hj hd hf.inn hf.ij hf.km
  · by_cases hj0 : j = 0
    · subst hj0; exact h.leader.mail0
    · exact ((h.peer j (by omega) hj).active_done hd).nomail
  · cases hi : s.infl j with
    | none => rfl
    | taken i k =>
      have hf := h.takenFacts hi
      simpa [hf.anone] using done_table h hj hd hf.inn hf.ij hf.km
    | stored i k =>
      have := h.need_eq_of_stored hi
      have := (h.done_waited hj hd).2 k (h.storedFacts hi).km
      omega

/-- What an event waits for: where the goroutine that takes it stands (and, for the end of a wait loop, the
counter).  Error paths are steps too, so nothing else is asked. -/
def Pre (c : Cfg) (s : State) : Ev → Prop
  | .join i => s.phase i = .init ∧ 0 < i ∧ i < c.n
  | .lconnect => s.phase 0 = .init
  | .hello i => s.phase i = .joined
  | .accTake j i k | .oldDec j i k => s.acc j = true ∧ s.infl j = .none ∧ s.pend j i k = true
  | .accStore j | .oldStore j => ∃ i k, s.infl j = .taken i k
  | .accDec j => ∃ i k, s.infl j = .stored i k
  | .waitDone p => ∃ k, s.phase p = .run k [] ∧ s.need p k = 0
  | .info => ∃ j rest, s.phase 0 = .info (j :: rest)
  | .recvInfo i => s.phase i = .hello ∧ ∃ l, s.mail i = some l
  | .dial i => ∃ k j rest, s.phase i = .run k (j :: rest)

theorem stepAccTake_isSome {j i k : Nat} (dec : Bool)
    (h : s.acc j = true ∧ s.infl j = .none ∧ s.pend j i k = true) : (stepAccTake c s j i k dec).isSome := by
  unfold stepAccTake
  rw [if_pos h]
  split <;> rfl

theorem stepAccStore_isSome {j i k : Nat} (next : Nat → Nat → Infl) (h : s.infl j = .taken i k) :
    (stepAccStore s j next).isSome := by
  unfold stepAccStore
  rw [h]
  dsimp only
  split
  · rfl
  · split
    · split <;> rfl
    · rfl

theorem step_isSome {e : Ev} (h : Pre c s e) : (step c s e).isSome := by
  cases e with
  | join i => simp [step, h.1, h.2.1, h.2.2]
  | lconnect => simp [step, show s.phase 0 = .init from h]
  | hello i => simp [step, show s.phase i = .joined from h]
  | accTake j i k => exact stepAccTake_isSome false h
  | oldDec j i k => exact stepAccTake_isSome true h
  | accStore j => obtain ⟨i, k, h⟩ := h; exact stepAccStore_isSome _ h
  | oldStore j => obtain ⟨i, k, h⟩ := h; exact stepAccStore_isSome _ h
  | accDec j =>
    obtain ⟨i, k, h⟩ := h
    simp only [step, stepAccDec, h]
    split <;> rfl
  | waitDone p =>
    obtain ⟨k, h, h0⟩ := h
    simp only [step, h, h0, if_true]
    split <;> rfl
  | info => obtain ⟨j, rest, h⟩ := h; simp [step, h]
  | recvInfo i =>
    obtain ⟨h, l, hl⟩ := h
    simp only [step, h, hl]
    split <;> rfl
  | dial i =>
    obtain ⟨k, j, rest, h⟩ := h
    simp only [step, h]
    split
    · rfl
    · split
      · rfl
      · split <;> rfl

theorem progress (c : Cfg) (hc : c.Ok) (s : State) (h : Inv c s)
    (hnd : ∃ p, p < c.n ∧ s.phase p ≠ .done) :
    ∃ e, e.real = true ∧ (step c s e).isSome := by
  have hn2 := hc.n2
  apply Classical.byContradiction
  intro hstuck
  have hst : ∀ e, e.real = true → ¬ Pre c s e := fun e he hp => hstuck ⟨e, he, step_isSome hp⟩
  have hL := h.leader
  have hne : s.phase 0 ≠ .init := hst .lconnect rfl
  have hacc0 := (hL.started hne).1
  -- if every guard `Pre` fails, everything in flight has drained and every party waits at the end of a round or is
  -- done (up to `haccAll`); then the earliest round somebody waits in is impossible (`hnowait`)
  have hnoinfl : ∀ j, s.infl j = .none := by
    intro j
    cases hi : s.infl j with
    | none => rfl
    | taken i k => exact absurd ⟨i, k, hi⟩ (hst (.accStore j) rfl)
    | stored i k => exact absurd ⟨i, k, hi⟩ (hst (.accDec j) rfl)
  have hsb0 : ∀ p k, sbit s p k = 0 := fun p => sbit_none (hnoinfl p)
  have hnopend : ∀ j i k, s.acc j = true → s.pend j i k = false := fun j i k hacc =>
    Bool.eq_false_iff.mpr fun hp => hst (.accTake j i k) rfl ⟨hacc, hnoinfl j, hp⟩
  have hpeer1 : ∀ i, 0 < i → i < c.n → s.phase i ≠ .init ∧ s.phase i ≠ .joined := fun i hi hin =>
    ⟨fun e => hst (.join i) rfl ⟨e, hi, hin⟩, hst (.hello i) rfl⟩
  have hnodial : ∀ i k j rest, s.phase i ≠ .run k (j :: rest) := fun i k j rest e => hst (.dial i) rfl ⟨k, j, rest, e⟩
  have hnoinfo : ∀ r, r ≠ [] → s.phase 0 ≠ .info r := by
    intro r hr e
    cases r with
    | nil => exact hr rfl
    | cons a l => exact hst .info rfl ⟨a, l, e⟩
  have hsentAll : ∀ i, infoSentTo (s.phase 0) i := by
    rcases hL.shape with e | ⟨k, hk, e⟩ | ⟨r, hr, e⟩ | e
    · exact absurd e hne
    · cases k with
      | zero =>
        exfalso
        have hneed : s.need 0 0 ≠ 0 := fun e0 => hst (.waitDone 0) rfl ⟨0, e, e0⟩
        rw [(hL.started hne).2 0 (by omega)] at hneed
        rw [hsb0, Nat.add_zero] at hneed
        obtain ⟨x, hx0, hxn, hxc⟩ := (missing_pos_iff s 0 c.n 0).mp (by omega)
        have hP := h.peer x hx0 hxn
        have hp1 := hpeer1 x hx0 hxn
        rcases hP.cases with e' | e' | e' | ⟨k, t, -, hA⟩
        · exact hp1.1 e'
        · exact hp1.2 e'
        · have := ((hP.hello e').2.1 0 0).mpr ⟨rfl, rfl, hxc, by rw [hnoinfl 0]; simp⟩
          rw [hnopend 0 x 0 hacc0] at this
          cases this
        · have := hA.sent
          simp [e, infoSentTo] at this
      | succ k => intro i; simp [e, infoSentTo]
    · exact absurd e (hnoinfo r hr)
    · intro i; simp [e, infoSentTo]
  have hpeer2 : ∀ i, 0 < i → i < c.n → (∃ k, s.phase i = .run k []) ∨ s.phase i = .done := by
    intro i hi hin
    have hP := h.peer i hi hin
    have hp1 := hpeer1 i hi hin
    cases hph : s.phase i with
    | init => exact absurd hph hp1.1
    | joined => exact absurd hph hp1.2
    | hello =>
      exfalso
      have hm := ((hP.hello hph).2.2.2.2.1).mpr (hsentAll i)
      cases hml : s.mail i with
      | none => exact hm hml
      | some l => exact hst (.recvInfo i) rfl ⟨hph, l, hml⟩
    | run k t =>
      cases t with
      | nil => exact Or.inl ⟨k, rfl⟩
      | cons a l => exact absurd hph (hnodial i k a l)
    | info r => exact absurd hph (hP.notInfo r)
    | done => exact Or.inr rfl
  have hparty : ∀ p, p < c.n → (∃ k, s.phase p = .run k []) ∨ s.phase p = .done := by
    intro p hp
    by_cases hp0 : p = 0
    · subst hp0
      rcases hL.shape with e | ⟨k, hk, e⟩ | ⟨r, hr, e⟩ | e
      · exact absurd e hne
      · exact Or.inl ⟨k, e⟩
      · exact absurd e (hnoinfo r hr)
      · exact Or.inr e
    · exact hpeer2 p (by omega) hp
  have haccAll : ∀ p, p < c.n → s.acc p = true := by
    intro p hp
    by_cases hp0 : p = 0
    · subst hp0; exact hacc0
    · have hP := h.peer p (by omega) hp
      rcases hpeer2 p (by omega) hp with ⟨k, e⟩ | e
      · exact (hP.active_run e).acc
      · exact (hP.active_done e).acc
  -- nobody waits in round k, by induction on k
  have hnowait : ∀ k p, p < c.n → s.phase p ≠ .run k [] := by
    intro k
    induction k using Nat.strongRecOn with
    | _ k ih =>
      intro p hp hph
      have hneed : s.need p k ≠ 0 := fun e0 => hst (.waitDone p) rfl ⟨k, hph, e0⟩
      -- a connection (i -> p, k) that p has not stored
      have hk := h.run_lt hph
      rw [h.need_eq hp (haccAll p hp) hk, hsb0, Nat.add_zero] at hneed
      obtain ⟨i, hdl, hin, hnone⟩ := (missing_pos_dials s hp k).mp (Nat.pos_of_ne_zero hneed)
      have hi0 := hdl.1
      -- the dialler i has not dialled it
      have hdnone : s.conn i p k = none := by
        cases hcn : s.conn i p k with
        | none => rfl
        | some v =>
          exfalso
          rcases h.dialSlot i p k hdl (by simp [hcn]) with e | e | ⟨_, _, e⟩ | e
          · rw [hnopend p i k (haccAll p hp)] at e; simp at e
          · simp [hnone] at e
          · exact (hpeer1 i hi0 hin).2 e
          · rw [hnoinfl p] at e; simp at e
      -- so i has not reached round k: it waits in an earlier one
      rcases hpeer2 i hi0 hin with ⟨k', e⟩ | e
      · have hAi := (h.peer i hi0 hin).active_run e
        have := (not_congr (hAi.dialed_waiting hdl (k' := k))).mp (by simp [hdnone])
        exact ih k' (by omega) i hin e
      · have hAi := (h.peer i hi0 hin).active_done e
        have := (not_congr (hAi.dialed_waiting hdl (k' := k))).mp (by simp [hdnone])
        omega
  obtain ⟨p, hp, hpd⟩ := hnd
  rcases hparty p hp with ⟨k, e⟩ | e
  · exact hnowait k p hp e
  · exact hpd e

end Mpc.Mesh
