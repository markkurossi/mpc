/-
C10: the parts of a `Network.Run` call around the level loop: what input
sharing writes on top of the wire store a party holds (`shareInputsFrom_get`,
`shareInputsFrom_frame`), output reconstruction (`out_all`), the circuits the
run theorems are about (`RunOK`, `blocks_ok`), the circuit input list, and pools
that hold valid triples (`PoolsValid`).
-/
import MpcVerif.Proofs.GmwOnline
import MpcVerif.Proofs.GmwSchedule
import MpcVerif.Model.GmwHist

namespace Mpc.Gmw
open Mpc

theorem setWires_size (w : Store Bool) (ofs v bits : Nat) : (setWires w ofs bits v).size = w.size :=
  foldl_set_size _ _ _ _

theorem setWires_get (w : Store Bool) (ofs v i bits : Nat) (h : ofs + bits ≤ w.size) (hi : i < bits) :
    (setWires w ofs bits v).get (ofs + i) = v.testBit i :=
  foldl_set_get (ofs + ·) (v.testBit ·) (List.range bits) w
    (List.Pairwise.map _ (fun _ _ h e => h (Nat.add_left_cancel e)) List.nodup_range)
    (fun a ha => by have := List.mem_range.mp ha; omega) i (List.mem_range.mpr hi)

theorem setWires_frame (w : Store Bool) (ofs v j bits : Nat) (h : ¬ (ofs ≤ j ∧ j < ofs + bits)) :
    (setWires w ofs bits v).get j = w.get j :=
  foldl_set_frame _ _ j _ _ fun a ha => by have := List.mem_range.mp ha; omega

theorem argOfs_succ (sizes : List Nat) (q : Nat) : argOfs sizes (q + 1) = argOfs sizes q + sizes.getD q 0 := by
  unfold argOfs
  rw [List.take_add_one, List.sum_append, List.getD_eq_getElem?_getD]
  cases sizes[q]? <;> simp

theorem argOfs_mono (sizes : List Nat) (q q' : Nat) (h : q ≤ q') : argOfs sizes q ≤ argOfs sizes q' := by
  induction h with
  | refl => exact Nat.le_refl _
  | step _ ih => rw [argOfs_succ]; omega

theorem argOfs_length (sizes : List Nat) : argOfs sizes sizes.length = sizes.sum := by
  simp [argOfs]

theorem argOfs_zero (sizes : List Nat) : argOfs sizes 0 = 0 := by simp [argOfs]

theorem argOfs_end_le (sizes : List Nat) (q : Nat) (hq : q < sizes.length) :
    argOfs sizes q + sizes.getD q 0 ≤ sizes.sum := by
  rw [← argOfs_succ, ← argOfs_length]
  exact argOfs_mono sizes (q + 1) sizes.length hq

theorem argOfs_disjoint (sizes : List Nat) (q m i : Nat) (hqm : q ≠ m) (hi : i < sizes.getD q 0) :
    ¬ (argOfs sizes m ≤ argOfs sizes q + i ∧ argOfs sizes q + i < argOfs sizes m + sizes.getD m 0) := by
  rcases Nat.lt_or_gt_of_ne hqm with h | h
  · have := argOfs_mono sizes (q + 1) m h
    rw [argOfs_succ] at this; omega
  · have := argOfs_mono sizes (m + 1) q h
    rw [argOfs_succ] at this; omega

theorem argOfs_locate (sizes : List Nat) : ∀ m, m ≤ sizes.length → ∀ w, w < argOfs sizes m →
    ∃ q i, q < m ∧ i < sizes.getD q 0 ∧ w = argOfs sizes q + i := by
  intro m
  induction m with
  | zero => intro _ w hw; rw [argOfs_zero] at hw; omega
  | succ m ih =>
    intro hm w hw
    by_cases h : w < argOfs sizes m
    · obtain ⟨q, i, hq, hi, e⟩ := ih (by omega) w h
      exact ⟨q, i, by omega, hi, e⟩
    · rw [argOfs_succ] at hw
      exact ⟨m, w - argOfs sizes m, by omega, by omega, by omega⟩

section
variable (sizes : List Nat) (val : Nat → Nat)

theorem writeArgs_size (L : List Nat) (w0 : Store Bool) :
    (L.foldl (fun w q => setWires w (argOfs sizes q) (sizes.getD q 0) (val q)) w0).size = w0.size := by
  induction L generalizing w0 with
  | nil => rfl
  | cons m L ih => rw [List.foldl_cons, ih, setWires_size]

theorem writeArgs_frame (j : Nat) (L : List Nat) (w0 : Store Bool)
    (hj : ∀ m ∈ L, ¬ (argOfs sizes m ≤ j ∧ j < argOfs sizes m + sizes.getD m 0)) :
    (L.foldl (fun w q => setWires w (argOfs sizes q) (sizes.getD q 0) (val q)) w0).get j = w0.get j := by
  induction L generalizing w0 with
  | nil => rfl
  | cons m L ih =>
    rw [List.foldl_cons, ih _ fun m' hm' => hj m' (List.mem_cons_of_mem _ hm'), setWires_frame _ _ _ _ _ (hj m List.mem_cons_self)]

/-- `L` in any order and with repetitions: the blocks of different parties are disjoint, and a block written
twice gets the same bits. -/
theorem writeArgs_get (q i : Nat) (hi : i < sizes.getD q 0) (L : List Nat) (w0 : Store Bool)
    (hL : ∀ m ∈ L, m < sizes.length) (hN : sizes.sum ≤ w0.size) (hq : q ∈ L) :
    (L.foldl (fun w q => setWires w (argOfs sizes q) (sizes.getD q 0) (val q)) w0).get (argOfs sizes q + i) =
      (val q).testBit i := by
  induction L generalizing w0 with
  | nil => cases hq
  | cons m L ih =>
    rw [List.foldl_cons]
    by_cases hqL : q ∈ L
    · exact ih _ (fun m' hm' => hL m' (List.mem_cons_of_mem _ hm')) (by rw [setWires_size]; exact hN) hqL
    · obtain rfl : q = m := (List.mem_cons.mp hq).resolve_right hqL
      rw [writeArgs_frame sizes val _ L _ fun m hm => argOfs_disjoint sizes q m i (fun e => hqL (e ▸ hm)) hi]
      exact setWires_get _ _ _ _ _ (by have := argOfs_end_le sizes q (hL q List.mem_cons_self); omega) hi

end

/-- `self.shared` after the sharing loop: XOR of the shares handed out. -/
def sharedOf (sizes : List Nat) (rnd : Nat → Nat → Nat) (p : Nat) : Nat :=
  (List.range sizes.length).foldl (fun s q => if q = p then s else s ^^^ rnd p q) 0

theorem shareInputs_from_zero (N : Nat) (sizes : List Nat) (x : Nat → Nat) (rnd : Nat → Nat → Nat) (p : Nat) :
    shareInputs N sizes x rnd p = shareInputsFrom (Array.replicate N false) sizes x rnd p := rfl

/-- Input sharing as the fold of `setWires` that the `writeArgs_*` lemmas are about. -/
theorem shareInputsFrom_flat (w0 : Store Bool) (sizes : List Nat) (x : Nat → Nat) (rnd : Nat → Nat → Nat) (p : Nat) :
    shareInputsFrom w0 sizes x rnd p =
      (((List.range sizes.length).filter (· != p)) ++ [p]).foldl (fun w q => setWires w (argOfs sizes q) (sizes.getD q 0)
        (if q = p then sharedOf sizes rnd p ^^^ x p else rnd q p)) w0 := by
  rw [List.foldl_append, List.foldl_cons, List.foldl_nil, if_pos rfl, List.foldl_filter]
  show setWires _ _ _ _ = _
  congr 1
  exact foldl_congr_mem _ _ _ (fun q _ w => by by_cases h : q = p <;> simp [h]) _

theorem shareInputsFrom_size (w0 : Store Bool) (sizes : List Nat) (x : Nat → Nat) (rnd : Nat → Nat → Nat) (p : Nat) :
    (shareInputsFrom w0 sizes x rnd p).size = w0.size := by
  rw [shareInputsFrom_flat, writeArgs_size]

theorem mem_parties (n p q : Nat) (hp : p < n) : q ∈ (List.range n).filter (· != p) ++ [p] ↔ q < n := by
  simp only [List.mem_append, List.mem_filter, List.mem_range, bne_iff_ne, List.mem_singleton]
  omega

theorem shareInputsFrom_get (w0 : Store Bool) (sizes : List Nat) (x : Nat → Nat) (rnd : Nat → Nat → Nat) (p : Nat)
    (hp : p < sizes.length) (hN : sizes.sum ≤ w0.size) :
    ∀ q i, q < sizes.length → i < sizes.getD q 0 →
      (shareInputsFrom w0 sizes x rnd p).get (argOfs sizes q + i) =
        if q = p then (sharedOf sizes rnd p ^^^ x p).testBit i else (rnd q p).testBit i := by
  intro q i hq hi
  rw [shareInputsFrom_flat, writeArgs_get sizes _ q i hi _ w0 (fun m hm => (mem_parties _ p m hp).mp hm) hN
    ((mem_parties _ p q hp).mpr hq)]
  split <;> rfl

theorem shareInputsFrom_frame (w0 : Store Bool) (sizes : List Nat) (x : Nat → Nat) (rnd : Nat → Nat → Nat) (p : Nat)
    (hp : p < sizes.length) (j : Nat) (hj : sizes.sum ≤ j) :
    (shareInputsFrom w0 sizes x rnd p).get j = w0.get j := by
  rw [shareInputsFrom_flat, writeArgs_frame]
  intro m hm
  have := argOfs_end_le sizes m ((mem_parties _ p m hp).mp hm)
  omega

theorem testBit_foldl_xor (f : Nat → Nat) (p i : Nat) : ∀ (l : List Nat) (s0 : Nat),
    (l.foldl (fun s q => if q = p then s else s ^^^ f q) s0).testBit i =
      (s0.testBit i != xorB (l.map fun q => if q = p then false else (f q).testBit i)) := by
  intro l
  induction l with
  | nil => intro s0; simp [xorB_nil]
  | cons q t ih =>
    intro s0
    simp only [List.foldl_cons, List.map_cons, xorB_cons]
    rw [ih]
    by_cases h : q = p
    · simp [h]
    · simp only [h, if_false, Nat.testBit_xor]
      cases s0.testBit i <;> cases (f q).testBit i <;>
        cases xorB (t.map fun q => if q = p then false else (f q).testBit i) <;> rfl

theorem testBit_sharedOf (sizes : List Nat) (rnd : Nat → Nat → Nat) (p i : Nat) :
    (sharedOf sizes rnd p).testBit i =
      xorB ((List.range sizes.length).map fun q => if q = p then false else (rnd p q).testBit i) := by
  unfold sharedOf
  rw [testBit_foldl_xor]
  simp

def InputsOf (sizes : List Nat) (x : Nat → Nat) (xs : List Bool) : Prop :=
  ∀ q i, q < sizes.length → i < sizes.getD q 0 → xs.getD (argOfs sizes q + i) false = (x q).testBit i

theorem outOpen_cons (id : Nat) (own : List Bool) (q : Nat × List Bool) (all : List (Nat × List Bool)) :
    outOpen id own (q :: all) =
      outOpen id (if q.1 = id then own else List.zipWith (fun a b => a != b) own q.2) all := rfl

theorem outOpen_fold (l : List Nat) (G : Party → Nat → Bool) (id : Nat) : ∀ (ps : List Party) (F : Nat → Bool),
    outOpen id (l.map F) (ps.map fun q => (q.id, l.map (G q))) =
      l.map fun i => (F i != xorB (ps.map fun q => if q.id = id then false else G q i)) := by
  intro ps
  induction ps with
  | nil => intro F; simp [outOpen, xorB_nil]
  | cons q t ih =>
    intro F
    simp only [List.map_cons, outOpen_cons, xorB_cons]
    by_cases h : q.id = id
    · simpa [h] using ih F
    · simp only [h, if_false]
      rw [List.zipWith_map, List.zipWith_self, ih]
      exact List.map_congr_left fun i _ => by
        cases F i <;> cases G q i <;> cases xorB (t.map fun q => if q.id = id then false else G q i) <;> rfl

theorem out_all {n : Nat} {ps : List Party} (hid : Ids n ps) (l : List Nat) (G : Party → Nat → Bool)
    (p : Party) (hp : p ∈ ps) :
    outOpen p.id (l.map (G p)) (ps.map fun q => (q.id, l.map (G q))) = l.map fun i => xorB (ps.map fun q => G q i) := by
  rw [outOpen_fold]
  refine List.map_congr_left fun i _ => ?_
  rw [xorB_skip (·.id) (fun q => G q i) ps p (ids_nodup hid) hp]
  cases G p i <;> cases xorB (ps.map fun q => G q i) <;> rfl

/-- What the run theorems ask of the circuit.  `noOr`: on an OR gate Go returns `gate OR not supported`. -/
structure RunOK (c : Circuit) (sizes : List Nat) : Prop where
  ssa : SSA c.numWires c.gates c.inputDefined
  noOr : ∀ g ∈ c.gates, g.op ≠ .or
  parties : 0 < sizes.length
  nIn : c.nIn = sizes.sum
  fits : c.nIn ≤ c.numWires

theorem blocks_ok (c : Circuit) (sizes : List Nat) (h : RunOK c sizes) (N : Nat) (hN : c.numWires ≤ N) :
    ∀ b ∈ blocks c, BlockOK N b := by
  intro b hb
  have hops := blocks_ops c b hb
  have hmem := blocks_subset c b hb
  have hbd : ∀ g ∈ c.gates, g.out < N := fun g hg =>
    Nat.lt_of_lt_of_le (wf_bounds c.numWires c.gates _ h.ssa.1 g hg).2 hN
  refine ⟨fun g hg => ⟨?_, hbd g (hmem.1 g hg)⟩, fun g hg => ⟨hops.2 g hg, hbd g (hmem.2 g hg)⟩,
    blocks_indep c h.ssa b hb⟩
  have h1 := hops.1 g hg
  have h2 := h.noOr g (hmem.1 g hg)
  generalize g.op = o at h1 h2
  cases o <;> simp at h1 h2 ⊢

theorem inputBits_prefix (sizes : List Nat) (x : Nat → Nat) : ∀ m,
    ((List.range m).flatMap fun p => (List.range (sizes.getD p 0)).map fun i => (x p).testBit i).length =
      argOfs sizes m ∧
    ∀ q i, q < m → i < sizes.getD q 0 →
      ((List.range m).flatMap fun p => (List.range (sizes.getD p 0)).map fun i => (x p).testBit i).getD
        (argOfs sizes q + i) false = (x q).testBit i := by
  intro m
  induction m with
  | zero => exact ⟨by simp [argOfs_zero], fun q i h => by omega⟩
  | succ m ih =>
    obtain ⟨hl, hg⟩ := ih
    rw [List.range_succ, List.flatMap_append]
    simp only [List.flatMap_cons, List.flatMap_nil, List.append_nil]
    constructor
    · rw [List.length_append, hl, argOfs_succ]; simp
    · intro q i hq hi
      by_cases hqm : q = m
      · subst hqm
        rw [List.getD_eq_getElem?_getD, List.getElem?_append_right (by omega), hl, Nat.add_sub_cancel_left,
          List.getElem?_map, List.getElem?_range hi]
        rfl
      · have h1 := argOfs_mono sizes (q + 1) m (by omega)
        rw [argOfs_succ] at h1
        rw [List.getD_eq_getElem?_getD, List.getElem?_append_left (by omega), ← List.getD_eq_getElem?_getD]
        exact hg q i (by omega) hi

theorem inputsOf_inputBits (sizes : List Nat) (x : Nat → Nat) : InputsOf sizes x (inputBits sizes x) :=
  fun q i hq hi => (inputBits_prefix sizes x sizes.length).2 q i hq hi

theorem length_inputBits (sizes : List Nat) (x : Nat → Nat) : (inputBits sizes x).length = sizes.sum := by
  rw [← argOfs_length]; exact (inputBits_prefix sizes x sizes.length).1

def PoolsValid (n L : Nat) (pools : Nat → Triples) : Prop :=
  (∀ p, p < n → (pools p).WF ∧ (pools p).words = L) ∧
  ∀ k, k < L →
    xorW ((List.range n).map fun p => wget (pools p).a k) &&&
    xorW ((List.range n).map fun p => wget (pools p).b k) =
    xorW ((List.range n).map fun p => wget (pools p).c k)

theorem poolArrive_words (pool b : Triples) : (poolArrive pool b).words = pool.words + b.words := by
  unfold poolArrive
  rw [pool_append_words_fst, Nat.min_eq_right (by omega)]

theorem poolsValid_arrive (n L words : Nat) (pools B : Nat → Triples) (hp : PoolsValid n L pools)
    (hB : PoolsValid n words B) :
    PoolsValid n (L + words) (fun p => poolArrive (pools p) (B p)) := by
  refine ⟨fun p hpn => ⟨pool_append_WF_fst _ _ _, by rw [poolArrive_words, (hp.1 p hpn).2, (hB.1 p hpn).2]⟩,
    fun k hk => ?_⟩
  have hw : ∀ p ∈ List.range n, tw (poolArrive (pools p) (B p)) k = if L ≤ k then tw (B p) (k - L) else tw (pools p) k :=
    fun p hpn => by
      have hpn := List.mem_range.mp hpn
      have : _ → tw (poolArrive (pools p) (B p)) k = _ := pool_append_wget_fst (pools p) (B p) ((B p).words * 64) k
      rw [(hp.1 p hpn).2, (hB.1 p hpn).2] at this
      exact this (by omega)
  by_cases hlt : L ≤ k
  · have := valid_of_tw _ (fun p => poolArrive (pools p) (B p)) (fun t => t) B k (k - L)
      (fun p hpn => (hw p hpn).trans (if_pos hlt)) (hB.2 (k - L) (by omega))
    rwa [List.map_map, List.map_map, List.map_map] at this
  · have := valid_of_tw _ (fun p => poolArrive (pools p) (B p)) (fun t => t) pools k k
      (fun p hpn => (hw p hpn).trans (if_neg hlt)) (hp.2 k (by omega))
    rwa [List.map_map, List.map_map, List.map_map] at this

theorem poolsValid_tripleBatch (n words : Nat) (I : BatchIn) (h : CotCorr n words I) :
    PoolsValid n words (fun p => tripleBatch n words I p) := by
  refine ⟨fun p _ => ?_, fun k hk => gmw_triple_valid n words I h k hk⟩
  obtain ⟨h1, h2, h3, h4⟩ := tripleBatch_sizes n words I p
  exact ⟨by simp [Triples.WF, h1, h2, h3, h4], h1⟩

theorem poolsValid_empty (n : Nat) : PoolsValid n 0 (fun _ => Triples.empty) :=
  ⟨fun _ _ => ⟨empty_WF, rfl⟩, fun k hk => by omega⟩

end Mpc.Gmw
