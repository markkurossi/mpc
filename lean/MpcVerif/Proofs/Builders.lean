/-
Hoare-style rules for the builder monad of Model/Builders.lean (property C07).  `Spec inp s m Q`: running `m`
from `s` leaves a well-formed state with no fewer wires in which every wire of `s` has kept its value on the input
`inp` (`Ext`), and establishes `Q`.  A fact about wires carries their value as a variable:
`Holds s inp w b` (a wire and its bit), `Bits s inp ws bs` (a bus and its bit list), `Num s inp ws n X` (a bus, its
width and its number), `PBits s inp l lv` (a list of wire pairs and its bit pairs), `Cols s inp cols cv` (a list of
buses and their bit lists); nothing in it mentions a second state, so it moves to a later state by `.mono` alone.
A builder's lemma is named after the fact its result is stated in: `_h` a `Holds`, `_bits` a `Bits`, `_p` a `PBits`,
`_num` a `Num` (`_tc`: a `Num` read as two's complement); `_spec` is left to the primitives of this file, to the
harness circuit and to characterisations of pure functions.
-/
import MpcVerif.Proofs.BuildersBits

namespace Mpc.Bld
open Mpc

variable {s : St} {inp : List Bool}

theorem evalGates_size (gs : List Gate) (v : Array Bool) : (evalGates gs v).size = v.size + gs.length := by
  induction gs generalizing v with
  | nil => simp [evalGates]
  | cons g gs ih =>
    simp only [evalGates, List.foldl_cons] at ih ⊢
    rw [ih]; simp [step]; omega

theorem evalGates_snoc (gs : List Gate) (g : Gate) (v : Array Bool) :
    evalGates (gs ++ [g]) v = step (evalGates gs v) g := by
  simp [evalGates, List.foldl_append]

theorem vals_size (s : St) (inp : List Bool) (h : inp.length = s.nIn) : (s.vals inp).size = s.next := by
  simp [St.vals, evalGates_size, St.next, h]

theorem St.nIn_le_next (s : St) : s.nIn ≤ s.next := Nat.le_add_right ..

def St.snoc (s : St) (g : Gate) : St := { s with gates := s.gates.push g }

@[simp] theorem snoc_nIn (s : St) (g : Gate) : (s.snoc g).nIn = s.nIn := rfl
@[simp] theorem snoc_next (s : St) (g : Gate) : (s.snoc g).next = s.next + 1 := by
  simp [St.snoc, St.next]; omega
@[simp] theorem snoc_inv0 (s : St) (g : Gate) : (s.snoc g).inv0 = s.inv0 := rfl
@[simp] theorem snoc_zero (s : St) (g : Gate) : (s.snoc g).zero = s.zero := rfl
@[simp] theorem snoc_one (s : St) (g : Gate) : (s.snoc g).one = s.one := rfl

theorem vals_snoc (s : St) (g : Gate) (inp : List Bool) :
    (s.snoc g).vals inp = step (s.vals inp) g := by
  simp [St.vals, St.snoc, evalGates_snoc]

theorem val_snoc_lt (s : St) (g : Gate) (inp : List Bool) (h : inp.length = s.nIn) (w : Nat)
    (hw : w < s.next) : (s.snoc g).val inp w = s.val inp w := by
  have hs := vals_size s inp h
  simp only [St.val, vals_snoc, step]
  simp [Array.getD, Array.getElem_push, hs, hw]
  intro h'; omega

theorem val_snoc_eq (s : St) (g : Gate) (inp : List Bool) (h : inp.length = s.nIn) :
    (s.snoc g).val inp s.next = g.op.eval (s.val inp g.in0) (s.val inp g.in1) := by
  have hs := vals_size s inp h
  simp only [St.val, vals_snoc, step]
  simp [Array.getD, Array.getElem_push, hs]

theorem gate_run (op : Op) (a b : Nat) (s : St) : gate op a b s = (s.next, s.snoc ⟨op, a, b, s.next⟩) := rfl

theorem val_input (s : St) (inp : List Bool) (w : Nat) (hw : w < inp.length) :
    s.val inp w = inp.getD w false := by
  have : ∀ (gs : List Gate) (v : Array Bool), w < v.size → (evalGates gs v).getD w false = v.getD w false := by
    intro gs
    induction gs with
    | nil => intro v _; rfl
    | cons g gs ih =>
      intro v hv
      simp only [evalGates, List.foldl_cons] at ih ⊢
      rw [ih (step v g) (by simp [step]; omega)]
      simp [step, Array.getD, Array.getElem_push, hv]
      intro h'; omega
  simp only [St.val, St.vals]
  rw [this _ _ (by simpa using hw)]
  simp [Array.getD, List.getD, hw]

def Holds (s : St) (inp : List Bool) (w : Nat) (b : Bool) : Prop := w < s.next ∧ s.val inp w = b

/-- `pos`: the constant wires are derived from input wire 0. -/
structure WF (s : St) (inp : List Bool) : Prop where
  len  : inp.length = s.nIn
  pos  : 0 < s.nIn
  inv0 : ∀ w, s.inv0 = some w → Holds s inp w (!(inp.getD 0 false))
  zero : ∀ w, s.zero = some w → Holds s inp w false
  one  : ∀ w, s.one = some w → Holds s inp w true
  /-- straight line: gate `k` drives wire `nIn + k` -/
  sl   : ∀ k (h : k < s.gates.size), (s.gates[k]).out = s.nIn + k

structure Ext (s s' : St) (inp : List Bool) : Prop where
  wf   : WF s' inp
  next : s.next ≤ s'.next
  val  : ∀ w, w < s.next → s'.val inp w = s.val inp w

theorem Ext.refl (h : WF s inp) : Ext s s inp := ⟨h, Nat.le_refl _, fun _ _ => rfl⟩

theorem Ext.trans {s s' s'' : St} {inp : List Bool} (h1 : Ext s s' inp) (h2 : Ext s' s'' inp) : Ext s s'' inp :=
  ⟨h2.wf, Nat.le_trans h1.next h2.next, fun w hw => by
    rw [h2.val w (Nat.lt_of_lt_of_le hw h1.next), h1.val w hw]⟩

theorem Holds.mono {s s' : St} {inp : List Bool} {w : Nat} {b : Bool} (e : Ext s s' inp) (h : Holds s inp w b) :
    Holds s' inp w b :=
  ⟨Nat.lt_of_lt_of_le h.1 e.next, by rw [e.val w h.1, h.2]⟩

theorem Holds.of_lt {s : St} {inp : List Bool} {w : Nat} (h : w < s.next) : Holds s inp w (s.val inp w) := ⟨h, rfl⟩

theorem holds_input0 (h : WF s inp) : Holds s inp 0 (inp.getD 0 false) :=
  ⟨Nat.lt_of_lt_of_le h.pos s.nIn_le_next, val_input s inp 0 (by rw [h.len]; exact h.pos)⟩

def Spec {α : Type} (inp : List Bool) (s : St) (m : BM α) (Q : α → St → Prop) : Prop :=
  Ext s (m s).2 inp ∧ Q (m s).1 (m s).2

theorem Spec.bind {α β : Type} {inp : List Bool} {s : St} {m : BM α} {f : α → BM β}
    {Q : α → St → Prop} {R : β → St → Prop}
    (h1 : Spec inp s m Q) (h2 : ∀ a s', Ext s s' inp → Q a s' → Spec inp s' (f a) R) :
    Spec inp s (m >>= f) R := by
  obtain ⟨e1, q1⟩ := h1
  obtain ⟨e2, q2⟩ := h2 _ _ e1 q1
  exact ⟨e1.trans e2, q2⟩

theorem Spec.pure {α : Type} {inp : List Bool} {s : St} {a : α} {Q : α → St → Prop}
    (hwf : WF s inp) (h : Q a s) : Spec inp s (Pure.pure a) Q := ⟨Ext.refl hwf, h⟩

theorem Spec.mono {α : Type} {inp : List Bool} {s : St} {m : BM α} {Q R : α → St → Prop}
    (h : Spec inp s m Q) (hqr : ∀ a s', Ext s s' inp → Q a s' → R a s') : Spec inp s m R :=
  ⟨h.1, hqr _ _ h.1 h.2⟩

theorem Spec.map {α β : Type} {inp : List Bool} {s : St} {m : BM α} {f : α → β} {Q : α → St → Prop}
    {R : β → St → Prop} (h : Spec inp s m Q) (hqr : ∀ a s', Ext s s' inp → Q a s' → R (f a) s') :
    Spec inp s (m >>= fun a => Pure.pure (f a)) R :=
  ⟨h.1, hqr _ _ h.1 h.2⟩

theorem Spec.ext {α : Type} {inp : List Bool} {s : St} {m : BM α} {Q : α → St → Prop}
    (h : Spec inp s m Q) : Ext s (m s).2 inp := h.1

theorem gate_spec (op : Op) {a b : Nat} {va vb : Bool} (hwf : WF s inp)
    (ha : Holds s inp a va) (hb : Holds s inp b vb) :
    Spec inp s (gate op a b) (fun o s' => Holds s' inp o (op.eval va vb)) := by
  have hl := hwf.len
  have key : ∀ w v, Holds s inp w v → Holds (s.snoc ⟨op, a, b, s.next⟩) inp w v := by
    intro w v h
    exact ⟨by have := h.1; simp; omega, by rw [val_snoc_lt s _ inp hl w h.1, h.2]⟩
  refine ⟨⟨{ len := hl, pos := hwf.pos, sl := ?_
             inv0 := fun w hw => key _ _ (hwf.inv0 w hw)
             zero := fun w hw => key _ _ (hwf.zero w hw)
             one := fun w hw => key _ _ (hwf.one w hw) }, ?_, ?_⟩, ?_⟩
  · intro k hk
    simp only [gate_run, St.snoc, Array.size_push] at hk ⊢
    rw [Array.getElem_push]
    split
    · next h => exact hwf.sl k h
    · next h => simp only [St.next]; omega
  · simp [gate_run]
  · intro w hw; simp only [gate_run]; exact val_snoc_lt s _ inp hl w hw
  · simp only [gate_run]
    refine ⟨by simp, ?_⟩
    rw [val_snoc_eq s _ inp hl]
    simp [ha.2, hb.2]

/-- INV gates ignore their second input. -/
theorem invGate_spec {a : Nat} {va : Bool} (hwf : WF s inp)
    (ha : Holds s inp a va) :
    Spec inp s (gate .inv a 0) (fun o s' => Holds s' inp o (!va)) := by
  have h0 := holds_input0 hwf
  have := gate_spec .inv hwf ha h0
  simpa [Op.eval] using this

theorem St.setInv0_val (s : St) (w : Nat) (inp : List Bool) (x : Nat) :
    ({ s with inv0 := some w } : St).val inp x = s.val inp x := rfl

theorem invI0Wire_spec (hwf : WF s inp) :
    Spec inp s invI0Wire (fun o s' => Holds s' inp o (!(inp.getD 0 false))) := by
  unfold Spec invI0Wire
  cases hc : s.inv0 with
  | some w => exact ⟨Ext.refl hwf, hwf.inv0 w hc⟩
  | none =>
    obtain ⟨e, h⟩ := invGate_spec hwf (holds_input0 hwf)
    exact ⟨⟨{ e.wf with inv0 := fun _ hw => Option.some.inj hw ▸ h }, e.next, e.val⟩, h⟩

theorem zeroWire_spec (hwf : WF s inp) :
    Spec inp s zeroWire (fun o s' => Holds s' inp o false) := by
  unfold Spec zeroWire
  cases hc : s.zero with
  | some w => exact ⟨Ext.refl hwf, hwf.zero w hc⟩
  | none =>
    obtain ⟨e1, h1⟩ := invI0Wire_spec hwf
    obtain ⟨e2, h2⟩ := gate_spec .and e1.wf (holds_input0 e1.wf) h1
    rw [show Op.and.eval (inp.getD 0 false) (!(inp.getD 0 false)) = false by cases inp.getD 0 false <;> rfl] at h2
    have e := e1.trans e2
    exact ⟨⟨{ e.wf with zero := fun _ hw => Option.some.inj hw ▸ h2 }, e.next, e.val⟩, h2⟩

theorem oneWire_spec (hwf : WF s inp) :
    Spec inp s oneWire (fun o s' => Holds s' inp o true) := by
  unfold Spec oneWire
  cases hc : s.one with
  | some w => exact ⟨Ext.refl hwf, hwf.one w hc⟩
  | none =>
    obtain ⟨e1, h1⟩ := invI0Wire_spec hwf
    obtain ⟨e2, h2⟩ := gate_spec .xor e1.wf (holds_input0 e1.wf) h1
    rw [show Op.xor.eval (inp.getD 0 false) (!(inp.getD 0 false)) = true by cases inp.getD 0 false <;> rfl] at h2
    have e := e1.trans e2
    exact ⟨⟨{ e.wf with one := fun _ hw => Option.some.inj hw ▸ h2 }, e.next, e.val⟩, h2⟩

theorem inv_spec {a : Nat} {va : Bool} (hwf : WF s inp) (ha : Holds s inp a va) :
    Spec inp s (inv a) (fun o s' => Holds s' inp o (!va)) := by
  unfold inv
  refine Spec.bind (oneWire_spec hwf) ?_
  intro o s1 e1 ho
  refine (gate_spec .xor e1.wf (ha.mono e1) ho).mono ?_
  intro r s2 _ h
  cases va <;> exact h

theorem or_spec {a b : Nat} {va vb : Bool} (hwf : WF s inp)
    (ha : Holds s inp a va) (hb : Holds s inp b vb) :
    Spec inp s (or a b) (fun o s' => Holds s' inp o (va || vb)) := by
  unfold or
  refine Spec.bind (gate_spec .xor hwf ha hb) ?_
  intro x s1 e1 hx
  refine Spec.bind (gate_spec .and e1.wf (ha.mono e1) (hb.mono e1)) ?_
  intro n s2 e2 hn
  refine (gate_spec .xor e2.wf (hx.mono e2) hn).mono ?_
  intro r s3 _ h
  cases va <;> cases vb <;> exact h

theorem idGate_spec {a : Nat} {va : Bool} (hwf : WF s inp) (ha : Holds s inp a va) :
    Spec inp s (idGate a) (fun o s' => Holds s' inp o va) := by
  unfold idGate
  refine Spec.bind (zeroWire_spec hwf) ?_
  intro z s1 e1 hz
  refine (gate_spec .xor e1.wf (ha.mono e1) hz).mono ?_
  intro r s2 _ h
  cases va <;> exact h

def Bnd (s : St) (ws : List Nat) : Prop := ∀ w ∈ ws, w < s.next

def busVal (s : St) (inp : List Bool) (ws : List Nat) : List Bool := ws.map (s.val inp)

@[simp] theorem busVal_nil (s : St) (inp : List Bool) : busVal s inp [] = [] := rfl
@[simp] theorem busVal_cons (s : St) (inp : List Bool) (w : Nat) (ws : List Nat) :
    busVal s inp (w :: ws) = s.val inp w :: busVal s inp ws := rfl
@[simp] theorem busVal_length (s : St) (inp : List Bool) (ws : List Nat) : (busVal s inp ws).length = ws.length := by
  simp [busVal]
theorem busVal_append (s : St) (inp : List Bool) (a b : List Nat) :
    busVal s inp (a ++ b) = busVal s inp a ++ busVal s inp b := by simp [busVal]
theorem busVal_take (s : St) (inp : List Bool) (a : List Nat) (n : Nat) :
    busVal s inp (a.take n) = (busVal s inp a).take n := by simp [busVal, List.map_take]
theorem busVal_drop (s : St) (inp : List Bool) (a : List Nat) (n : Nat) :
    busVal s inp (a.drop n) = (busVal s inp a).drop n := by simp [busVal, List.map_drop]
theorem busVal_replicate (s : St) (inp : List Bool) (k w : Nat) :
    busVal s inp (List.replicate k w) = List.replicate k (s.val inp w) := by simp [busVal]

theorem Bnd.nil (s : St) : Bnd s [] := fun _ hw => nomatch hw
theorem Bnd.cons {s : St} {w : Nat} {ws : List Nat} (h : w < s.next) (hs : Bnd s ws) : Bnd s (w :: ws) :=
  List.forall_mem_cons.mpr ⟨h, hs⟩
theorem Bnd.head {s : St} {w : Nat} {ws : List Nat} (h : Bnd s (w :: ws)) : w < s.next := h w (by simp)
theorem Bnd.tail {s : St} {w : Nat} {ws : List Nat} (h : Bnd s (w :: ws)) : Bnd s ws :=
  fun x hx => h x (by simp [hx])
theorem Bnd.mono {s s' : St} {inp : List Bool} {ws : List Nat} (e : Ext s s' inp) (h : Bnd s ws) : Bnd s' ws :=
  fun w hw => Nat.lt_of_lt_of_le (h w hw) e.next
theorem Bnd.append {s : St} {a b : List Nat} (ha : Bnd s a) (hb : Bnd s b) : Bnd s (a ++ b) :=
  List.forall_mem_append.mpr ⟨ha, hb⟩
theorem Bnd.take {s : St} {a : List Nat} (ha : Bnd s a) (n : Nat) : Bnd s (a.take n) :=
  fun w hw => ha w (List.mem_of_mem_take hw)
theorem Bnd.drop {s : St} {a : List Nat} (ha : Bnd s a) (n : Nat) : Bnd s (a.drop n) :=
  fun w hw => ha w (List.mem_of_mem_drop hw)
theorem Bnd.replicate {s : St} {w : Nat} (h : w < s.next) (k : Nat) : Bnd s (List.replicate k w) :=
  fun _ hx => (List.mem_replicate.mp hx).2 ▸ h

theorem busVal_ext {s s' : St} {inp : List Bool} {ws : List Nat} (e : Ext s s' inp) (h : Bnd s ws) :
    busVal s' inp ws = busVal s inp ws := by
  apply List.map_congr_left
  intro w hw
  exact e.val w (h w hw)

theorem val_ext {s s' : St} {inp : List Bool} {w : Nat} (e : Ext s s' inp) (h : w < s.next) :
    s'.val inp w = s.val inp w := e.val w h

theorem val_getD (ws : List Nat) (i : Nat) (h : i < ws.length) :
    s.val inp (ws.getD i 0) = (busVal s inp ws).getD i false := by
  rw [getD_of_lt _ _ _ h, getD_of_lt _ _ _ (by simpa using h)]
  simp [busVal]

theorem getD_bnd {s : St} {ws : List Nat} (hb : Bnd s ws) (i : Nat) (h : i < ws.length) :
    ws.getD i 0 < s.next :=
  hb _ (getD_mem ws i 0 h)

structure Bits (s : St) (inp : List Bool) (ws : List Nat) (bs : List Bool) : Prop where
  bnd : Bnd s ws
  val : busVal s inp ws = bs

structure Num (s : St) (inp : List Bool) (ws : List Nat) (n X : Nat) : Prop where
  bnd : Bnd s ws
  len : ws.length = n
  val : toNat (busVal s inp ws) = X

namespace Bits
variable {s s' : St} {inp : List Bool} {ws : List Nat} {bs : List Bool} {w : Nat} {b : Bool}

theorem mono (e : Ext s s' inp) (h : Bits s inp ws bs) : Bits s' inp ws bs :=
  ⟨h.bnd.mono e, by rw [busVal_ext e h.bnd, h.val]⟩
theorem nil : Bits s inp [] [] := ⟨Bnd.nil s, rfl⟩
theorem cons (hw : Holds s inp w b) (h : Bits s inp ws bs) : Bits s inp (w :: ws) (b :: bs) :=
  ⟨Bnd.cons hw.1 h.bnd, by rw [busVal_cons, hw.2, h.val]⟩
theorem uncons (h : Bits s inp (w :: ws) bs) : ∃ b bs', bs = b :: bs' ∧ Holds s inp w b ∧ Bits s inp ws bs' :=
  ⟨_, _, h.val.symm, ⟨h.bnd.head, rfl⟩, h.bnd.tail, rfl⟩
theorem tail (h : Bits s inp ws bs) : Bits s inp ws.tail bs.tail :=
  ⟨fun w hw => h.bnd w (List.mem_of_mem_tail hw), by rw [← h.val]; cases ws <;> rfl⟩
theorem take (h : Bits s inp ws bs) (k : Nat) : Bits s inp (ws.take k) (bs.take k) :=
  ⟨h.bnd.take k, by rw [busVal_take, h.val]⟩
theorem drop (h : Bits s inp ws bs) (k : Nat) : Bits s inp (ws.drop k) (bs.drop k) :=
  ⟨h.bnd.drop k, by rw [busVal_drop, h.val]⟩
theorem append {a b : List Nat} {av bv : List Bool} (ha : Bits s inp a av) (hb : Bits s inp b bv) :
    Bits s inp (a ++ b) (av ++ bv) :=
  ⟨ha.bnd.append hb.bnd, by rw [busVal_append, ha.val, hb.val]⟩
theorem of (h : Bnd s ws) : Bits s inp ws (busVal s inp ws) := ⟨h, rfl⟩
theorem length (h : Bits s inp ws bs) : ws.length = bs.length := by rw [← h.val, busVal_length]
theorem _root_.Mpc.Bld.Holds.bits (h : Holds s inp w b) : Bits s inp [w] [b] := cons h nil
theorem num (h : Bits s inp ws bs) : Num s inp ws bs.length (toNat bs) :=
  ⟨h.bnd, by rw [← h.val, busVal_length], by rw [h.val]⟩
theorem replicate (h : Holds s inp w b) (k : Nat) : Bits s inp (List.replicate k w) (List.replicate k b) :=
  ⟨Bnd.replicate h.1 k, by rw [busVal_replicate, h.2]⟩
theorem getD (h : Bits s inp ws bs) (i : Nat) (hi : i < ws.length) : Holds s inp (ws.getD i 0) (bs.getD i false) :=
  ⟨getD_bnd h.bnd i hi, by rw [val_getD ws i hi, h.val]⟩
theorem last (h : Bits s inp ws bs) (hne : ws ≠ []) : Holds s inp (ws.getLastD 0) (bs.getLastD false) := by
  cases ws with
  | nil => exact absurd rfl hne
  | cons w ws =>
    exact ⟨h.bnd _ (List.getLast_mem (List.cons_ne_nil w ws)), by rw [← h.val]; exact List.getLastD_map.symm⟩
theorem signExt (h : Bits s inp ws bs) (hne : ws ≠ []) (n : Nat) : Bits s inp (signExt ws n) (sextTo bs n) := by
  unfold Bld.signExt sextTo
  rw [← h.length]
  exact h.append (replicate (h.last hne) _)

end Bits

namespace Num
variable {s s' : St} {inp : List Bool} {ws : List Nat} {n X : Nat}

theorem of (h : Bnd s ws) : Num s inp ws ws.length (toNat (busVal s inp ws)) := ⟨h, rfl, rfl⟩

theorem mono (e : Ext s s' inp) (h : Num s inp ws n X) : Num s' inp ws n X :=
  ⟨h.bnd.mono e, h.len, by rw [busVal_ext e h.bnd, h.val]⟩

theorem cast {n' X' : Nat} (h : Num s inp ws n X) (hn : n = n') (hX : X = X') : Num s inp ws n' X' :=
  hn ▸ hX ▸ h

theorem lt (h : Num s inp ws n X) : X < 2 ^ n := by
  have := toNat_lt (busVal s inp ws); rwa [busVal_length, h.len, h.val] at this

theorem nil : Num s inp [] 0 0 := ⟨Bnd.nil s, rfl, rfl⟩

theorem single {w : Nat} {b : Bool} (h : Holds s inp w b) : Num s inp [w] 1 b.toNat :=
  ⟨Bnd.cons h.1 (Bnd.nil s), rfl, by simp [h.2]⟩

theorem one {w : Nat} (h : Holds s inp w true) : Num s inp [w] 1 1 := single h

theorem take (h : Num s inp ws n X) (k : Nat) : Num s inp (ws.take k) (min k n) (X % 2 ^ k) :=
  ⟨h.bnd.take k, by rw [List.length_take, h.len], by rw [busVal_take, toNat_take, h.val]⟩

theorem drop (h : Num s inp ws n X) (k : Nat) : Num s inp (ws.drop k) (n - k) (X / 2 ^ k) :=
  ⟨h.bnd.drop k, by rw [List.length_drop, h.len], by
    rw [busVal_drop, toNat_drop, h.val]⟩

theorem append {a b : List Nat} {na nb A B : Nat} (ha : Num s inp a na A) (hb : Num s inp b nb B) :
    Num s inp (a ++ b) (na + nb) (A + 2 ^ na * B) :=
  ⟨ha.bnd.append hb.bnd, by rw [List.length_append, ha.len, hb.len],
    by rw [busVal_append, toNat_append, busVal_length, ha.len, ha.val, hb.val]⟩

theorem top (h : Num s inp ws (n + 1) X) : Holds s inp (ws.getD n 0) (decide (2 ^ n ≤ X)) := by
  have hw := (Bits.of (inp := inp) h.bnd).getD n (by rw [h.len]; exact Nat.lt_succ_self n)
  have ht := toNat_top (busVal s inp ws) n (by rw [busVal_length, h.len])
  have hl := toNat_take_lt (busVal s inp ws) n
  rw [h.val] at ht
  suffices e : (busVal s inp ws).getD n false = decide (2 ^ n ≤ X) from e ▸ hw
  generalize (busVal s inp ws).getD n false = t at ht
  cases t <;> simp at ht ⊢ <;> omega

theorem bits (h : Num s inp ws n X) : ∃ bs, Bits s inp ws bs ∧ bs.length = n ∧ toNat bs = X :=
  ⟨_, ⟨h.bnd, rfl⟩, by rw [busVal_length, h.len], h.val⟩

theorem cons {w : Nat} {b : Bool} (hw : Holds s inp w b) (h : Num s inp ws n X) :
    Num s inp (w :: ws) (n + 1) (b.toNat + 2 * X) :=
  ⟨Bnd.cons hw.1 h.bnd, by rw [List.length_cons, h.len], by rw [busVal_cons, toNat_cons, hw.2, h.val]⟩

theorem uncons {w : Nat} (h : Num s inp (w :: ws) n X) :
    ∃ b X', Holds s inp w b ∧ Num s inp ws (n - 1) X' ∧ X = b.toNat + 2 * X' :=
  ⟨_, _, ⟨h.bnd.head, rfl⟩, ⟨h.bnd.tail, by rw [← h.len, List.length_cons, Nat.add_sub_cancel], rfl⟩,
    by rw [← h.val, busVal_cons, toNat_cons]⟩

theorem dropLast (h : Num s inp ws (n + 1) X) : Num s inp ws.dropLast n (X % 2 ^ n) := by
  rw [List.dropLast_eq_take, h.len, Nat.add_sub_cancel]
  exact (h.take n).cast (Nat.min_eq_left (Nat.le_succ n)) rfl

theorem getLastD (h : Num s inp ws (n + 1) X) : Holds s inp (ws.getLastD 0) (decide (2 ^ n ≤ X)) := by
  rw [List.getLastD_eq_getLast?, List.getLast?_eq_getElem?, ← List.getD_eq_getElem?_getD, h.len, Nat.add_sub_cancel]
  exact h.top

theorem unsnoc {w : Nat} (h : Num s inp (ws ++ [w]) (n + 1) X) :
    Holds s inp w (decide (2 ^ n ≤ X)) ∧ Num s inp ws n (X % 2 ^ n) :=
  ⟨by simpa using h.getLastD, by simpa using h.dropLast⟩

/-- Shift left by one wire, `w` coming in at the bottom; `hX`: the top wire of `ws` carries zero. -/
theorem shiftIn {w : Nat} {b : Bool} (hw : Holds s inp w b) (h : Num s inp ws (n + 1) X) (hX : X < 2 ^ n) :
    Num s inp (w :: ws.dropLast) (n + 1) (b.toNat + 2 * X) := by
  have := (single hw).append (h.dropLast.cast rfl (Nat.mod_eq_of_lt hX))
  rwa [Nat.pow_one, Nat.add_comm 1 n] at this

end Num

def pairVals (s : St) (inp : List Bool) (l : List (Nat × Nat)) : List (Bool × Bool) :=
  l.map fun p => (s.val inp p.1, s.val inp p.2)

def BndP (s : St) (l : List (Nat × Nat)) : Prop := ∀ p ∈ l, p.1 < s.next ∧ p.2 < s.next

theorem BndP.mono {s s' : St} {inp : List Bool} {l : List (Nat × Nat)} (e : Ext s s' inp) (h : BndP s l) :
    BndP s' l := fun p hp => ⟨Nat.lt_of_lt_of_le (h p hp).1 e.next, Nat.lt_of_lt_of_le (h p hp).2 e.next⟩

theorem BndP.head {s : St} {p : Nat × Nat} {l : List (Nat × Nat)} (h : BndP s (p :: l)) :
    p.1 < s.next ∧ p.2 < s.next := h p (by simp)
theorem BndP.tail {s : St} {p : Nat × Nat} {l : List (Nat × Nat)} (h : BndP s (p :: l)) : BndP s l :=
  fun q hq => h q (by simp [hq])

theorem BndP.zip {s : St} {x y : List Nat} (hx : Bnd s x) (hy : Bnd s y) : BndP s (x.zip y) := by
  intro p hp
  obtain ⟨a, b⟩ := p
  exact ⟨hx a (List.of_mem_zip hp).1, hy b (List.of_mem_zip hp).2⟩

theorem BndP.append {s : St} {a b : List (Nat × Nat)} (ha : BndP s a) (hb : BndP s b) : BndP s (a ++ b) :=
  List.forall_mem_append.mpr ⟨ha, hb⟩

theorem pairVals_ext {s s' : St} {inp : List Bool} {l : List (Nat × Nat)} (e : Ext s s' inp) (h : BndP s l) :
    pairVals s' inp l = pairVals s inp l := by
  apply List.map_congr_left
  intro p hp
  rw [e.val _ (h p hp).1, e.val _ (h p hp).2]

theorem pairVals_zip (s : St) (inp : List Bool) (x y : List Nat) :
    pairVals s inp (x.zip y) = (busVal s inp x).zip (busVal s inp y) := by
  simp only [pairVals, busVal, List.zip_map]
  rfl

@[simp] theorem pairVals_nil (s : St) (inp : List Bool) : pairVals s inp [] = [] := rfl
@[simp] theorem pairVals_cons (s : St) (inp : List Bool) (p : Nat × Nat) (l : List (Nat × Nat)) :
    pairVals s inp (p :: l) = (s.val inp p.1, s.val inp p.2) :: pairVals s inp l := rfl
@[simp] theorem pairVals_length (s : St) (inp : List Bool) (l : List (Nat × Nat)) :
    (pairVals s inp l).length = l.length := by simp [pairVals]

/-- `Bits` for the lists of wire pairs that the ripple, comparator, multiplexer, bitwise and prefix loops run over. -/
structure PBits (s : St) (inp : List Bool) (l : List (Nat × Nat)) (lv : List (Bool × Bool)) : Prop where
  bnd : BndP s l
  val : pairVals s inp l = lv

namespace PBits
variable {s s' : St} {inp : List Bool} {l : List (Nat × Nat)} {lv : List (Bool × Bool)}

theorem mono (e : Ext s s' inp) (h : PBits s inp l lv) : PBits s' inp l lv :=
  ⟨h.bnd.mono e, by rw [pairVals_ext e h.bnd, h.val]⟩
theorem nil : PBits s inp [] [] := ⟨fun _ h => (nomatch h), rfl⟩
theorem eq_nil (h : PBits s inp [] lv) : lv = [] := h.val.symm
theorem length (h : PBits s inp l lv) : l.length = lv.length := by rw [← h.val, pairVals_length]
theorem cons {p : Nat × Nat} {a b : Bool} (ha : Holds s inp p.1 a) (hb : Holds s inp p.2 b) (h : PBits s inp l lv) :
    PBits s inp (p :: l) ((a, b) :: lv) :=
  ⟨List.forall_mem_cons.mpr ⟨⟨ha.1, hb.1⟩, h.bnd⟩, by rw [pairVals_cons, ha.2, hb.2, h.val]⟩
theorem uncons {a b : Nat} (h : PBits s inp ((a, b) :: l) lv) :
    ∃ av bv lv', lv = (av, bv) :: lv' ∧ Holds s inp a av ∧ Holds s inp b bv ∧ PBits s inp l lv' :=
  ⟨_, _, _, h.val.symm, ⟨h.bnd.head.1, rfl⟩, ⟨h.bnd.head.2, rfl⟩, h.bnd.tail, rfl⟩
theorem zip {x y : List Nat} {xv yv : List Bool} (hx : Bits s inp x xv) (hy : Bits s inp y yv) :
    PBits s inp (x.zip y) (xv.zip yv) :=
  ⟨BndP.zip hx.bnd hy.bnd, by rw [pairVals_zip, hx.val, hy.val]⟩
theorem take (h : PBits s inp l lv) (n : Nat) : PBits s inp (l.take n) (lv.take n) :=
  ⟨fun p hp => h.bnd p (List.mem_of_mem_take hp), by rw [← h.val, pairVals, pairVals, List.map_take]⟩
theorem drop (h : PBits s inp l lv) (n : Nat) : PBits s inp (l.drop n) (lv.drop n) :=
  ⟨fun p hp => h.bnd p (List.mem_of_mem_drop hp), by rw [← h.val, pairVals, pairVals, List.map_drop]⟩
theorem append {a b : List (Nat × Nat)} {av bv : List (Bool × Bool)} (ha : PBits s inp a av) (hb : PBits s inp b bv) :
    PBits s inp (a ++ b) (av ++ bv) :=
  ⟨ha.bnd.append hb.bnd, by rw [← ha.val, ← hb.val, pairVals, pairVals, pairVals, List.map_append]⟩
theorem fst (h : PBits s inp l lv) : Bits s inp (l.map Prod.fst) (lv.map Prod.fst) :=
  ⟨fun w hw => by obtain ⟨p, hp, rfl⟩ := List.mem_map.mp hw; exact (h.bnd p hp).1,
    by rw [← h.val, busVal, pairVals, List.map_map, List.map_map]; rfl⟩
theorem snd (h : PBits s inp l lv) : Bits s inp (l.map Prod.snd) (lv.map Prod.snd) :=
  ⟨fun w hw => by obtain ⟨p, hp, rfl⟩ := List.mem_map.mp hw; exact (h.bnd p hp).2,
    by rw [← h.val, busVal, pairVals, List.map_map, List.map_map]; rfl⟩

end PBits

/-- `Bits` for a list of buses: the columns of a Wallace tree, the elements of an array. -/
structure Cols (s : St) (inp : List Bool) (cols : List (List Nat)) (cv : List (List Bool)) : Prop where
  bnd : ∀ c ∈ cols, Bnd s c
  val : cols.map (busVal s inp) = cv

namespace Cols
variable {s s' : St} {inp : List Bool} {cols : List (List Nat)} {cv : List (List Bool)} {c : List Nat} {bv : List Bool}

theorem mono (e : Ext s s' inp) (h : Cols s inp cols cv) : Cols s' inp cols cv :=
  ⟨fun c hc => (h.bnd c hc).mono e, by
    rw [← h.val]; exact List.map_congr_left fun c hc => busVal_ext e (h.bnd c hc)⟩

theorem nil : Cols s inp [] [] := ⟨nofun, rfl⟩

theorem of_nil (h : Cols s inp [] cv) : cv = [] := h.val.symm

theorem cons (hc : Bits s inp c bv) (h : Cols s inp cols cv) : Cols s inp (c :: cols) (bv :: cv) :=
  ⟨List.forall_mem_cons.mpr ⟨hc.bnd, h.bnd⟩, by rw [List.map_cons, hc.val, h.val]⟩

theorem uncons (h : Cols s inp (c :: cols) cv) : ∃ bv cv', cv = bv :: cv' ∧ Bits s inp c bv ∧ Cols s inp cols cv' :=
  ⟨_, _, h.val.symm, ⟨h.bnd c List.mem_cons_self, rfl⟩, fun c' hc' => h.bnd c' (List.mem_cons_of_mem _ hc'), rfl⟩

theorem length (h : Cols s inp cols cv) : cv.length = cols.length := by rw [← h.val, List.length_map]

theorem take (h : Cols s inp cols cv) (k : Nat) : Cols s inp (cols.take k) (cv.take k) :=
  ⟨fun c hc => h.bnd c (List.mem_of_mem_take hc), by rw [← h.val, List.map_take]⟩

theorem drop (h : Cols s inp cols cv) (k : Nat) : Cols s inp (cols.drop k) (cv.drop k) :=
  ⟨fun c hc => h.bnd c (List.mem_of_mem_drop hc), by rw [← h.val, List.map_drop]⟩

theorem snoc {z : List Nat} {zv : List Bool} (h : Cols s inp cols cv) (hz : Bits s inp z zv) :
    Cols s inp (cols ++ [z]) (cv ++ [zv]) :=
  ⟨fun c hc => (List.mem_append.mp hc).elim (h.bnd c) fun hc => List.mem_singleton.mp hc ▸ hz.bnd,
    by rw [List.map_append, h.val, List.map_singleton, hz.val]⟩

theorem getD {d : List Nat} {dv : List Bool} (h : Cols s inp cols cv) (hd : Bits s inp d dv) (i : Nat) :
    Bits s inp (cols.getD i d) (cv.getD i dv) := by
  by_cases hi : i < cols.length
  · rw [getD_of_lt _ _ _ hi, getD_of_lt _ _ _ (h.length ▸ hi)]
    exact ⟨h.bnd _ (List.getElem_mem hi), by simp [← h.val]⟩
  · rw [getD_of_le _ _ _ (by omega), getD_of_le _ _ _ (by rw [h.length]; omega)]; exact hd

end Cols

theorem zeros_bits (hwf : WF s inp) (k : Nat) :
    Spec inp s (zeros k) (fun z s' => Bits s' inp z (List.replicate k false)) := by
  unfold zeros
  split
  · next h => subst h; exact Spec.pure hwf .nil
  · exact (zeroWire_spec hwf).map fun _ _ _ hz => .replicate hz k

theorem zeros_num (hwf : WF s inp) (k : Nat) : Spec inp s (zeros k) (fun z s' => Num s' inp z k 0) :=
  (zeros_bits hwf k).mono fun _ _ _ h => h.num.cast List.length_replicate (toNat_replicate_false k)

theorem zeroPad_bits (hwf : WF s inp) {x y : List Nat} {xv yv : List Bool} (hx : Bits s inp x xv) (hy : Bits s inp y yv) :
    Spec inp s (zeroPad x y) (fun p s' => Bits s' inp p.1 (padTo xv (max xv.length yv.length)) ∧
      Bits s' inp p.2 (padTo yv (max xv.length yv.length))) := by
  unfold zeroPad
  rw [hx.length, hy.length]
  split
  · next h => exact Spec.pure hwf ⟨by rwa [padTo_self (by omega)], by rwa [padTo_self (by omega)]⟩
  · refine Spec.bind (zeroWire_spec hwf) ?_
    intro z s1 e1 hz
    exact Spec.pure e1.wf ⟨(hx.mono e1).append (.replicate hz _), (hy.mono e1).append (.replicate hz _)⟩

theorem zeroPad_num (hwf : WF s inp) {x y : List Nat} {nx ny X Y : Nat} (hx : Num s inp x nx X) (hy : Num s inp y ny Y) :
    Spec inp s (zeroPad x y) (fun p s' => Num s' inp p.1 (max nx ny) X ∧ Num s' inp p.2 (max nx ny) Y) := by
  obtain ⟨xv, bx, rfl, rfl⟩ := hx.bits
  obtain ⟨yv, by', rfl, rfl⟩ := hy.bits
  exact (zeroPad_bits hwf bx by').mono fun _ _ _ h =>
    ⟨h.1.num.cast (padTo_max_left ..) (toNat_padTo ..), h.2.num.cast (padTo_max_right ..) (toNat_padTo ..)⟩

theorem zeroPad_take_num (hwf : WF s inp) {x y : List Nat} {nx ny X Y : Nat} (nz : Nat) (hx : Num s inp x nx X)
    (hy : Num s inp y ny Y) :
    Spec inp s (zeroPad x y) (fun p s' => Num s' inp (p.1.take nz) (min nz (max nx ny)) (X % 2 ^ nz) ∧
      Num s' inp (p.2.take nz) (min nz (max nx ny)) (Y % 2 ^ nz)) :=
  (zeroPad_num hwf hx hy).mono fun _ _ _ h => ⟨h.1.take nz, h.2.take nz⟩

end Mpc.Bld
