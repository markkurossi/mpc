/-
C08 — lemmas about histories over all step kinds and the wire-allocator model (Model/ProcSteps.lean).  What every
allowed step keeps holds after every history (`runHistoryK_invariant`).  On the empty allocator a whole-circuit
compilation numbers its input wires `0 .. Σ bits − 1` and leaves the allocator empty (`compileAlloc_empty`): only
the `gc` of a streaming session fills the free lists, so a pool stays empty along histories without one.
-/
import MpcVerif.Model.ProcSteps

namespace Mpc.PSt

theorem runHistoryK_invariant {σ π : Type} (step : KStep σ π) (P : σ → Prop) (allowed : Req π → Prop)
    (hkeep : ∀ r s, allowed r → P s → P (step r s).2) (h : List (Req π)) :
    ∀ s : σ, (∀ r ∈ h, allowed r) → P s → P (runHistoryK step s h) :=
  fun _ ha hs => List.foldlRecOn h _ hs fun s hs r hr => hkeep r s (ha r hr) hs

theorem runHistoryK_append {σ π : Type} (step : KStep σ π) (s : σ) (h₁ h₂ : List (Req π)) :
    runHistoryK step s (h₁ ++ h₂) = runHistoryK step (runHistoryK step s h₁) h₂ := by
  simp [runHistoryK, List.foldl_append]

theorem runHistoryK_stepNowK {σ π : Type} (h : List (Req π)) (st : σ) :
    runHistoryK (stepNowK (σ := σ) (π := π)) st h = st :=
  runHistoryK_invariant stepNowK (· = st) (fun _ => True) (fun _ _ _ hs => hs) h st (fun _ _ => trivial) rfl

theorem newWires_empty (b : Nat) : newWires b WAlloc.empty = (List.replicate b none, WAlloc.empty) := rfl

theorem newProgram_empty (args : List Nat) :
    newProgram args WAlloc.empty = (args.map fun b => List.replicate b none, WAlloc.empty) := by
  induction args with
  | nil => rfl
  | cons b t ih => simp only [newProgram, newWires_empty, ih, List.map_cons]

theorem flatten_replicates (args : List Nat) :
    (args.map fun b => List.replicate b (none : Option Nat)).flatten = List.replicate args.sum none := by
  induction args with
  | nil => rfl
  | cons b t ih => rw [List.map_cons, List.flatten_cons, ih, List.sum_cons, List.replicate_append_replicate]

theorem assignInputs_unassigned (n : Nat) : ∀ k : Nat,
    assignInputs (List.replicate n none) k = (List.range' k n, k + n) := by
  induction n with
  | zero => exact fun _ => rfl
  | succ n ih =>
    intro k
    rw [List.replicate_succ, assignInputs, ih (k + 1), List.range'_succ, Nat.add_assoc, Nat.add_comm 1 n]

theorem compileAlloc_empty (args : List Nat) :
    compileAlloc args WAlloc.empty = ((List.range' 0 args.sum, args.sum), WAlloc.empty) := by
  simp only [compileAlloc, newProgram_empty, flatten_replicates, assignInputs_unassigned, Nat.zero_add]

theorem stepOn_empty_state {π : Type} (r : Req π) (hk : r.kind ≠ .stream) :
    (stepOn r WAlloc.empty).2 = WAlloc.empty := by
  unfold stepOn
  cases hkind : r.kind <;> simp_all [compileOut, compileAlloc_empty]

theorem runHistoryK_pool_no_stream {π : Type} (h : List (Req π)) (hns : ∀ r ∈ h, r.kind ≠ .stream) :
    runHistoryK (stepPool (π := π) true) WAlloc.empty h = WAlloc.empty :=
  runHistoryK_invariant (stepPool true) (· = WAlloc.empty) (·.kind ≠ .stream)
    (fun r _ hr hs => by subst hs; exact stepOn_empty_state r hr) h _ hns rfl

theorem runHistoryK_pool_cleared {π : Type} (h : List (Req π)) :
    runHistoryK (stepPool (π := π) false) WAlloc.empty h = WAlloc.empty :=
  runHistoryK_invariant (stepPool false) (· = WAlloc.empty) (fun _ => True) (fun _ _ _ _ => rfl) h _
    (fun _ _ => trivial) rfl

end Mpc.PSt
