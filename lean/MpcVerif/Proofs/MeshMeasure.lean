/-
Termination measure of the mesh system: a natural number that every step of
the code as it is, taken from an invariant state, strictly decreases.
-/
import MpcVerif.Proofs.MeshAccept

namespace Mpc.Mesh

variable {c : Cfg} {s s' : State}

def sumTo (f : Nat → Nat) : Nat → Nat
  | 0 => 0
  | b + 1 => sumTo f b + f b

theorem sumTo_congr (f g : Nat → Nat) (b : Nat) (h : ∀ x, x < b → g x = f x) : sumTo g b = sumTo f b := by
  induction b with
  | zero => rfl
  | succ b ih =>
    simp only [sumTo]
    rw [ih (fun x hx => h x (by omega)), h b (by omega)]

theorem sumTo_change (f g : Nat → Nat) (b a : Nat) (ha : a < b) (h : ∀ x, x < b → x ≠ a → g x = f x) :
    sumTo g b + f a = sumTo f b + g a := by
  induction b with
  | zero => omega
  | succ b ih =>
    simp only [sumTo]
    by_cases hab : a = b
    · subst hab
      rw [sumTo_congr f g a (fun x hx => h x (by omega) (by omega))]
      omega
    · have := ih (by omega) (fun x hx hxa => h x (by omega) hxa)
      rw [h b (by omega) (fun e => hab e.symm)]
      omega

theorem sumTo_const (v b : Nat) : sumTo (fun _ => v) b = b * v := by
  induction b with
  | zero => simp [sumTo]
  | succ b ih => simp only [sumTo, ih, Nat.succ_mul]

def run0max (c : Cfg) : Nat := c.n + 1 + (c.m - 1) * (c.n + 2) + (c.n + 1)

/-- Upper bound on the steps the party's `Join`/`Connect` goroutine still takes
(plus what it may still add to its `need` counters). -/
def phaseCost (c : Cfg) : Phase → Nat
  | .done => 0
  | .run k todo => todo.length + 1 + (c.m - (k + 1)) * (c.n + 2) + (if k = 0 then c.n + 1 else 0)
  | .info r => r.length + 1 + (c.m - 1) * (c.n + 2)
  | .hello => run0max c + 3 * (c.m * c.n) + 1
  | .joined => run0max c + 3 * (c.m * c.n) + 2
  | .init => run0max c + 3 * (c.m * c.n) + 3

/-- Steps of the running `acceptConn` before its decrement (`taken`: the store), and 2 when idle: the
decrement takes 3 off through `need`, so it still decreases the sum. -/
def inflCost : Infl → Nat
  | .none => 2
  | .taken .. => 1
  | .stored .. => 0

/-- Steps left for party p: its own goroutine plus three per accept it still
waits for (check, store, decrement). -/
def partyCost (c : Cfg) (s : State) (p : Nat) : Nat :=
  phaseCost c (s.phase p) + 3 * sumTo (s.need p) c.m + inflCost (s.infl p)

def mu (c : Cfg) (s : State) : Nat := sumTo (partyCost c s) c.n

theorem partyCost_congr (c : Cfg) {q : Nat} (hph : s'.phase q = s.phase q)
    (hneed : s'.need q = s.need q) (hinfl : s'.infl q = s.infl q) : partyCost c s' q = partyCost c s q := by
  simp only [partyCost, hph, hneed, hinfl]

theorem mu_lt (c : Cfg) (s s' : State) (p : Nat) (hp : p < c.n)
    (hothers : ∀ q, q ≠ p → partyCost c s' q = partyCost c s q)
    (hlt : partyCost c s' p < partyCost c s p) : mu c s' < mu c s := by
  have := sumTo_change (partyCost c s) (partyCost c s') c.n p hp (fun q _ => hothers q)
  unfold mu
  omega

theorem mu_lt_onlyAt {p : Nat} (ho : OnlyAt p s s') (hp : p < c.n)
    (hlt : partyCost c s' p < partyCost c s p) : mu c s' < mu c s :=
  mu_lt c s s' p hp (fun q hq => partyCost_congr c (ho.phase q hq) (ho.need q hq) (ho.infl q hq)) hlt

theorem length_targets_le (c : Cfg) (s : State) (p k : Nat) (hn : (s.known p).Nodup)
    (h : ∀ x, x ∈ s.known p ↔ x < c.n) : (targets s p k).length ≤ c.n := by
  by_cases hp : p = 0
  · rw [hp, targets_leader]; exact Nat.zero_le _
  · rw [targets_peer s hp]
    have := length_known_of_mem _ hn c.n h
    have := List.length_filter_le (fun q => if q = 0 then decide (k ≠ 0) else decide (p < q)) (s.known p)
    omega

theorem rounds_succ (c : Cfg) (k : Nat) (hk : k + 1 < c.m) :
    (c.m - (k + 1)) * (c.n + 2) = (c.m - (k + 1 + 1)) * (c.n + 2) + (c.n + 2) := by
  have : c.m - (k + 1) = (c.m - (k + 1 + 1)) + 1 := by omega
  rw [this, Nat.succ_mul]

theorem advance_cost (c : Cfg) (s : State) (p k : Nat)
    (hT : (targets s p (k + 1)).length ≤ c.n) :
    phaseCost c (advance c s p (k + 1)) + c.n + 1 < phaseCost c (.run k []) + c.n + 1 := by
  rcases advance_cases c s p (k + 1) with ⟨hlt, e⟩ | ⟨-, e⟩ <;> rw [e]
  · simp only [phaseCost, List.length_nil]
    have := rounds_succ c k hlt
    have : (if k + 1 = 0 then c.n + 1 else 0) = 0 := by simp
    omega
  · simp only [phaseCost]
    omega

theorem infoPhase_cost (c : Cfg) (hc : c.Ok) (s : State) (rest : List Nat) :
    phaseCost c (infoPhase c s rest) ≤ rest.length + 1 + (c.m - 1) * (c.n + 2) := by
  have := hc.m1
  cases rest with
  | nil =>
    rw [infoPhase_nil]
    rcases advance_cases c s 0 1 with ⟨-, e⟩ | ⟨-, e⟩ <;> rw [e]
    · simp only [targets_leader, phaseCost, List.length_nil, Nat.reduceAdd]
      have : (c.m - 2) * (c.n + 2) ≤ (c.m - 1) * (c.n + 2) := Nat.mul_le_mul_right _ (by omega)
      simp; omega
    · simp [phaseCost]
  | cons a l => simp [infoPhase_cons, phaseCost]

theorem need_budget (c : Cfg) (v : Nat) (hv : v ≤ c.n) :
    sumTo (fun k => if k < c.m then v else 0) c.m ≤ c.m * c.n := by
  rw [sumTo_congr (fun _ => v) _ c.m (fun x hx => by simp [hx]), sumTo_const]
  exact Nat.mul_le_mul_left _ hv

theorem measure_step (hc : c.Ok) (h : Inv c s) {e : Ev} (he : e.real = true)
    (hs : step c s e = some s') : mu c s' < mu c s := by
  have hn2 := hc.n2
  cases e with
  | join i =>
    obtain ⟨hph, hi, hin, ho, rfl⟩ := join_shape hs
    apply mu_lt_onlyAt ho hin
    simp only [partyCost, upd_same, hph, phaseCost]
    omega
  | lconnect =>
    obtain ⟨hph, ho, rfl⟩ := lconnect_shape hs
    apply mu_lt_onlyAt ho (by omega)
    simp only [partyCost, upd_same, hph, phaseCost, List.length_nil, run0max, Nat.zero_add]
    have := need_budget c (c.n - 1) (by omega)
    simp only [if_true] at this ⊢
    omega
  | hello i =>
    obtain ⟨hph, ho, rfl⟩ := hello_shape hs
    apply mu_lt_onlyAt ho (h.peer_of_phase (Or.inl hph)).2
    simp only [partyCost, upd_same, hph, phaseCost]
    omega
  | oldDec | oldStore => cases he
  | accTake j i k =>
    obtain ⟨hacc, hinfl, hp, rfl⟩ := accTake_shape h hs
    apply mu_lt c _ _ j (h.pendFacts hp).jn
    · intro q hq; exact partyCost_congr c rfl rfl (upd_ne _ _ _ _ hq)
    · simp only [partyCost, upd_same, hinfl, inflCost]
      omega
  | accStore j =>
    obtain ⟨i, k, ht, kn', hkn, ho, rfl⟩ := accStore_shape hc h hs
    apply mu_lt_onlyAt ho (h.takenFacts ht).jn
    simp only [partyCost, upd_same, ht, inflCost]
    omega
  | accDec j =>
    obtain ⟨i, k, ht, ho, rfl⟩ := accDec_shape h hs
    have hf := h.storedFacts ht
    have hnd := h.need_eq_of_stored ht
    apply mu_lt_onlyAt ho hf.jn
    -- one counter goes down by one (3), the goroutine becomes idle (+2)
    have := sumTo_change (s.need j) (upd2 s.need j k (s.need j k - 1) j) c.m k hf.km
      (by intro x _ hx; rw [upd2_apply, if_neg (fun e => hx e.2)])
    simp only [upd2_apply, true_and, if_true] at this
    simp only [partyCost, upd_same, ht, inflCost]
    omega
  | waitDone p =>
    obtain ⟨k, hph, h0, rfl⟩ := waitDone_shape hs
    have hpn : p < c.n := h.lt_n (by rw [hph]; simp)
    apply mu_lt_onlyAt (onlyAt_phase s p _) hpn
    simp only [partyCost, upd_same, hph]
    split
    · rename_i e0
      obtain ⟨rfl, rfl⟩ := e0
      obtain ⟨hkm, hklen, _⟩ := h.leader_all hc h0 (by rw [hph]; simp)
      have := infoPhase_cost c hc s ((s.known 0).filter (· ≠ 0))
      have := List.length_filter_le (fun x => decide (x ≠ 0)) (s.known 0)
      have h2 : phaseCost c (.run 0 []) = 1 + (c.m - 1) * (c.n + 2) + (c.n + 1) := by simp [phaseCost]
      rw [h2]
      omega
    · have hk : k < c.m := h.run_lt hph
      have hT : (targets s p (k + 1)).length ≤ c.n := by
        by_cases hp0 : p = 0
        · subst hp0; simp [targets_leader]
        · have hA := (h.peer p (by omega) hpn).active_run hph
          exact length_targets_le c s p (k + 1) hA.knownNodup hA.knownMem
      have := advance_cost c s p k hT
      omega
  | info =>
    obtain ⟨j, rest, hph, rfl⟩ := info_shape hs
    apply mu_lt c _ _ 0 (by omega)
    · intro q hq; exact partyCost_congr c (upd_ne _ _ _ _ hq) rfl rfl
    · have := infoPhase_cost c hc s rest
      have h2 : phaseCost c (.info (j :: rest)) = rest.length + 1 + 1 + (c.m - 1) * (c.n + 2) := rfl
      simp only [partyCost, upd_same, hph, h2]
      omega
  | recvInfo i =>
    obtain ⟨l, kn, -, hph, hml, hip, hin, hllen, hknd, hkm, hna, ho, rfl⟩ := recvInfo_shape hc h hs
    apply mu_lt_onlyAt ho hin
    have := need_budget c ((l.filter (· < i)).length) (by
      have := List.length_filter_le (fun x => decide (x < i)) l; omega)
    have := List.length_filter_le (fun q => if q = 0 then decide (0 ≠ 0) else decide (i < q)) kn
    have := length_known_of_mem _ hknd c.n hkm
    simp only [partyCost, upd_same, hph, phaseCost, run0max, if_true, Nat.zero_add]
    omega
  | dial i =>
    obtain ⟨k, j, rest, pre, hph, hf, ho, rfl⟩ := dial_shape hc h hs
    apply mu_lt_onlyAt ho hf.inn
    simp only [partyCost, upd_same, hph, phaseCost, List.length_cons]
    omega

end Mpc.Mesh
