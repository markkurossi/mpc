/-
The process model (Model/Sha2pcProc.lean).  A step writes the slots of its own session only and a step that does not
succeed writes nothing.  So a history is the history of its successful events (`Proc.runD_effective`); when every
disturbed event fails it is the failure-free history of its undisturbed events (`Proc.runD_erase`), after which the
state of session `j` is `Sess.run` on the steps of `j` (`Proc.run_proj`).  `Rounds.Sound` makes all ways of consuming
a session's values agree, which gives the slots of a complete session (`Sess.run_complete`); `Rounds.Rejecting` makes
a step with a failing random source or a cut / extended message fail in every state, so that histories disturbed in
these ways only satisfy `Proc.DistFail` (`Proc.distFail_of_unconditional`).  All of this for any round functions.  The
sha2pc rounds have both: `SessCfg.rounds_sound` from `SessCfg.Good`, `SessCfg.rounds_rejecting` because every decoder
accepts one length only.
-/
import MpcVerif.Model.Sha2pcProc
import MpcVerif.Proofs.Sha2pcCorrect

namespace Mpc.Sha2pc

variable {T : Ty}

theorem Proc.step_other (cfg : Cfg T) (st : Proc T) (e : Nat × Act) (j : Nat) (h : j ≠ e.1) :
    Proc.step cfg st e j = st j := by
  simp [Proc.step, h]

theorem Proc.step_self (cfg : Cfg T) (st : Proc T) (e : Nat × Act) :
    Proc.step cfg st e e.1 = (st e.1).step (cfg e.1) e.2 := by
  simp [Proc.step]

theorem proj_cons_self (j : Nat) (a : Act) (es : List (Nat × Act)) : proj j ((j, a) :: es) = a :: proj j es := by
  simp [proj]

theorem proj_cons_other (j : Nat) (e : Nat × Act) (es : List (Nat × Act)) (h : j ≠ e.1) :
    proj j (e :: es) = proj j es := by
  have : (e.1 == j) = false := by simp; exact fun h' => h h'.symm
  simp [proj, this]

theorem Proc.run_proj (cfg : Cfg T) (sched : List (Nat × Act)) :
    ∀ (st : Proc T) (j : Nat), Proc.run cfg st sched j = (st j).run (cfg j) (proj j sched) := by
  induction sched with
  | nil => intro st j; rfl
  | cons e es ih =>
    intro st j
    refine (ih (Proc.step cfg st e) j).trans ?_
    by_cases h : j = e.1
    · obtain ⟨i, a⟩ := e
      obtain rfl : j = i := h
      rw [proj_cons_self, Proc.step_self]
      rfl
    · rw [proj_cons_other j e es h, Proc.step_other cfg st e j h]

theorem proj_nil_of_absent (j : Nat) (sched : List (Nat × Act)) (h : ∀ e ∈ sched, e.1 ≠ j) : proj j sched = [] := by
  induction sched with
  | nil => rfl
  | cons e es ih =>
    rw [proj_cons_other j e es (fun h' => h e (by simp) h'.symm)]
    exact ih (fun e' he' => h e' (by simp [he']))

/-- The values of the session when it runs alone, and the facts that make
every way of consuming them equivalent: each round succeeds on the values of
the rounds before, each trip through bytes returns the value. -/
structure Rounds.Sound (R : Rounds T) (m2 : T.M2) (es : T.ES) (m3 : T.M3) (d : T.D) : Prop where
  h2 : R.r2 R.r1.1 = .ok (m2, es)
  h3 : R.r3 R.r1.2 m2 = .ok m3
  h4 : R.r4 es m3 = .ok d
  b1 : R.t1 R.r1.1 = .ok R.r1.1
  bg : R.tg R.r1.2 = .ok R.r1.2
  b2 : R.t2 m2 = .ok m2
  be : R.te es = .ok es
  b3 : R.t3 m3 = .ok m3

theorem thru_ok {α : Type} (t : α → Res α) (v : α) (h : t v = .ok v) (b : Bool) : thru t b v = .ok v := by
  cases b <;> simp [thru, h]

theorem Sess.step_e4 (R : Rounds T) (s : Sess T) (es : T.ES) (m3 : T.M3) (d : T.D) (hes : s.es = some es)
    (hm3 : s.m3 = some m3) (be : R.te es = .ok es) (b3 : R.t3 m3 = .ok m3) (h4 : R.r4 es m3 = .ok d) :
    ∀ a : Act, a.isE4 = true → s.step R a = { s with out := some d }
  | .e4 x y, _ => by
    simp only [Sess.step, Sess.stepRes, hes, hm3, thru_ok _ _ be, thru_ok _ _ b3, h4, Res.ok_bind, Res.pure_eq]
  | .g1, h | .e2 _, h | .g3 _ _, h => nomatch h

theorem Sess.run_e4s (R : Rounds T) (es : T.ES) (m3 : T.M3) (d : T.D) (be : R.te es = .ok es) (b3 : R.t3 m3 = .ok m3)
    (h4 : R.r4 es m3 = .ok d) :
    ∀ (acts : List Act) (s : Sess T), s.es = some es → s.m3 = some m3 → (∀ a ∈ acts, a.isE4 = true) → acts ≠ [] →
      s.run R acts = { s with out := some d } := by
  intro acts
  induction acts with
  | nil => intro s _ _ _ hne; exact absurd rfl hne
  | cons a l ih =>
    intro s hes hm3 hall _
    rw [show s.run R (a :: l) = (s.step R a).run R l from rfl,
      Sess.step_e4 R s es m3 d hes hm3 be b3 h4 a (hall a List.mem_cons_self)]
    by_cases hl : l = []
    · subst hl; rfl
    · exact ih { s with out := some d } hes hm3 (fun a' ha' => hall a' (List.mem_cons_of_mem _ ha')) hl

theorem Sess.run_complete (R : Rounds T) (m2 : T.M2) (es : T.ES) (m3 : T.M3) (d : T.D) (hs : R.Sound m2 es m3 d)
    (s : Sess T) (x y z : Bool) (e4s : List Act) (hall : ∀ a ∈ e4s, a.isE4 = true) (hne : e4s ≠ []) :
    s.run R (.g1 :: .e2 x :: .g3 y z :: e4s) =
      { m1 := some R.r1.1, gs := some R.r1.2, m2 := some m2, es := some es, m3 := some m3, out := some d } := by
  have h3 : ((s.step R .g1).step R (.e2 x)).step R (.g3 y z) =
      { s with m1 := some R.r1.1, gs := some R.r1.2, m2 := some m2, es := some es, m3 := some m3 } := by
    simp only [Sess.step, Sess.stepRes, thru_ok _ _ hs.b1, thru_ok _ _ hs.bg, thru_ok _ _ hs.b2, hs.h2, hs.h3,
      Res.ok_bind, Res.pure_eq]
  show (((s.step R .g1).step R (.e2 x)).step R (.g3 y z)).run R e4s = _
  rw [h3, Sess.run_e4s R es m3 d hs.be hs.b3 hs.h4 e4s _ rfl rfl hall hne]

theorem Proc.stepD_other (cfg : Cfg T) (st : Proc T) (e : Ev) (j : Nat) (h : j ≠ e.sess) :
    Proc.stepD cfg st e j = st j := by
  unfold Proc.stepD
  cases Proc.stepResD cfg st e with
  | none => rfl
  | some r =>
    cases r with
    | ok s' => simp [h]
    | error => rfl
    | panic => rfl

theorem Proc.stepD_failed (cfg : Cfg T) (st : Proc T) (e : Ev) (h : Proc.okAt cfg st e = false) :
    Proc.stepD cfg st e = st := by
  unfold Proc.okAt at h
  unfold Proc.stepD
  split
  · rename_i s' hs
    rw [hs] at h
    cases h
  · rfl

theorem Proc.stepD_clean (cfg : Cfg T) (st : Proc T) (e : Ev) (h : e.dist = none) :
    Proc.stepD cfg st e = Proc.step cfg st (e.sess, e.act) := by
  funext j
  have hres : Proc.stepResD cfg st e = (st e.sess).stepRes (cfg e.sess) e.act := by
    simp [Proc.stepResD, Sess.stepResD, h]
  unfold Proc.stepD Proc.step Sess.step
  rw [hres]
  by_cases hj : j = e.sess
  · subst hj
    cases hr : (st e.sess).stepRes (cfg e.sess) e.act with
    | none => simp
    | some r => cases r <;> simp
  · cases hr : (st e.sess).stepRes (cfg e.sess) e.act with
    | none => simp [hj]
    | some r => cases r <;> simp [hj]

theorem Proc.runD_cons (cfg : Cfg T) (st : Proc T) (e : Ev) (es : List Ev) :
    Proc.runD cfg st (e :: es) = Proc.runD cfg (Proc.stepD cfg st e) es := rfl

theorem Proc.runD_effective (cfg : Cfg T) (sched : List Ev) :
    ∀ st : Proc T, Proc.runD cfg st sched = Proc.runD cfg st (Proc.effective cfg st sched) := by
  induction sched with
  | nil => intro st; rfl
  | cons e es ih =>
    intro st
    rw [Proc.runD_cons, Proc.effective]
    cases hok : Proc.okAt cfg st e with
    | false =>
      rw [if_neg Bool.false_ne_true, Proc.stepD_failed cfg st e hok]
      exact ih st
    | true =>
      rw [if_pos rfl, Proc.runD_cons]
      exact ih _

theorem Proc.runD_frame (cfg : Cfg T) (st : Proc T) (sched : List Ev) (j : Nat) (h : ∀ e ∈ sched, e.sess ≠ j) :
    Proc.runD cfg st sched j = st j := by
  induction sched generalizing st with
  | nil => rfl
  | cons e es ih =>
    rw [Proc.runD_cons, ih _ fun e' he' => h e' (List.mem_cons_of_mem _ he')]
    exact Proc.stepD_other cfg st e j fun h' => h e List.mem_cons_self h'.symm

theorem cleanSched_cons_clean (e : Ev) (es : List Ev) (h : e.dist = none) :
    cleanSched (e :: es) = (e.sess, e.act) :: cleanSched es := by
  simp [cleanSched, h]

theorem cleanSched_cons_dist (e : Ev) (es : List Ev) {d : Dist} (h : e.dist = some d) :
    cleanSched (e :: es) = cleanSched es := by
  simp [cleanSched, h]

theorem Proc.runD_erase (cfg : Cfg T) (sched : List Ev) :
    ∀ st : Proc T, Proc.DistFail cfg st sched → Proc.runD cfg st sched = Proc.run cfg st (cleanSched sched) := by
  induction sched with
  | nil => intro st _; rfl
  | cons e es ih =>
    intro st hf
    obtain ⟨h1, h2⟩ := hf
    rw [Proc.runD_cons, ih _ h2]
    cases hd : e.dist with
    | none =>
      rw [cleanSched_cons_clean e es hd, Proc.stepD_clean cfg st e hd]
      rfl
    | some d =>
      rw [cleanSched_cons_dist e es hd, Proc.stepD_failed cfg st e (h1 (by rw [hd]; rfl))]

/-- A disturbance the sha2pc rounds answer with an error (or a decoder error)
in EVERY process state: a failing random source, a message whose bytes were cut
or extended in transit.  (A foreign message is rejected when the session ids
differ: `foreign_g3_fails`, `foreign_e4_fails`.)  `true` of an undisturbed event as well, so that
`∀ e ∈ sched, e.unconditional` constrains the disturbed events only. -/
def Ev.unconditional (e : Ev) : Bool :=
  match e.dist with
  | none => true
  | some (.rng _ _) => true
  | some (.malformed _) => true
  | some _ => false

theorem okAt_false_of {cfg : Cfg T} {st : Proc T} {e : Ev}
    (h : ∀ s', Proc.stepResD cfg st e ≠ some (.ok s')) : Proc.okAt cfg st e = false := by
  unfold Proc.okAt
  split
  · rename_i s' hs; exact absurd hs (h s')
  · rfl

/-- What the failing steps of a session do not do, as `Rounds.Sound` says what the others do: a round whose random
source fails returns no value, nor does the trip through bytes of a message that was mutated in transit. -/
structure Rounds.Rejecting (R : Rounds T) : Prop where
  x1 : ∀ off kind r, R.x1 off kind ≠ .ok r
  x2 : ∀ off kind m r, R.x2 off kind m ≠ .ok r
  x3 : ∀ off kind g m r, R.x3 off kind g m ≠ .ok r
  u1 : ∀ mu m m', R.u1 mu m ≠ .ok m'
  u2 : ∀ mu m m', R.u2 mu m ≠ .ok m'
  u3 : ∀ mu m m', R.u3 mu m ≠ .ok m'

/-- A step that returned a value has run its whole chain (`Res.bind_eq_ok`), and in rounds 1, 2, 3 the chain of a step
whose random source fails contains the draw `x1`/`x2`/`x3`; round 4 draws nothing. -/
theorem Rounds.Rejecting.rng_fails {R : Rounds T} (hR : R.Rejecting) (st : Nat → Sess T) (s : Sess T) (a : Act)
    (off kind : Nat) (s' : Sess T) : s.stepResD R st a (some (.rng off kind)) ≠ some (.ok s') := by
  intro h
  cases a
  all_goals simp only [Sess.stepResD] at h
  all_goals try split at h
  all_goals simp only [Option.some.injEq, Res.bind_eq_ok, reduceCtorEq] at h
  · obtain ⟨_, hx, _⟩ := h
    exact hR.x1 _ _ _ hx
  · obtain ⟨_, _, _, hx, _⟩ := h
    exact hR.x2 _ _ _ _ hx
  · obtain ⟨_, _, _, _, _, hx, _⟩ := h
    exact hR.x3 _ _ _ _ _ hx

/-- In the same way the chain of a round that receives a mutated message contains its decoding `u1`/`u2`/`u3`. -/
theorem Rounds.Rejecting.malformed_fails {R : Rounds T} (hR : R.Rejecting) (st : Nat → Sess T) (s : Sess T) (a : Act)
    (mu : Nat) (s' : Sess T) : s.stepResD R st a (some (.malformed mu)) ≠ some (.ok s') := by
  intro h
  cases a
  all_goals simp only [Sess.stepResD] at h
  all_goals try split at h
  all_goals simp only [Option.some.injEq, Res.bind_eq_ok, reduceCtorEq] at h
  · obtain ⟨_, hm, _⟩ := h
    exact hR.u1 _ _ _ hm
  · obtain ⟨_, _, _, hm, _⟩ := h
    exact hR.u2 _ _ _ hm
  · obtain ⟨_, _, _, hm, _⟩ := h
    exact hR.u3 _ _ _ hm

theorem Proc.unconditional_fails (cfg : Cfg T) (hR : ∀ i, (cfg i).Rejecting) (st : Proc T) (e : Ev)
    (hd : e.dist.isSome = true) (hu : e.unconditional = true) : Proc.okAt cfg st e = false := by
  apply okAt_false_of
  intro s'
  obtain ⟨i, a, d⟩ := e
  cases d with
  | none => cases hd
  | some d =>
    cases d with
    | rng off kind => exact (hR i).rng_fails st (st i) a off kind s'
    | malformed mu => exact (hR i).malformed_fails st (st i) a mu s'
    | foreignMsg src => cases hu
    | foreignState src => cases hu

theorem Proc.distFail_of_unconditional (cfg : Cfg T) (hR : ∀ i, (cfg i).Rejecting) (st : Proc T) (sched : List Ev)
    (h : ∀ e ∈ sched, e.unconditional = true) : Proc.DistFail cfg st sched := by
  induction sched generalizing st with
  | nil => trivial
  | cons e es ih =>
    exact ⟨fun hd => Proc.unconditional_fails cfg hR st e hd (h e List.mem_cons_self),
      ih _ fun e' he' => h e' (List.mem_cons_of_mem _ he')⟩

/-- What is assumed of one session: the hypotheses of `correct_given_circuit`
(well-formed embedded circuit with 256+256 inputs and 256 defined outputs,
32-byte inputs, no point at infinity) and that the produced values are
encodable: the curve description is sane, session id / key have their Go
widths, coordinates and scalars fit the field width and decompression returns
the ordinate of every choice point. -/
structure SessCfg.Good (c : SessCfg) : Prop where
  hwf : c.P.circ.WF = true
  hnin : c.P.circ.nIn = nBits + nBits
  hnout : c.P.circ.nOut = nBits
  hod : c.P.circ.outputsDefined = true
  ha : c.a.length = 32
  hb : c.b.length = 32
  hA : c.P.crypto.onCurve (Co.senderSetup c.P.crypto.Γ c.P.crypto.g c.aS).A
  hI : c.P.crypto.onCurve (Co.senderSetup c.P.crypto.Γ c.P.crypto.g c.aS).AaInv
  hP : ∀ i, i < nBits → c.P.crypto.onCurve (Co.choicePoint c.P.crypto.Γ c.P.crypto.g
      (Co.senderSetup c.P.crypto.Γ c.P.crypto.g c.aS).A (c.scalars.getD i 0) ((bytesToBits c.b).getD i false))
  curve : c.P.curve.WF
  key : c.key.length = keyLen
  m1wf : (round1 c.P c.aS c.sid).1.WF c.P.curve
  gswf : (round1 c.P c.aS c.sid).2.WF c.P.curve
  r2wf : ∀ m2 es, round2 c.P (round1 c.P c.aS c.sid).1 c.b c.scalars = .ok (m2, es) → m2.WF c.P.curve ∧ es.WF c.P.curve

/-- What stands where the digest `SHA-256(a xor b)` should: the plain evaluation of the embedded circuit, packed.  That
the two are equal is validated on every run, not proved. -/
def SessCfg.result (c : SessCfg) : Bytes :=
  bitsToBytes (c.P.circ.compute (bytesToBits c.a ++ bytesToBits c.b))

theorem SessCfg.rounds_sound (c : SessCfg) (hg : c.Good) :
    ∃ m2 es m3, c.rounds.Sound (T := sha2pcTy) m2 es m3 c.result := by
  obtain ⟨m2, es, m3, h2, h3, h4⟩ := correct_given_circuit c.P c.a c.b c.aS c.sid c.scalars c.key c.r0 c.inl
    hg.hwf hg.hnin hg.hnout hg.hod hg.ha hg.hb hg.hA hg.hI hg.hP
  obtain ⟨hm2, hes⟩ := hg.r2wf m2 es h2
  have hm3 : m3.WF (countsOf c.P.circ) :=
    round3_WF c.P _ c.a m2 c.key c.r0 c.inl m3 hg.gswf.sid hg.key hg.hnout h3
  exact ⟨m2, es, m3, {
    h2 := h2, h3 := h3, h4 := h4
    b1 := Res.bind_eq_ok.mpr ⟨_, encodeRound1_eq _ _ hg.m1wf.name, decodeRound1_bytes _ hg.curve _ hg.m1wf⟩
    bg := Res.bind_eq_ok.mpr ⟨_, encodeGarblerSession_eq _ _ hg.gswf.name, decodeGarblerSession_bytes _ hg.curve _ hg.gswf⟩
    b2 := Res.bind_eq_ok.mpr ⟨_, encodeRound2_eq _ _ hm2.count, decodeRound2_bytes _ hg.curve _ hm2⟩
    be := Res.bind_eq_ok.mpr ⟨_, encodeEvaluatorSession_eq _ _ hes, decodeEvaluatorSession_bytes _ hg.curve _ hes⟩
    b3 := Res.bind_eq_ok.mpr ⟨_, encodeRound3_eq _ _ hm3, decodeRound3_bytes _ _ hm3⟩ }⟩

theorem mutate_length_ne (mu : Nat) (bs : Bytes) (h : 0 < bs.length) : (mutate mu bs).length ≠ bs.length := by
  unfold mutate
  split
  · have := Nat.mod_lt (mu / 2) h
    simp only [List.length_take]
    omega
  · simp

/-- Every sha2pc message has one length `L > 0` that its decoder accepts, and `mutate` changes the length
(`mutate_length_ne`). -/
theorem mutate_not_decoded {α : Type} (L : Nat) (hL : 0 < L) (enc : Res Bytes) (dec : Bytes → Res α)
    (henc : ∀ bs, enc = .ok bs → bs.length = L) (hdec : ∀ d m, dec d = .ok m → d.length = L) (mu : Nat) (m' : α) :
    (enc >>= fun bs => dec (mutate mu bs)) ≠ .ok m' := by
  intro h
  obtain ⟨bs, he, hd⟩ := Res.bind_eq_ok.mp h
  have h1 := henc bs he
  exact mutate_length_ne mu bs (h1 ▸ hL) ((hdec _ _ hd).trans h1.symm)

theorem round3Len_pos (counts : List Nat) : 0 < round3Len counts := by
  unfold round3Len
  omega

/-- The failing draws of `SessCfg.rounds` are errors by definition; the mutated trips by `mutate_not_decoded`. -/
theorem SessCfg.rounds_rejecting (c : SessCfg) (hc : c.P.curve.WF) (hp : c.P.curve.ParitySound) :
    c.rounds.Rejecting (T := sha2pcTy) where
  x1 := fun _ _ _ => nofun
  x2 := fun _ _ _ _ => nofun
  x3 := fun _ _ _ _ _ => nofun
  u1 := fun mu (m m' : Round1) =>
    mutate_not_decoded _ (by omega) _ _ (fun _ he => encodeRound1_ok he ▸ m.bytes_length _ hc)
      (fun _ m h => (decodeRound1_ok h).1 ▸ m.bytes_length _ hc) mu m'
  u2 := fun mu (m m' : Round2) =>
    mutate_not_decoded _ (by omega) _ _ (fun _ he => (encodeRound2_ok he).1 ▸ m.bytes_length _ hc (encodeRound2_ok he).2)
      (fun _ m h => (decodeRound2_ok hp h).1 ▸ m.bytes_length _ hc (decodeRound2_ok hp h).2.count) mu m'
  u3 := fun mu (m m' : Round3) =>
    mutate_not_decoded _ (round3Len_pos _) _ _ (fun _ he => (encodeRound3_ok he).2) (decodeRound3_length _) mu m'

theorem SessCfg.foreign_g3_fails (c : SessCfg) (st : Nat → Sess sha2pcTy) (s : Sess sha2pcTy) (src : Nat)
    (gs : GarblerSession) (m2 : Round2) (hgs : s.gs = some gs) (hm : (st src).m2 = some m2) (hsid : m2.sid ≠ gs.sid) :
    s.stepResD c.rounds st (.g3 false false) (some (.foreignMsg src)) = some .error := by
  simp only [Sess.stepResD, hgs, hm, thru]
  have : c.rounds.r3 gs m2 = .error := round3_sid_mismatch c.P gs c.a m2 c.key c.r0 c.inl hsid
  simp [this]

theorem SessCfg.foreign_e4_fails (c : SessCfg) (st : Nat → Sess sha2pcTy) (s : Sess sha2pcTy) (src : Nat)
    (es : EvaluatorSession) (m3 : Round3) (hsid : m3.sid ≠ es.sid) :
    (s.es = some es → (st src).m3 = some m3 →
      s.stepResD c.rounds st (.e4 false false) (some (.foreignMsg src)) = some .error) ∧
    ((st src).es = some es → s.m3 = some m3 →
      s.stepResD c.rounds st (.e4 false false) (some (.foreignState src)) = some .error) := by
  have : c.rounds.r4 es m3 = .error := round4_sid_mismatch c.P es m3 hsid
  constructor
  · intro h1 h2
    simp only [Sess.stepResD, h1, h2, thru]
    simp [this]
  · intro h1 h2
    simp only [Sess.stepResD, h1, h2, thru]
    simp [this]

end Mpc.Sha2pc
