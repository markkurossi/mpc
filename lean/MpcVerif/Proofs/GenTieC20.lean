/-
T1 tie (DESIGN.md 1.3) of `vole.bytes32` (vole/vole.go: the fixed 32-byte big-endian encoding of
a field element in the y- and u-vectors) to `Mpc.Vole.bytes32` of the C20 model Model/Vole.lean: the
definition of MpcVerif/Gen/LeafC20.lean, regenerated from the current Go source by `gofacts
translate -group C20` on every run of checks/C20.py, returns the model's bytes, and `none` (Go: the
slice expression `out[32-len(b):]` panics) exactly when the model does.  `(*big.Int).Bytes()` is read
as the big-endian bytes of the absolute value (`bigBytes`, Gen/Prelude.lean).
-/
import MpcVerif.Gen.LeafC20
import MpcVerif.Proofs.GenTieLib
import MpcVerif.Model.Vole

namespace Mpc.GenTie
open Mpc Mpc.Gen Mpc.Gen.C20

/-- The translator's reading of `big.Int.Bytes` is the model's `natToBytesBE`. -/
theorem natBytesBE_eq (n : Nat) : natBytesBE n = (natToBytesBE n).map UInt8.toBitVec := by
  induction n using Nat.strongRecOn with
  | _ n ih =>
    rw [natBytesBE, natToBytesBE]
    by_cases h : n = 0
    · simp [h]
    · have := ih (n / 256) (by omega)
      simp only [h, dite_false, this, List.map_append, List.map_cons, List.map_nil]
      congr 2
      exact (u8_bv n).symm

theorem tie_bytes32_nil : Gen.C20.bytes32 none = some (Array.replicate 32 0#8) := by
  simp [Gen.C20.bytes32]

theorem tie_bytes32 (v : Int) (hlen : (natToBytesBE v.natAbs).length < 2^63) :
    (Gen.C20.bytes32 (some v)).map (fun a => a.toList.map UInt8.ofBitVec) = Vole.bytes32 v.natAbs := by
  have hbb : bigBytes v = ((natToBytesBE v.natAbs).map UInt8.toBitVec).toArray := by simp [bigBytes, natBytesBE_eq]
  have h32 : (32#64).toNat = 32 := rfl
  simp only [Gen.C20.bytes32, Vole.bytes32, Option.isNone_some, Option.getD_some, Bool.false_eq_true, if_false, slt_zero,
    Array.size_replicate, h32]
  generalize natToBytesBE v.natAbs = b at hlen hbb ⊢
  have hsz : (bigBytes v).size = b.length := by simp [hbb]
  simp only [hsz]
  by_cases hl : b.length ≤ 32
  · have hsub : (32#64 - BitVec.ofNat 64 b.length).toNat = 32 - b.length := ofNat_sub_toNat 32 b.length (by omega) hl
    simp only [hsub, hl, show ¬ (2^63 ≤ 32 - b.length) by omega, show ¬ (32 < 32 - b.length) by omega, decide_false,
      Bool.false_eq_true, if_false, if_true, Option.map_some]
    refine congrArg some ?_
    apply List.ext_getElem
    · simp [size_copyAt]; omega
    · intro i h1 h2
      have hi : i < 32 := by simpa [size_copyAt] using h1
      simp only [List.getElem_map, Array.getElem_toList, getElem_copyAt, hbb]
      by_cases hlt : i < 32 - b.length
      · simp [hlt, List.getElem_append_left, show ¬ (32 - b.length ≤ i) by omega]
      · have h3 : i - (32 - b.length) < b.length := by omega
        simp [hlt, h3, show 32 - b.length ≤ i by omega, List.getElem_append_right]
  · have hsub : (32#64 - BitVec.ofNat 64 b.length).toNat = 2^64 + 32 - b.length := by
      simp only [BitVec.toNat_sub, BitVec.toNat_ofNat]; omega
    simp [hl, hsub, show 2^63 ≤ 2^64 + 32 - b.length by omega]

example : Gen.C20.bytes32 (some 258) = some (Array.replicate 30 0#8 ++ #[1#8, 2#8]) := by decide +kernel

end Mpc.GenTie
