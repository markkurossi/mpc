/-
Lemmas for the Chou-Orlandi model (Model/Co.lean) and the RSA OT model
(Model/RsaOt.lean; its `transfer` is `wire` of Model/RsaOtBytes.lean followed by
the unpadding).  Core Lean only.
-/
import MpcVerif.Model.Co
import MpcVerif.Model.RsaOtBytes
namespace Mpc.Co
open Mpc.Iknp (Label)
variable {G : Type}

theorem add_neg_cancel_right (Γ : Group G) (a b : G) : Γ.add (Γ.add a b) (Γ.neg b) = a := by
  rw [Γ.add_assoc, Γ.add_neg, Γ.add_zero]

theorem xor_cancel (m x : Label) : (m ^^^ x) ^^^ m = x := by
  rw [BitVec.xor_comm m x, BitVec.xor_assoc, BitVec.xor_self, BitVec.xor_zero]

/-- See `C06_co_masks_agree`. -/
theorem masks_agree (Γ : Group G) (g : G) (a b : Nat) (bit : Bool) :
    (let s := senderSetup Γ g a
     let B := Γ.smul s.a (choicePoint Γ g s.A b bit)
     if bit then Γ.add B s.AaInv else B) = Γ.smul b (senderSetup Γ g a).A := by
  cases bit with
  | false => simp only [senderSetup, choicePoint]; exact Γ.smul_comm a b g
  | true =>
    simp only [senderSetup, choicePoint, if_true]
    rw [Γ.smul_add, add_neg_cancel_right]
    exact Γ.smul_comm a b g

theorem encrypt_eq_some (Γ : Group G) (valid : G → Bool) (kdf : G → Nat → Label) (s : SenderSetup G) (n : Nat)
    (points : Nat → G) (wires : Nat → Wire) (hA : valid s.A = true) (hP : ∀ i, i < n → valid (points i) = true) :
    encrypt Γ valid kdf s n points wires = some ((List.range n).map fun idx =>
      (kdf (Γ.smul s.a (points idx)) idx ^^^ (wires idx).1,
       kdf (Γ.add (Γ.smul s.a (points idx)) s.AaInv) idx ^^^ (wires idx).2)) := by
  have hany : (List.range n).any (fun i => !valid (points i)) = false :=
    List.any_eq_false.2 fun i hi => by simp [hP i (List.mem_range.1 hi)]
  unfold encrypt
  simp only [hA, hany, Bool.not_true, Bool.false_eq_true, if_false]

theorem delivers (Γ : Group G) (valid : G → Bool) (kdf : G → Nat → Label) (g : G) (a n : Nat)
    (scalars : Nat → Nat) (bits : Nat → Bool) (wires : Nat → Wire)
    (hA : valid (Γ.smul a g) = true)
    (hP : ∀ i, i < n → valid (choicePoint Γ g (Γ.smul a g) (scalars i) (bits i)) = true) :
    ∃ cts, encrypt Γ valid kdf (senderSetup Γ g a) n
        (fun i => choicePoint Γ g (senderSetup Γ g a).A (scalars i) (bits i)) wires = some cts ∧
      cts.length = n ∧
      (decrypt Γ kdf (senderSetup Γ g a).A n scalars bits cts).length = n ∧
      ∀ i, i < n → (decrypt Γ kdf (senderSetup Γ g a).A n scalars bits cts).getD i 0#128 =
        if bits i then (wires i).2 else (wires i).1 := by
  refine ⟨_, encrypt_eq_some Γ valid kdf _ n _ wires hA hP, by simp, by simp [decrypt], ?_⟩
  · intro i hi
    simp only [decrypt, List.getD_eq_getElem?_getD, List.getElem?_map, List.getElem?_range hi, Option.map_some,
      Option.getD_some]
    have hm := masks_agree Γ g a (scalars i) (bits i)
    cases hb : bits i
    all_goals
      simp only [hb, Bool.false_eq_true, if_false, if_true] at hm ⊢
      rw [hm, xor_cancel]

/-! `Co.encrypt` / `Co.decrypt` are what Model/Sha2pcRounds.lean uses (it performs the on-curve checks of
68f93f2 / 0e7671a itself); the C06 theorems are about `Co.encryptO` / `Co.decryptO` at `Γ.ops`, which have those
checks as /repo HEAD does.  Where the checks pass the two agree. -/

theorem senderSetupO_ops (Γ : Group G) (g : G) (a : Nat) : senderSetupO Γ.ops g a = senderSetup Γ g a := rfl

theorem choicePointO_ops (Γ : Group G) (g A : G) (b : Nat) (bit : Bool) :
    choicePointO Γ.ops g A b bit = choicePoint Γ g A b bit := rfl

theorem encryptO_eq_encrypt (Γ : Group G) (valid : G → Bool) (kdf : G → Nat → Label) (s : SenderSetup G)
    (n : Nat) (points : Nat → G) (wires : Nat → Wire) (hI : valid s.AaInv = true) :
    encryptO Γ.ops valid kdf s n points wires = encrypt Γ valid kdf s n points wires := by
  unfold encryptO encrypt
  simp only [hI, Bool.not_true, Bool.false_eq_true, if_false]
  rfl

theorem decryptO_eq_decrypt (Γ : Group G) (valid : G → Bool) (kdf : G → Nat → Label) (A : G) (n : Nat)
    (scalars : Nat → Nat) (bits : Nat → Bool) (data : List Wire) (hA : valid A = true) :
    decryptO Γ.ops valid kdf A n scalars bits data = some (decrypt Γ kdf A n scalars bits data) := by
  unfold decryptO decrypt
  simp only [hA, Bool.not_true, Bool.false_eq_true, if_false]
  rfl

/-- See `C06_co_delivers`. -/
theorem deliversO (Γ : Group G) (valid : G → Bool) (kdf : G → Nat → Label) (g : G) (a n : Nat)
    (scalars : Nat → Nat) (bits : Nat → Bool) (wires : Nat → Wire)
    (hA : valid (senderSetupO Γ.ops g a).A = true)
    (hI : valid (senderSetupO Γ.ops g a).AaInv = true)
    (hP : ∀ i, i < n → valid (choicePointO Γ.ops g (senderSetupO Γ.ops g a).A (scalars i) (bits i)) = true) :
    ∃ cts, encryptO Γ.ops valid kdf (senderSetupO Γ.ops g a) n
        (fun i => choicePointO Γ.ops g (senderSetupO Γ.ops g a).A (scalars i) (bits i)) wires = some cts ∧
      cts.length = n ∧
      ∃ out, decryptO Γ.ops valid kdf (senderSetupO Γ.ops g a).A n scalars bits cts = some out ∧
        out.length = n ∧
        ∀ i, i < n → out.getD i 0#128 = if bits i then (wires i).2 else (wires i).1 := by
  obtain ⟨cts, h1, h2, h3, h4⟩ := delivers Γ valid kdf g a n scalars bits wires hA hP
  exact ⟨cts, (encryptO_eq_encrypt Γ valid kdf _ n _ wires hI).trans h1, h2, _,
    decryptO_eq_decrypt Γ valid kdf _ n scalars bits cts hA, h3, h4⟩
end Mpc.Co

namespace Mpc.RsaOt

theorem key_recovered (N e d xb k : Nat) (hk : k < N)
    (hkey : ∀ c, c < N → (c ^ e % N) ^ d % N = c) :
    senderKey N d (receiverV N e xb k) xb = k := by
  have hN : 0 < N := by omega
  unfold senderKey receiverV
  have hc : k ^ e % N < N := Nat.mod_lt _ hN
  generalize hcd : k ^ e % N = c at hc
  have h1 : (((xb + c) % N : Nat) : Int) - (xb : Int) = (c : Int) + (N : Int) * (-(((xb + c) / N : Nat) : Int)) := by
    have := Nat.mod_add_div (xb + c) N
    have h2 : (((xb + c) % N : Nat) : Int) + (N : Int) * (((xb + c) / N : Nat) : Int) = (xb : Int) + (c : Int) := by
      exact_mod_cast this
    rw [Int.mul_neg]
    omega
  rw [h1, Int.add_mul_emod_self_left, Int.emod_eq_of_lt (by omega) (by omega)]
  simp only [Int.toNat_natCast]
  rw [← hcd]
  exact hkey k hk

/-- See `C06_rsa_received_integer`. -/
theorem received_wire (N e d p0 p1 x0 x1 k : Nat) (bit : Bool) (hk : k < N)
    (hkey : ∀ c, c < N → (c ^ e % N) ^ d % N = c) :
    (wire N e d p0 p1 x0 x1 k bit).received k bit = ((if bit then p1 else p0 : Nat) : Int) := by
  cases bit <;> simp only [wire, Wire.received, Bool.false_eq_true, if_false, if_true]
  all_goals rw [key_recovered N e d _ k hk hkey]; omega

/-- See `C06_rsa_delivers`. -/
theorem delivers {M : Type} (N e d : Nat) (enc : M → Nat) (dec : Int → Option M)
    (x0 x1 k : Nat) (bit : Bool) (m0 m1 : M) (hk : k < N)
    (hkey : ∀ c, c < N → (c ^ e % N) ^ d % N = c)
    (hround : ∀ m, dec (enc m : Int) = some m) :
    transfer N e d enc dec x0 x1 k bit m0 m1 = some (if bit then m1 else m0) := by
  show dec ((wire N e d (enc m0) (enc m1) x0 x1 k bit).received k bit) = _
  rw [received_wire N e d _ _ x0 x1 k bit hk hkey]
  cases bit <;> exact hround _
end Mpc.RsaOt
