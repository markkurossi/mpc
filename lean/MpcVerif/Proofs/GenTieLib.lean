/-
Lemma library of the T1 ties (DESIGN.md 1.3): facts about the translator's representation of Go values
(`MpcVerif/Gen/Prelude.lean` and the shape of the generated terms: a label as the pair of its words,
`join D0 D1 = D0 ++ D1`; a Go `int` as a `BitVec 64` compared with `slt` / `sle`; loops as folds over
`List.range`; slices as arrays behind bounds checks) that do not mention any generated definition, so every
tie module `GenTie*.lean` can import it without importing another group's generated file.
-/
import MpcVerif.Gen.Prelude

namespace Mpc.GenTie
open Mpc Mpc.Gen

/-- The 128-bit value of a label: `D0` is the high word. -/
def join (d0 d1 : BitVec 64) : BitVec 128 := d0 ++ d1
abbrev joinL (l : Gen.Label) : BitVec 128 := join l.1 l.2
def hi64 (x : BitVec 128) : BitVec 64 := x.extractLsb' 64 64
def lo64 (x : BitVec 128) : BitVec 64 := x.extractLsb' 0 64

theorem getLsbD_join (a b : BitVec 64) (i : Nat) :
    (join a b).getLsbD i = if i < 64 then b.getLsbD i else a.getLsbD (i - 64) :=
  BitVec.getLsbD_append

theorem hi64_join (a b : BitVec 64) : hi64 (join a b) = a := BitVec.extractLsb'_append_eq_left
theorem lo64_join (a b : BitVec 64) : lo64 (join a b) = b := BitVec.extractLsb'_append_eq_right
theorem join_hi_lo (x : BitVec 128) : join (hi64 x) (lo64 x) = x := BitVec.extractLsb'_append_extractLsb'
theorem join_inj {a b c d : BitVec 64} : join a b = join c d ↔ a = c ∧ b = d := by
  constructor
  · intro h
    exact ⟨by simpa [hi64_join] using congrArg hi64 h, by simpa [lo64_join] using congrArg lo64 h⟩
  · rintro ⟨rfl, rfl⟩; rfl
theorem joinL_inj {a b : Gen.Label} : joinL a = joinL b ↔ a = b := by
  rw [join_inj]
  exact ⟨fun h => Prod.ext h.1 h.2, fun h => h ▸ ⟨rfl, rfl⟩⟩
theorem join_xor (a b c d : BitVec 64) : join a b ^^^ join c d = join (a ^^^ c) (b ^^^ d) := BitVec.xor_append
theorem join_and (a b c d : BitVec 64) : join a b &&& join c d = join (a &&& c) (b &&& d) := BitVec.and_append
theorem join_or (a b c d : BitVec 64) : join a b ||| join c d = join (a ||| c) (b ||| d) := BitVec.or_append
theorem join_not (a b : BitVec 64) : ~~~ join a b = join (~~~a) (~~~b) := BitVec.not_append
theorem join_zero : join 0#64 0#64 = 0#128 := by decide
theorem join_msb (a b : BitVec 64) : (join a b).msb = a.msb := BitVec.msb_append.trans (if_neg (by decide))

theorem join_shl (a b : BitVec 64) (n : Nat) (hn : n ≤ 64) :
    join a b <<< n = join (a <<< n ||| b >>> (64 - n)) (b <<< n) := by
  apply BitVec.eq_of_getLsbD_eq; intro i hi
  simp only [getLsbD_join, BitVec.getLsbD_shiftLeft, BitVec.getLsbD_or, BitVec.getLsbD_ushiftRight]
  -- bit `i` comes from `b` (into the low word, or carried into the high word) or from `a`
  by_cases h : i < 64
  · simp [h, hi, show i - n < 64 by omega]
  · by_cases h2 : i - n < 64
    · simp [h, h2, hi, show ¬ i < n by omega, show i - 64 < n by omega, show 64 - n + (i - 64) = i - n by omega]
    · have hb : b.getLsbD (64 - n + (i - 64)) = false := BitVec.getLsbD_of_ge _ _ (by omega)
      simp [h, h2, hi, hb, show ¬ i < n by omega, show ¬ i - 64 < n by omega, show i - 64 - n = i - n - 64 by omega,
        show i - 64 < 64 by omega]

theorem toNat_join (a b : BitVec 64) : (join a b).toNat = a.toNat <<< 64 ||| b.toNat := BitVec.toNat_append a b

theorem append_eq_join (a b : BitVec 64) : a ++ b = join a b := rfl
theorem extract_hi (x : BitVec 128) : BitVec.extractLsb' 64 64 x = hi64 x := rfl
theorem extract_lo (x : BitVec 128) : BitVec.extractLsb' 0 64 x = lo64 x := rfl

/-- Closes `join A B = join A' B'` (or an equation of 128-bit XOR/AND terms) up to
associativity/commutativity, so that the ties survive a reordering of operands in the Go source. -/
macro "join_ac" : tactic =>
  `(tactic| first | with_reducible rfl | ac_rfl
                  | (rw [join_inj]; constructor <;> first | with_reducible rfl | ac_rfl))

/-- Position in the joined 128-bit value of Go's label bit `j` (bits 0..63 live in D0). -/
def goBitPos (j : Nat) : Nat := if j < 64 then j + 64 else j - 64

theorem twoPow_lo (k : Nat) (hk : k < 64) : BitVec.twoPow 128 k = join 0#64 (BitVec.twoPow 64 k) :=
  BitVec.eq_of_toNat_eq (by
    rw [toNat_join, BitVec.toNat_twoPow_of_lt hk, BitVec.toNat_twoPow_of_lt (show k < 128 by omega)]; simp)
theorem twoPow_hi (k : Nat) (hk : k < 64) : BitVec.twoPow 128 (k + 64) = join (BitVec.twoPow 64 k) 0#64 :=
  BitVec.eq_of_toNat_eq (by
    rw [toNat_join, BitVec.toNat_twoPow_of_lt hk, BitVec.toNat_twoPow_of_lt (show k + 64 < 128 by omega)]
    simp [Nat.shiftLeft_eq, Nat.pow_add])
theorem twoPow_ge (m : Nat) (h : 64 ≤ m) : BitVec.twoPow 64 m = 0#64 :=
  BitVec.eq_of_toNat_eq (BitVec.toNat_twoPow_of_le h)

/-- The 128-bit mask `SetBit(i, ·)` works with: bit `goBitPos i` for `i < 128`, nothing beyond (the Go
shift `1 << (i-64)` is 0 for `i ≥ 128`). -/
def goBitMask (i : Nat) : BitVec 128 := if i < 128 then BitVec.twoPow 128 (goBitPos i) else 0#128

theorem goBitMask_eq (n : Nat) :
    goBitMask n = if n < 64 then join (BitVec.twoPow 64 n) 0#64 else join 0#64 (BitVec.twoPow 64 (n - 64)) := by
  unfold goBitMask goBitPos
  by_cases h1 : n < 64
  · simp only [h1, show n < 128 by omega, if_true]; exact twoPow_hi n h1
  · by_cases h2 : n < 128
    · simp only [h1, h2, if_true, if_false]; exact twoPow_lo _ (by omega)
    · simp only [h1, h2, if_false, twoPow_ge _ (show 64 ≤ n - 64 by omega), join_zero]

theorem toNat_ofNat_lt {w : Nat} (n : Nat) (h : n < 2^w) : (BitVec.ofNat w n).toNat = n := by
  rw [BitVec.toNat_ofNat, Nat.mod_eq_of_lt h]
/-- `len(x)` of a slice with fewer than 2^63 elements. -/
theorem ofNat_size (n : Nat) (h : n < 2^63) : (BitVec.ofNat 64 n).toNat = n := toNat_ofNat_lt n (by omega)
theorem toNat_zero64 : (0#64).toNat = 0 := rfl

theorem slt_nonneg {w : Nat} (a b : BitVec (w + 1)) (ha : a.toNat < 2^w) :
    BitVec.slt a b = decide (a.toNat < b.toNat ∧ b.toNat < 2^w) := by
  have := b.isLt
  have e := Nat.pow_succ 2 w
  rw [Bool.eq_iff_iff]
  simp only [BitVec.slt, BitVec.toInt_eq_toNat_of_lt (x := a) (by omega), BitVec.toInt_eq_toNat_cond (x := b),
    decide_eq_true_eq]
  split <;> omega
theorem sle_nonneg {w : Nat} (a b : BitVec (w + 1)) (ha : a.toNat < 2^w) :
    BitVec.sle a b = decide (a.toNat ≤ b.toNat ∧ b.toNat < 2^w) := by
  rw [BitVec.sle_eq_slt_or_eq, slt_nonneg a b ha, Bool.eq_iff_iff]
  simp only [Bool.or_eq_true, decide_eq_true_eq, beq_iff_eq, ← BitVec.toNat_inj]
  omega

theorem sle_toNat {w : Nat} (a b : BitVec (w + 1)) (ha : a.toNat < 2^w) (hb : b.toNat < 2^w) :
    BitVec.sle a b = decide (a.toNat ≤ b.toNat) := by
  rw [sle_nonneg a b ha]; simp only [hb, and_true]
theorem slt_toNat {w : Nat} (a b : BitVec (w + 1)) (ha : a.toNat < 2^w) (hb : b.toNat < 2^w) :
    BitVec.slt a b = decide (a.toNat < b.toNat) := by
  rw [slt_nonneg a b ha]; simp only [hb, and_true]
theorem slt_zero {w : Nat} (i : BitVec (w + 1)) : BitVec.slt i 0#(w + 1) = decide (2^w ≤ i.toNat) := by
  rw [BitVec.slt_zero_eq_msb, BitVec.msb_eq_decide]; rfl

theorem add_lit_toNat (p : BitVec 64) (k : Nat) (h : p.toNat + k < 2^63) : (p + BitVec.ofNat 64 k).toNat = p.toNat + k := by
  simp only [BitVec.toNat_add, BitVec.toNat_ofNat]; omega
theorem sub64_toNat (i : BitVec 64) (h : 64 ≤ i.toNat) : (i - 64#64).toNat = i.toNat - 64 :=
  BitVec.toNat_sub_of_le (x := i) (y := 64#64) h
theorem ofNat_sub_toNat (c k : Nat) (hc : c < 2^64) (hk : k ≤ c) :
    (BitVec.ofNat 64 c - BitVec.ofNat 64 k).toNat = c - k := by
  have ek := toNat_ofNat_lt (w := 64) k (by omega)
  have ec := toNat_ofNat_lt c hc
  rw [BitVec.toNat_sub_of_le (BitVec.le_def.mpr (by rwa [ek, ec])), ek, ec]
theorem ofNat_beq_zero (n : Nat) (h : n < 2^64) : (BitVec.ofNat 64 n == 0#64) = decide (n = 0) := by
  rw [Bool.eq_iff_iff, beq_iff_eq, decide_eq_true_eq, ← BitVec.toNat_inj, toNat_ofNat_lt n h]
  rfl

theorem msb_false_of_lt (i : BitVec 64) (h : i.toNat < 2^63) : i.msb = false :=
  BitVec.msb_eq_false_iff_two_mul_lt.mpr (by omega)
/-- Go `i / c` and `i % c` on a non-negative `int` and a literal `c < 2^63`. -/
theorem sdiv_nonneg (i : BitVec 64) (c : Nat) (h : i.toNat < 2^63) (hc : c < 2^63) :
    (BitVec.sdiv i (BitVec.ofNat 64 c)).toNat = i.toNat / c := by
  have hcm : (BitVec.ofNat 64 c).msb = false := msb_false_of_lt _ (by simp only [BitVec.toNat_ofNat]; omega)
  rw [BitVec.sdiv_eq, msb_false_of_lt i h, hcm]
  simp only [BitVec.udiv_eq, BitVec.toNat_udiv, BitVec.toNat_ofNat]
  rw [Nat.mod_eq_of_lt (show c < 2 ^ 64 by omega)]
theorem srem_nonneg (i : BitVec 64) (c : Nat) (h : i.toNat < 2^63) (hc : c < 2^63) :
    (BitVec.srem i (BitVec.ofNat 64 c)).toNat = i.toNat % c := by
  have hcm : (BitVec.ofNat 64 c).msb = false := msb_false_of_lt _ (by simp only [BitVec.toNat_ofNat]; omega)
  rw [BitVec.srem_eq, msb_false_of_lt i h, hcm]
  simp only [BitVec.toNat_umod, BitVec.toNat_ofNat]
  rw [Nat.mod_eq_of_lt (show c < 2 ^ 64 by omega)]

theorem ite_pos_self (n : Nat) : (if 0 < n then n else 0) = n := by split <;> omega

/-- Rewrites signed comparisons of `int` values that are provably non-negative (side conditions by
`omega` from the hypotheses in the context), `len(x)`, `x - 0`, and the iteration count of
`for i := 0; i < n; i++`, to statements about `Nat`. -/
macro "int_norm" : tactic =>
  `(tactic| simp (disch := (first | omega | (simp only [BitVec.toNat_ofNat, BitVec.toNat_add, BitVec.toNat_sub]; omega))) only [slt_toNat, sle_toNat, slt_zero, ofNat_size, toNat_zero64, BitVec.sub_zero,
      ite_pos_self, Nat.zero_add, Nat.add_zero, decide_eq_true_eq, Bool.not_eq_true', decide_eq_false_iff_not,
      Nat.not_lt, Nat.not_le])
macro "int_norm" "at" h:ident : tactic =>
  `(tactic| simp (disch := (first | omega | (simp only [BitVec.toNat_ofNat, BitVec.toNat_add, BitVec.toNat_sub]; omega))) only [slt_toNat, sle_toNat, slt_zero, ofNat_size, toNat_zero64, BitVec.sub_zero,
      ite_pos_self, Nat.zero_add, Nat.add_zero] at $h:ident)

theorem dec_false {p : Prop} [Decidable p] (h : ¬ p) : decide p = false := decide_eq_false h
theorem dec_true {p : Prop} [Decidable p] (h : p) : decide p = true := decide_eq_true h

/-- The translator's bounds check of `a[i]`, for a slice shorter than 2^63: a negative `i` is, read as a `Nat`, beyond
every such length, so the test is the `Nat` comparison alone. -/
theorem idx_check {α : Type} (a : Array α) (i : BitVec 64) (hs : a.size < 2^63) :
    (BitVec.slt i 0#64 || decide (a.size ≤ i.toNat)) = decide (a.size ≤ i.toNat) := by
  rw [slt_zero]
  by_cases h : a.size ≤ i.toNat
  · simp [h]
  · simp [h, show ¬ 2^63 ≤ i.toNat by omega]

/-- Evaluates bounds checks (`i < 0 || len(a) <= i`), `int` comparisons and `(p + k).toNat` using `omega`
on the hypotheses in the context; independent of the order and form in which the source writes them.  A bounds check is
first reduced by `idx_check`, before `simp` takes its two halves apart (the array may by then be the result of stores:
hence `Array.size_setIfInBounds` in the discharger). -/
macro "guard_norm" : tactic =>
  `(tactic| simp (disch := (first | omega | (simp only [BitVec.toNat_ofNat, BitVec.toNat_add, BitVec.toNat_sub, Array.size_setIfInBounds]; omega))) only
      [↓reduceIte, ↓idx_check, add_lit_toNat, slt_toNat, sle_toNat, slt_zero, ofNat_size, toNat_zero64, BitVec.sub_zero, BitVec.add_zero,
       Nat.add_zero, Nat.zero_add, Array.size_setIfInBounds, dec_false, dec_true, Bool.or_false, Bool.false_or, Bool.or_true,
       Bool.true_or, Bool.false_eq_true, ite_pos_self, Bool.not_true, Bool.not_false])

macro "guard_norm" "at" h:ident : tactic =>
  `(tactic| simp (disch := (first | omega | (simp only [BitVec.toNat_ofNat, BitVec.toNat_add, BitVec.toNat_sub]; omega))) only
      [add_lit_toNat, slt_toNat, sle_toNat, slt_zero, ofNat_size, toNat_zero64, BitVec.sub_zero, BitVec.add_zero, Nat.add_zero,
       Nat.zero_add, Array.size_setIfInBounds, dec_false, dec_true, Bool.or_false, Bool.false_or, Bool.or_true, Bool.true_or,
       Bool.false_eq_true, if_false, if_true, ite_pos_self, Bool.not_true, Bool.not_false] at $h:ident)

theorem and_twoPow_ne_zero {w : Nat} (a : BitVec w) (k : Nat) (hk : k < w) :
    (a &&& BitVec.twoPow w k != 0#w) = a.getLsbD k := by
  rw [BitVec.and_twoPow]
  cases h : a.getLsbD k
  · simp
  · have h2 : BitVec.twoPow w k ≠ 0#w := by
      intro h2
      have := congrArg (fun x => x.getLsbD k) h2
      simp [hk] at this
    simp [h2]
theorem and_shl_one_ne_zero {w : Nat} (v : BitVec w) (n : Nat) (hn : n < w) :
    (v &&& 1#w <<< n != 0#w) = v.toNat.testBit n := by
  rw [← BitVec.twoPow_eq, and_twoPow_ne_zero v n hn]; rfl
theorem and_one {w : Nat} (d : BitVec w) (n : Nat) : (d >>> n) &&& 1#w = if d.getLsbD n then 1#w else 0#w := by
  apply BitVec.eq_of_getLsbD_eq; intro i hi
  by_cases h0 : i = 0
  · subst h0; cases h : d.getLsbD n <;> simp [h, hi]
  · cases h : d.getLsbD n <;> simp [h0]
theorem and_one_ne_zero (d : BitVec 64) (n : Nat) : ((d >>> n) &&& 1#64 != 0#64) = d.getLsbD n := by
  rw [and_one]; cases d.getLsbD n <;> decide
theorem and_one_eq_zero (d : BitVec 64) (n : Nat) : ((d >>> n) &&& 1#64 == 0#64) = !d.getLsbD n := by
  rw [and_one]; cases d.getLsbD n <;> decide
theorem and_one_eq_one (d : BitVec 64) (n : Nat) : ((d >>> n) &&& 1#64 == 1#64) = d.getLsbD n := by
  rw [and_one]; cases d.getLsbD n <;> decide

/-- `for k := 0; k < n; k++` is generated as a fold over `List.range n`.  The only induction over the trip count: a loop
is tied through its closed form (`foldl_range_eq`) or through an invariant. -/
theorem foldl_range_inv {σ : Type} (Inv : Nat → σ → Prop) (f : σ → Nat → σ) (n : Nat) (init : σ) (h0 : Inv 0 init)
    (hs : ∀ k s, k < n → Inv k s → Inv (k + 1) (f s k)) : Inv n ((List.range n).foldl f init) := by
  induction n with
  | zero => exact h0
  | succ m ih =>
    rw [List.range_succ, List.foldl_append]
    exact hs m _ (by omega) (ih fun k s hk => hs k s (by omega))

theorem foldl_range_eq {σ : Type} (f : σ → Nat → σ) (g : Nat → σ) (n : Nat) (init : σ) (h0 : g 0 = init)
    (hs : ∀ k, k < n → f (g k) k = g (k + 1)) : (List.range n).foldl f init = g n :=
  foldl_range_inv (fun k s => s = g k) f n init h0.symm fun k _ hk e => e ▸ hs k hk

/-- `for k := 0; k < n; k++ { a[k] = upd k a[k] }`, `body` being the generated step with its bounds checks. -/
theorem foldl_range_update {α : Type} (d : α) (upd : Nat → α → α) (a : Array α) (n : Nat)
    (body : Array α → Nat → Option (Array α))
    (hf : ∀ k s, k < n → s.size = a.size → body s k = some (s.setIfInBounds k (upd k (s.getD k d)))) :
    (List.range n).foldl (fun s? k => Option.elim s? none fun s => body s k) (some a) =
      some ((Array.range a.size).map fun i => if i < n then upd i (a.getD i d) else a.getD i d) := by
  refine foldl_range_eq _
    (fun k => some ((Array.range a.size).map fun i => if i < k then upd i (a.getD i d) else a.getD i d)) n _ ?_ ?_
  · refine congrArg some (Array.ext ?_ ?_)
    · simp
    · intro i h1 h2
      simp [h2]
  · intro k hk
    rw [Option.elim_some, hf k _ hk (by simp)]
    congr 1
    apply Array.ext
    · simp
    · intro j h1 h2
      have hj : j < a.size := by simpa using h2
      simp only [Array.getElem_setIfInBounds, Array.getElem_map, Array.getElem_range, Array.size_map, Array.size_range, hj]
      by_cases hjk : k = j
      · subst hjk
        simp [Array.getD, hj]
      · have : j < k + 1 ↔ j < k := by omega
        simp [hjk, this]

/-- Equality of two `setIfInBounds` chains that write (at most) the indices `p .. p+3`, in any order: by cases on
the index. -/
macro "arr_cases" p:term : tactic =>
  `(tactic| (apply Array.ext_getElem?
             intro i
             simp only [Array.getElem?_setIfInBounds, Array.size_setIfInBounds]
             by_cases e0 : i = $p
             · subst e0; simp (disch := omega) only [if_pos, if_neg, if_true, Nat.add_zero]
             · by_cases e1 : i = $p + 1
               · subst e1; simp (disch := omega) only [if_pos, if_neg, if_true]
               · by_cases e2 : i = $p + 2
                 · subst e2; simp (disch := omega) only [if_pos, if_neg, if_true]
                 · by_cases e3 : i = $p + 3
                   · subst e3; simp (disch := omega) only [if_pos, if_neg, if_true]
                   · simp (disch := omega) only [if_neg]))

theorem size_copyAt {α : Type} (d : Array α) (o : Nat) (s : Array α) : (copyAt d o s).size = d.size := by
  simp [copyAt]
theorem getElem_copyAt {α : Type} (d : Array α) (o : Nat) (s : Array α) (i : Nat) (h : i < (copyAt d o s).size) :
    (copyAt d o s)[i] =
      if h' : o ≤ i ∧ i - o < s.size then s[i - o]'h'.2 else d[i]'(by simpa [size_copyAt] using h) := by
  simp [copyAt]
theorem size_copyAtLim {α : Type} (d : Array α) (o l : Nat) (s : Array α) : (copyAtLim d o l s).size = d.size := by
  simp [copyAtLim]
theorem getElem_copyAtLim {α : Type} (d : Array α) (o l : Nat) (s : Array α) (i : Nat) (h : i < (copyAtLim d o l s).size) :
    (copyAtLim d o l s)[i] =
      if h' : o ≤ i ∧ i < l ∧ i - o < s.size then s[i - o]'h'.2.2 else d[i]'(by simpa [size_copyAtLim] using h) := by
  simp [copyAtLim]
/-- `r := make([]T, len(v)); copy(r, v)` is a copy of `v`. -/
theorem copyAt_replicate_self {w : Nat} (v : Array (BitVec w)) : copyAt (Array.replicate v.size 0#w) 0 v = v := by
  apply Array.ext
  · simp [size_copyAt]
  · intro i h1 h2
    rw [getElem_copyAt]; simp [h2]

/-- `switch b { case 0: x0; case 1: x1; default: panic(…) }` -/
theorem switch01 {α : Type} (b : BitVec 64) (x0 x1 : α) :
    (if b == 0#64 then some x0 else if b == 1#64 then some x1 else none) =
      if b ≠ 0#64 ∧ b ≠ 1#64 then none else some (if b = 1#64 then x1 else x0) := by
  by_cases h0 : b = 0#64
  · subst h0; simp
  · by_cases h1 : b = 1#64
    · subst h1; simp
    · simp [h0, h1]

/-- Go `byte(n)` of the models (`UInt8.ofNat (n % 256)`) as the translator's byte. -/
theorem u8_bv (n : Nat) : (UInt8.ofNat (n % 256)).toBitVec = BitVec.ofNat 8 n := by
  have : BitVec.ofNat 8 (n % 256) = BitVec.ofNat 8 n := by apply BitVec.eq_of_toNat_eq; simp
  rw [← this]; rfl

end Mpc.GenTie
