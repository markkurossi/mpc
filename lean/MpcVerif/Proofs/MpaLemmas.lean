/-
What the readers of an `mpa.Int` (Model/Mpa.lean) return, for the proofs about the folder (Proofs/Fold) and for the tie of
the translated Go code (Proofs/GenTieC12): the size alone decides the path, `small()` is `big()` modulo 2^64 whichever
field holds the value, `BitLen()` per path, and the two length functions against powers of two.
-/
import MpcVerif.Model.Mpa

namespace Mpc.Mpa

theorem bitLen64_pos (v : BitVec 64) : 0 < bitLen64 v := by
  unfold bitLen64
  split <;> omega

theorem bitLen64_le_iff (v : BitVec 64) {L : Nat} (hL : 0 < L) : bitLen64 v ≤ L ↔ v.toNat < 2 ^ L := by
  unfold bitLen64
  split
  · next h0 => have := Nat.two_pow_pos L; omega
  · next h0 => rw [← Nat.log2_lt h0]; omega

theorem bitLen64_le (v : BitVec 64) : bitLen64 v ≤ 64 := (bitLen64_le_iff v (by decide)).2 v.isLt

theorem lt_two_pow_bitLen64 (v : BitVec 64) : v.toNat < 2 ^ bitLen64 v :=
  (bitLen64_le_iff v (bitLen64_pos v)).1 (Nat.le_refl _)

theorem lt_two_pow_natBitLen (r : Nat) : r < 2 ^ natBitLen r := by
  unfold natBitLen
  split
  · rename_i h; subst h; simp
  · exact Nat.lt_log2_self

theorem natBitLen_le_of_lt {a k : Nat} (h : a < 2 ^ k) : natBitLen a ≤ k := by
  unfold natBitLen
  split
  · omega
  · rename_i h0
    have : Nat.log2 a < k := (Nat.log2_lt h0).2 h
    omega

theorem isSmall_of_le {z : MInt} (h : z.bits ≤ 64) : z.isSmall = true := decide_eq_true h

theorem le_of_isSmall {z : MInt} (h : z.isSmall = true) : z.bits ≤ 64 := of_decide_eq_true h

theorem not_isSmall_of_lt {z : MInt} (h : 64 < z.bits) : ¬ z.isSmall = true :=
  fun hs => absurd (le_of_isSmall hs) (Nat.not_le.2 h)

theorem small_eq_ofInt_bigv (v : MInt) : v.small = BitVec.ofInt 64 v.bigv := by
  unfold MInt.small MInt.bigv
  cases v.big with
  | none => exact (BitVec.ofInt_toInt).symm
  | some w => rfl

theorem bitLen_of_le (v : MInt) (h : v.bits ≤ 64) : v.bitLen = bitLen64 v.small := if_pos (isSmall_of_le h)

theorem bitLen_of_lt (v : MInt) (h : 64 < v.bits) : v.bitLen = natBitLen v.bigv.natAbs := if_neg (not_isSmall_of_lt h)

theorem bigv_setBig (x : Int) : (setBig x).bigv = x := by
  unfold setBig
  split
  · show (BitVec.ofInt 64 x).toInt = x
    rw [BitVec.toInt_ofInt]
    exact Int.bmod_eq_of_le (by omega) (by omega)
  · rfl

end Mpc.Mpa
