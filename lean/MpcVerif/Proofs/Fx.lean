/-
Helper lemmas for C20, BMR gadgets (Model/Fx.lean): label conversion round
trip, bit 0 of byte 0 under XOR, the outputs of `Fx` under an OT satisfying
`OtSpec` for every operand value (not only bits; `fx_general`), and the domain /
share predicates of a gadget call (`GCall.Ok`, `GShares`).
-/
import MpcVerif.Model.Fx
namespace Mpc.Fx

theorem fromOT_toOT (l : BLabel) : fromOT (toOT l) = l := by
  unfold fromOT toOT
  ext i hi
  have h1 : 64 + i < 128 := Nat.add_lt_add_left (Nat.lt_trans hi (by decide : 32 < 64)) 64
  have h2 : ¬ 64 + i < 64 := Nat.not_lt.mpr (Nat.le_add_right 64 i)
  have h3 : i < 128 := Nat.lt_trans hi (by decide : 32 < 128)
  simp [h1, h2, h3, BitVec.getLsbD_eq_getElem hi]

theorem bit0_ofByte0 (a : Nat) : bit0 (ofByte0 a) = decide (a % 2 = 1) := by
  unfold bit0 ofByte0
  simp only [BitVec.getLsbD_shiftLeft, Nat.sub_self]
  simp
  rw [BitVec.getElem_eq_testBit_toNat]
  simp [Nat.testBit_zero]

theorem bit0_lxor (x y : BLabel) : bit0 (lxor x y) = (bit0 x ^^ bit0 y) := by
  simp [bit0, lxor]

theorem otSpec_single {ot : OtFun (BitVec 128)} (h : OtSpec ot) (w : WireL (BitVec 128)) (b : Nat) :
    recvLabel (ot [w] (recvFlags b)) = if b = 1 then w.l1 else w.l0 := by
  rw [h [w] (recvFlags b) rfl]
  by_cases hb : b = 1 <;> simp [recvLabel, recvFlags, WireL.labelFor, hb]

theorem fx_general (ot : OtFun (BitVec 128)) (h : OtSpec ot) (rl : BLabel) (a b : Nat) :
    (fx ot rl a b).r ^^^ (fx ot rl a b).xb = (a % 2) * (if b = 1 then 1 else 0) := by
  simp only [fx, fxRecvOut, fxSendOut, otSpec_single h, fxWire]
  by_cases hb : b = 1
  · simp only [hb, if_true, fromOT_toOT, bit0_lxor, bit0_ofByte0]
    rcases Nat.mod_two_eq_zero_or_one a with ha | ha <;> cases bit0 rl <;> simp [ha]
  · simp only [hb, if_false, fromOT_toOT]
    cases bit0 rl <;> simp

def GCall.Ok : GCall → Prop
  | .fx _ a b => a ≤ 1 ∧ b ≤ 1
  | .fxk _ _ b => b ≤ 1

def GShares : GCall → GOut → Prop
  | .fx _ a b, .fx o => o.r ^^^ o.xb = a * b ∧ o.r ≤ 1 ∧ o.xb ≤ 1
  | .fxk _ s b, .fxk o => o.r ^^^ o.xb = if b = 1 then s else 0#32
  | _, _ => False

end Mpc.Fx
