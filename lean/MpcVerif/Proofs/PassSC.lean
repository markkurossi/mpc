/-
C09: `Graph.shortCircuitXORZero` (model of `Compiler.ShortCircuitXORZero`)
preserves the input-to-output function of every well-formed builder graph:
the invariant `SCInv` and its preservation by the loop; the theorem itself is
`C09_shortCircuit_preserves`.

One firing of the rule on the gate `k = XOR(z, ow)` with `z` of value Zero,
`ow` produced by gate `p` and used by `k` only (fan-out counter 1):
gate `p` now writes `k`'s old output wire `y`, gate `k` writes a fresh wire.
-/
import MpcVerif.Proofs.PassPrune

namespace Mpc
namespace Graph

def fire (G : Graph) (k p : Nat) : Graph :=
  ((G.setO p (G.gate k).o).freshWire.1).setO k G.wires.size

theorem scTry_eq (G : Graph) (i z other : Nat) :
    G.scTry i z other =
      if G.wval z = .zero then
        match (G.wire other).input with
        | none => G
        | some p => if (G.wire (G.gate p).o).numOut = 1 then G.fire i p else G
      else G := rfl

/-- Count `j` in the graph without `i`. -/
theorem readers_two (G : Graph) (w i j : Nat) (hij : i ≠ j) (hi : G.live i) (hj : G.live j) :
    slots w (G.gate i) + slots w (G.gate j) ≤ G.readers w := by
  have h1 := readers_ge (G.kill i) w j ((live_kill G i j).mpr ⟨hj, Ne.symm hij⟩)
  rw [gate_kill_ne G i j (Ne.symm hij), readers_kill G i w hi] at h1
  have := readers_ge G w i hi
  omega

theorem fire_gates (G : Graph) (k p : Nat) : (G.fire k p).gates =
    (G.gates.modify p fun g => { g with o := (G.gate k).o }).modify k fun g => { g with o := G.wires.size } := by
  simp only [fire, setO, freshWire]

theorem fire_wires (G : Graph) (k p : Nat) : (G.fire k p).wires = G.wires.push {} := rfl

theorem fire_gsize (G : Graph) (k p : Nat) : (G.fire k p).gates.size = G.gates.size := by
  simp [fire_gates]

theorem fire_wsize (G : Graph) (k p : Nat) : (G.fire k p).wires.size = G.wires.size + 1 := by
  simp [fire_wires]

theorem fire_hdr (G : Graph) (k p : Nat) :
    (G.fire k p).nIn = G.nIn ∧ (G.fire k p).zero = G.zero ∧ (G.fire k p).one = G.one ∧
    (G.fire k p).outputs = G.outputs := by
  -- unfolded first: `rfl` through the folded updates is slow to check
  unfold fire setO freshWire
  exact ⟨rfl, rfl, rfl, rfl⟩

theorem getD_push_self {α : Type} (a : Array α) (d : α) (w : Nat) : (a.push d).getD w d = a.getD w d := by
  rw [getD_push]
  split
  · next h => rw [h, getD_of_size_le a _ d (Nat.le_refl _)]
  · rfl

/-- The fresh wire of a firing is the default wire: no wire record changes. -/
theorem fire_wire_all (G : Graph) (k p w : Nat) : (G.fire k p).wire w = G.wire w :=
  getD_push_self G.wires default w

/-- The store after a firing: one more (fresh) wire, the orphaned wire reads 0. -/
def fireStore (s : Store Bool) (ow : Nat) : Store Bool := Store.set (Array.push s false) ow false

theorem fireStore_size (s : Store Bool) (ow : Nat) : (fireStore s ow).size = s.size + 1 := by
  simp [fireStore]

theorem fireStore_get (s : Store Bool) (ow w : Nat) (h : ow < s.size) :
    Store.get (fireStore s ow) w = if w = ow then false else Store.get s w := by
  unfold fireStore
  by_cases hw : ow = w
  · subst hw
    rw [Store.get_set_eq _ _ _ (by simp; omega)]; simp
  · rw [Store.get_set_ne _ _ _ _ hw]
    rw [if_neg (Ne.symm hw)]
    exact getD_push_self s false w

structure SCBase (G : Graph) : Prop where
  wf      : G.GWF
  allLive : ∀ i, i < G.gates.size → (G.gate i).dead = false
  ibound  : ∀ i, i < G.gates.size → (G.gate i).a < G.wires.size ∧
              ((G.gate i).op ≠ .inv → (G.gate i).b < G.wires.size)
  count   : ∀ w, G.readers w ≤ (G.wire w).numOut
  unread  : ∀ w ∈ G.outputs, ∀ j, j < G.gates.size → ¬ reads (G.gate j) w

theorem SCBase.live {G : Graph} (h : SCBase G) {i : Nat} (hi : i < G.gates.size) : G.live i :=
  ⟨hi, h.allLive i hi⟩

structure FirePre (G : Graph) (k p z ow : Nat) : Prop where
  hk    : k < G.gates.size
  hp    : p < G.gates.size
  xor   : (G.gate k).op = .xor
  role  : ((G.gate k).a = z ∧ (G.gate k).b = ow) ∨ ((G.gate k).b = z ∧ (G.gate k).a = ow)
  prod  : (G.gate p).o = ow
  one   : (G.wire ow).numOut = 1
  zval  : ∀ x, (G.evalStore x).get z = false

section Fire
variable {G : Graph} {k p z ow : Nat}

theorem FirePre.reads_k (f : FirePre G k p z ow) : reads (G.gate k) ow := by
  rcases f.role with ⟨_, h⟩ | ⟨_, h⟩
  · exact Or.inr ⟨by rw [f.xor]; simp, h⟩
  · exact Or.inl h

theorem FirePre.eval_k (f : FirePre G k p z ow) (t : Store Bool) :
    (G.gate k).op.eval (t.get (G.gate k).a) (t.get (G.gate k).b) = (t.get z != t.get ow) := by
  rw [f.xor]
  rcases f.role with ⟨h1, h2⟩ | ⟨h1, h2⟩
  · rw [h1, h2]; rfl
  · rw [h1, h2]; cases t.get z <;> cases t.get ow <;> rfl

theorem FirePre.only_k (h : SCBase G) (f : FirePre G k p z ow) (j : Nat) (hj : j < G.gates.size)
    (hjk : j ≠ k) : ¬ reads (G.gate j) ow := by
  intro hr
  have h1 := slots_pos_of_reads _ _ hr
  have h2 := slots_pos_of_reads _ _ f.reads_k
  have := readers_two G ow j k hjk (h.live hj) (h.live f.hk)
  have := h.count ow
  rw [f.one] at this
  omega

theorem FirePre.z_ne (h : SCBase G) (f : FirePre G k p z ow) : z ≠ ow := by
  intro e
  have : 2 ≤ slots ow (G.gate k) := by
    unfold slots
    rcases f.role with ⟨h1, h2⟩ | ⟨h1, h2⟩ <;> simp [h1, h2, e, f.xor]
  have h3 := readers_ge G ow k (h.live f.hk)
  have := h.count ow
  rw [f.one] at this
  omega

theorem FirePre.p_lt (h : SCBase G) (f : FirePre G k p z ow) : p < k :=
  h.wf.lt_of_reads (h.live f.hp) (h.live f.hk) (f.prod ▸ f.reads_k)

theorem fire_fields (h : SCBase G) (f : FirePre G k p z ow) (j : Nat) :
    ((G.fire k p).gate j).op = (G.gate j).op ∧ ((G.fire k p).gate j).a = (G.gate j).a ∧
    ((G.fire k p).gate j).b = (G.gate j).b ∧ ((G.fire k p).gate j).dead = (G.gate j).dead ∧
    ((G.fire k p).gate j).o =
      (if j = k then G.wires.size else if j = p then (G.gate k).o else (G.gate j).o) := by
  have hpk : ¬ (k = p ∧ p < G.gates.size) := fun e => by have := f.p_lt h; omega
  simp only [gate, fire_gates, getD_modify, Array.size_modify]
  by_cases hjk : j = k
  · subst hjk; simp [f.hk, hpk]
  · by_cases hjp : j = p
    · subst hjp; simp [hjk, f.hp]
    · simp [hjk, hjp]

theorem fire_live (h : SCBase G) (f : FirePre G k p z ow) (j : Nat) :
    (G.fire k p).live j ↔ j < G.gates.size := by
  unfold live
  rw [fire_gsize, (fire_fields h f j).2.2.2.1]
  exact ⟨fun hh => hh.1, fun hh => ⟨hh, h.allLive j hh⟩⟩

theorem fire_gwf (h : SCBase G) (f : FirePre G k p z ow) : (G.fire k p).GWF := by
  have hpk := f.p_lt h
  have hobk := h.wf.obound k (h.live f.hk)
  refine ⟨by rw [fire_wsize, (fire_hdr G k p).1]; exact Nat.le_succ_of_le h.wf.nin, fun j hj => ?_,
    fun i j hi hj ho => ?_, fun i j hij hi hj => ?_⟩
  · rw [fire_live h f] at hj
    rw [(fire_fields h f j).2.2.2.2, fire_wsize, (fire_hdr G k p).1]
    have := h.wf.obound j (h.live hj)
    have := h.wf.nin
    split
    · omega
    · split <;> omega
  · rw [fire_live h f] at hi hj
    rw [(fire_fields h f i).2.2.2.2, (fire_fields h f j).2.2.2.2] at ho
    -- `k` writes a wire beyond the old ones, `p` the old wire of `k`, the others as before: by
    -- cases on which of `i`, `j` are `k` or `p`, from the injectivity of the old outputs
    have hk := f.hk
    have hb := fun a ha => (h.wf.obound a (h.live ha)).2
    have hd := fun a b ha hb e => h.wf.odist a b (h.live ha) (h.live hb) e
    grind
  · rw [fire_live h f] at hi hj
    obtain ⟨hop, ha, hb, _, _⟩ := fire_fields h f i
    rw [hop, ha, hb, (fire_fields h f j).2.2.2.2]
    have hib := h.ibound i hi
    split
    · exact ⟨by omega, fun hh => by have := hib.2 hh; omega⟩
    · split
      · rename_i hjp
        subst hjp
        exact h.wf.topo i k (by omega) (h.live hi) (h.live f.hk)
      · exact h.wf.topo i j hij (h.live hi) (h.live hj)

theorem fire_gsol (h : SCBase G) (f : FirePre G k p z ow) (x : List Bool) :
    (G.fire k p).GSol x (fireStore (G.evalStore x) ow) := by
  have hs := evalStore_gsol h.wf x
  have hpk := f.p_lt h
  have hobp := h.wf.obound p (h.live f.hp)
  rw [f.prod] at hobp
  have hzow := f.z_ne h
  have hget : ∀ w, (fireStore (G.evalStore x) ow).get w =
      if w = ow then false else (G.evalStore x).get w :=
    fun w => fireStore_get _ _ _ (by rw [hs.size]; exact hobp.2)
  have hk_eq : (G.evalStore x).get (G.gate k).o = (G.evalStore x).get ow := by
    have := hs.gate_eq (h.live f.hk)
    rw [f.eval_k, f.zval x] at this
    rw [this]; exact Bool.false_bne _
  refine ⟨by rw [fireStore_size, fire_wsize, hs.size], fun w hw => ?_, fun j hj => ?_, fun w hw hno => ?_⟩
  · have hnin := (fire_hdr G k p).1
    rw [hnin] at hw ⊢
    rw [hget, if_neg (by omega)]
    exact hs.inp w hw
  · rw [fire_live h f] at hj
    obtain ⟨hop, ha, hb, _, ho⟩ := fire_fields h f j
    have hsem := hs.gate_eq (h.live hj)
    show _ = _
    rw [hop, ha, hb, ho]
    by_cases hjk : j = k
    · -- gate k: XOR of two zero bits on the fresh wire
      subst hjk
      rw [if_pos rfl, f.eval_k, hget, hget, hget, if_neg (by omega), if_neg hzow, if_pos rfl, f.zval x]
      simp [Store.get, Array.getD, hs.size]
    · rw [if_neg hjk]
      have hnr := f.only_k h j hj hjk
      rw [eval_congr_reads (G.gate j) _ (G.evalStore x).get fun w hw => by
        rw [hget, if_neg fun e : w = ow => hnr (e ▸ hw)], ← hsem]
      by_cases hjp : j = p
      · subst hjp
        rw [if_pos rfl, hget, if_neg (by
          intro e
          -- k's old output is not `ow` (that is p's output, p ≠ k)
          have := h.wf.odist k j (h.live f.hk) (h.live hj) (by rw [e, f.prod])
          omega), hk_eq, f.prod]
      · rw [if_neg hjp, hget, if_neg (by
          intro e
          have := h.wf.odist j p (h.live hj) (h.live f.hp) (by rw [e, f.prod])
          exact hjp this)]
  · have hnin := (fire_hdr G k p).1
    rw [hnin] at hw
    rw [hget]
    split
    · rfl
    · rename_i hwow
      -- nothing in the new graph writes w; then nothing in the old graph did
      refine hs.undef w hw (fun j hj => ?_)
      have hj' := hj.1
      have := hno j ((fire_live h f j).mpr hj')
      rw [(fire_fields h f j).2.2.2.2] at this
      by_cases hjk : j = k
      · subst hjk
        -- old output of k is now written by p
        have hp' := hno p ((fire_live h f p).mpr f.hp)
        rw [(fire_fields h f p).2.2.2.2, if_neg (by omega), if_pos rfl] at hp'
        exact hp'
      · rw [if_neg hjk] at this
        by_cases hjp : j = p
        · subst hjp
          rw [f.prod]; exact fun e => hwow e.symm
        · rw [if_neg hjp] at this; exact this

theorem rdL_modify_o (w i o : Nat) : ∀ (l : List BGate), rdL w (l.modify i fun g => { g with o := o }) = rdL w l
  | [] => by rw [List.modify_nil]
  | g :: t => by
    cases i with
    | zero => rfl
    | succ i => simp only [List.modify_succ_cons, rdL, rdL_modify_o w i o t]

theorem fire_readers (G : Graph) (k p w : Nat) : (G.fire k p).readers w = G.readers w := by
  simp only [readers, fire_gates, Array.toList_modify, rdL_modify_o]

theorem fire_reads (h : SCBase G) (f : FirePre G k p z ow) (j w : Nat) :
    reads ((G.fire k p).gate j) w ↔ reads (G.gate j) w := by
  obtain ⟨h1, h2, h3, _, _⟩ := fire_fields h f j
  unfold reads; rw [h1, h2, h3]

theorem fire_base (h : SCBase G) (f : FirePre G k p z ow) : SCBase (G.fire k p) := by
  refine ⟨fire_gwf h f, fun i hi => ?_, fun i hi => ?_, fun w => ?_, fun w hw j hj => ?_⟩
  · rw [fire_gsize] at hi
    rw [(fire_fields h f i).2.2.2.1]; exact h.allLive i hi
  · rw [fire_gsize] at hi
    obtain ⟨h1, h2, h3, _, _⟩ := fire_fields h f i
    rw [h1, h2, h3, fire_wsize]
    have := h.ibound i hi
    exact ⟨Nat.lt_succ_of_lt this.1, fun hh => Nat.lt_succ_of_lt (this.2 hh)⟩
  · rw [fire_readers, fire_wire_all]; exact h.count w
  · rw [fire_gsize] at hj
    rw [fire_reads h f]
    exact h.unread w hw j hj

theorem fire_evalStore (h : SCBase G) (f : FirePre G k p z ow) (x : List Bool) (w : Nat) :
    ((G.fire k p).evalStore x).get w = if w = ow then false else (G.evalStore x).get w := by
  have hobp := h.wf.obound p (h.live f.hp)
  rw [f.prod] at hobp
  have hs := evalStore_gsol h.wf x
  rw [(fire_gsol h f x).unique (fire_gwf h f) w]
  exact fireStore_get _ _ _ (by rw [hs.size]; exact hobp.2)

theorem fire_compute (h : SCBase G) (f : FirePre G k p z ow) (x : List Bool) :
    (G.fire k p).compute x = G.compute x := by
  rw [Graph.compute, (fire_hdr G k p).2.2.2]
  exact List.map_congr_left fun w hw => by
    rw [fire_evalStore h f, if_neg fun e : w = ow => h.unread w hw k f.hk (e ▸ f.reads_k)]

end Fire

def VZ (G : Graph) : Prop :=
  ∀ x i, i < G.gates.size → (G.gate i).op = .xor →
    (G.wval (G.gate i).a = .zero → (G.evalStore x).get (G.gate i).a = false) ∧
    (G.wval (G.gate i).b = .zero → (G.evalStore x).get (G.gate i).b = false)

/-- Input-gate pointers (`Wire.gates[0]`): genuine, or pointing at a gate whose
output has fan-out counter 0, or belonging to a wire no gate `≥ k` reads. -/
def Ptr (G : Graph) (k : Nat) : Prop :=
  ∀ w q, (G.wire w).input = some q → q < G.gates.size ∧
    ((G.gate q).o = w ∨ (G.wire (G.gate q).o).numOut = 0 ∨
      ∀ j, k ≤ j → j < G.gates.size → ¬ reads (G.gate j) w)

theorem fire_vz {G : Graph} {k p z ow : Nat} (h : SCBase G) (f : FirePre G k p z ow) (hv : VZ G) :
    VZ (G.fire k p) := by
  intro x i hi hx
  rw [fire_gsize] at hi
  obtain ⟨h1, h2, h3, _, _⟩ := fire_fields h f i
  rw [h1] at hx
  have e : ∀ w, (G.fire k p).wval w = G.wval w := fun w => by simp [wval, fire_wire_all]
  rw [h2, h3, e, e, fire_evalStore h f, fire_evalStore h f]
  have := hv x i hi hx
  constructor
  · intro hz; split
    · rfl
    · exact this.1 hz
  · intro hz; split
    · rfl
    · exact this.2 hz

theorem fire_ptr_keep {G : Graph} {k p z ow : Nat} (h : SCBase G) (f : FirePre G k p z ow) (w q : Nat)
    (hw : w ≠ ow) (hc : (G.gate q).o = w ∨ (G.wire (G.gate q).o).numOut = 0) :
    ((G.fire k p).gate q).o = w ∨ ((G.fire k p).wire ((G.fire k p).gate q).o).numOut = 0 := by
  rw [(fire_fields h f q).2.2.2.2, fire_wire_all]
  by_cases hqk : q = k
  · -- gate `k` now writes the fresh wire
    rw [if_pos hqk]
    right
    have : G.wire G.wires.size = {} := by simp [wire, Array.getD]; rfl
    rw [this]
  · rw [if_neg hqk]
    by_cases hqp : q = p
    · -- `p` wrote `ow`, whose counter is 1
      subst hqp
      rw [f.prod, f.one] at hc
      rcases hc with e | e
      · exact absurd e.symm hw
      · exact absurd e (by decide)
    · rw [if_neg hqp]; exact hc

theorem fire_ptr {G : Graph} {k p z ow m : Nat} (h : SCBase G) (f : FirePre G k p z ow)
    (hm : m ≤ k + 1) (hp : Ptr G m) : Ptr (G.fire k p) (k + 1) := by
  intro w q hin
  rw [fire_wire_all] at hin
  obtain ⟨hq, hcase⟩ := hp w q hin
  rw [fire_gsize]
  refine ⟨hq, ?_⟩
  by_cases hw : w = ow
  · -- the orphaned wire: only gate `k` read it
    right; right
    intro j hj hjs
    rw [fire_reads h f, hw]
    exact f.only_k h j hjs (by omega)
  · rcases or_assoc.mpr hcase with hc | hu
    · exact (fire_ptr_keep h f w q hw hc).imp id Or.inl
    · right; right
      intro j hj hjs
      rw [fire_reads h f]
      exact hu j (by omega) hjs

theorem scTry_spec (G : Graph) (k z other : Nat) (hv : VZ G) (hk : k < G.gates.size)
    (hx : (G.gate k).op = .xor)
    (role : ((G.gate k).a = z ∧ (G.gate k).b = other) ∨ ((G.gate k).b = z ∧ (G.gate k).a = other))
    (hpf : ∀ q, (G.wire other).input = some q → q < G.gates.size ∧
      ((G.gate q).o = other ∨ (G.wire (G.gate q).o).numOut = 0)) :
    G.scTry k z other = G ∨
    ∃ p, FirePre G k p z other ∧ G.scTry k z other = G.fire k p := by
  rw [scTry_eq]
  by_cases hz : G.wval z = .zero
  · rw [if_pos hz]
    cases hin : (G.wire other).input with
    | none => exact Or.inl rfl
    | some p =>
      simp only
      by_cases hn : (G.wire (G.gate p).o).numOut = 1
      · rw [if_pos hn]
        right
        obtain ⟨hp, hg⟩ := hpf p hin
        have hgen : (G.gate p).o = other := hg.resolve_right (by omega)
        refine ⟨p, ⟨hk, hp, hx, role, hgen, by rw [← hgen]; exact hn, fun x => ?_⟩, rfl⟩
        rcases role with ⟨h1, _⟩ | ⟨h1, _⟩
        · rw [← h1]; exact (hv x k hk hx).1 (by rw [h1]; exact hz)
        · rw [← h1]; exact (hv x k hk hx).2 (by rw [h1]; exact hz)
      · rw [if_neg hn]; exact Or.inl rfl
  · rw [if_neg hz]; exact Or.inl rfl

/-- Loop invariant of `ShortCircuitXORZero` before gate `k` is processed. -/
structure SCInv (G : Graph) (k : Nat) : Prop where
  base : SCBase G
  vz   : VZ G
  ptr  : Ptr G k

theorem Ptr.mono {G : Graph} {k m : Nat} (h : Ptr G k) (hkm : k ≤ m) : Ptr G m := by
  intro w q hin
  obtain ⟨hq, hc⟩ := h w q hin
  exact ⟨hq, hc.imp_right (Or.imp_right fun hc j hj hjs => hc j (by omega) hjs)⟩

structure SCRel (G G' : Graph) : Prop where
  gsize : G'.gates.size = G.gates.size
  comp  : ∀ x, G'.compute x = G.compute x

theorem SCRel.refl (G : Graph) : SCRel G G := ⟨rfl, fun _ => rfl⟩
theorem SCRel.trans {G G' G'' : Graph} (a : SCRel G G') (b : SCRel G' G'') : SCRel G G'' :=
  ⟨b.gsize.trans a.gsize, fun x => (b.comp x).trans (a.comp x)⟩

theorem Ptr.of_read {G : Graph} {k : Nat} (h : Ptr G k) (hk : k < G.gates.size) (w : Nat)
    (hr : reads (G.gate k) w) (q : Nat) (hin : (G.wire w).input = some q) :
    q < G.gates.size ∧ ((G.gate q).o = w ∨ (G.wire (G.gate q).o).numOut = 0) := by
  obtain ⟨hq, hc⟩ := h w q hin
  exact ⟨hq, hc.imp_right fun hc => hc.resolve_right fun hc => hc k (Nat.le_refl k) hk hr⟩

theorem fire_inv {G : Graph} {k p z ow m : Nat} (h : SCInv G m) (f : FirePre G k p z ow) (hm : m ≤ k + 1) :
    SCInv (G.fire k p) (k + 1) ∧ SCRel G (G.fire k p) :=
  ⟨⟨fire_base h.base f, fire_vz h.base f h.vz, fire_ptr h.base f hm h.ptr⟩,
    fire_gsize G k p, fire_compute h.base f⟩

theorem scStep_spec (G : Graph) (k : Nat) (h : SCInv G k) (hk : k < G.gates.size) :
    SCInv (G.scStep k) (k + 1) ∧ SCRel G (G.scStep k) := by
  unfold scStep
  by_cases hx : (G.gate k).op = .xor
  · rw [if_neg (by simp [hx])]
    simp only
    have hxi : (G.gate k).op ≠ .inv := by rw [hx]; simp
    have hra : reads (G.gate k) (G.gate k).a := Or.inl rfl
    have hrb : reads (G.gate k) (G.gate k).b := Or.inr ⟨hxi, rfl⟩
    rcases scTry_spec G k (G.gate k).a (G.gate k).b h.vz hk hx (Or.inl ⟨rfl, rfl⟩)
        (fun q hin => h.ptr.of_read hk _ hrb q hin) with e1 | ⟨p1, f1, e1⟩
    · rw [e1]
      rcases scTry_spec G k (G.gate k).b (G.gate k).a h.vz hk hx (Or.inr ⟨rfl, rfl⟩)
          (fun q hin => h.ptr.of_read hk _ hra q hin) with e2 | ⟨p2, f2, e2⟩
      · rw [e2]; exact ⟨⟨h.base, h.vz, h.ptr.mono (Nat.le_succ k)⟩, SCRel.refl G⟩
      · rw [e2]; exact fire_inv h f2 (Nat.le_succ k)
    · rw [e1]
      obtain ⟨i1, r1⟩ := fire_inv h f1 (Nat.le_succ k)
      obtain ⟨fop, fa, fb, _, fo⟩ := fire_fields h.base f1 k
      rw [fa, fb]
      rcases scTry_spec (G.fire k p1) k (G.gate k).b (G.gate k).a i1.vz (by rw [fire_gsize]; exact hk)
          (by rw [fop]; exact hx) (Or.inr ⟨fb, fa⟩) (fun q hin => by
            rw [fire_wire_all] at hin
            obtain ⟨hq, hc⟩ := h.ptr.of_read hk _ hra q hin
            rw [fire_gsize]
            exact ⟨hq, fire_ptr_keep h.base f1 _ q (f1.z_ne h.base) hc⟩) with e2 | ⟨p2, f2, e2⟩
      · rw [e2]; exact ⟨i1, r1⟩
      · rw [e2]
        obtain ⟨i2, r2⟩ := fire_inv i1 f2 (Nat.le_refl _)
        exact ⟨i2, r1.trans r2⟩
  · rw [if_pos hx]
    exact ⟨⟨h.base, h.vz, h.ptr.mono (Nat.le_succ k)⟩, SCRel.refl G⟩

theorem scLoop_spec : ∀ (n k : Nat) (G : Graph), SCInv G k → k + n = G.gates.size →
    SCRel G ((List.range' k n).foldl scStep G) ∧ SCBase ((List.range' k n).foldl scStep G) := by
  intro n
  induction n with
  | zero => intro k G h _; exact ⟨SCRel.refl G, h.base⟩
  | succ n ih =>
    intro k G h hkn
    simp only [List.range'_succ, List.foldl_cons]
    obtain ⟨hi, hr⟩ := scStep_spec G k h (by omega)
    obtain ⟨hr2, hb2⟩ := ih (k + 1) (G.scStep k) hi (by rw [hr.gsize]; omega)
    exact ⟨hr.trans hr2, hb2⟩

end Graph
end Mpc
