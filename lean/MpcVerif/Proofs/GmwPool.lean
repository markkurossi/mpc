/-
C10: `Triples.Append` and `TriplePool.Get` (gmw/triples.go) – the pool hands out
the stream of triple words in order, whatever the arrival schedule of the
offline goroutine.  Core Lean only.
-/
import MpcVerif.Proofs.GmwTriples

namespace Mpc.Gmw

theorem pool_le_size_expand (v : Words) (n : Nat) : n ≤ (expand v n).size := by
  unfold expand
  split
  · assumption
  · rw [mkA_size]; exact Nat.le_refl _

theorem pool_size_le_size_expand (v : Words) (n : Nat) : v.size ≤ (expand v n).size := by
  unfold expand
  split
  · exact Nat.le_refl _
  · rw [mkA_size]; omega

theorem pool_wget_expand (v : Words) (n i : Nat) : wget (expand v n) i = wget v i := by
  unfold expand
  split
  · rfl
  · next h =>
    rw [wget_mkA_ite]
    split
    · rfl
    · exact (getD_of_size_le v i _ (by omega)).symm

theorem pool_size_copyW (dst : Words) (off : Nat) (src : Words) (lo hi : Nat) :
    (copyW dst off src lo hi).size = dst.size := mkA_size _ _

theorem pool_wget_copyW (dst : Words) (off : Nat) (src : Words) (lo hi i : Nat) :
    wget (copyW dst off src lo hi) i =
      if i < dst.size then
        (if off ≤ i ∧ i - off < hi - lo then wget src (lo + (i - off)) else wget dst i)
      else 0#64 := by
  unfold copyW
  rw [wget_mkA_ite]

theorem pool_size_clearFrom (v : Words) (frm : Nat) : (clearFrom v frm).size = v.size := mkA_size _ _

theorem pool_wget_clearFrom (v : Words) (frm i : Nat) :
    wget (clearFrom v frm) i = if i < v.size then (if frm ≤ i then 0#64 else wget v i) else 0#64 := by
  unfold clearFrom
  rw [wget_mkA_ite]

theorem pool_lt_capLoop (fuel size words : Nat) (h1 : 1 ≤ size) (h2 : words < fuel + size) :
    words < capLoop fuel size words := by
  induction fuel generalizing size with
  | zero => simpa [capLoop] using h2
  | succ f ih =>
    simp only [capLoop]
    split
    · apply ih <;> omega
    · omega

theorem lt_capFor (words : Nat) : words < capFor words :=
  pool_lt_capLoop _ _ _ (by omega) (by omega)

theorem length_view (t : Triples) : t.view.length = t.words := by
  simp [Triples.view]

def tw (t : Triples) (i : Nat) : Word × Word × Word := (wget t.a i, wget t.b i, wget t.c i)

theorem pool_getElem?_view (t : Triples) (i : Nat) :
    t.view[i]? = if i < t.words then some (tw t i) else none := by
  unfold Triples.view
  rw [List.getElem?_map]
  split
  · next h => rw [List.getElem?_range h]; rfl
  · next h => rw [List.getElem?_eq_none (by simpa using h)]; rfl

theorem view_empty : Triples.empty.view = [] := by
  simp [Triples.view, Triples.empty]

theorem empty_WF : Triples.empty.WF := by
  simp [Triples.WF, Triples.empty]

theorem clear_words (t : Triples) : t.clear.words = 0 := rfl

theorem clear_WF (t : Triples) : t.clear.WF := by
  simp [Triples.WF, Triples.clear]

theorem pool_view_ext (t : Triples) (l : List (Word × Word × Word)) (hl : l.length = t.words)
    (h : ∀ i, i < t.words → l[i]? = some (tw t i)) : t.view = l := by
  apply List.ext_getElem?
  intro i
  rw [pool_getElem?_view]
  split
  · next hi => exact (h i hi).symm
  · next hi => rw [List.getElem?_eq_none (by omega)]

/-- Destination side of `Append`, one slice. -/
theorem pool_wget_copy_expand (dv sv : Words) (w k cap i : Nat) (hcap : w + k < cap) (hi : i < w + k) :
    wget (copyW (expand dv cap) w sv 0 k) i = if w ≤ i then wget sv (i - w) else wget dv i := by
  have := pool_le_size_expand dv cap
  rw [pool_wget_copyW, if_pos (by omega), pool_wget_expand]
  by_cases hw : w ≤ i
  · rw [if_pos ⟨hw, by omega⟩, if_pos hw, Nat.zero_add]
  · rw [if_neg (fun h => hw h.1), if_neg hw]

/-- Source side of `Append` (shift down and clear the tail), one slice. -/
theorem pool_wget_shift (v : Words) (sw k i : Nat) (hsw : sw ≤ v.size) (hi : i < sw - k) :
    wget (clearFrom (copyW v 0 v k v.size) (sw - k)) i = wget v (i + k) := by
  rw [pool_wget_clearFrom, pool_size_copyW, if_pos (by omega), if_neg (by omega), pool_wget_copyW,
    if_pos (by omega), if_pos ⟨Nat.zero_le _, by omega⟩, Nat.sub_zero, Nat.add_comm]

theorem pool_append_words_fst (dst src : Triples) (n : Nat) :
    (dst.append src n).1.words = dst.words + min ((n + 63) / 64) src.words := rfl

theorem pool_append_words_snd (dst src : Triples) (n : Nat) :
    (dst.append src n).2.1.words = src.words - min ((n + 63) / 64) src.words := rfl

theorem pool_append_ret (dst src : Triples) (n : Nat) :
    (dst.append src n).2.2 = min ((n + 63) / 64) src.words * 64 := rfl

theorem pool_append_WF_fst (dst src : Triples) (n : Nat) : (dst.append src n).1.WF := by
  have hc := lt_capFor (dst.words + min ((n + 63) / 64) src.words)
  have ha := pool_le_size_expand dst.a (capFor (dst.words + min ((n + 63) / 64) src.words))
  have hb := pool_le_size_expand dst.b (capFor (dst.words + min ((n + 63) / 64) src.words))
  have hc' := pool_le_size_expand dst.c (capFor (dst.words + min ((n + 63) / 64) src.words))
  simp only [Triples.WF, Triples.append, Triples.ensureCapacity, pool_size_copyW]
  omega

theorem pool_append_WF_snd (dst src : Triples) (n : Nat) (hs : src.WF) : (dst.append src n).2.1.WF := by
  obtain ⟨h1, h2, h3⟩ := hs
  simp only [Triples.WF, Triples.append, pool_size_clearFrom, pool_size_copyW]
  exact ⟨Nat.le_trans (Nat.sub_le _ _) h1, Nat.le_trans (Nat.sub_le _ _) h2, Nat.le_trans (Nat.sub_le _ _) h3⟩

theorem pool_append_wget_fst (dst src : Triples) (n i : Nat)
    (hi : i < dst.words + min ((n + 63) / 64) src.words) :
    tw (dst.append src n).1 i = if dst.words ≤ i then tw src (i - dst.words) else tw dst i := by
  have hc := lt_capFor (dst.words + min ((n + 63) / 64) src.words)
  simp only [tw, Triples.append, Triples.ensureCapacity]
  rw [pool_wget_copy_expand _ _ _ _ _ _ hc hi, pool_wget_copy_expand _ _ _ _ _ _ hc hi,
    pool_wget_copy_expand _ _ _ _ _ _ hc hi]
  split <;> rfl

theorem pool_append_wget_snd (dst src : Triples) (n i : Nat) (hs : src.WF)
    (hi : i < src.words - min ((n + 63) / 64) src.words) :
    tw (dst.append src n).2.1 i = tw src (i + min ((n + 63) / 64) src.words) := by
  obtain ⟨h1, h2, h3⟩ := hs
  simp only [tw, Triples.append]
  rw [pool_wget_shift _ _ _ _ h1 hi, pool_wget_shift _ _ _ _ h2 hi, pool_wget_shift _ _ _ _ h3 hi]

theorem pool_append_view_fst (dst src : Triples) (n : Nat) :
    (dst.append src n).1.view = dst.view ++ src.view.take (min ((n + 63) / 64) src.words) := by
  apply pool_view_ext
  · rw [pool_append_words_fst, List.length_append, List.length_take, length_view, length_view,
      Nat.min_eq_left (Nat.min_le_right _ _)]
  · intro i hi
    rw [pool_append_words_fst] at hi
    rw [pool_append_wget_fst dst src n i hi, List.getElem?_append, length_view]
    have hk : min ((n + 63) / 64) src.words ≤ src.words := Nat.min_le_right _ _
    generalize min ((n + 63) / 64) src.words = k at hi hk ⊢
    by_cases hw : dst.words ≤ i
    · rw [if_neg (by omega), if_pos hw, List.getElem?_take, if_pos (by omega), pool_getElem?_view, if_pos (by omega)]
    · rw [if_pos (by omega), if_neg hw, pool_getElem?_view, if_pos (by omega)]

theorem pool_append_view_snd (dst src : Triples) (n : Nat) (hs : src.WF) :
    (dst.append src n).2.1.view = src.view.drop (min ((n + 63) / 64) src.words) := by
  apply pool_view_ext
  · rw [pool_append_words_snd, List.length_drop, length_view]
  · intro i hi
    rw [pool_append_words_snd] at hi
    rw [pool_append_wget_snd dst src n i hs hi, List.getElem?_drop, pool_getElem?_view, if_pos (by omega), Nat.add_comm]

-- `hd` is not used: `EnsureCapacity` makes the destination long enough whatever it was before
set_option linter.unusedVariables false in
theorem append_spec (dst src : Triples) (n : Nat) (hd : dst.WF) (hs : src.WF) :
    let r := dst.append src n
    let k := min ((n + 63) / 64) src.words
    r.1.words = dst.words + k ∧ r.2.1.words = src.words - k ∧ r.2.2 = k * 64 ∧
    r.1.WF ∧ r.2.1.WF ∧
    r.1.view = dst.view ++ src.view.take k ∧ r.2.1.view = src.view.drop k :=
  ⟨rfl, rfl, rfl, pool_append_WF_fst dst src n, pool_append_WF_snd dst src n hs, pool_append_view_fst dst src n,
    pool_append_view_snd dst src n hs⟩

/-- Everything that is or will be in the pool, in order. -/
def stream (pool : Triples) (ticks : List (List Triples)) : List (Word × Word × Word) :=
  pool.view ++ (ticks.flatten.flatMap Triples.view)

theorem poolArrive_spec (pool b : Triples) :
    (poolArrive pool b).WF ∧ (poolArrive pool b).view = pool.view ++ b.view := by
  refine ⟨pool_append_WF_fst _ _ _, ?_⟩
  unfold poolArrive
  rw [pool_append_view_fst, List.take_of_length_le]
  rw [length_view]
  omega

theorem pool_foldl_poolArrive_spec (tick : List Triples) (pool : Triples) (hp : pool.WF) :
    (tick.foldl poolArrive pool).WF ∧
      (tick.foldl poolArrive pool).view = pool.view ++ tick.flatMap Triples.view := by
  induction tick generalizing pool with
  | nil => simpa using hp
  | cons b tick ih =>
    obtain ⟨h1, h2⟩ := poolArrive_spec pool b
    obtain ⟨h3, h4⟩ := ih (poolArrive pool b) h1
    refine ⟨h3, ?_⟩
    rw [List.foldl_cons, h4, h2, List.flatMap_cons, List.append_assoc]

theorem pool_stream_cons (pool : Triples) (tick : List Triples) (rest : List (List Triples))
    (hp : pool.WF) :
    stream pool (tick :: rest) = stream (tick.foldl poolArrive pool) rest := by
  unfold stream
  rw [(pool_foldl_poolArrive_spec tick pool hp).2, List.flatten_cons, List.flatMap_append,
    List.append_assoc]

/-- Words `Get` still has to fetch at offset `ofs`. -/
def poolNeed (count ofs : Nat) : Nat := (count - ofs + 63) / 64

theorem poolNeed_eq_zero (count ofs : Nat) : poolNeed count ofs = 0 ↔ count ≤ ofs := by
  unfold poolNeed; omega

theorem poolNeed_step (count ofs k : Nat) (hk : k ≤ poolNeed count ofs) :
    poolNeed count (ofs + k * 64) = poolNeed count ofs - k := by
  unfold poolNeed at *
  rw [Nat.sub_add_eq]
  generalize count - ofs = a at *
  by_cases h : k * 64 ≤ a
  · rw [← Nat.sub_add_comm h, Nat.mul_comm, Nat.sub_mul_div_of_le]
    omega
  · -- the last word is a partial one: nothing remains
    have : (a + 63) / 64 = k := by omega
    rw [Nat.sub_eq_zero_of_le (Nat.le_of_lt (Nat.lt_of_not_le h)), this, Nat.sub_self]

theorem pool_append_stream (dst pool : Triples) (rest : List (List Triples)) (n : Nat) (hp : pool.WF) :
    let k := min ((n + 63) / 64) pool.words
    (dst.append pool n).1.view = dst.view ++ (stream pool rest).take k ∧
    stream (dst.append pool n).2.1 rest = (stream pool rest).drop k ∧
    k ≤ (stream pool rest).length := by
  intro k
  have hk : k ≤ pool.view.length := by rw [length_view]; exact Nat.min_le_right _ _
  refine ⟨?_, ?_, ?_⟩
  · rw [pool_append_view_fst]
    unfold stream
    rw [List.take_append_of_le_length hk]
  · unfold stream
    rw [pool_append_view_snd _ _ _ hp, List.drop_append_of_le_length hk]
  · unfold stream
    rw [List.length_append]
    omega

theorem poolGet_done (count : Nat) (ticks : List (List Triples)) (ofs : Nat) (pool dst : Triples) (h : count ≤ ofs) :
    poolGet count ticks ofs pool dst = some (pool, dst, ticks) := by
  cases ticks <;> simp [poolGet, h]

theorem poolGet_cons (count : Nat) (tick : List Triples) (rest : List (List Triples)) (ofs : Nat) (pool dst : Triples)
    (h : ¬ count ≤ ofs) :
    poolGet count (tick :: rest) ofs pool dst =
      if (tick.foldl poolArrive pool).words = 0 then poolGet count rest ofs (tick.foldl poolArrive pool) dst else
      poolGet count rest (ofs + (dst.append (tick.foldl poolArrive pool) (count - ofs)).2.2)
        (dst.append (tick.foldl poolArrive pool) (count - ofs)).2.1
        (dst.append (tick.foldl poolArrive pool) (count - ofs)).1 := by
  rw [poolGet, if_neg h]

theorem pool_poolGet_spec (count : Nat) (ticks : List (List Triples)) :
    ∀ (ofs : Nat) (pool dst pool' dst' : Triples) (rest : List (List Triples)),
      pool.WF → dst.WF →
      poolGet count ticks ofs pool dst = some (pool', dst', rest) →
      dst'.view = dst.view ++ (stream pool ticks).take (poolNeed count ofs) ∧
      stream pool' rest = (stream pool ticks).drop (poolNeed count ofs) ∧
      poolNeed count ofs ≤ (stream pool ticks).length ∧ pool'.WF ∧ dst'.WF := by
  induction ticks with
  | nil =>
    intro ofs pool dst pool' dst' rest hp hd h
    by_cases hc : count ≤ ofs
    · rw [poolGet_done _ _ _ _ _ hc, Option.some.injEq, Prod.mk.injEq, Prod.mk.injEq] at h
      obtain ⟨rfl, rfl, rfl⟩ := h
      simp [(poolNeed_eq_zero count ofs).2 hc, hp, hd]
    · simp [poolGet, hc] at h
  | cons tick ticks ih =>
    intro ofs pool dst pool' dst' rest hp hd h
    by_cases hc : count ≤ ofs
    · rw [poolGet_done _ _ _ _ _ hc, Option.some.injEq, Prod.mk.injEq, Prod.mk.injEq] at h
      obtain ⟨rfl, rfl, rfl⟩ := h
      simp [(poolNeed_eq_zero count ofs).2 hc, hp, hd]
    obtain ⟨hp1, _⟩ := pool_foldl_poolArrive_spec tick pool hp
    rw [poolGet_cons _ _ _ _ _ _ hc] at h
    rw [pool_stream_cons pool tick ticks hp]
    split at h
    · exact ih ofs _ dst pool' dst' rest hp1 hd h
    · obtain ⟨hv1, hs1, hk1⟩ := pool_append_stream dst (tick.foldl poolArrive pool) ticks (count - ofs) hp1
      have hkn : min ((count - ofs + 63) / 64) (tick.foldl poolArrive pool).words ≤ poolNeed count ofs :=
        Nat.min_le_left _ _
      obtain ⟨h1, h2, h3, h4, h5⟩ := ih _ _ _ pool' dst' rest (pool_append_WF_snd dst _ (count - ofs) hp1)
        (pool_append_WF_fst dst _ (count - ofs)) h
      rw [pool_append_ret, poolNeed_step count ofs _ hkn] at h1 h2 h3
      generalize min ((count - ofs + 63) / 64) (tick.foldl poolArrive pool).words = k at *
      generalize stream (tick.foldl poolArrive pool) ticks = S at *
      rw [hs1] at h2 h3
      rw [hv1, hs1] at h1
      rw [List.length_drop] at h3
      refine ⟨?_, ?_, by omega, h4, h5⟩
      · rw [h1, List.append_assoc, ← List.take_add, Nat.add_sub_cancel' hkn]
      · rw [h2, List.drop_drop, Nat.add_sub_cancel' hkn]

-- `hb` (the Go precondition on every arriving batch) is not needed: `Append` reads the batch through `wget`
set_option linter.unusedVariables false in
/-- Lockstep: whatever the arrival schedule, a `Get(count)` that returns has moved exactly the next
`⌈count/64⌉` words of the stream to the destination, in order, and left the rest of the stream. -/
theorem gmw_pool_lockstep (count : Nat) (ticks : List (List Triples)) (pool dst pool' dst' : Triples)
    (rest : List (List Triples)) (hp : pool.WF) (hd : dst.WF) (hb : ∀ t ∈ ticks, ∀ b ∈ t, b.WF)
    (h : poolGet count ticks 0 pool dst = some (pool', dst', rest)) :
    dst'.view = dst.view ++ (stream pool ticks).take ((count + 63) / 64) ∧
    stream pool' rest = (stream pool ticks).drop ((count + 63) / 64) ∧
    (count + 63) / 64 ≤ (stream pool ticks).length ∧ pool'.WF ∧ dst'.WF :=
  pool_poolGet_spec count ticks 0 pool dst pool' dst' rest hp hd h

/-- Progress: if the schedule delivers enough words and is padded with enough (possibly empty) ticks,
`Get` returns.  (One tick per loop iteration; an iteration either waits or takes at least one word.) -/
theorem pool_poolGet_returns (count : Nat) (ticks : List (List Triples)) :
    ∀ (ofs : Nat) (pool dst : Triples), pool.WF →
      poolNeed count ofs ≤ (stream pool ticks).length →
      ∃ pad, (poolGet count (ticks ++ List.replicate pad []) ofs pool dst).isSome = true := by
  induction ticks with
  | nil =>
    intro ofs pool dst hp hn
    -- the pool itself holds the words still needed: one more iteration takes them all
    refine ⟨1, ?_⟩
    by_cases hc : count ≤ ofs
    · rw [poolGet_done _ _ _ _ _ hc]; rfl
    · have hw : poolNeed count ofs ≤ pool.words := by simpa [stream, length_view] using hn
      have hmin : min ((count - ofs + 63) / 64) pool.words = poolNeed count ofs := Nat.min_eq_left hw
      have hne : ¬ pool.words = 0 := by have := poolNeed_eq_zero count ofs; omega
      rw [List.nil_append, List.replicate_one, poolGet_cons _ _ _ _ _ _ hc, List.foldl_nil, if_neg hne, poolGet_done]
      · rfl
      · rw [pool_append_ret, hmin, ← poolNeed_eq_zero, poolNeed_step count ofs _ (Nat.le_refl _), Nat.sub_self]
  | cons tick ticks ih =>
    intro ofs pool dst hp hn
    by_cases hc : count ≤ ofs
    · exact ⟨0, by rw [poolGet_done _ _ _ _ _ hc]; rfl⟩
    · obtain ⟨hp1, _⟩ := pool_foldl_poolArrive_spec tick pool hp
      rw [pool_stream_cons pool tick ticks hp] at hn
      simp only [List.cons_append, poolGet_cons _ _ _ _ _ _ hc]
      split
      · exact ih ofs _ dst hp1 hn
      · apply ih _ _ _ (pool_append_WF_snd dst _ (count - ofs) hp1)
        obtain ⟨_, hs1, hk1⟩ := pool_append_stream dst (tick.foldl poolArrive pool) ticks (count - ofs) hp1
        have hkn : min ((count - ofs + 63) / 64) (tick.foldl poolArrive pool).words ≤ poolNeed count ofs :=
          Nat.min_le_left _ _
        rw [pool_append_ret, poolNeed_step count ofs _ hkn, hs1, List.length_drop]
        omega

end Mpc.Gmw
