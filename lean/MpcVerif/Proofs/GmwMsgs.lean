/-
The message transcript of Model/GmwMsgs.lean: in every round every ordered pair of distinct parties
exchanges exactly one message, whatever the payload (`round_one_per_pair`, `transcript_count`);
source, destination and size of each (`mem_round`).
-/
import MpcVerif.Model.GmwMsgs

namespace Mpc.Gmw

theorem countP_peers (n p q : Nat) (hq : q < n) (hpq : p ≠ q) :
    (peersOf n p).countP (· == q) = 1 := by
  unfold peersOf
  rw [List.countP_filter]
  have : (List.range n).countP (fun a => (a == q) && (a != p)) = (List.range n).count q := by
    rw [List.count]; apply List.countP_congr; intro a _
    by_cases h : a = q <;> simp [h, Ne.symm hpq]
  rw [this, List.count_range]; simp [hq]

theorem countP_peers_self (n p : Nat) : (peersOf n p).countP (· == p) = 0 := by
  unfold peersOf
  rw [List.countP_filter]
  apply List.countP_eq_zero.2; intro a _; by_cases h : a = p <;> simp [h]

theorem countP_row (n ph : Nat) (f : Nat → Nat) (p' p q : Nat) :
    ((peersOf n p').map fun q' => (⟨p', q', ph, f p'⟩ : Msg)).countP (fun m => m.src == p && m.dst == q) =
      if p' = p then (peersOf n p).countP (· == q) else 0 := by
  rw [List.countP_map]
  by_cases h : p' = p
  · subst h; simp [Function.comp_def]
  · simp [h, Function.comp_def]

theorem sum_ite_range (n p c : Nat) (hp : p < n) :
    ((List.range n).map fun i => if i = p then c else 0).sum = c := by
  induction n with
  | zero => omega
  | succ k ih =>
    rw [List.range_succ, List.map_append, List.sum_append]
    by_cases h : p < k
    · have : k ≠ p := by omega
      simp [ih h, this]
    · have hk : p = k := by omega
      subst hk
      have : ((List.range p).map fun i => if i = p then c else 0) = (List.range p).map fun _ => 0 := by
        apply List.map_congr_left; intro a ha; have := List.mem_range.1 ha; simp; omega
      simp [this, List.map_const', List.sum_replicate_nat]

theorem round_one_per_pair (n ph : Nat) (f : Nat → Nat) (p q : Nat) (hp : p < n) (hq : q < n) (hpq : p ≠ q) :
    (round n ph f).countP (fun m => m.src == p && m.dst == q) = 1 := by
  unfold round
  rw [List.countP_flatMap]
  have : (List.map (List.countP (fun m => m.src == p && m.dst == q) ∘
      fun p' => (peersOf n p').map fun q' => (⟨p', q', ph, f p'⟩ : Msg)) (List.range n)) =
      (List.range n).map fun i => if i = p then 1 else 0 := by
    apply List.map_congr_left; intro p' _
    simp only [Function.comp_apply]
    rw [countP_row, countP_peers n p q hq hpq]
  rw [this, sum_ite_range n p 1 hp]

theorem openMsgs_count (n : Nat) (p q : Nat) (hp : p < n) (hq : q < n) (hpq : p ≠ q) (ws : List Nat) :
    ∀ k len, (openMsgs n k len ws).countP (fun m => m.src == p && m.dst == q) = ws.length := by
  induction ws with
  | nil => intro k len; simp [openMsgs]
  | cons w ws ih =>
    intro k len
    simp only [openMsgs, List.countP_append, List.length_cons]
    rw [round_one_per_pair n _ _ p q hp hq hpq, ih]; omega

theorem transcript_count (sizes ws : List Nat) (outLen : Nat → Nat) (p q : Nat) (hp : p < sizes.length)
    (hq : q < sizes.length) (hpq : p ≠ q) :
    (transcript sizes ws outLen).countP (fun m => m.src == p && m.dst == q) = ws.length + 2 := by
  unfold transcript inputMsgs
  simp only [List.countP_append]
  rw [round_one_per_pair _ _ _ p q hp hq hpq, round_one_per_pair _ _ _ p q hp hq hpq,
    openMsgs_count _ p q hp hq hpq]
  omega

theorem mem_round {n ph : Nat} {f : Nat → Nat} {m : Msg} (h : m ∈ round n ph f) :
    m.src < n ∧ m.dst < n ∧ m.src ≠ m.dst ∧ m.phase = ph ∧ m.bytes = f m.src := by
  unfold round peersOf at h
  simp only [List.mem_flatMap, List.mem_map, List.mem_filter, List.mem_range] at h
  obtain ⟨p, hp, q, ⟨hq, hne⟩, rfl⟩ := h
  refine ⟨hp, hq, ?_, rfl, rfl⟩
  intro h; simp at hne; exact hne h.symm

end Mpc.Gmw
