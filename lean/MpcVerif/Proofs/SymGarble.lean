/-
C04, for `garbleCore` / `garbleGates` of Model/Garble.lean run on the symbolic
labels of Proofs/Sym.lean: the linear functional that kills every transmitted
row and every active label, built gate by gate (`phiGates`), and the invariant
one gate preserves (`InvS`, `gate_phi`).
-/
import MpcVerif.Proofs.Sym
import MpcVerif.Proofs.TweakAcc

namespace Mpc.Sym
open Mpc LabelAlg
variable {Code : Type}

/-- Hash atoms added to the functional by one gate: the INACTIVE queries whose
prescribed weight is 1 (AND: `[i≠va]·pb` and `[j≠vb]·va`; OR/INV:
`out(va,vb) ⊕ out(i,j)`). -/
noncomputable def newAtoms (code : SymL Code → Code) (op : Op) (a b : WireL (SymL Code))
    (va vb : Bool) (id : Nat) : List (Atom Code) :=
  match op with
  | .xor | .xnor => []
  | .and =>
    (if sbit b.l0 then [Atom.h1 id (code (a.labelFor (!va)))] else []) ++
    (if va then [Atom.h1 (id + 1) (code (b.labelFor (!vb)))] else [])
  | .or =>
    ([(false, false), (false, true), (true, false), (true, true)].filter
      (fun p => (p.1 != va || p.2 != vb) && ((va || vb) != (p.1 || p.2)))).map
      (fun p => Atom.h2 id (code (a.labelFor p.1)) (code (b.labelFor p.2)))
  | .inv => [Atom.h2 id (code (a.labelFor (!va))) (code (LabelAlg.zero))]

def ListBelow (n : Nat) (S : List (Atom Code)) : Prop :=
  ∀ a ∈ S, ∀ t, a.tweak = some t → t < n

theorem ListBelow.mono {n m : Nat} {S : List (Atom Code)} (h : ListBelow n S) (hnm : n ≤ m) :
    ListBelow m S := fun a ha t hat => by have := h a ha t hat; omega

theorem ListBelow.append {n : Nat} {S T : List (Atom Code)} (hS : ListBelow n S)
    (hT : ListBelow n T) : ListBelow n (S ++ T) := by
  intro a ha
  rcases List.mem_append.mp ha with h | h
  · exact hS a h
  · exact hT a h

theorem symR_sbit (σ : Atom Code → Bool) (hσ : σ .R = true) : sbit (symR σ) = true := hσ

theorem symR_below (σ : Atom Code → Bool) (n : Nat) : Below n (symR σ) :=
  Below.atom σ .R n (by intro t h; cases h)

theorem garbleCore_below (σ : Atom Code → Bool) (code : SymL Code → Code) (op : Op)
    (a b : WireL (SymL Code)) (id : Nat) (hBa : Below id a.l0)
    (hBb : op.binary = true → Below id b.l0) :
    let c := garbleCore (symHash σ code) (symR σ) op a b id
    Below (id + op.tweaks) c.1.l0 ∧ Below (id + op.tweaks) c.1.l1 ∧
      ∀ row ∈ c.2, Below (id + op.tweaks) row := by
  have hle := Nat.le_add_right id op.tweaks
  have hq : ∀ t ∈ op.uses id, t < id + op.tweaks :=
    fun t ht => op.queries_eq_tweaks ▸ ((mem_uses op id t).1 ht).2
  exact garbleCore_closed (Below (id + op.tweaks)) _ _ op a b id Below.xor (Below.zero _)
    (symR_below σ _) (hBa.mono hle) (fun h => (hBb h).mono hle)
    (fun x t ht => Below.atom σ (.h1 t (code x)) _ fun _ h => Option.some.inj h ▸ hq t ht)
    (fun x y t ht => Below.atom σ (.h2 t (code x) (code y)) _ fun _ h => Option.some.inj h ▸ hq t ht)

theorem core_below (σ : Atom Code → Bool) (code : SymL Code → Code) (op : Op)
    (a b : WireL (SymL Code)) (id : Nat)
    (hBa0 : Below id a.l0) (hBa1 : Below id a.l1) (hBb0 : Below id b.l0) (hBb1 : Below id b.l1) :
    Below (id + op.tweaks) (garbleCore (symHash σ code) (symR σ) op a b id).1.l0 ∧
    Below (id + op.tweaks) (garbleCore (symHash σ code) (symR σ) op a b id).1.l1 ∧
    ∀ row ∈ (garbleCore (symHash σ code) (symR σ) op a b id).2, Below (id + op.tweaks) row :=
  garbleCore_below σ code op a b id hBa0 fun _ => hBb0

theorem core_fin (σ : Atom Code → Bool) (code : SymL Code → Code) (op : Op)
    (a b : WireL (SymL Code)) (id : Nat) (ha0 : FinSupp a.l0) (hb0 : FinSupp b.l0) :
    let c := garbleCore (symHash σ code) (symR σ) op a b id
    FinSupp c.1.l0 ∧ FinSupp c.1.l1 ∧ ∀ row ∈ c.2, FinSupp row :=
  garbleCore_closed FinSupp _ _ op a b id FinSupp.xor FinSupp.zero (FinSupp.symR σ) ha0 (fun _ => hb0)
    (fun _ _ _ => FinSupp.atom σ _) (fun _ _ _ _ => FinSupp.atom σ _)

def HotH (code : SymL Code → Code) (P : SymL Code → Prop) : Atom Code → Prop
  | .R => False
  | .inp _ => False
  | .h1 _ c => ∃ y, P y ∧ c = code y
  | .h2 _ c1 c2 => ∃ y, P y ∧ (c1 = code y ∨ c2 = code y)

theorem newAtoms_query (code : SymL Code → Code) (op : Op) (a b : WireL (SymL Code)) (va vb : Bool)
    (id : Nat) (P : SymL Code → Prop) (hPa : P (a.labelFor (!va)))
    (hPb : op.binary = true → P (b.labelFor (!vb))) :
    ∀ x ∈ newAtoms code op a b va vb id, (∃ t ∈ op.uses id, x.tweak = some t) ∧ HotH code P x := by
  intro x hx
  cases op
  case xor => cases hx
  case xnor => cases hx
  case and =>
    simp only [newAtoms, List.mem_append] at hx
    rcases hx with hx | hx <;> split at hx <;> simp only [List.mem_singleton, List.not_mem_nil] at hx
    · exact hx ▸ ⟨⟨id, .head _, rfl⟩, _, hPa, rfl⟩
    · exact hx ▸ ⟨⟨id + 1, .tail _ (.head _), rfl⟩, _, hPb rfl, rfl⟩
  case or =>
    obtain ⟨q, hq, rfl⟩ := List.mem_map.1 hx
    refine ⟨⟨id, .head _, rfl⟩, ?_⟩
    have hq := (List.mem_filter.1 hq).2
    simp only [Bool.and_eq_true, Bool.or_eq_true, bne_iff_ne] at hq
    rcases hq.1 with h | h
    · exact ⟨_, Bool.eq_not_of_ne h ▸ hPa, Or.inl rfl⟩
    · exact ⟨_, Bool.eq_not_of_ne h ▸ hPb rfl, Or.inr rfl⟩
  case inv =>
    cases List.mem_singleton.1 hx
    exact ⟨⟨id, .head _, rfl⟩, _, hPa, Or.inl rfl⟩

theorem newAtoms_bounds (code : SymL Code → Code) (op : Op) (a b : WireL (SymL Code))
    (va vb : Bool) (id : Nat) :
    AllAbove id (newAtoms code op a b va vb id) ∧
    ListBelow (id + op.tweaks) (newAtoms code op a b va vb id) := by
  have h := fun x hx => (newAtoms_query code op a b va vb id (fun _ => True) trivial (fun _ => trivial) x hx).1
  refine ⟨fun x hx => ?_, fun x hx t ht => ?_⟩ <;> obtain ⟨t', ht', hxt⟩ := h x hx <;>
    have := (mem_uses op id t').1 ht' <;> rw [op.queries_eq_tweaks] at this
  · exact ⟨t', hxt, this.1⟩
  · exact Option.some.inj (ht.symm.trans hxt) ▸ this.2

theorem code_labelFor (σ : Atom Code → Bool) (code : SymL Code → Code) (hsep : Separates σ code)
    (w : WireL (SymL Code)) (h : w.l1 = w.l0 ^^^ symR σ) (u v : Bool) :
    (code (w.labelFor u) = code (w.labelFor v)) = (u = v) := by
  cases u <;> cases v <;> simp [WireL.labelFor, h, hsep w.l0, (hsep w.l0).symm]

/-- A table gate under a functional that is 1 on the offset.  If the functional is `m != v` on the pad
of every pair of input labels whose values give `v` (`m` the gate's plain output), the anchor — the
pad that IS an output label — makes it `m` on the output zero-label, and then it kills every row
"pad XOR output label". -/
theorem table_phi (S : List (Atom Code)) {r : SymL Code} (hR : phi S r = true) (c : WireL (SymL Code))
    (hc1 : c.l1 = c.l0 ^^^ r) (m k : Bool) (p : SymL Code) (hanchor : c.labelFor k = p)
    (hp : phi S p = (m != k)) :
    phi S c.l0 = m ∧ ∀ q v, phi S q = (m != v) → phi S (q ^^^ c.labelFor v) = false := by
  have hc : ∀ v, phi S (c.labelFor v) = (phi S c.l0 != v) := phi_labelFor S c hc1 hR
  have hz : phi S c.l0 = m := by
    rw [← hanchor, hc] at hp
    exact Bool.bne_left_inj.1 hp
  exact ⟨hz, fun q v hq => by rw [phi_xor, hq, hc, hz, bne_self_eq_false]⟩

open Classical in
theorem core_phi (σ : Atom Code → Bool) (hσ : σ .R = true) (code : SymL Code → Code)
    (hsep : Separates σ code) (S : List (Atom Code)) (op : Op) (a b : WireL (SymL Code))
    (va vb : Bool) (id : Nat)
    (ha1 : a.l1 = a.l0 ^^^ symR σ) (hpa : phi S a.l0 = va) (hBa : Below id a.l0)
    (hb : op.binary = true → b.l1 = b.l0 ^^^ symR σ ∧ phi S b.l0 = vb ∧ Below id b.l0)
    (hS : ListBelow id S) (hR : phi S (symR σ) = true) :
    phi (S ++ newAtoms code op a b va vb id)
        (garbleCore (symHash σ code) (symR σ) op a b id).1.l0 = op.eval va vb ∧
    ∀ row ∈ (garbleCore (symHash σ code) (symR σ) op a b id).2,
      phi (S ++ newAtoms code op a b va vb id) row = false := by
  have hlow : ∀ x, Below id x → phi (S ++ newAtoms code op a b va vb id) x = phi S x :=
    fun x hx => phi_append_below S _ id x (newAtoms_bounds code op a b va vb id).1 hx
  have hnew : ∀ q t, q.tweak = some t → id ≤ t →
      phi (S ++ newAtoms code op a b va vb id) (atom σ q) =
        phi (newAtoms code op a b va vb id) (atom σ q) := by
    intro q t hq ht
    rw [phi_append, phi_atom_notin S σ q fun hm => Nat.lt_irrefl t (Nat.lt_of_lt_of_le (hS q hm t hq) ht),
      Bool.false_bne]
  -- `hlow` and `hnew` are all that is used of the extended functional
  generalize S ++ newAtoms code op a b va vb id = S' at hlow hnew ⊢
  have er := (hlow _ (symR_below σ id)).trans hR
  have ea := (hlow _ hBa).trans hpa
  have hca := code_labelFor σ code hsep a ha1
  cases op
  case xor =>
    obtain ⟨_, hpb, hBb⟩ := hb rfl
    simp only [garbleCore_xor, phi_xor, ea, (hlow _ hBb).trans hpb, Op.eval, List.not_mem_nil,
      false_implies, implies_true, and_true]
  case xnor =>
    obtain ⟨_, hpb, hBb⟩ := hb rfl
    simp only [garbleCore_xnor, phi_xor, ea, (hlow _ hBb).trans hpb, er, Op.eval, List.not_mem_nil,
      false_implies, implies_true, and_true]
    cases va <;> cases vb <;> rfl
  case and =>
    obtain ⟨hb1, hpb, hBb⟩ := hb rfl
    have hcb := code_labelFor σ code hsep b hb1
    -- the functional on the gate's four hash values, stated on `l = a.labelFor u` so that the
    -- instances at `a.l0`, `a.l1` rewrite the hash values as they stand in `garbleCore`
    have hA : ∀ l u, l = a.labelFor u →
        phi S' ((symHash σ code).h1 l id) = (sbit b.l0 && (u != va)) := by
      rintro _ u rfl
      refine (hnew _ id rfl (Nat.le_refl _)).trans ?_
      cases va <;> cases hsb : sbit b.l0 <;> simp [newAtoms, hsb, atom_f, hca] <;> cases u <;> rfl
    have hB : ∀ l u, l = b.labelFor u →
        phi S' ((symHash σ code).h1 l (id + 1)) = (va && (u != vb)) := by
      rintro _ u rfl
      refine (hnew _ (id + 1) rfl (Nat.le_add_right _ _)).trans ?_
      cases va <;> cases vb <;> cases hsb : sbit b.l0 <;> simp [newAtoms, hsb, atom_f, hcb] <;>
        cases u <;> rfl
    simp only [garbleCore, List.forall_mem_cons, List.not_mem_nil, false_implies, implies_true,
      and_true, phi_xor, apply_ite (phi S'), hA a.l0 false rfl, hA a.l1 true rfl, hB b.l0 false rfl,
      hB b.l1 true rfl, ea, er, Op.eval]
    cases sbit a.l0 <;> cases sbit b.l0 <;> cases va <;> cases vb <;> decide
  case or =>
    obtain ⟨hb1, hpb, hBb⟩ := hb rfl
    have hcb := code_labelFor σ code hsep b hb1
    have hO : ∀ u w, phi S' ((symHash σ code).h2 (a.labelFor u) (b.labelFor w) id) =
        ((va || vb) != (u || w)) := by
      intro u w
      refine (hnew _ id rfl (Nat.le_refl _)).trans ?_
      cases va <;> cases vb <;> simp [newAtoms, atom_f, hca, hcb] <;> cases u <;> cases w <;> rfl
    obtain ⟨hanchor, hrows⟩ := garbleCore_or_form (symHash σ code) (symR σ) (symR_sbit σ hσ) a b id ha1 hb1
    obtain ⟨hz, hkill⟩ := table_phi S' er _ (garbleCore_pair ..) (va || vb) _ _ hanchor (hO _ _)
    refine ⟨hz, ?_⟩
    rw [hrows]
    simp only [List.forall_mem_cons, List.not_mem_nil, false_implies, implies_true, and_true]
    exact ⟨hkill _ _ (hO _ _), hkill _ _ (hO _ _), hkill _ _ (hO _ _)⟩
  case inv =>
    have hI : ∀ u, phi S' ((symHash σ code).h2 (a.labelFor u) LabelAlg.zero id) = ((!va) != (!u)) := by
      intro u
      refine (hnew _ id rfl (Nat.le_refl _)).trans ?_
      cases va <;> simp [newAtoms, atom_f, hca] <;> cases u <;> rfl
    obtain ⟨hanchor, hrows⟩ := garbleCore_inv_form (symHash σ code) (symR σ) (symR_sbit σ hσ) a b id ha1
    obtain ⟨hz, hkill⟩ := table_phi S' er _ (garbleCore_pair ..) (!va) _ _ hanchor (hI _)
    refine ⟨hz, ?_⟩
    rw [hrows]
    simp only [List.forall_mem_cons, List.not_mem_nil, false_implies, implies_true, and_true]
    have := hkill _ (!!sbit a.l0) (hI _)
    rwa [Bool.not_not] at this

noncomputable def phiGates (σ : Atom Code → Bool) (code : SymL Code → Code) :
    List Gate → Store (WireL (SymL Code)) → Store Bool → Nat → List (Atom Code) → List (Atom Code)
  | [], _, _, _, S => S
  | g :: gs, gw, pv, id, S =>
    phiGates σ code gs (garbleGate (symHash σ code) (symR σ) g gw id).1 (g.evalPlain pv)
      (id + g.op.tweaks)
      (S ++ newAtoms code g.op (gw.get g.in0) (gw.get g.in1) (pv.get g.in0) (pv.get g.in1) id)

/-- `D`: the wires written so far.  The `Below id` and `ListBelow id` parts are what lets a gate add
atoms at tweaks from `id` on to `S` without changing `phi S` on the labels that exist
(`phi_append_below`), and makes the added atoms new to `S`. -/
def InvS (σ : Atom Code → Bool) (D : Nat → Bool) (gw : Store (WireL (SymL Code))) (pv : Store Bool)
    (id : Nat) (S : List (Atom Code)) : Prop :=
  (∀ w, D w = true →
    (gw.get w).l1 = (gw.get w).l0 ^^^ symR σ ∧ phi S (gw.get w).l0 = pv.get w ∧
      Below id (gw.get w).l0) ∧
  ListBelow id S ∧ phi S (symR σ) = true

/-- `k`: the advance of the counter, `tw g.op` in `gates_session` (Proofs/SymAcc.lean). -/
theorem gate_phi (σ : Atom Code → Bool) (hσ : σ .R = true) (code : SymL Code → Code)
    (hsep : Separates σ code) (g : Gate) (D : Nat → Bool) (gw : Store (WireL (SymL Code)))
    (pv : Store Bool) (id k : Nat) (S : List (Atom Code)) (hk : g.op.tweaks ≤ k)
    (hd0 : D g.in0 = true) (hd1 : g.op.binary = true → D g.in1 = true)
    (hog : g.out < gw.size) (hop : g.out < pv.size) (hinv : InvS σ D gw pv id S) :
    let c := garbleCore (symHash σ code) (symR σ) g.op (gw.get g.in0) (gw.get g.in1) id
    let S' := S ++ newAtoms code g.op (gw.get g.in0) (gw.get g.in1) (pv.get g.in0) (pv.get g.in1) id
    InvS σ (fun w => w == g.out || D w) (gw.set g.out c.1) (g.evalPlain pv) (id + k) S' ∧
    (∀ row ∈ c.2, Below (id + k) row ∧ phi S' row = false) ∧
    ∀ x, Below id x → phi S' x = phi S x := by
  intro c S'
  obtain ⟨hwires, hSb, hR⟩ := hinv
  obtain ⟨ha1, hpa, hBa⟩ := hwires g.in0 hd0
  have hb := fun hbin => hwires g.in1 (hd1 hbin)
  have hle : id + g.op.tweaks ≤ id + k := Nat.add_le_add_left hk id
  have hN := newAtoms_bounds code g.op (gw.get g.in0) (gw.get g.in1) (pv.get g.in0) (pv.get g.in1) id
  have hstab := fun x hx => phi_append_below S _ id x hN.1 hx
  obtain ⟨hout0, hrows0⟩ := core_phi σ hσ code hsep S g.op (gw.get g.in0) (gw.get g.in1)
    (pv.get g.in0) (pv.get g.in1) id ha1 hpa hBa hb hSb hR
  have hout1 := garbleCore_pair (symHash σ code) (symR σ) g.op (gw.get g.in0) (gw.get g.in1) id
  obtain ⟨hBout, _, hBrows⟩ := garbleCore_below σ code g.op (gw.get g.in0) (gw.get g.in1) id hBa
    fun hbin => (hb hbin).2.2
  refine ⟨⟨?_, (hSb.mono (Nat.le_add_right _ _)).append (hN.2.mono hle), ?_⟩,
    fun row hrow => ⟨(hBrows row hrow).mono hle, hrows0 row hrow⟩, hstab⟩
  · intro w hw
    simp only [Gate.evalPlain]
    by_cases hwo : g.out = w
    · subst hwo
      rw [Store.get_set_eq _ _ _ hog, Store.get_set_eq _ _ _ hop]
      exact ⟨hout1, hout0, hBout.mono hle⟩
    · rw [Store.get_set_ne _ _ _ _ hwo, Store.get_set_ne _ _ _ _ hwo]
      have hDw : D w = true := by
        simp only [Bool.or_eq_true, beq_iff_eq] at hw
        exact hw.resolve_left fun h => hwo h.symm
      obtain ⟨h1, h2, h3⟩ := hwires w hDw
      exact ⟨h1, (hstab _ h3).trans h2, h3.mono (Nat.le_add_right _ _)⟩
  · rw [hstab _ (symR_below σ id)]; exact hR

end Mpc.Sym
