/-
Lemmas for histories whose steps run in their own environments
(Model/Sha2pcEnv.lean): an implementation that agrees with the model in every
environment of the history runs the environment-free history.
-/
import MpcVerif.Model.Sha2pcEnv
import MpcVerif.Proofs.ListLemmas

namespace Mpc.Sha2pc

variable {T : Ty}

theorem Proc.runE_append (impl : EnvCfg T) (pre post : List EvE) (st : Proc T) :
    Proc.runE impl st (pre ++ post) = Proc.runE impl (Proc.runE impl st pre) post := by
  simp [Proc.runE, List.foldl_append]

theorem eraseEnv_append (pre post : List EvE) : eraseEnv (pre ++ post) = eraseEnv pre ++ eraseEnv post := by
  simp [eraseEnv]

theorem eraseEnv_attach (f : Ev → Env) (sched : List Ev) : eraseEnv (sched.map fun e => ⟨e, f e⟩) = sched := by
  induction sched with
  | nil => rfl
  | cons e es ih => simp [eraseEnv] at ih ⊢; exact ih

theorem EnvCfg.AgreesOn.prefix {impl : EnvCfg T} {cfg : Cfg T} {pre post : List EvE}
    (h : impl.AgreesOn cfg (pre ++ post)) : impl.AgreesOn cfg pre :=
  fun e he => h e (List.mem_append_left _ he)

theorem Proc.stepE_eq (impl : EnvCfg T) (cfg : Cfg T) (st : Proc T) (e : EvE) (h : impl e.env = cfg) :
    Proc.stepE impl st e = Proc.stepD cfg st e.ev ∧ Proc.stepResE impl st e = Proc.stepResD cfg st e.ev := by
  simp [Proc.stepE, Proc.stepResE, h]

theorem Proc.runE_eq_runD (impl : EnvCfg T) (cfg : Cfg T) (sched : List EvE) (st : Proc T)
    (h : impl.AgreesOn cfg sched) : Proc.runE impl st sched = Proc.runD cfg st (eraseEnv sched) := by
  rw [Proc.runD, eraseEnv, List.foldl_map]
  exact foldl_congr_mem _ _ _ (fun e he s => (Proc.stepE_eq impl cfg s e (h e he)).1) st

theorem Proc.statusE_eq (impl : EnvCfg T) (cfg : Cfg T) (st : Proc T) (pre : List EvE) (e : EvE) (post : List EvE)
    (h : impl.AgreesOn cfg (pre ++ e :: post)) :
    Proc.stepResE impl (Proc.runE impl st pre) e = Proc.stepResD cfg (Proc.runD cfg st (eraseEnv pre)) e.ev := by
  rw [Proc.runE_eq_runD impl cfg pre st h.prefix]
  exact (Proc.stepE_eq impl cfg _ e (h e (by simp))).2

theorem EnvCfg.const_agrees (cfg : Cfg T) (sched : List EvE) : (EnvCfg.const cfg).AgreesOn cfg sched :=
  fun _ _ => rfl

theorem EnvCfg.const_indep (cfg : Cfg T) : (EnvCfg.const cfg).Indep := fun _ _ => rfl

theorem EnvCfg.Indep.agrees {impl : EnvCfg T} (h : impl.Indep) (e0 : Env) (sched : List EvE) :
    impl.AgreesOn (impl e0) sched :=
  fun e _ => h e.env e0

theorem splitMap_length {α β : Type} (w : Nat) (f : α → β) (dflt : β) (xs : List α) :
    (splitMap w f dflt xs).length = xs.length := by
  have h : w * (xs.length / w) ≤ xs.length := Nat.mul_div_le _ _
  simp only [splitMap, List.length_append, List.length_map, List.length_take, List.length_replicate]
  omega

theorem splitMap_of_dvd {α β : Type} (w : Nat) (f : α → β) (dflt : β) (xs : List α) (h : w ∣ xs.length) :
    splitMap w f dflt xs = xs.map f := by
  have hm : w * (xs.length / w) = xs.length := Nat.mul_div_cancel' h
  simp only [splitMap, hm, List.take_length, Nat.sub_self, List.replicate_zero, List.append_nil]

theorem splitMap_getLast_of_not_dvd {α β : Type} (w : Nat) (f : α → β) (dflt : β) (xs : List α)
    (h : ¬ w ∣ xs.length) : (splitMap w f dflt xs).getLast? = some dflt := by
  have hlt : w * (xs.length / w) < xs.length := by
    have hle : w * (xs.length / w) ≤ xs.length := Nat.mul_div_le _ _
    rcases Nat.lt_or_eq_of_le hle with h' | h'
    · exact h'
    · exact absurd ⟨xs.length / w, h'.symm⟩ h
  obtain ⟨k, hk⟩ : ∃ k, xs.length - w * (xs.length / w) = k + 1 := ⟨xs.length - w * (xs.length / w) - 1, by omega⟩
  simp only [splitMap, hk, List.replicate_succ']
  simp [List.getLast?_append]

end Mpc.Sha2pc
