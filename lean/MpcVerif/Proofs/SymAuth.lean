/-
C16: the Dolev-Yao closure of the evaluator's view in the symbolic (free-hash)
label algebra of C04.  The linear functional of a session (`session`,
Props/C04.lean) vanishes on the WHOLE closure, not only on the view
(`derivable_phi`): every hash atom it counts is a query on an inactive label, on
which it is 1, and a hash model that is faithful on finitely supported labels
(`CodeFaithful`; all labels of a garbling are finitely supported) cannot give a
derivable label, on which it is 0, the same code (`Derivable.killed`).
`termCode` is such a hash model.
The closure contains every label `evalGates` / `evaluatorEval` (Model/Garble.lean,
Model/Proto2.lean) produce from derivable rows and labels, on the agreed circuit
or any other (`Derivable.evaluatorEval`).
-/
import MpcVerif.Props.C04

namespace Mpc.Sym
open Mpc LabelAlg
variable {Code : Type}

theorem FinSupp.sel {x : SymL Code} (hx : FinSupp x) (s : Bool) : FinSupp (⟨x.f, s⟩ : SymL Code) := hx

/-- Hypothesis on the hash model, the free-function idealisation of the hash: equal
outputs only on equal inputs (up to the select bit). -/
def CodeFaithful (code : SymL Code → Code) : Prop :=
  ∀ x y, FinSupp x → FinSupp y → code x = code y → ∀ a, x.f a = y.f a

open Classical in
/-- Why faithfulness is asked on finitely supported labels only: NO coding is
faithful on all of `SymL Code` (Cantor: the atoms `h1 0 c` embed `Code` into
`Atom Code`, and a label is an arbitrary set of atoms). -/
theorem no_total_faithful_code (code : SymL Code → Code) :
    ¬ ∀ x y : SymL Code, code x = code y → ∀ a, x.f a = y.f a := by
  intro hinj
  let D : SymL Code :=
    ⟨fun a => match a with
      | .h1 0 c => decide (¬ ∃ z : SymL Code, code z = c ∧ z.f (.h1 0 c) = true)
      | _ => false, false⟩
  have hD : D.f (.h1 0 (code D)) =
      decide (¬ ∃ z : SymL Code, code z = code D ∧ z.f (.h1 0 (code D)) = true) := rfl
  by_cases h : ∃ z : SymL Code, code z = code D ∧ z.f (.h1 0 (code D)) = true
  · obtain ⟨z, hz, hzf⟩ := h
    have h1 : D.f (.h1 0 (code D)) = true := by rw [← hinj z D hz]; exact hzf
    rw [hD] at h1
    simp only [decide_eq_true_eq] at h1
    exact h1 ⟨z, hz, hzf⟩
  · have h1 : D.f (.h1 0 (code D)) = true := by rw [hD]; simpa using h
    exact h ⟨D, rfl, h1⟩

/-- Dolev-Yao closure of a set `V` of labels (the evaluator's view) under the
operations of the garbling scheme: everything in `V`, zero, fresh atoms of the
adversary's own (input atoms with index `≥ nIn`, which the garbler never
draws), XOR, setting the select bit at will, and both hash functions of the
scheme applied to derivable arguments under ANY tweak. -/
inductive Derivable (σ : Atom Code → Bool) (code : SymL Code → Code) (nIn : Nat)
    (V : List (SymL Code)) : SymL Code → Prop where
  | view {t} : t ∈ V → Derivable σ code nIn V t
  | zero : Derivable σ code nIn V LabelAlg.zero
  | fresh (j : Nat) : nIn ≤ j → Derivable σ code nIn V (atom σ (.inp j))
  | xor {a b} : Derivable σ code nIn V a → Derivable σ code nIn V b → Derivable σ code nIn V (a ^^^ b)
  | sel {a} (s : Bool) : Derivable σ code nIn V a → Derivable σ code nIn V ⟨a.f, s⟩
  | h1 {a} (t : Nat) : Derivable σ code nIn V a → Derivable σ code nIn V ((symHash σ code).h1 a t)
  | h2 {a b} (t : Nat) : Derivable σ code nIn V a → Derivable σ code nIn V b →
      Derivable σ code nIn V ((symHash σ code).h2 a b t)

/-- A derivable hash value is not an atom of `S`: under a faithful code a label that `S`
kills and a label on which it is 1 have different codes (`hcold`). -/
theorem Derivable.killed {σ : Atom Code → Bool} {code : SymL Code → Code} (hfaith : CodeFaithful code)
    (S : List (Atom Code)) {nIn : Nat} {V : List (SymL Code)}
    (hV : ∀ t ∈ V, FinSupp t ∧ phi S t = false)
    (hfresh : ∀ j, nIn ≤ j → phi S (atom σ (.inp j)) = false)
    (hhot : ∀ a ∈ S, HotH code (fun y => FinSupp y ∧ phi S y = true) a ∨ a.tweak = none)
    {t : SymL Code} (ht : Derivable σ code nIn V t) : FinSupp t ∧ phi S t = false := by
  have hcold : ∀ a z, FinSupp a → phi S a = false → FinSupp z → phi S z = true → code a ≠ code z :=
    fun a z hFa ha hFz hz hc => by cases ha.symm.trans ((phi_congr S a z (hfaith a z hFa hFz hc)).trans hz)
  induction ht with
  | view h => exact hV _ h
  | zero => exact ⟨FinSupp.zero, phi_zero _⟩
  | fresh j hj => exact ⟨FinSupp.atom σ _, hfresh j hj⟩
  | xor _ _ iha ihb => exact ⟨iha.1.xor ihb.1, by rw [phi_xor, iha.2, ihb.2]; rfl⟩
  | sel s _ ih => exact ⟨ih.1, (phi_congr S _ _ (fun _ => rfl)).trans ih.2⟩
  | @h1 a t _ ih =>
    refine ⟨FinSupp.atom σ _, phi_atom_notin _ _ _ fun hmem => ?_⟩
    rcases hhot _ hmem with ⟨z, ⟨hFz, hpz⟩, hc⟩ | h
    · exact hcold a z ih.1 ih.2 hFz hpz hc
    · cases h
  | @h2 a b t _ _ iha ihb =>
    refine ⟨FinSupp.atom σ _, phi_atom_notin _ _ _ fun hmem => ?_⟩
    rcases hhot _ hmem with ⟨z, ⟨hFz, hpz⟩, hc | hc⟩ | h
    · exact hcold a z iha.1 iha.2 hFz hpz hc
    · exact hcold b z ihb.1 ihb.2 hFz hpz hc
    · cases h

open Classical in
/-- **Core of C16 (symbolic).**  For a well-formed two-party circuit, every
input pair, every valuation of the select bits with `σ R = true` and every hash
model that separates and is faithful on finitely supported labels, there is a
GF(2)-linear functional that
  * is 1 on the offset,
  * on every defined wire takes the PLAIN VALUE of the wire on its zero-label
    (and the wire's pair differs by the offset), and
  * is 0 on every label derivable from the evaluator's view. -/
theorem derivable_phi (σ : Atom Code → Bool) (hσ : σ .R = true) (code : SymL Code → Code)
    (hsep : Separates σ code) (hfaith : CodeFaithful code) (p : Circuit2) (hwf : p.WF = true)
    (key : List UInt8) (x y : List Bool) (hx : x.length = p.n0) :
    ∃ S : List (Atom Code), phi S (symR σ) = true ∧
      (∀ w, p.c.defined w = true →
        ((p.c.garble (symHash σ code) (symR σ) (symInl σ)).wires.get w).l1 =
          ((p.c.garble (symHash σ code) (symR σ) (symInl σ)).wires.get w).l0 ^^^ symR σ ∧
        phi S ((p.c.garble (symHash σ code) (symR σ) (symInl σ)).wires.get w).l0 =
          (p.c.plainEval (x ++ y)).get w) ∧
      ∀ t, Derivable σ code p.c.nIn
          (evaluatorView p key (p.c.garble (symHash σ code) (symR σ) (symInl σ)) x y) t →
        phi S t = false := by
  obtain ⟨_, _, hnin, hwfg⟩ := Circuit2.wf_parts hwf
  obtain ⟨S, hR, hW, hV, hfresh, hhot⟩ := session σ hσ code hsep codeAcc codeAcc_safe p.c.numWires
    p.c.nIn hnin p.c.gates hwfg (x ++ y)
  rw [garbleGatesAcc_code] at hW hV
  rw [← evaluatorView_eq_streamView _ _ _ p hwf key x y hx] at hV
  exact ⟨S, hR, hW, fun t ht => (Derivable.killed hfaith S hV hfresh hhot ht).2⟩

/-! ### A hash model satisfying the hypotheses: the free term algebra

Codes are finite sets of terms (as lists) with a select bit; a term is `R`, an
input atom, or a hash applied to codes.  `Atom TCode` and `Tm` are in bijection
(`toTm`), and the code of a finitely supported label is a list enumerating
exactly its atoms, together with its select bit. -/

inductive Tm where
  | R
  | inp (i : Nat)
  | h1 (t : Nat) (l : List Tm) (s : Bool)
  | h2 (t : Nat) (l1 : List Tm) (s1 : Bool) (l2 : List Tm) (s2 : Bool)

abbrev TCode := List Tm × Bool

def toTm : Atom TCode → Tm
  | .R => .R
  | .inp i => .inp i
  | .h1 t c => .h1 t c.1 c.2
  | .h2 t c1 c2 => .h2 t c1.1 c1.2 c2.1 c2.2

theorem toTm_inj (a b : Atom TCode) (h : toTm a = toTm b) : a = b := by
  cases a <;> cases b <;> simp_all [toTm, Prod.ext_iff]

def Enumerates (x : SymL TCode) (l : List Tm) : Prop := ∀ a, x.f a = true ↔ toTm a ∈ l

theorem FinSupp.enumerates {x : SymL TCode} (hx : FinSupp x) : ∃ l, Enumerates x l := by
  obtain ⟨l0, hl0⟩ := hx
  refine ⟨(l0.filter fun a => x.f a).map toTm, fun a => ?_⟩
  simp only [List.mem_map, List.mem_filter]
  constructor
  · intro h
    exact ⟨a, ⟨hl0 a h, h⟩, rfl⟩
  · rintro ⟨b, ⟨_, hb⟩, hab⟩
    rw [← toTm_inj b a hab]
    exact hb

open Classical in
noncomputable def termCode : SymL TCode → TCode := fun x =>
  if h : ∃ l, Enumerates x l then (Classical.choose h, x.s) else ([], x.s)

theorem termCode_faithful : CodeFaithful termCode := by
  intro x y hx hy hc a
  have hex := hx.enumerates
  have hey := hy.enumerates
  simp only [termCode, dif_pos hex, dif_pos hey, Prod.mk.injEq] at hc
  exact Bool.eq_iff_iff.2 ((hc.1 ▸ Classical.choose_spec hex a).trans (Classical.choose_spec hey a).symm)

theorem termCode_separates (σ : Atom TCode → Bool) (hσ : σ .R = true) : Separates σ termCode := by
  intro x h
  have hs : (termCode x).2 = (termCode (x ^^^ symR σ)).2 := by rw [← h]
  have e1 : ∀ z : SymL TCode, (termCode z).2 = z.s := by
    intro z
    simp only [termCode]
    split <;> rfl
  rw [e1, e1] at hs
  have : (x ^^^ symR σ).s = (x.s != σ .R) := rfl
  rw [this, hσ] at hs
  cases hxs : x.s <;> simp [hxs] at hs

section Eval
variable {σ : Atom Code → Bool} {code : SymL Code → Code} {nIn : Nat} {V : List (SymL Code)}

theorem Derivable.evalCore (op : Op) (row : List (SymL Code)) (a b : SymL Code) (id : Nat)
    (hrow : ∀ r ∈ row, Derivable σ code nIn V r) (ha : Derivable σ code nIn V a)
    (hb : Derivable σ code nIn V b) (e : SymL Code)
    (h : Mpc.evalCore (symHash σ code) op row a b id = .ok e) : Derivable σ code nIn V e := by
  cases op <;> simp only [Mpc.evalCore] at h
  case xor => cases h; exact ha.xor hb
  case xnor => cases h; exact ha.xor hb
  case and =>
    split at h
    · cases h
      refine .xor ?_ ?_ <;> split
      · exact (ha.h1 id).xor (hrow _ (by simp))
      · exact ha.h1 id
      · exact ((hb.h1 (id + 1)).xor (hrow _ (by simp))).xor ha
      · exact hb.h1 (id + 1)
    · cases h
  case or =>
    split at h
    · split at h
      · cases h; exact (hrow _ (List.getElem_mem _)).xor (ha.h2 id hb)
      · cases h
    · cases h; exact Derivable.zero.xor (ha.h2 id hb)
  case inv =>
    split at h
    · split at h
      · cases h; exact (hrow _ (List.getElem_mem _)).xor (ha.h2 id Derivable.zero)
      · cases h
    · cases h; exact Derivable.zero.xor (ha.h2 id Derivable.zero)

theorem Derivable.evalGates (gs : List Gate) :
    ∀ (rows : List (List (SymL Code))) (ws : Store (SymL Code)) (id : Nat) (ws' : Store (SymL Code))
      (id' : Nat),
      (∀ row ∈ rows, ∀ r ∈ row, Derivable σ code nIn V r) → (∀ w, Derivable σ code nIn V (ws.get w)) →
      evalGates (symHash σ code) gs rows ws id = .ok (ws', id') →
      ∀ w, Derivable σ code nIn V (ws'.get w) := by
  induction gs with
  | nil =>
    intro rows ws id ws' id' _ hws h
    simp only [Mpc.evalGates, Except.ok.injEq, Prod.mk.injEq] at h
    rw [← h.1]; exact hws
  | cons g gs ih =>
    intro rows ws id ws' id' hrows hws h
    cases rows with
    | nil => simp [Mpc.evalGates] at h
    | cons row rows =>
      simp only [Mpc.evalGates, evalGate] at h
      cases hc : Mpc.evalCore (symHash σ code) g.op row (ws.get g.in0) (ws.get g.in1) id with
      | error e => rw [hc] at h; simp at h
      | ok l =>
        rw [hc] at h
        simp only at h
        have hl := Derivable.evalCore g.op row _ _ id (hrows row (by simp)) (hws g.in0) (hws g.in1) l hc
        exact ih rows _ _ ws' id' (fun r hr => hrows r (List.mem_cons_of_mem _ hr))
          (Store.forall_get_set hws g.out hl) h

theorem Derivable.evaluatorEval (q : Circuit2) (rows : List (List (SymL Code)))
    (inl otl outs : List (SymL Code))
    (hrows : ∀ row ∈ rows, ∀ r ∈ row, Derivable σ code nIn V r)
    (hinl : ∀ l ∈ inl ++ otl, Derivable σ code nIn V l)
    (h : evaluatorEval q (symHash σ code) rows inl otl = .ok outs) :
    ∀ l ∈ outs, Derivable σ code nIn V l := by
  simp only [Mpc.evaluatorEval, Circuit.evalGarbled] at h
  cases hg : Mpc.evalGates (symHash σ code) q.c.gates rows
      (initStore q.c.numWires (LabelAlg.zero : SymL Code) (inl ++ otl)) 0 with
  | error e => rw [hg] at h; simp at h
  | ok r =>
    obtain ⟨ws', id'⟩ := r
    rw [hg] at h
    simp only [Except.ok.injEq] at h
    subst h
    have h0 : ∀ w, Derivable σ code nIn V
        ((initStore q.c.numWires (LabelAlg.zero : SymL Code) (inl ++ otl)).get w) := by
      intro w
      by_cases hw : w < q.c.numWires
      · rw [get_initStore _ _ _ hw, List.getD_eq_getElem?_getD]
        cases hgt : (inl ++ otl)[w]? with
        | none => exact Derivable.zero
        | some l => exact hinl l (List.mem_of_getElem? hgt)
      · rw [Store.get_of_size_le _ _ (by simp; omega)]
        exact Derivable.zero
    intro l hl
    obtain ⟨i, _, rfl⟩ := List.mem_map.1 hl
    exact Derivable.evalGates q.c.gates rows _ 0 ws' id' hrows h0 hg _

end Eval

end Mpc.Sym
