/-
Lemmas about alterations given as position lists and about the coefficient
vector (Model/KosSet.lean): the error sum of the acceptance condition for the
error matrix of a position list is `posSum` (`psum_posRow`), for one column at
a set of rows the product of `rowXor` with the monomial (`posSum_colAt`); the
receiver's checksum `x` is the XOR of the coefficients of the chosen rows
(`receiveKos_x`), the basis of recovering the coefficients from the real
receiver's behaviour.  Core Lean only.
-/
import MpcVerif.Model.KosSet
import MpcVerif.Proofs.Kos
namespace Mpc.Kos
open Mpc.Iknp Mpc.Clmul

theorem labelBit_bitLabel (j k : Nat) (hj : j < 128) (hk : k < 128) : labelBit (bitLabel j) k = decide (j = k) := by
  unfold labelBit bitLabel
  have h2 := labelPos_lt hk
  rw [BitVec.getLsbD_shiftLeft]
  by_cases h : j = k
  · subst h; simp [h2]
  · have hne : labelPos j ≠ labelPos k := fun e => h (labelPos_inj hj hk e)
    simp only [h, decide_false]
    by_cases hlt : labelPos k < labelPos j
    · simp [hlt]
    · have : labelPos k - labelPos j ≠ 0 := by omega
      simp [BitVec.getLsbD_one, this]

theorem bitLabel_ne_zero (j : Nat) (hj : j < 128) : bitLabel j ≠ 0#128 := by
  intro h
  have := labelBit_bitLabel j j hj hj
  rw [h] at this
  simp at this

theorem bitLabel_and (delta : Label) (j : Nat) (hj : j < 128) :
    bitLabel j &&& delta = if labelBit delta j = true then bitLabel j else 0#128 := by
  apply label_ext
  intro k hk
  rw [labelBit_and, labelBit_bitLabel j k hj hk]
  by_cases h : j = k
  · subst h
    by_cases hd : labelBit delta j = true <;> simp [hd, labelBit_bitLabel j j hj hj]
  · by_cases hd : labelBit delta j = true <;> simp [h, hd, labelBit_bitLabel j k hj hk]

/-- A payload mask that touches only column 0 of a single byte-row (at most 8
rows): row `q` is flipped in column 0 iff bit `q` of the byte `v` is set. -/
theorem errRow_col0 (n : Nat) (hn : n ≤ 8) (v : Byte) (q : Nat) :
    errRow n [mk 128 fun k => if k = 0 then v else 0#8] [] q =
      if q < n ∧ v.getLsbD q = true then bitLabel 0 else 0#128 := by
  by_cases hq : q < n
  · rw [errRow_single _ _ _ _ hq, size_mk, show 128 / K = 1 from rfl, getD_createLabels _ _ _ _ (by omega)]
    apply label_ext
    intro j hj
    rw [labelBit_labelOfBits _ _ hj, bget_mk _ _ _ (by omega), show q / 8 = 0 by omega, show q % 8 = q by omega]
    by_cases h0 : j = 0
    · subst h0
      by_cases hv : v.getLsbD q = true <;> simp [hq, hv, labelBit_bitLabel]
    · by_cases hv : v.getLsbD q = true <;> simp [hq, hv, h0, labelBit_bitLabel, Ne.symm h0, hj]
  · rw [errRow_nil_right _ _ _ (by omega), if_neg (fun h => hq h.1)]

theorem posRow_nil (r : Nat) : posRow [] r = 0#128 := rfl

theorem posRow_cons (p : Pos) (ps : List Pos) (r : Nat) :
    posRow (p :: ps) r = if p.1 = r then posRow ps r ^^^ bitLabel p.2 else posRow ps r := rfl

theorem rowXor_nil (chi : Nat → Label) : rowXor chi [] = 0#128 := rfl

theorem rowXor_cons (chi : Nat → Label) (r : Nat) (S : List Nat) : rowXor chi (r :: S) = rowXor chi S ^^^ chi r := rfl

theorem colAt_cons (r : Nat) (S : List Nat) (i : Nat) : colAt (r :: S) i = (r, i) :: colAt S i := rfl

theorem posSum_cons (chi : Nat → Label) (delta : Label) (N : Nat) (p : Pos) (ps : List Pos) :
    posSum chi delta N (p :: ps) =
      if p.1 < N ∧ labelBit delta p.2 = true then pxor (posSum chi delta N ps) (mul128 (chi p.1) (bitLabel p.2))
      else posSum chi delta N ps := rfl

theorem psum_posRow (chi : Nat → Label) (delta : Label) (N : Nat) (ps : List Pos) (hcol : ∀ p, p ∈ ps → p.2 < 128) :
    (psum N fun r => mul128 (chi r) (posRow ps r &&& delta)) = posSum chi delta N ps := by
  induction ps with
  | nil =>
    apply psum_zero
    intro r _
    rw [posRow_nil, BitVec.zero_and, mul128_zero_right]
  | cons p ps ih =>
    have hp : p.2 < 128 := hcol p (List.mem_cons_self ..)
    have ih' := ih (fun q hq => hcol q (List.mem_cons_of_mem _ hq))
    have e : (fun r => mul128 (chi r) (posRow (p :: ps) r &&& delta)) =
        fun r => pxor (mul128 (chi r) (posRow ps r &&& delta))
          (if p.1 = r then mul128 (chi r) (bitLabel p.2 &&& delta) else pzero) := by
      funext r
      rw [posRow_cons]
      by_cases h : p.1 = r
      · simp only [h, if_true]
        have : (posRow ps r ^^^ bitLabel p.2) &&& delta = (posRow ps r &&& delta) ^^^ (bitLabel p.2 &&& delta) := by
          ext k hk; simp [Bool.and_xor_distrib_right]
        rw [this, mul128_xor_right]
      · simp only [h, if_false, pxor_zero]
    rw [e, psum_pxor, ih', posSum_cons]
    by_cases hN : p.1 < N
    · rw [psum_single _ _ p.1 hN (fun i _ hne => by
        have : p.1 ≠ i := fun e => hne e.symm
        simp [this])]
      simp only [if_true]
      rw [bitLabel_and _ _ hp]
      by_cases hd : labelBit delta p.2 = true
      · simp [hN, hd]
      · simp [hN, hd, mul128_zero_right]
    · rw [psum_zero _ _ (fun i hi => by
        have : p.1 ≠ i := by omega
        simp [this])]
      simp [hN]

theorem posSum_colAt (chi : Nat → Label) (delta : Label) (N : Nat) (S : List Nat) (i : Nat) (hS : ∀ r, r ∈ S → r < N) :
    posSum chi delta N (colAt S i) =
      if labelBit delta i = true then mul128 (rowXor chi S) (bitLabel i) else pzero := by
  induction S with
  | nil => simp [colAt, posSum, rowXor_nil, mul128_zero_left]
  | cons r S ih =>
    have ih' := ih (fun q hq => hS q (List.mem_cons_of_mem _ hq))
    have hr : r < N := hS r (List.mem_cons_self ..)
    rw [colAt_cons, posSum_cons, ih']
    by_cases hd : labelBit delta i = true
    · simp only [hr, hd, and_self, if_true]
      rw [rowXor_cons, mul128_xor_left]
    · simp [hd]

theorem posRow_colAt (S : List Nat) (i q : Nat) (hnd : S.Nodup) :
    posRow (colAt S i) q = if q ∈ S then bitLabel i else 0#128 := by
  induction S with
  | nil => rfl
  | cons r S ih =>
    obtain ⟨hr, hnd'⟩ := List.nodup_cons.mp hnd
    rw [colAt_cons, posRow_cons, ih hnd']
    by_cases e : r = q
    · subst e
      simp [hr]
    · simp [e, Ne.symm e]

theorem distinctNZ_iff (chi : Nat → Label) (N : Nat) :
    distinctNZ chi N = true ↔ (∀ r, r < N → chi r ≠ 0#128) ∧ ∀ r r', r < N → r' < r → chi r' ≠ chi r := by
  simp only [distinctNZ, List.all_eq_true, List.mem_range, Bool.and_eq_true, bne_iff_ne, ne_eq]
  exact ⟨fun h => ⟨fun r hr => (h r hr).1, fun r r' hr => (h r hr).2 r'⟩, fun h r hr => ⟨h.1 r hr, fun r' => h.2 r r' hr⟩⟩

theorem distinctNZ_spec (chi : Nat → Label) (N : Nat) (h : distinctNZ chi N = true) :
    (∀ r, r < N → chi r ≠ 0#128) ∧ ∀ r r', r < N → r' < N → r ≠ r' → chi r ≠ chi r' := by
  obtain ⟨hnz, key⟩ := (distinctNZ_iff chi N).mp h
  refine ⟨hnz, fun r r' hr hr' hne => ?_⟩
  rcases Nat.lt_or_gt_of_ne hne with hlt | hgt
  · exact key r' r hr' hlt
  · exact fun e => key r r' hr hgt e.symm

theorem receiveKos_x (X : Label → Nat → Label) (R0 R1 : Nat → Nat → Byte) (rs : RecvSt) (b : Array Bool)
    (b0 b1 seed2 : Label) :
    (receiveKos X R0 R1 rs b b0 b1 seed2).x =
      lsum (b.size + 256) fun r => if choiceAt b b0 b1 r = true then X seed2 r else 0#128 := by
  rw [receiveKos_eq]
  exact (receiveKosWith_chk X R0 R1 rs b (bcvOf b0 b1) seed2 (length_receive ..)
    (by rw [length_receive, size_bcvOf])).1

theorem receiveKos_x_unit (X : Label → Nat → Label) (R0 R1 : Nat → Nat → Byte) (rs : RecvSt) (b : Array Bool)
    (b0 b1 seed2 : Label) (r0 : Nat) (hr0 : r0 < b.size + 256)
    (hunit : ∀ r, r < b.size + 256 → choiceAt b b0 b1 r = decide (r = r0)) :
    (receiveKos X R0 R1 rs b b0 b1 seed2).x = X seed2 r0 := by
  rw [receiveKos_x, lsum_single _ _ r0 hr0 (fun r hr hne => by simp [hunit r hr, hne])]
  simp [hunit r0 hr0]

end Mpc.Kos
