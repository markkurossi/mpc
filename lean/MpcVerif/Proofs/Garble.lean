/-
On Model/Garble.lean (C01): one gate of `garbleCore` against `evalCore` (`core_correct`), then garbler,
evaluator and plain evaluation in lock step over a gate list (`gates_lockstep`), with `Rel` held on
the wires defined so far.  The loop is also taken under an arbitrary tweak accounting
(`garbleGatesAcc`, Model/TweakAcc.lean), of which `garbleGates` is the instance at the code's
accounting; `streamGarble`, a model definition, is reduced to `garbleGates` (C04).
-/
import MpcVerif.Model.TweakAcc
import MpcVerif.Proofs.GarbleTable
import MpcVerif.Proofs.CircuitLemmas

namespace Mpc
open LabelAlg

variable {L : Type} [LabelAlg L]

section
variable [DecidableEq L]

omit [LabelAlg L] in
theorem WireL.bitFrom_eq_some {w : WireL L} {l : L} {b : Bool} (h : w.bitFrom l = some b) :
    (l = w.l0 ∧ b = false) ∨ (l = w.l1 ∧ b = true) := by
  unfold WireL.bitFrom at h
  split at h
  · exact .inl ⟨‹_›, (Option.some.inj h).symm⟩
  · split at h
    · exact .inr ⟨‹_›, (Option.some.inj h).symm⟩
    · cases h

omit [LabelAlg L] in
theorem WireL.bitFrom_labelFor {w : WireL L} (h : w.l0 ≠ w.l1) (b : Bool) :
    w.bitFrom (w.labelFor b) = some b := by
  cases b
  · exact if_pos rfl
  · exact (if_neg (Ne.symm h)).trans (if_pos rfl)

end

theorem WireL.labelFor_not {w : WireL L} {r : L} (hp : w.l1 = w.l0 ^^^ r) (b : Bool) :
    w.labelFor (!b) = w.labelFor b ^^^ r := by
  cases b
  · exact hp
  · exact (by rw [hp, xor_xor_cancel_right] : w.l0 = w.l1 ^^^ r)

omit [LabelAlg L] in
theorem zipWith_labelFor (n : Nat) (f : Nat → WireL L) (g : Nat → Bool) :
    List.zipWith (fun (w : WireL L) b => w.labelFor b) ((List.range n).map f) ((List.range n).map g) =
      (List.range n).map fun i => (f i).labelFor (g i) := by
  rw [List.zipWith_map_left, List.zipWith_map_right, List.zipWith_self]

def Rel (r : L) (gw : WireL L) (e : L) (v : Bool) : Prop :=
  gw.l1 = gw.l0 ^^^ r ∧ e = gw.labelFor v

namespace Rel
variable {r : L} {gw : WireL L} {e : L} {v : Bool}

theorem ne (h : Rel r gw e v) (hr : sbit r = true) : gw.l0 ≠ gw.l1 :=
  h.1 ▸ ne_xor_of_sbit _ r hr

theorem one_of (h : Rel r gw e v) : e = gw.l0 ∨ e = gw.l1 := by
  cases v
  · exact .inl h.2
  · exact .inr h.2

theorem bitFrom [DecidableEq L] (h : Rel r gw e v) (hr : sbit r = true) : gw.bitFrom e = some v :=
  h.2 ▸ WireL.bitFrom_labelFor (h.ne hr) v

/-- `g' e' p'` are the valuations after the write; a store enters only through its read-after-write
law (`Store.get_set` on wire numbers, `Stream.SStore.get_set` on locations). -/
theorem update {κ : Type} [DecidableEq κ] {D : κ → Prop} {g g' : κ → WireL L} {e e' : κ → L}
    {p p' : κ → Bool} (hinv : ∀ l, D l → Rel r (g l) (e l) (p l)) {c : κ} {gw : WireL L} {x : L}
    {v : Bool} (hrel : Rel r gw x v) (hg : ∀ l, g' l = if c = l then gw else g l)
    (he : ∀ l, e' l = if c = l then x else e l) (hp : ∀ l, p' l = if c = l then v else p l) :
    ∀ l, (l = c ∨ D l) → Rel r (g' l) (e' l) (p' l) := by
  intro l hl
  rw [hg, he, hp]
  split
  · exact hrel
  · exact hinv l (hl.resolve_left (Ne.symm ‹_›))

end Rel

/-- What the evaluator computes for an AND gate from the rows `tg`, `te` and the labels `x`, `y`
(half gates).  The garbler's zero label is the same expression on the two zero labels. -/
def evalAnd (H : Hash L) (tg te x y : L) (id : Nat) : L :=
  (if sbit x then H.h1 x id ^^^ tg else H.h1 x id) ^^^
    (if sbit y then H.h1 y (id + 1) ^^^ te ^^^ x else H.h1 y (id + 1))

/-- Evaluator half: the other label of `b` moves the result by `a0 ^^^ x`, that is by `r` exactly
when `x` is the other label of `a`. -/
theorem evalAnd_flip_right (H : Hash L) {r a0 b0 te : L} (hr : sbit r = true) (id : Nat)
    (hte : te = H.h1 b0 (id + 1) ^^^ H.h1 (b0 ^^^ r) (id + 1) ^^^ a0) (tg x : L) :
    evalAnd H tg te x (b0 ^^^ r) id = evalAnd H tg te x b0 id ^^^ (a0 ^^^ x) := by
  subst hte
  simp only [evalAnd, sbit_xor', hr]
  generalize H.h1 b0 (id + 1) = y0, H.h1 (b0 ^^^ r) (id + 1) = y1, (if sbit x then _ else _) = g
  cases sbit b0 <;> simp [xor_comm', xor_left_comm']

/-- Generator half: at the zero label of `b` the other label of `a` does not move the result;
the `r` that the evaluator half picks up when `b0` is permuted is the one put into `tg`. -/
theorem evalAnd_flip_left (H : Hash L) {r a0 b0 tg : L} (hr : sbit r = true) (id : Nat)
    (htg : tg = if sbit b0 then H.h1 a0 id ^^^ H.h1 (a0 ^^^ r) id ^^^ r
      else H.h1 a0 id ^^^ H.h1 (a0 ^^^ r) id) (te : L) :
    evalAnd H tg te (a0 ^^^ r) b0 id = evalAnd H tg te a0 b0 id := by
  subst htg
  simp only [evalAnd, sbit_xor', hr]
  generalize H.h1 a0 id = x0, H.h1 (a0 ^^^ r) id = x1, H.h1 b0 (id + 1) = y0
  cases sbit a0 <;> cases sbit b0 <;> simp [xor_comm', xor_left_comm']

theorem core_correct (H : Hash L) (r : L) (hr : sbit r = true) (op : Op) (a b : WireL L)
    (ea eb : L) (va vb : Bool) (id : Nat) (ha : Rel r a ea va)
    (hb : op.binary = true → Rel r b eb vb) :
    ∃ e, evalCore H op (garbleCore H r op a b id).2 ea eb id = .ok e ∧
      Rel r (garbleCore H r op a b id).1 e (op.eval va vb) := by
  obtain ⟨a0, a1⟩ := a
  obtain ⟨rfl, rfl⟩ : a1 = a0 ^^^ r ∧ ea = WireL.labelFor ⟨a0, a1⟩ va := ha
  cases op
  case inv => exact ⟨_, garbleCore_inv_eval H r hr _ b eb va id rfl, garbleCore_pair .., rfl⟩
  all_goals
    obtain ⟨b0, b1⟩ := b
    obtain ⟨rfl, rfl⟩ : b1 = b0 ^^^ r ∧ eb = WireL.labelFor ⟨b0, b1⟩ vb := hb rfl
  case xor =>
    refine ⟨_, rfl, rfl, ?_⟩
    cases va <;> cases vb <;> simp [garbleCore_xor, WireL.labelFor, Op.eval, xor_comm', xor_left_comm']
  case xnor =>
    refine ⟨_, rfl, (xor_xor_cancel_right _ _).symm, ?_⟩
    cases va <;> cases vb <;> simp [garbleCore_xnor, WireL.labelFor, Op.eval, xor_comm', xor_left_comm']
  case and =>
    -- The rows have the shape the evaluator expects, `l1 = l0 ^^^ r` by definition, and the zero
    -- label is `evalAnd` on the two zero labels; the two halves give the truth table of AND.
    refine ⟨_, rfl, rfl, ?_⟩
    have hy := evalAnd_flip_right H hr id (a0 := a0) (b0 := b0) rfl
    have hx := evalAnd_flip_left H hr id (a0 := a0) (b0 := b0) rfl
    cases va <;> cases vb
    · rfl
    · exact (hy _ a0).trans (by rw [xor_self', xor_zero']; rfl)
    · exact hx _
    · exact (hy _ (a0 ^^^ r)).trans (by rw [hx, xor_xor_cancel_left]; rfl)
  case or => exact ⟨_, garbleCore_or_eval H r hr _ _ va vb id rfl rfl, garbleCore_pair .., rfl⟩

theorem garbleCore_rows_length (H : Hash L) (r : L) (op : Op) (a b : WireL L) (id : Nat) :
    (garbleCore H r op a b id).2.length = op.rows := by
  cases op <;> rfl

def Inv (r : L) (D : Nat → Bool) (gw : Store (WireL L)) (ew : Store L) (pv : Store Bool) : Prop :=
  ∀ w, D w = true → Rel r (gw.get w) (ew.get w) (pv.get w)

theorem garbleGate_wires (H : Hash L) (r : L) (g : Gate) (ws : Store (WireL L)) (id : Nat) :
    (garbleGate H r g ws id).1 =
      ws.set g.out (garbleCore H r g.op (ws.get g.in0) (ws.get g.in1) id).1 := rfl

theorem garbleGate_id (H : Hash L) (r : L) (g : Gate) (ws : Store (WireL L)) (id : Nat) :
    (garbleGate H r g ws id).2.1 = id + g.op.tweaks := rfl

theorem garbleGate_rows (H : Hash L) (r : L) (g : Gate) (ws : Store (WireL L)) (id : Nat) :
    (garbleGate H r g ws id).2.2 = (garbleCore H r g.op (ws.get g.in0) (ws.get g.in1) id).2 := rfl

theorem garbleGates_nil (H : Hash L) (r : L) (ws : Store (WireL L)) (id : Nat) :
    garbleGates H r [] ws id = (ws, id, []) := rfl

theorem garbleGates_cons (H : Hash L) (r : L) (g : Gate) (gs : List Gate)
    (ws : Store (WireL L)) (id : Nat) :
    garbleGates H r (g :: gs) ws id =
      ((garbleGates H r gs (garbleGate H r g ws id).1 (garbleGate H r g ws id).2.1).1,
       (garbleGates H r gs (garbleGate H r g ws id).1 (garbleGate H r g ws id).2.1).2.1,
       (garbleGate H r g ws id).2.2 ::
         (garbleGates H r gs (garbleGate H r g ws id).1 (garbleGate H r g ws id).2.1).2.2) := by
  rfl

theorem garbleGates_size (H : Hash L) (r : L) (gs : List Gate) :
    ∀ (ws : Store (WireL L)) (id : Nat), (garbleGates H r gs ws id).1.size = ws.size := by
  induction gs with
  | nil => intro ws id; rfl
  | cons g gs ih =>
    intro ws id
    rw [garbleGates_cons]
    simp [ih, garbleGate_wires]

theorem garbleGates_frame (H : Hash L) (r : L) (gs : List Gate) (w : Nat) :
    ∀ (ws : Store (WireL L)) (id : Nat), (∀ g ∈ gs, g.out ≠ w) →
      (garbleGates H r gs ws id).1.get w = ws.get w := by
  induction gs with
  | nil => intro ws id _; rfl
  | cons g gs ih =>
    intro ws id h
    rw [garbleGates_cons]
    simp only
    rw [ih _ _ (fun g' hg' => h g' (List.mem_cons_of_mem _ hg'))]
    rw [garbleGate_wires]
    exact Store.get_set_ne _ _ _ _ (h g List.mem_cons_self)

theorem garbleGates_id (H : Hash L) (r : L) (gs : List Gate) :
    ∀ (ws : Store (WireL L)) (id : Nat),
      (garbleGates H r gs ws id).2.1 = id + (gs.map (fun g => g.op.tweaks)).sum := by
  induction gs with
  | nil => intro ws id; simp [garbleGates_nil]
  | cons g gs ih =>
    intro ws id
    rw [garbleGates_cons]
    simp only [ih, garbleGate_id, List.map_cons, List.sum_cons]
    omega

theorem garbleGates_rows_lengths (H : Hash L) (r : L) (gs : List Gate) :
    ∀ (ws : Store (WireL L)) (id : Nat),
      (garbleGates H r gs ws id).2.2.map List.length = gs.map (fun g => g.op.rows) := by
  induction gs with
  | nil => intro ws id; simp [garbleGates_nil]
  | cons g gs ih =>
    intro ws id
    rw [garbleGates_cons]
    simp [ih, garbleGate_rows, garbleCore_rows_length]

theorem garbleGates_rows_count (H : Hash L) (r : L) (gs : List Gate) (ws : Store (WireL L))
    (id : Nat) : (garbleGates H r gs ws id).2.2.length = gs.length := by
  rw [← List.length_map (f := List.length), garbleGates_rows_lengths, List.length_map]

theorem garble_rows_lengths (c : Circuit) (H : Hash L) (r : L) (inl : Nat → L) :
    (c.garble H r inl).rows.map List.length = c.gates.map (fun g => g.op.rows) := by
  simp only [Circuit.garble]
  exact garbleGates_rows_lengths H r c.gates _ 0

theorem garble_rows_count (c : Circuit) (H : Hash L) (r : L) (inl : Nat → L) :
    (c.garble H r inl).rows.length = c.gates.length :=
  garbleGates_rows_count H r c.gates _ 0

/-- The induction behind C01.  The evaluator's final tweak counter is the garbler's: that the two
advance it alike is part of the conclusion, not a hypothesis. -/
theorem gates_lockstep (H : Hash L) (r : L) (hr : sbit r = true) (n : Nat) (gs : List Gate) :
    ∀ (D : Nat → Bool) (gw : Store (WireL L)) (ew : Store L) (pv : Store Bool) (id : Nat),
      gw.size = n → ew.size = n → pv.size = n → wfFrom n gs D = true → Inv r D gw ew pv →
      ∃ ew', evalGates H gs (garbleGates H r gs gw id).2.2 ew id =
            .ok (ew', (garbleGates H r gs gw id).2.1) ∧
          ew'.size = n ∧
          Inv r (definedAfter gs D) (garbleGates H r gs gw id).1 ew' (evalPlainGates gs pv) := by
  induction gs with
  | nil => exact fun D gw ew pv id _ he _ _ hinv => ⟨ew, rfl, he, hinv⟩
  | cons g gs ih =>
    intro D gw ew pv id hg he hp hwf hinv
    obtain ⟨hd0, hd1, _, _, hout, hrest⟩ := wfFrom_cons n g gs D hwf
    obtain ⟨e, hev, hrel⟩ := core_correct H r hr g.op _ _ _ _ _ _ id (hinv g.in0 hd0)
      fun hbin => hinv g.in1 (hd1 hbin)
    -- the three stores after this gate are related on the wires defined so far and on `g.out`
    have hinv' := Rel.update (D := (D · = true)) hinv hrel (Store.get_set gw g.out · _ (hg ▸ hout))
      (Store.get_set ew g.out · e (he ▸ hout)) (Store.get_set pv g.out · _ (hp ▸ hout))
    obtain ⟨ew', hev', hsz', hinv''⟩ := ih _ (gw.set g.out _) (ew.set g.out e) (g.evalPlain pv)
      (id + g.op.tweaks) (by simp [hg]) (by simp [he]) (by simp [Gate.evalPlain, hp]) hrest
      fun w hw => hinv' w (by simpa using hw)
    refine ⟨ew', ?_, hsz', hinv''⟩
    simp only [garbleGates_cons, evalGates, evalGate, garbleGate_wires, garbleGate_id, garbleGate_rows, hev]
    exact hev'

/-- In a well-formed circuit no gate overwrites an input wire, so after
garbling the input wires still carry the labels drawn for them. -/
theorem garble_input_wires (H : Hash L) (c : Circuit) (r : L) (inl : Nat → L)
    (hwf : c.WF = true) (i : Nat) (hi : i < c.nIn) :
    (c.garble H r inl).wires.get i = ⟨inl i, inl i ^^^ r⟩ := by
  obtain ⟨hnin, _, _, hnoin⟩ := c.WF_iff.mp hwf
  simp only [Circuit.garble]
  rw [garbleGates_frame H r c.gates i _ 0 (fun g hg => by have := hnoin g hg; omega)]
  rw [get_range_map _ _ _ (by omega)]
  simp [hi]

theorem garbleGatesAcc_cons (H : Hash L) (r : L) (tw : TweakAcc) (g : Gate) (gs : List Gate)
    (ws : Store (WireL L)) (id : Nat) :
    garbleGatesAcc H r tw (g :: gs) ws id =
      let c := garbleCore H r g.op (ws.get g.in0) (ws.get g.in1) id
      let rest := garbleGatesAcc H r tw gs (ws.set g.out c.1) (id + tw g.op)
      (rest.1, rest.2.1, c.2 :: rest.2.2) := rfl

/-- `garbleGates` is the loop compared byte for byte with `Circuit.Garble` (C01 / C02) and the one
`C04_whole_circuit` speaks about. -/
theorem garbleGatesAcc_code (H : Hash L) (r : L) (gs : List Gate) :
    ∀ (ws : Store (WireL L)) (id : Nat),
      garbleGatesAcc H r codeAcc gs ws id = garbleGates H r gs ws id := by
  induction gs with
  | nil => intro ws id; rfl
  | cons g gs ih =>
    intro ws id
    simp only [garbleGatesAcc_cons, garbleGates_cons, ih]
    rfl

theorem garbleGatesAcc_append (H : Hash L) (r : L) (tw : TweakAcc) (gs1 gs2 : List Gate) :
    ∀ (ws : Store (WireL L)) (id : Nat),
      garbleGatesAcc H r tw (gs1 ++ gs2) ws id =
        let fst := garbleGatesAcc H r tw gs1 ws id
        let snd := garbleGatesAcc H r tw gs2 fst.1 fst.2.1
        (snd.1, snd.2.1, fst.2.2 ++ snd.2.2) := by
  induction gs1 with
  | nil => intro ws id; rfl
  | cons g gs ih =>
    intro ws id
    simp only [List.cons_append, garbleGatesAcc_cons, ih]

theorem garbleGates_append (H : Hash L) (r : L) (gs1 gs2 : List Gate) (ws : Store (WireL L)) (id : Nat) :
    garbleGates H r (gs1 ++ gs2) ws id =
      let fst := garbleGates H r gs1 ws id
      let snd := garbleGates H r gs2 fst.1 fst.2.1
      (snd.1, snd.2.1, fst.2.2 ++ snd.2.2) := by
  simpa only [garbleGatesAcc_code] using garbleGatesAcc_append H r codeAcc gs1 gs2 ws id

/-- Streaming mode garbles a list of instruction circuits one after the other
on one global wire store.  `persistent = true`: the tweak counter runs over
the whole stream (the code after fix 956e0fd); `false`: it restarts at 0 for
every instruction (the pinned tree). -/
def streamGarble (H : Hash L) (r : L) (persistent : Bool) :
    List (List Gate) → Store (WireL L) → Nat → Store (WireL L) × Nat × List (List L)
  | [], ws, id => (ws, id, [])
  | step :: steps, ws, id =>
    let (ws1, id1, rows) := garbleGates H r step ws (if persistent then id else 0)
    let (ws2, id2, rest) := streamGarble H r persistent steps ws1 id1
    (ws2, id2, rows ++ rest)

/-- So every theorem about `garbleGates` (C01, C04) transfers to streaming with a persistent counter. -/
theorem streamGarble_persistent (H : Hash L) (r : L) (steps : List (List Gate)) :
    ∀ (ws : Store (WireL L)) (id : Nat),
      streamGarble H r true steps ws id = garbleGates H r steps.flatten ws id := by
  induction steps with
  | nil => intro ws id; rfl
  | cons step steps ih =>
    intro ws id
    simp only [streamGarble, List.flatten_cons, if_true]
    rw [garbleGates_append, ih]

end Mpc
