/-
Byte-string facts for the lemmas about Model/Conn.lean: cutting and joining `ByteArray`s, the fixed-width big-endian
encoding (`be` / `decodeBE` are inverse up to `256 ^ k`) and the sizes of the encodings.  Core Lean only.
-/
import MpcVerif.Model.Conn
import MpcVerif.Proofs.BytesLemmas

namespace Mpc.Conn
open ByteArray

theorem extract_ge_size (a : ByteArray) (i j : Nat) (h : a.size ≤ j) :
    a.extract i j = a.extract i a.size := by
  have e := @ByteArray.extract_extract a 0 a.size i a.size
  have e' := @ByteArray.extract_extract a 0 a.size i j
  rw [ByteArray.extract_zero_size, Nat.zero_add, Nat.zero_add] at e e'
  rw [e', e, Nat.min_eq_right h, Nat.min_self]

theorem size_extract_add (a : ByteArray) (i n : Nat) (h : i + n ≤ a.size) :
    (a.extract i (i + n)).size = n := by
  rw [ByteArray.size_extract, Nat.min_eq_left h, Nat.add_sub_cancel_left]

theorem extract_cut (h : ByteArray) (k : Nat) : h.extract 0 k ++ h.extract k h.size = h := by
  rw [ByteArray.extract_append_extract, Nat.zero_min, ByteArray.extract_zero_max_size]

theorem prefix_head (p q h t : ByteArray) (hpq : p ++ q = h ++ t) (hk : h.size ≤ p.size) :
    p.extract 0 h.size = h := by
  have := @ByteArray.extract_append p q 0 h.size
  rw [hpq, ByteArray.extract_append_eq_left rfl,
    (ByteArray.extract_eq_empty_iff (b := q)).mpr (by omega), ByteArray.append_empty] at this
  exact this.symm

theorem decodeList_eq (l : List UInt8) : decodeList l = ByteList.val UInt8.toNat l := rfl

theorem beList_eq : ∀ k n, beList k n = ByteList.digits UInt8.ofNat k n
  | 0, _ => rfl
  | k + 1, n => by rw [beList, ByteList.digits, beList_eq k]

theorem decodeList_beList (k n : Nat) : decodeList (beList k n) = n % 256 ^ k := by
  rw [beList_eq, decodeList_eq, ByteList.val_digits _ _ fun _ => UInt8.toNat_ofNat_of_lt']

theorem length_beList (k n : Nat) : (beList k n).length = k := by rw [beList_eq, ByteList.length_digits]

@[simp] theorem size_be (k n : Nat) : (be k n).size = k := by
  simp [be, length_beList]

theorem decodeBE_be (k n : Nat) : decodeBE (be k n) = n % 256 ^ k := by
  simp [decodeBE, be, decodeList_beList]

theorem joinB_append (a b : List ByteArray) : joinB (a ++ b) = joinB a ++ joinB b := by
  induction a with
  | nil => simp [joinB]
  | cons x xs ih => simp [joinB, ih, ByteArray.append_assoc]

@[simp] theorem joinB_singleton (c : ByteArray) : joinB [c] = c := by simp [joinB]

theorem size_encSizes (l : List Nat) : (encSizes l).size = 4 * l.length := by
  induction l with
  | nil => rfl
  | cons x xs ih => simp only [encSizes, ByteArray.size_append, size_be, ih, List.length_cons]; omega

theorem encodeAll_eq_encodeVals (ops : List Op) : encodeAll ops = encodeVals (opsVals ops) := by
  induction ops with
  | nil => rfl
  | cons o os ih => cases o <;> simp [encodeAll, opsVals, encodeVals, Op.encode, ih]

end Mpc.Conn
