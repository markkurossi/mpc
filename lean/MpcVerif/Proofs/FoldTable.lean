/-
Lemmas for the constant-table theorems of Props/C12.lean, about Model/FoldTable.lean: a use finds the first instance of
its name in program order (`lookup_table_eq`, from the one induction over `table`, `find?_foldl_register`), hence an entry
of its name (`lookup_table`) and the exactness criterion `const_table_exact_iff`; the decimal naming is injective, the
mixed one collides; an item's result is among the registrations of a `multi` program.
-/
import MpcVerif.Model.FoldTable
import MpcVerif.Proofs.Fold
import Std.Data.String.ToNat
import Std.Data.String.ToInt

namespace Mpc.Fold
open Mpc.Mpa

section Generic
variable {α : Type}

theorem find?_foldl_register (nm : α → String) (p : α → Bool) (hp : ∀ a b, nm a = nm b → p a = p b) (regs : List α) :
    ∀ acc : List α, (regs.foldl (register nm) acc).find? p = (acc ++ regs).find? p := by
  induction regs with
  | nil => intro acc; rw [List.append_nil]; rfl
  | cons r rest ih =>
    intro acc
    rw [List.foldl_cons, ih, register]
    split
    · rename_i h
      obtain ⟨e, he, hn⟩ := List.any_eq_true.mp h
      rw [List.find?_append, List.find?_append, List.find?_cons]
      cases hr : p r with
      | false => rfl
      | true =>
        -- `r` is passed over: an earlier instance of its name is found first
        have : (acc.find? p).isSome = true :=
          List.find?_isSome.2 ⟨e, he, (hp e r (by simpa using hn)).trans hr⟩
        cases hf : acc.find? p with
        | none => rw [hf] at this; cases this
        | some x => rfl
    · rw [List.append_assoc]; rfl

theorem lookup_table_eq (nm : α → String) (regs : List α) (c : α) :
    lookup nm (table nm regs) c = regs.find? (fun e => nm e == nm c) :=
  (find?_foldl_register nm _ (fun a b h => by simp only [h]) regs []).trans (by rw [List.nil_append])

theorem lookup_table (nm : α → String) (regs : List α) (c : α) (hc : c ∈ regs) :
    ∃ e, lookup nm (table nm regs) c = some e ∧ nm e = nm c ∧ e ∈ regs := by
  rw [lookup_table_eq]
  cases hf : regs.find? (fun e => nm e == nm c) with
  | none => simpa using List.find?_eq_none.mp hf c hc
  | some e => exact ⟨e, rfl, by simpa using List.find?_some hf, List.mem_of_find?_eq_some hf⟩

theorem const_table_exact_iff (nm : α → String) (bits wires : α → Nat) :
    (∀ (regs : List α) (c : α), c ∈ regs →
        seenWires nm bits wires (table nm regs) c (bits c) (wires c) = wires c)
    ↔ (∀ c d : α, nm c = nm d → bits c = bits d → wires c = wires d) := by
  constructor
  · intro h c d hn hb
    have := h [d, c] c (by simp)
    -- in the program `[d, c]` a use of `c` finds `d`
    rw [seenWires, lookup_table_eq, List.find?_cons_of_pos (by simpa using hn.symm)] at this
    simpa [hb] using this.symm
  · intro h regs c hc
    obtain ⟨e, hl, hn, _⟩ := lookup_table nm regs c hc
    simp only [seenWires, hl]
    split
    · exact h e c hn ‹_›
    · rfl

end Generic

theorem decName_injective {a b : Nat} (h : decName a = decName b) : a = b := by
  unfold decName at h
  exact Nat.repr_inj.mp ((String.append_right_inj "$").mp h)

theorem mixedName_collision : mixedName (2 ^ 64) = mixedName (10 ^ 16) ∧ (2 : Nat) ^ 64 ≠ 10 ^ 16 := by decide +kernel

theorem cvName_int_injective {t t' : TInfo} {v v' : MInt} (h : cvName (.int t v) = cvName (.int t' v')) :
    v.value = v'.value := by
  simp only [cvName] at h
  exact Int.repr_inj.mp ((String.append_right_inj "$").mp h)

theorem result_mem_item_registrations (it : Item) (vars : Bool) (l : List CV) (s : CV)
    (hl : it.registrations vars = .ok l) (hs : it.result = .ok s) : s ∈ l := by
  unfold Item.registrations at hl
  rw [hs] at hl
  simp only [bind, Except.bind, pure, Except.pure] at hl
  -- every branch that returns a list returns one that ends with `s`
  repeat' split at hl
  all_goals cases hl
  all_goals simp

theorem result_mem_registrations (vars : Bool) :
    ∀ (items : List Item) (regs : List CV), registrations vars items = .ok regs →
      ∀ (it : Item) (s : CV), it ∈ items → it.result = .ok s → s ∈ regs := by
  intro items
  induction items with
  | nil => intro regs _ it s h; cases h
  | cons i rest ih =>
    intro regs hr it s hit hs
    obtain ⟨a, ha, hr⟩ := bind_eq_ok.1 hr
    obtain ⟨b, hb, hr⟩ := bind_eq_ok.1 hr
    cases hr
    rcases List.mem_cons.mp hit with rfl | h
    · exact List.mem_append_left _ (result_mem_item_registrations _ vars a s ha hs)
    · exact List.mem_append_right _ (ih b hb it s h hs)

end Mpc.Fold
