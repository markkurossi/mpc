/-
Lemmas for Model/Proto2.lean (C02, C16; the byte lemmas also under C20): the receive functions
invert the garbler's first flight; byte / bit packing round trips (`bytes_roundtrip`,
`splitNat_packLE`); how long `big.Int.Bytes` is (`natToBytesBE_length_le_iff`).
-/
import MpcVerif.Model.Proto2
import MpcVerif.Proofs.Garble
import MpcVerif.Proofs.BitsLemmas
import MpcVerif.Proofs.BytesLemmas

namespace Mpc
open LabelAlg

variable {L : Type} [LabelAlg L]

theorem recvLabels_roundtrip (ls : List L) (rest : List (Msg L)) :
    recvLabels ls.length (ls.map .label ++ rest) = .ok (ls, rest) := by
  induction ls with
  | nil => simp [recvLabels]
  | cons l ls ih => simp [recvLabels, ih]

theorem recvRows_roundtrip (rows : List (List L)) (rest : List (Msg L)) :
    recvRows rows.length
      (rows.flatMap (fun row => .u32 row.length :: row.map .label) ++ rest) = .ok (rows, rest) := by
  induction rows with
  | nil => simp [recvRows]
  | cons row rows ih =>
    simp only [List.flatMap_cons, List.length_cons, List.cons_append, List.append_assoc, recvRows]
    rw [recvLabels_roundtrip]
    simp only [ih]

theorem garbleGates_wires_size' (c : Circuit) (H : Hash L) (r : L) (inl : Nat → L) :
    (c.garble H r inl).wires.size = c.numWires := by
  simp only [Circuit.garble]
  rw [garbleGates_size]
  simp

theorem evaluatorRecv1_flight1 (p : Circuit2) (key : List UInt8) (H : Hash L) (r : L)
    (inl : Nat → L) (x : List Bool) :
    evaluatorRecv1 p (garblerFlight1 p key (p.c.garble H r inl) x) =
      .ok (key, (p.c.garble H r inl).rows, garblerInputLabels p (p.c.garble H r inl) x, []) := by
  have h2 := recvLabels_roundtrip (garblerInputLabels p (p.c.garble H r inl) x) ([] : List (Msg L))
  rw [List.append_nil, show (garblerInputLabels p (p.c.garble H r inl) x).length = p.n0 by
    simp [garblerInputLabels]] at h2
  simp only [garblerFlight1, tablesMsgs, evaluatorRecv1, List.cons_append]
  rw [recvRows_roundtrip, if_neg fun h => h (garble_rows_count ..)]
  simp only [h2]

theorem bytesToNatBE_eq (bs : List UInt8) : bytesToNatBE bs = ByteList.val UInt8.toNat bs := rfl

theorem bytes_roundtrip (n : Nat) : bytesToNatBE (natToBytesBE n) = n := by
  induction n using Nat.strongRecOn with
  | _ n ih =>
    rw [natToBytesBE]
    split
    · next h => subst h; rfl
    · next h =>
      rw [bytesToNatBE_eq, ByteList.val_concat, ← bytesToNatBE_eq, ih (n / 256) (Nat.div_lt_self (Nat.pos_of_ne_zero h) (by decide)),
        UInt8.toNat_ofNat', Nat.mod_mod_of_dvd _ (Nat.dvd_refl _), Nat.mul_comm]
      exact Nat.div_add_mod n 256

theorem natToBytesBE_length_le_iff : ∀ k v : Nat, (natToBytesBE v).length ≤ k ↔ v < 256 ^ k
  | 0, v => by
    rw [natToBytesBE]
    split
    · next h => simp [h]
    · next h => simp; omega
  | k + 1, v => by
    rw [natToBytesBE]
    split
    · next h => simp [h, Nat.pow_pos]
    · rw [List.length_append, List.length_singleton, Nat.add_le_add_iff_right, natToBytesBE_length_le_iff k,
        Nat.pow_succ, Nat.div_lt_iff_lt_mul (by decide)]

theorem bytesToNatBE_zeros (n : Nat) (b : List UInt8) :
    bytesToNatBE (List.replicate n (0 : UInt8) ++ b) = bytesToNatBE b :=
  ByteList.val_zeros_append _ 0 rfl n b

def chunk : List Nat → List Bool → List (List Bool)
  | [], _ => []
  | w :: ws, bs => bs.take w :: chunk ws (bs.drop w)

theorem packLE_eq_val : ∀ bs : List Bool, packLE bs = BitList.val bs
  | [] => rfl
  | b :: bs => by rw [packLE, packLE_eq_val bs]; cases b <;> rfl

theorem testBit_packLE (bs : List Bool) (i : Nat) : (packLE bs).testBit i = bs.getD i false :=
  packLE_eq_val bs ▸ BitList.testBit_val bs i

theorem packLE_lt (bs : List Bool) : packLE bs < 2 ^ bs.length := packLE_eq_val bs ▸ BitList.val_lt bs

theorem packLE_mod (bs : List Bool) (w : Nat) : packLE bs % 2 ^ w = packLE (bs.take w) := by
  simp only [packLE_eq_val, BitList.val_take]

theorem packLE_div (bs : List Bool) (w : Nat) : packLE bs / 2 ^ w = packLE (bs.drop w) := by
  simp only [packLE_eq_val, BitList.val_drop]

theorem splitNat_packLE (ws : List Nat) (bs : List Bool) :
    splitNat ws (packLE bs) = (chunk ws bs).map packLE := by
  induction ws generalizing bs with
  | nil => rfl
  | cons w ws ih =>
    simp only [splitNat, chunk, List.map_cons]
    rw [packLE_mod, packLE_div, ih]

end Mpc
