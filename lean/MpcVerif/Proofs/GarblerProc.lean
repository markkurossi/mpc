/-
Invariant of the garbler process (`Model/GarblerProc.lean`) for the code as it
is (`early = false`: `circuit.Garbler` never releases its garbling): every
session's `*Garbled` stays a live handle of the ownership model that owns the
memory the session's `Wires` slice points to and is the result of the session's
own `Garble` call; hence (`Inv.ownMem`, the fact behind `C17_garble_isolated`)
whatever the OT and the result loop of a session read there is the
single-goroutine result of that call, whatever the other sessions do in
between.  Helper lemmas for `Props/C04.lean`.
-/
import MpcVerif.Model.GarblerProc
import MpcVerif.Proofs.GarbleHist

namespace Mpc.GProc
open Mpc.Pool
variable {Mem Job : Type}

section
variable (P : Params Mem Job)

theorem garble_split (P : Params Mem Job) (σ σ' : State Mem Job) (j : Job) (s : Option ScratchId)
    (hg : runEv P σ (.garble j s) = some σ') :
    ∃ p x m0, σ'.nHandles = σ.nHandles + 1 ∧
      σ'.handle = upd σ.handle σ.nHandles
        (some { scratch := some x, pool := some p, job := j, init := m0, user := none, putDone := false }) := by
  obtain ⟨_, _, rfl⟩ := garble_iff.mp hg
  exact ⟨_, _, _, rfl, rfl⟩

theorem reachable_runEv (σ σ' : State Mem Job) (e : HEv Job)
    (hr : Reachable P true σ) (h : runEv P σ e = some σ') : Reachable P true σ' :=
  reachable_runHist P σ σ' [e] hr ((runHist_singleton P σ e).trans h)

/-- What holds of a session record in every state the process reaches: its
`*Garbled` is a live handle that owns the memory its `Wires` slice points to, is
the result of the session's own call, and everything the session's OT and
result loop have read is the single-goroutine result of that call. -/
def SessOk (P : Params Mem Job) (job : Nat → Job) (σ : State Mem Job) (e : Sess Mem) : Prop :=
  ∃ H, σ.handle e.handle = some H ∧ H.owned = some e.scratch ∧ H.job = job e.id ∧
    ∀ d, d ∈ e.otSeen ∨ d ∈ e.decSeen → d = seqGarble P (job e.id) H.init

structure PInv (P : Params Mem Job) (job : Nat → Job) (st : PState Mem Job) : Prop where
  reach : Reachable P true st.σ
  sess  : ∀ e ∈ st.sess, SessOk P job st.σ e

theorem pinv_init (job : Nat → Job) : PInv P job (initP P) :=
  ⟨.init, by intro e he; simp [initP] at he⟩

theorem sessOk_read (job : Nat → Job) (σ : State Mem Job)
    (hr : Reachable P true σ) (e : Sess Mem) (h : SessOk P job σ e) :
    SessOk P job σ { e with otSeen := e.otSeen ++ [σ.mem e.scratch] } ∧
    SessOk P job σ { e with decSeen := e.decSeen ++ [σ.mem e.scratch] } := by
  obtain ⟨H, hH, ho, hjob, hm⟩ := h
  have hmem := (inv_reachable P σ hr).ownMem e.handle H e.scratch hH ho
  refine ⟨⟨H, hH, ho, hjob, fun d hd => ?_⟩, ⟨H, hH, ho, hjob, fun d hd => ?_⟩⟩ <;>
    simp only [List.mem_append, List.mem_singleton] at hd <;> grind

theorem pinv_updSess (job : Nat → Job) (st : PState Mem Job) (s : Nat)
    (f : Sess Mem → Sess Mem) (hi : PInv P job st)
    (hf : ∀ e ∈ st.sess, SessOk P job st.σ e → SessOk P job st.σ (f e)) :
    PInv P job ⟨st.σ, updSess st.sess s f⟩ := by
  refine ⟨hi.reach, ?_⟩
  intro e he
  simp only [updSess, List.mem_map] at he
  obtain ⟨e0, he0, rfl⟩ := he
  split
  · exact hf e0 he0 (hi.sess e0 he0)
  · exact hi.sess e0 he0

theorem sessOk_frame (job : Nat → Job) (σ σ' : State Mem Job) (e : Sess Mem)
    (hh : ∀ h H, σ.handle h = some H → σ'.handle h = some H) (h : SessOk P job σ e) :
    SessOk P job σ' e := by
  obtain ⟨H, hH, ho, hjob, hm⟩ := h
  exact ⟨H, hh _ _ hH, ho, hjob, hm⟩

theorem pinv_step (P : Params Mem Job) (job : Nat → Job) (st st' : PState Mem Job) (ev : PEv)
    (hi : PInv P job st) (hs : stepEv false P job st ev = some st') : PInv P job st' := by
  cases ev <;> simp only [stepEv, Bool.false_eq_true, if_false] at hs <;> (repeat' split at hs) <;> cases hs
  -- start, fail, otBegin, otEnd, decode
  next s _ _ _ σ1 hg _ H hH _ x hx =>
    obtain ⟨p, x', m0, hn, hhd⟩ := garble_split P st.σ σ1 (job s) _ hg
    refine ⟨reachable_runEv P st.σ σ1 _ hi.reach hg, fun e he => ?_⟩
    rcases List.mem_cons.mp he with rfl | he
    · -- the new session: its handle is the one the call has just published
      rw [hhd, upd_same] at hH
      cases hH; cases hx
      exact ⟨_, by rw [hhd, upd_same], rfl, rfl, by simp⟩
    · refine sessOk_frame P job st.σ σ1 e (fun h H0 hH0 => ?_) (hi.sess e he)
      have hne : h ≠ st.σ.nHandles :=
        Nat.ne_of_lt ((inv_reachable P st.σ hi.reach).hLt h H0 hH0)
      rw [hhd, upd_ne hne, hH0]
  next s k _ σ1 hf =>
    refine ⟨reachable_runEv P st.σ σ1 _ hi.reach hf, fun e he => ?_⟩
    obtain ⟨_, _, _, rfl⟩ := fail_iff.mp hf
    exact sessOk_frame P job st.σ _ e (fun h H hH => hH) (hi.sess e he)
  next s _ _ _ =>
    exact pinv_updSess P job st s _ hi fun e _ h => (sessOk_read P job st.σ hi.reach e h).1
  next s _ _ _ =>
    exact pinv_updSess P job st s _ hi fun e _ h => (sessOk_read P job st.σ hi.reach e h).1
  next s _ _ _ =>
    exact pinv_updSess P job st s _ hi fun e _ h => (sessOk_read P job st.σ hi.reach e h).2

theorem pinv_run (job : Nat → Job) (evs : List PEv) :
    ∀ (st st' : PState Mem Job), PInv P job st → runProc false P job st evs = some st' → PInv P job st' := by
  induction evs with
  | nil => intro st st' hi h; cases h; exact hi
  | cons ev evs ih =>
    intro st st' hi h
    simp only [runProc] at h
    split at h
    · rename_i st1 h1
      exact ih st1 st' (pinv_step P job st st1 ev hi h1) h
    · contradiction

end

end Mpc.GProc
