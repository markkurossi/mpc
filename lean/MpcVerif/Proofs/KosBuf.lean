/-
Honest malicious-mode calls on caller-provided result buffers
(Model/KosBuf.lean): with the assigning transposition (`Store.assign`) nothing
the receiver produces depends on what the buffer held (`receiveKosAt_assign`),
so completeness of a call (`kos_complete_call`) carries over to every history.
-/
import MpcVerif.Model.KosBuf
import MpcVerif.Proofs.Kos
import MpcVerif.Proofs.IknpBuf

namespace Mpc.Kos
open Mpc.Iknp Mpc.Clmul

/-- The body of `receiveKosAt` with the check batch's choice vector and zeroed buffer as variables
(`receiveKosAt_assign` is the instance `bcvOf b0 b1`, `zerosL 256`; proved about variables for the reason given at
`receiveKosWith`). -/
theorem receiveKosAt_body_assign (X : Label → Nat → Label) (R0 R1 : Nat → Nat → Byte) (st : RecvSt) (b bcv : Array Bool)
    (z : Array Label) (seed2 : Label) (result : Array Label) (hs : result.size = b.size) (hz : z.size = bcv.size) :
    (match receiveAt Store.assign R0 R1 st b result with
      | none => none
      | some r1 =>
        match receiveAt Store.assign R0 R1 r1.1 bcv z with
        | none => none
        | some r2 =>
          let a1 := chkLoop (X seed2) (fun i => b.getD i false) r1.2.1 b.size (b.size + 1) 0 {}
          let a2 := chkTail (X seed2) (fun j => bcv.getD j false) r2.2.1 a1
          some ({ st := r2.1, labels := r1.2.1.toList, cv := r2.2.1.toList, msgs := r1.2.2 ++ r2.2.2, seed := seed2,
                  x := a2.x, t0 := a2.t.1, t1 := a2.t.2 } : RecvOut)) =
      some (receiveKosWith X R0 R1 st b bcv seed2) := by
  rw [receiveAt_assign _ _ _ _ _ hs]
  dsimp only
  rw [receiveAt_assign _ _ _ _ _ hz]
  rfl

theorem receiveKosAt_assign (X : Label → Nat → Label) (R0 R1 : Nat → Nat → Byte) (st : RecvSt) (b : Array Bool)
    (b0 b1 seed2 : Label) (result : Array Label) (hs : result.size = b.size) :
    receiveKosAt Store.assign X R0 R1 st b b0 b1 seed2 result = some (receiveKos X R0 R1 st b b0 b1 seed2) :=
  receiveKosAt_body_assign X R0 R1 st b (bcvOf b0 b1) (zerosL 256) seed2 result hs (by rw [size_bcvOf, zerosL, size_mk])

/-- Caller obligations of a call of a history (`Iknp.BufSrc.WF`, label form). -/
def KCall.WF (SL : Nat) (c : KCall) : Prop := c.buf.WF SL c.b.size true

def KSpec (delta : Label) (c : KCall) (o : RecvOut × List Label) : Prop :=
  o.2.length = c.b.size ∧ o.1.labels.length = c.b.size ∧
  ∀ i, i < c.b.size → o.1.labels.getD i 0#128 = o.2.getD i 0#128 ^^^ (if c.b.getD i false then delta else 0#128)

theorem call_okK (X : Label → Nat → Label) (R0 R1 SS : Nat → Nat → Byte) (delta : Label) (hb : BaseOK R0 R1 SS delta)
    (rs : RecvSt) (ss : SendSt) (hs : InStep rs ss) (ar : Array Label) (SL : Nat) (har : ar.size = SL)
    (c : KCall) (hc : c.WF SL) :
    ∃ rs' ss' ar' r sent, runKCall Store.assign X R0 R1 SS delta rs ss ar c = some (rs', ss', ar', r, sent) ∧
      InStep rs' ss' ∧ ar'.size = SL ∧ KSpec delta c (r, sent) := by
  obtain ⟨a, off, len, e1, _, e3, e4⟩ := resolve_ok 0#128 ar SL c.b.size true c.buf har hc
  have hlen : len = c.b.size := e3 rfl
  subst hlen
  obtain ⟨ss', sent, h1, h2, h3, h4, h5⟩ := kos_complete_call X R0 R1 SS delta hb rs ss hs c.b c.b0 c.b1 c.seed2 [] []
  refine ⟨(receiveKos X R0 R1 rs c.b c.b0 c.b1 c.seed2).st, ss',
    c.buf.commit 0#128 ar a off (receiveKos X R0 R1 rs c.b c.b0 c.b1 c.seed2).labels.toArray,
    receiveKos X R0 R1 rs c.b c.b0 c.b1 c.seed2, sent, ?_, h2, e4 _, h3, h4, h5⟩
  rw [List.append_nil, List.append_nil] at h1
  simp only [runKCall, e1, receiveKosAt_assign _ _ _ _ _ _ _ _ _ (size_window ..), h1]

theorem sessionK_ok (X : Label → Nat → Label) (R0 R1 SS : Nat → Nat → Byte) (delta : Label) (hb : BaseOK R0 R1 SS delta)
    (SL : Nat) :
    ∀ (cs : List KCall) (rs : RecvSt) (ss : SendSt) (ar : Array Label), InStep rs ss → ar.size = SL →
      (∀ c ∈ cs, c.WF SL) →
      ∃ outs, sessionK Store.assign X R0 R1 SS delta rs ss ar cs = some outs ∧ outs.length = cs.length ∧
        ∀ k (hk : k < cs.length) (hk' : k < outs.length), KSpec delta cs[k] outs[k] :=
  fun cs rs ss ar hs har => Run.session_of_call (σ := RecvSt × SendSt × Array Label)
    (run := fun s => sessionK Store.assign X R0 R1 SS delta s.1 s.2.1 s.2.2)
    (I := fun s => InStep s.1 s.2.1 ∧ s.2.2.size = SL) (fun _ => rfl)
    (fun s c _ hs hc =>
      let ⟨rs', ss', ar', r, sent, h1, h2, h2', h3⟩ := call_okK X R0 R1 SS delta hb s.1 s.2.1 hs.1 s.2.2 SL hs.2 c hc
      ⟨(rs', ss', ar'), (r, sent), ⟨h2, h2'⟩, h3, by simp only [sessionK, h1]⟩) cs (rs, ss, ar) ⟨hs, har⟩

end Mpc.Kos
