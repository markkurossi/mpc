/-
Safety of `Program.GC` (Model/GcQuery.lean: `gcPassQ`) for EVERY implementation of the liveness query that
answers against the CURRENT live set (`CurrentSound`), whatever state it keeps
between queries (`gcPassQ_pairwise`; `Safe` follows by `safe_of_pairwise`); and the tie of the stateless instance to `gcPassWith`, which
makes the pass with any covering alias table an instance.
-/
import MpcVerif.Model.GcQuery
import MpcVerif.Proofs.Gc

namespace Mpc.Gc

/-- The query is sound for the set it is asked about: answer `false` ("no
alias live") only if no value that points into `v` is in THAT set -- in every
state the query may be in. -/
def CurrentSound {σ : Type} (prog : List Step) (q : Query σ) : Prop :=
  ∀ st live v, (q st live v).1 = false →
    ∀ w, PointsInto prog w v → w ≠ v → live.contains w = false

theorem scanInsQ_live {σ : Type} (q : Query σ) (ins : List Arg) (live : Live) (st : σ) :
    (scanInsQ q ins live st).1 = ((ins.filter (!·.const)).map (·.id)).reverse ++ live := by
  induction ins generalizing live st with
  | nil => rfl
  | cons a as ih =>
    simp only [scanInsQ, List.filter_cons]
    split
    · simp [*]
    · split <;> simp [*]

theorem live_complete {σ : Type} (q : Query σ) (rl : Live) (st0 : σ) (l : List Step) (x : Nat)
    (hread : ∃ t ∈ l, ∃ b ∈ t.ins, b.const = false ∧ b.id = x) (hdef : x ∉ outs l) :
    (gcBackQ q rl st0 l).2.1.contains x = true := by
  induction l with
  | nil => obtain ⟨t, ht, _⟩ := hread; cases ht
  | cons s rest ih =>
    have hscan : x ∈ (scanInsQ q s.ins (gcBackQ q rl st0 rest).2.1 (gcBackQ q rl st0 rest).2.2).1 := by
      rw [scanInsQ_live]
      obtain ⟨t, ht, b, hb, hbc, hbx⟩ := hread
      rcases List.mem_cons.mp ht with rfl | htr
      · exact List.mem_append_left _ (by simpa using ⟨b, ⟨hb, hbc⟩, hbx⟩)
      · exact List.mem_append_right _
          (by simpa using ih ⟨t, htr, b, hb, hbc, hbx⟩ fun h => hdef (mem_outs_cons h))
    simp only [gcBackQ]
    cases ho : s.out with
    | none => simpa using hscan
    | some o =>
      have hxo : x ≠ o.id := fun h =>
        hdef (mem_outs.mpr ⟨s, List.mem_cons_self, by simp [Step.outId, ho, h]⟩)
      simpa using ⟨hscan, hxo⟩

theorem gcBackQ_cons_fst {σ : Type} (q : Query σ) (rl : Live) (st0 : σ) (s : Step) (rest : List Step) :
    (gcBackQ q rl st0 (s :: rest)).1 =
      s :: ((scanInsQ q s.ins (gcBackQ q rl st0 rest).2.1 (gcBackQ q rl st0 rest).2.2).2.1.reverse ++
        (gcBackQ q rl st0 rest).1) := rfl

/-- `R` is whatever the query's `false` excludes from the set it is asked
about; that set contains `live`, the set after the instruction, hence the
conclusion about `live`. -/
theorem scanInsQ_gcs {σ : Type} (q : Query σ) (R : Nat → Nat → Prop)
    (hq : ∀ st live v, (q st live v).1 = false → ∀ w, R w v → live.contains w = false)
    (ins : List Arg) (live : Live) (st : σ) (g : Step) (hg : g ∈ (scanInsQ q ins live st).2.1) :
    ∃ a ∈ ins, g = gcStep a ∧ a.const = false ∧ live.contains a.id = false ∧
      ∀ w, R w a.id → live.contains w = false := by
  induction ins generalizing live st with
  | nil => cases hg
  | cons b bs ih =>
    -- the scan goes on with `b` marked: what is not in the larger set is not in `live`
    have hrest : ∀ st', g ∈ (scanInsQ q bs (b.id :: live) st').2.1 →
        ∃ a ∈ b :: bs, g = gcStep a ∧ a.const = false ∧ live.contains a.id = false ∧
          ∀ w, R w a.id → live.contains w = false := by
      intro st' h
      obtain ⟨a, ha, h1, h2, h3, h4⟩ := ih (b.id :: live) st' h
      simp only [List.contains_cons, Bool.or_eq_false_iff] at h3 h4
      exact ⟨a, List.mem_cons_of_mem _ ha, h1, h2, h3.2, fun w hw => (h4 w hw).2⟩
    simp only [scanInsQ] at hg
    split at hg
    · obtain ⟨a, ha, h⟩ := ih live st hg
      exact ⟨a, List.mem_cons_of_mem _ ha, h⟩
    · rename_i hb
      split at hg
      · exact hrest st hg
      · rename_i hl
        split at hg
        · exact hrest _ hg
        · rename_i hans
          rcases List.mem_cons.mp hg with rfl | hmem
          · exact ⟨b, List.mem_cons_self, rfl, by simpa using hb, by simpa using hl,
              hq st live b.id (by simpa using hans)⟩
          · exact hrest _ hmem

theorem scanInsQ_op {σ : Type} (q : Query σ) (ins : List Arg) (live : Live) (st : σ) (g : Step)
    (hg : g ∈ (scanInsQ q ins live st).2.1) : g.op = .gc := by
  obtain ⟨a, _, rfl, _⟩ := scanInsQ_gcs q (fun _ _ => False) (fun _ _ _ _ _ h => h.elim) ins live st g hg
  rfl

theorem mem_of_mem_gcBackQ {σ : Type} (q : Query σ) (rl : Live) (st0 : σ) (l : List Step) (t : Step)
    (ht : t ∈ (gcBackQ q rl st0 l).1) (hop : t.op ≠ .gc) : t ∈ l := by
  induction l with
  | nil => cases ht
  | cons s rest ih =>
    rw [gcBackQ_cons_fst] at ht
    rcases List.mem_cons.mp ht with rfl | h
    · exact List.mem_cons_self
    · rcases List.mem_append.mp h with h | h
      · exact absurd (scanInsQ_op q _ _ _ t (List.mem_reverse.mp h)) hop
      · exact List.mem_cons_of_mem _ (ih h)

/-- What `Safe` asks of a step `g` and a step `t` that comes after it, and that
`t` does not read the freed value itself (`Safe` says so only of a value that
owns its ids: `PointsInto prog v v` fails for the output of a rewiring
operand). -/
def GcBefore (prog : List Step) (g t : Step) : Prop :=
  g.op = .gc → ∀ a ∈ g.ins, t.op ≠ .gc → ∀ b ∈ t.ins, b.const = false →
    b.id ≠ a.id ∧ ¬ PointsInto prog b.id a.id

theorem safe_of_pairwise (prog out : List Step) (h : out.Pairwise (GcBefore prog)) : Safe prog out := by
  intro pre post g hsplit hgop a ha t ht htop b hb hbc
  subst hsplit
  exact ((List.pairwise_cons.mp (List.pairwise_append.mp h).2.1).1 t ht hgop a ha htop b hb hbc).2

/-- The induction over the suffixes `l` of the program.  The result for
`s :: rest` is `s`, the `gc`s of `s`, then the result for `rest`; only a `gc a`
of `s` against a step `t` of `rest` needs an argument: `a` is read by `s`, so
it is not defined in `rest`, and it was dead after `s` (`live_complete`,
`dead_not_read`). -/
theorem gcBackQ_pairwise {σ : Type} (prog : List Step) (q : Query σ) (rl : Live) (st0 : σ)
    (hnogc : ∀ s ∈ prog, s.op ≠ .gc) (hssa : (outs prog).Nodup) (hq : CurrentSound prog q) :
    ∀ (pre l : List Step), prog = pre ++ l → dbu l = true →
      (gcBackQ q rl st0 l).1.Pairwise (GcBefore prog) := by
  intro pre l
  induction l generalizing pre with
  | nil => exact fun _ _ => List.Pairwise.nil
  | cons s rest ih =>
    intro hprog hdbu
    have hprog' : prog = (pre ++ [s]) ++ rest := by simp [hprog]
    rw [gcBackQ_cons_fst]
    refine List.pairwise_cons.mpr ⟨fun _ _ hop => absurd hop (hnogc s (by simp [hprog])),
      List.pairwise_append.mpr ⟨?_, ih _ hprog' (dbu_cons hdbu).2, ?_⟩⟩
    · exact List.pairwise_of_forall_mem_list fun _ _ t ht _ _ _ htop =>
        absurd (scanInsQ_op q _ _ _ t (List.mem_reverse.mp ht)) htop
    · intro g hg t ht _ a ha htop b hb hbc
      obtain ⟨a', ha', rfl, hac, hlive, halias⟩ := scanInsQ_gcs q (fun w v => PointsInto prog w v ∧ w ≠ v)
        (fun st live v h w hw => hq st live v h w hw.1 hw.2) _ _ _ g (List.mem_reverse.mp hg)
      obtain rfl : a = a' := List.mem_singleton.mp ha
      have hundef : a.id ∉ outs rest := fun h => (dbu_cons hdbu).1 a ha' hac (mem_outs_cons h)
      have hread : ∃ t ∈ rest, ∃ b' ∈ t.ins, b'.const = false ∧ b'.id = b.id :=
        ⟨t, mem_of_mem_gcBackQ q rl st0 rest t ht htop, b, hb, hbc, rfl⟩
      refine not_or.mp fun h =>
        dead_not_read hprog' hssa (live_complete q rl st0 rest) hundef (fun w hw => ?_) h hread
      by_cases hne : w = a.id
      · exact hne ▸ hlive
      · exact halias w ⟨hw.resolve_left hne, hne⟩

theorem gcPassQ_pairwise {σ : Type} (q : Query σ) (st0 : σ) (prog out : List Step) (hwf : WF prog)
    (hq : CurrentSound prog q) (hgc : gcPassQ q st0 prog = some out) : out.Pairwise (GcBefore prog) := by
  unfold gcPassQ at hgc
  split at hgc
  · cases hgc
  · split at hgc
    · cases hgc
    · cases hgc
      exact gcBackQ_pairwise prog q _ st0 hwf.nogc hwf.ssa hq [] prog rfl hwf.dbu

theorem scanInsQ_table (al : Nat → List Nat) (ins : List Arg) (live : Live) :
    scanInsQ (tableQuery al) ins live () = ((scanIns al ins live).1, (scanIns al ins live).2, ()) := by
  induction ins generalizing live with
  | nil => rfl
  | cons a as ih =>
    simp only [scanInsQ, scanIns, tableQuery, ih]
    split
    · rfl
    · cases live.contains a.id <;> cases (al a.id).any (List.contains live) <;> rfl

theorem gcBackQ_table (al : Nat → List Nat) (rl : Live) (l : List Step) :
    gcBackQ (tableQuery al) rl () l = ((gcBack al rl l).1, (gcBack al rl l).2, ()) := by
  induction l with
  | nil => rfl
  | cons s rest ih =>
    simp only [gcBackQ, gcBack, ih, scanInsQ_table]
    rfl

theorem gcPassQ_table (al : Nat → List Nat) (prog : List Step) :
    gcPassQ (tableQuery al) () prog = gcPassWith al prog := by
  unfold gcPassQ gcPassWith
  cases prog.getLast? with
  | none => rfl
  | some last =>
    simp only
    split
    · rfl
    · rw [gcBackQ_table]

theorem tableQuery_currentSound (prog : List Step) (al : Nat → List Nat)
    (hal : ∀ w v, PointsInto prog w v → w ≠ v → w ∈ al v) : CurrentSound prog (tableQuery al) := by
  intro _ live v h w hp hne
  simp only [tableQuery, List.any_eq_false] at h
  simpa using h w (hal w v hp hne)

end Mpc.Gc
