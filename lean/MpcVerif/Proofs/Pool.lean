/-
Invariant of the scratch-pool ownership protocol (`Model/Pool.lean`) and its
preservation by every atomic step under the usage contract (`strict = true`):
the transitions as a relation (`Step`), the invariant in four parts over the
components each reads, with the owner map of the scratches among them; frame
lemmas (what one step can write); schedules (`runSched_*`).  Core Lean only.
-/
import MpcVerif.Model.Pool

namespace Mpc.Pool
variable {Mem Job : Type}

/-- The scratch a handle owns: it has one while it is not released and no
in-progress `Release` has already `Put` it back. -/
def Handle.owned (H : Handle Mem Job) : Option ScratchId :=
  if H.pool.isSome && !H.putDone then H.scratch else none

theorem Handle.owned_of_live {H : Handle Mem Job} (hp : H.pool.isSome = true) (hd : H.putDone = false) :
    H.owned = H.scratch := by
  simp [Handle.owned, hp, hd]

theorem Handle.owned_of_putDone {H : Handle Mem Job} (hd : H.putDone = true) : H.owned = none := by
  simp [Handle.owned, hd]

theorem Handle.owned_of_released {H : Handle Mem Job} (hp : H.pool = none) : H.owned = none := by
  simp [Handle.owned, hp]

/-- Goroutine `t` holds scratch `x` (is between `pool.Get` and `Put`/return in `Garble`). -/
def HeldBy (σ : State Mem Job) (t : Tid) (x : ScratchId) : Prop :=
  ∃ j p m0 k, σ.pc t = .gRun j p x m0 k

def OwnedBy (σ : State Mem Job) (h : HandleId) (x : ScratchId) : Prop :=
  ∃ H, σ.handle h = some H ∧ H.owned = some x

def FreeIn (σ : State Mem Job) (q : PoolId) (x : ScratchId) : Prop := x ∈ σ.free q

inductive Owner where
  | pool (q : PoolId)       -- cached in `sync.Pool` object `q` (the free list)
  | thread (t : Tid)        -- held by an in-progress `Garble` of goroutine `t`
  | handle (h : HandleId)   -- backing an unreleased `*Garbled`
  deriving DecidableEq

def Owns (σ : State Mem Job) (x : ScratchId) : Owner → Prop
  | .pool q => x ∈ σ.free q
  | .thread t => HeldBy σ t x
  | .handle h => OwnedBy σ h x

structure Inv (P : Params Mem Job) (σ : State Mem Job) : Prop where
  poolLt   : ∀ p, σ.poolPtr = some p → p < σ.nPools
  casLt    : ∀ t j p, σ.pc t = .gCas j p → p < σ.nPools
  getPool  : ∀ t j p, σ.pc t = .gGet j p → σ.poolPtr = some p
  runPool  : ∀ t j p x m0 k, σ.pc t = .gRun j p x m0 k → σ.poolPtr = some p
  hPool    : ∀ h H p, σ.handle h = some H → H.pool = some p → σ.poolPtr = some p
  reloadOk : ∀ t j, σ.pc t = .gReload j → σ.poolPtr.isSome = true
  freePool : ∀ q x, x ∈ σ.free q → σ.poolPtr = some q
  freeNodup : ∀ q, (σ.free q).Nodup
  freeLt   : ∀ q x, x ∈ σ.free q → x < σ.nScratch
  freeT    : ∀ q x t j p m0 k, x ∈ σ.free q → σ.pc t ≠ .gRun j p x m0 k
  freeH    : ∀ q x h H, x ∈ σ.free q → σ.handle h = some H → H.owned ≠ some x
  heldLt   : ∀ t j p x m0 k, σ.pc t = .gRun j p x m0 k → x < σ.nScratch
  heldTT   : ∀ t t' j p x m0 k j' p' m0' k', σ.pc t = .gRun j p x m0 k →
      σ.pc t' = .gRun j' p' x m0' k' → t = t'
  heldH    : ∀ t j p x m0 k h H, σ.pc t = .gRun j p x m0 k → σ.handle h = some H → H.owned ≠ some x
  ownLt    : ∀ h H x, σ.handle h = some H → H.owned = some x → x < σ.nScratch
  ownHH    : ∀ h h' H H' x, σ.handle h = some H → σ.handle h' = some H' →
      H.owned = some x → H'.owned = some x → h = h'
  hLt      : ∀ h H, σ.handle h = some H → h < σ.nHandles
  owner    : ∀ x, x < σ.nScratch →
      (∃ q, x ∈ σ.free q) ∨ (∃ t j p m0 k, σ.pc t = .gRun j p x m0 k) ∨
      (∃ h H, σ.handle h = some H ∧ H.owned = some x)
  hFields  : ∀ h H, σ.handle h = some H → H.pool.isSome = H.scratch.isSome
  rPutOk   : ∀ t h, σ.pc t = .rPut h →
      ∃ H, σ.handle h = some H ∧ H.user = some t ∧ H.pool.isSome = true ∧ H.putDone = false
  rClearOk : ∀ t h, σ.pc t = .rClear h →
      ∃ H, σ.handle h = some H ∧ H.user = some t ∧ H.pool.isSome = true ∧ H.putDone = true
  userOk   : ∀ h H t, σ.handle h = some H → H.user = some t → σ.pc t = .rPut h ∨ σ.pc t = .rClear h
  noUser   : ∀ h H, σ.handle h = some H → H.user = none → H.putDone = false
  runMem   : ∀ t j p x m0 k, σ.pc t = .gRun j p x m0 k →
      σ.mem x = runFrom P j k m0 ∧ k ≤ (P.prog j).length
  ownMem   : ∀ h H x, σ.handle h = some H → H.owned = some x → σ.mem x = seqGarble P H.job H.init

@[simp] theorem upd_same {α : Type} (f : Nat → α) (i : Nat) (v : α) : upd f i v i = v := by simp [upd]

theorem upd_ne {α : Type} {f : Nat → α} {i x : Nat} {v : α} (h : x ≠ i) : upd f i v x = f x := if_neg h

theorem upd_eq_self {α : Type} {f : Nat → α} {i : Nat} {v : α} (h : f i = v) : upd f i v = f := by
  funext x
  by_cases e : x = i
  · rw [e, upd_same, h]
  · exact upd_ne e

@[simp] theorem upd_upd {α : Type} (f : Nat → α) (i : Nat) (a b : α) :
    upd (upd f i a) i b = upd f i b := by
  funext x; simp only [upd]; split <;> rfl

theorem of_upd {α : Type} {f : Nat → α} {i x : Nat} {v c : α} (e : upd f i v x = c) (hne : v ≠ c) :
    f x = c := by
  unfold upd at e
  split at e
  · exact absurd e hne
  · exact e

theorem forall_upd {α : Type} {Q : α → Prop} {f : Nat → α} (hf : ∀ i, Q (f i)) {v : α} (hv : Q v) (i0 i : Nat) :
    Q (upd f i0 v i) := by
  unfold upd; split
  · exact hv
  · exact hf i

@[simp] theorem runFrom_zero (P : Params Mem Job) (j : Job) (m : Mem) : runFrom P j 0 m = m := by
  simp [runFrom]

theorem runFrom_succ (P : Params Mem Job) (j : Job) (k : Nat) (m : Mem) (f : Mem → Mem)
    (hf : (P.prog j)[k]? = some f) : runFrom P j (k + 1) m = f (runFrom P j k m) := by
  unfold runFrom
  rw [List.take_add_one, hf]
  simp [List.foldl_append]

theorem runFrom_length (P : Params Mem Job) (j : Job) (m : Mem) :
    runFrom P j (P.prog j).length m = seqGarble P j m := by
  simp [runFrom, seqGarble]

/-- The transitions of `step?`, one constructor per enabled branch: its guards, its post-state. -/
inductive Step (P : Params Mem Job) (strict : Bool) (σ : State Mem Job) (t : Tid) :
    Action Job → State Mem Job → Prop
  | callGarble {j} : σ.pc t = .idle →
      Step P strict σ t (.callGarble j) { σ with pc := upd σ.pc t (.gLoad j) }
  | loadSet {j p} : σ.pc t = .gLoad j → σ.poolPtr = some p →
      Step P strict σ t .load { σ with pc := upd σ.pc t (.gGet j p) }
  | loadNil {j} : σ.pc t = .gLoad j → σ.poolPtr = none →
      Step P strict σ t .load { σ with nPools := σ.nPools + 1, pc := upd σ.pc t (.gCas j σ.nPools) }
  | casWon {j p} : σ.pc t = .gCas j p → σ.poolPtr = none →
      Step P strict σ t .cas { σ with poolPtr := some p, pc := upd σ.pc t (.gGet j p) }
  | casLost {j p q} : σ.pc t = .gCas j p → σ.poolPtr = some q →
      Step P strict σ t .cas { σ with pc := upd σ.pc t (.gReload j) }
  | reload {j p} : σ.pc t = .gReload j → σ.poolPtr = some p →
      Step P strict σ t .reload { σ with pc := upd σ.pc t (.gGet j p) }
  | getFree {j p x} : σ.pc t = .gGet j p → x ∈ σ.free p →
      Step P strict σ t (.getFree x)
        { σ with free := upd σ.free p ((σ.free p).erase x), pc := upd σ.pc t (.gRun j p x (σ.mem x) 0) }
  | getNew {j p} : σ.pc t = .gGet j p →
      Step P strict σ t .getNew
        { σ with nScratch := σ.nScratch + 1, mem := upd σ.mem σ.nScratch P.fresh,
                 pc := upd σ.pc t (.gRun j p σ.nScratch P.fresh 0) }
  | write {j p x m0 k f} : σ.pc t = .gRun j p x m0 k → (P.prog j)[k]? = some f →
      Step P strict σ t .write
        { σ with mem := upd σ.mem x (f (σ.mem x)), pc := upd σ.pc t (.gRun j p x m0 (k + 1)) }
  | abort {j p x m0 k} : σ.pc t = .gRun j p x m0 k →
      Step P strict σ t .abort { σ with free := upd σ.free p (x :: σ.free p), pc := upd σ.pc t .idle }
  | publish {j p x m0 k} : σ.pc t = .gRun j p x m0 k → k = (P.prog j).length →
      Step P strict σ t .publish
        { σ with nHandles := σ.nHandles + 1,
                 handle := upd σ.handle σ.nHandles
                   (some { scratch := some x, pool := some p, job := j, init := m0,
                           user := none, putDone := false }),
                 pc := upd σ.pc t .idle }
  | read {h H} : σ.pc t = .idle → σ.handle h = some H →
      ¬(strict && (H.user.isSome || !H.pool.isSome)) = true → Step P strict σ t (.read h) σ
  | compute : σ.pc t = .idle → Step P strict σ t .compute σ
  | relBegin {h H} : σ.pc t = .idle → σ.handle h = some H → ¬(strict && H.user.isSome) = true →
      H.pool.isSome = true →
      Step P strict σ t (.relBegin h)
        { σ with handle := upd σ.handle h (some { H with user := some t }), pc := upd σ.pc t (.rPut h) }
  | relNoop {h H} : σ.pc t = .idle → σ.handle h = some H → ¬(strict && H.user.isSome) = true →
      ¬H.pool.isSome = true → Step P strict σ t (.relBegin h) σ
  | relPut {h H p x} : σ.pc t = .rPut h → σ.handle h = some H → H.pool = some p → H.scratch = some x →
      Step P strict σ t .relPut
        { σ with free := upd σ.free p (x :: σ.free p),
                 handle := upd σ.handle h (some { H with putDone := true }),
                 pc := upd σ.pc t (.rClear h) }
  | relClear {h H} : σ.pc t = .rClear h → σ.handle h = some H →
      Step P strict σ t .relClear
        { σ with handle := upd σ.handle h
                   (some { H with scratch := none, pool := none, user := none, putDone := false }),
                 pc := upd σ.pc t .idle }
  | copyHandle {h H} : σ.pc t = .idle → σ.handle h = some H → ¬strict = true →
      Step P strict σ t (.copyHandle h)
        { σ with nHandles := σ.nHandles + 1,
                 handle := upd σ.handle σ.nHandles (some { H with user := none }) }

theorem Step.of_step? {P : Params Mem Job} {strict : Bool} {σ σ' : State Mem Job} {t : Tid} {a : Action Job}
    (h : step? P strict σ t a = some σ') : Step P strict σ t a σ' := by
  unfold step? at h
  (repeat' split at h) <;> cases h
  · exact .callGarble ‹_›
  · exact .loadSet ‹_› ‹_›
  · exact .loadNil ‹_› ‹_›
  · exact .casWon ‹_› ‹_›
  · exact .casLost ‹_› ‹_›
  · exact .reload ‹_› ‹_›
  · exact .getFree ‹_› ‹_›
  · exact .getNew ‹_›
  · exact .write ‹_› ‹_›
  · exact .abort ‹_›
  · exact .publish ‹_› ‹_›
  · exact .read ‹_› ‹_› ‹_›
  · exact .compute ‹_›
  · exact .relBegin ‹_› ‹_› ‹_› ‹_›
  · exact .relNoop ‹_› ‹_› ‹_› ‹_›
  · exact .relPut ‹_› ‹_› ‹_› ‹_›
  · exact .relClear ‹_› ‹_›
  · exact .copyHandle ‹_› ‹_› ‹_›

/-! ### The invariant in four parts

`Inv` falls into four groups of fields, each a predicate on the few components of the state it reads (so
a step that writes other components leaves it alone by unfolding): where the scratches are (`Tracks`),
handle records and the goroutines inside `Release` (`Lock`), the pool pointer (`Ptr`), scratch contents
(`Cont`).  Each part has one lemma per kind of update of one of its components; the lemmas do not
mention actions and compose.  Which updates an action is made of is said once per part, in the four
`*_step` lemmas, each resting on the parts it needs; the induction over runs carries the four together
(`Parts`), and `Inv.of_parts` reads the fields of `Inv` off them.  What `Tracks`, `Ptr`, `Cont` say of a
goroutine is a function of its program counter alone (`PC.scr`, `PC.fits`, `PC.claim`). -/

def PC.scr : PC Mem Job → Option ScratchId
  | .gRun _ _ x _ _ => some x
  | _ => none

section Tracks
variable {free : PoolId → List ScratchId} {pc : Tid → PC Mem Job} {hd : HandleId → Option (Handle Mem Job)}
  {n : Nat} {w : ScratchId → Option Owner} {x : ScratchId} {p : PoolId} {t : Tid} {h : HandleId}
  {c : PC Mem Job} {H : Handle Mem Job}

/-- `Owns` on the three components it reads (`owns_iff`). -/
def At (free : PoolId → List ScratchId) (pc : Tid → PC Mem Job) (hd : HandleId → Option (Handle Mem Job))
    (x : ScratchId) : Owner → Prop
  | .pool q => x ∈ free q
  | .thread t => (pc t).scr = some x
  | .handle h => (hd h).bind Handle.owned = some x

/-- `w` is the owner map of the scratches.  That every allocated scratch is in exactly one place is that
`w` is a function (`unique`, `somewhere`). -/
structure Tracks (free : PoolId → List ScratchId) (pc : Tid → PC Mem Job)
    (hd : HandleId → Option (Handle Mem Job)) (n : Nat) (w : ScratchId → Option Owner) : Prop where
  nodup : ∀ q, (free q).Nodup
  at_iff : ∀ x o, At free pc hd x o ↔ w x = some o
  dom : ∀ x, (w x).isSome ↔ x < n

namespace Tracks

theorem unique (hT : Tracks free pc hd n w) {o o' : Owner} (h1 : At free pc hd x o) (h2 : At free pc hd x o') :
    o = o' :=
  Option.some.inj (((hT.at_iff x o).mp h1).symm.trans ((hT.at_iff x o').mp h2))

theorem lt (hT : Tracks free pc hd n w) {o : Owner} (h1 : At free pc hd x o) : x < n :=
  (hT.dom x).mp (by rw [(hT.at_iff x o).mp h1]; rfl)

theorem somewhere (hT : Tracks free pc hd n w) (hx : x < n) : ∃ o, At free pc hd x o := by
  obtain ⟨o, ho⟩ := Option.isSome_iff_exists.mp ((hT.dom x).mpr hx)
  exact ⟨o, (hT.at_iff x o).mpr ho⟩

theorem move (hT : Tracks free pc hd n w) (hc : c.scr = (pc t).scr) : Tracks free (upd pc t c) hd n w where
  nodup := hT.nodup
  at_iff y o := by have := hT.at_iff y o; cases o <;> simp only [At, upd] at * <;> grind
  dom := hT.dom

theorem handle (hT : Tracks free pc hd n w) (hH : H.owned = (hd h).bind Handle.owned) :
    Tracks free pc (upd hd h (some H)) n w where
  nodup := hT.nodup
  at_iff y o := by have := hT.at_iff y o; cases o <;> simp only [At, upd] at * <;> grind
  dom := hT.dom

theorem get (hT : Tracks free pc hd n w) (hx : x ∈ free p) (ht : (pc t).scr = none) (hc : c.scr = some x) :
    Tracks (upd free p ((free p).erase x)) (upd pc t c) hd n (upd w x (some (.thread t))) :=
  have hxp := (hT.at_iff x (.pool p)).mp hx
  { nodup q := by have := hT.nodup q; simp only [upd]; split <;> simp_all [List.Nodup.erase]
    at_iff y o := by
      have := hT.at_iff y o; have := hT.nodup p
      cases o <;> simp only [At, upd] at * <;> grind [List.Nodup.mem_erase_iff]
    dom y := by have := hT.dom y; simp only [upd]; grind }

/-- `Get` that allocates: a new scratch, to the goroutine. -/
theorem new (hT : Tracks free pc hd n w) (ht : (pc t).scr = none) (hc : c.scr = some n) :
    Tracks free (upd pc t c) hd (n + 1) (upd w n (some (.thread t))) where
  nodup := hT.nodup
  at_iff y o := by
    have hn : w n = none :=
      Option.not_isSome_iff_eq_none.mp fun e => Nat.lt_irrefl _ ((hT.dom _).mp e)
    have := hT.at_iff y o
    cases o <;> simp only [At, upd] at * <;> grind
  dom y := by have := hT.dom y; simp only [upd]; grind

/-- `Put` by the goroutine that holds the scratch (error path of `Garble`): goroutine → pool. -/
theorem put (hT : Tracks free pc hd n w) (ht : (pc t).scr = some x) (hc : c.scr = none) :
    Tracks (upd free p (x :: free p)) (upd pc t c) hd n (upd w x (some (.pool p))) :=
  have hxt := (hT.at_iff x (.thread t)).mp ht
  { nodup q := by
      have := hT.nodup q; have := hT.at_iff x (.pool p); simp only [upd, At] at *; split <;> simp_all
    at_iff y o := by have := hT.at_iff y o; cases o <;> simp only [At, upd] at * <;> grind
    dom y := by have := hT.dom y; simp only [upd]; grind }

theorem publish (hT : Tracks free pc hd n w) (ht : (pc t).scr = some x) (hc : c.scr = none)
    (hh : hd h = none) (hH : H.owned = some x) :
    Tracks free (upd pc t c) (upd hd h (some H)) n (upd w x (some (.handle h))) :=
  have hxt := (hT.at_iff x (.thread t)).mp ht
  { nodup := hT.nodup
    at_iff y o := by have := hT.at_iff y o; cases o <;> simp only [At, upd] at * <;> grind
    dom y := by have := hT.dom y; simp only [upd]; grind }

/-- `Put` of `Release`: handle → pool. -/
theorem release (hT : Tracks free pc hd n w) (hh : (hd h).bind Handle.owned = some x) (hH : H.owned = none) :
    Tracks (upd free p (x :: free p)) pc (upd hd h (some H)) n (upd w x (some (.pool p))) :=
  have hxh := (hT.at_iff x (.handle h)).mp hh
  { nodup q := by
      have := hT.nodup q; have := hT.at_iff x (.pool p); simp only [upd, At] at *; split <;> simp_all
    at_iff y o := by have := hT.at_iff y o; cases o <;> simp only [At, upd] at * <;> grind
    dom y := by have := hT.dom y; simp only [upd]; grind }

end Tracks
end Tracks

section
variable {σ : State Mem Job} {x : ScratchId}

theorem At.thread {t : Tid} {j p m0 k} (e : σ.pc t = .gRun j p x m0 k) :
    At σ.free σ.pc σ.handle x (.thread t) := by
  simp only [At, e, PC.scr]

theorem At.handle {h : HandleId} {H : Handle Mem Job} (e : σ.handle h = some H) (ho : H.owned = some x) :
    At σ.free σ.pc σ.handle x (.handle h) := by
  simp only [At, e, Option.bind_some, ho]

theorem owns_iff (o : Owner) : Owns σ x o ↔ At σ.free σ.pc σ.handle x o := by
  cases o with
  | pool q => rfl
  | thread t =>
    refine ⟨fun ⟨_, _, _, _, e⟩ => At.thread e, fun h => ?_⟩
    simp only [At] at h
    cases e : σ.pc t <;> simp only [e, PC.scr] at h <;> cases h
    exact ⟨_, _, _, _, e⟩
  | handle h =>
    refine ⟨fun ⟨_, e, ho⟩ => At.handle e ho, fun h' => ?_⟩
    simp only [At] at h'
    cases e : σ.handle h with
    | none => simp [e] at h'
    | some H => exact ⟨H, e, by simpa [e] using h'⟩

end

/-- The fields of `Inv` about handle records and the goroutines inside `Release`, over the components they
read: a goroutine at `rPut h` / `rClear h` is the user of `h`, and conversely. -/
structure Lock (n : Nat) (hd : HandleId → Option (Handle Mem Job)) (pc : Tid → PC Mem Job) : Prop where
  hLt      : ∀ h H, hd h = some H → h < n
  hFields  : ∀ h H, hd h = some H → H.pool.isSome = H.scratch.isSome
  rPutOk   : ∀ t h, pc t = .rPut h →
      ∃ H, hd h = some H ∧ H.user = some t ∧ H.pool.isSome = true ∧ H.putDone = false
  rClearOk : ∀ t h, pc t = .rClear h →
      ∃ H, hd h = some H ∧ H.user = some t ∧ H.pool.isSome = true ∧ H.putDone = true
  userOk   : ∀ h H t, hd h = some H → H.user = some t → pc t = .rPut h ∨ pc t = .rClear h
  noUser   : ∀ h H, hd h = some H → H.user = none → H.putDone = false

/-- What `Lock` asks of goroutine `t` at `c` and the record `H` of handle `h` taken together, when `t` is
inside no other handle and no other goroutine is inside `h`. -/
structure Lock.Fits (t : Tid) (h : HandleId) (c : PC Mem Job) (H : Handle Mem Job) : Prop where
  fields : H.pool.isSome = H.scratch.isSome
  put : ∀ h', c = .rPut h' → h' = h ∧ H.user = some t ∧ H.pool.isSome = true ∧ H.putDone = false
  clear : ∀ h', c = .rClear h' → h' = h ∧ H.user = some t ∧ H.pool.isSome = true ∧ H.putDone = true
  user : ∀ t', H.user = some t' → t' = t ∧ (c = .rPut h ∨ c = .rClear h)
  noUser : H.user = none → H.putDone = false

section Lock
variable {t : Tid} {h : HandleId} {n : Nat} {hd : HandleId → Option (Handle Mem Job)}
  {pc : Tid → PC Mem Job}

theorem Lock.set (hl : Lock n hd pc) {c : PC Mem Job} {H : Handle Mem Job} {n' : Nat}
    (hf : Fits t h c H) (hn : n ≤ n') (hh : h < n')
    (hin : ∀ h', pc t = .rPut h' ∨ pc t = .rClear h' → h' = h)
    (hex : ∀ H0 t', hd h = some H0 → H0.user = some t' → t' = t) :
    Lock n' (upd hd h (some H)) (upd pc t c) where
  hLt := by have := hl.hLt; grind [upd]
  hFields := by have := hl.hFields; have := hf.fields; grind [upd]
  rPutOk := fun t' h' => by
    have := hl.rPutOk t' h'; have := hf.put h'; simp only [upd]; grind
  rClearOk := fun t' h' => by
    have := hl.rClearOk t' h'; have := hf.clear h'; simp only [upd]; grind
  userOk := fun h' H' t' => by
    have := hl.userOk h' H' t'; have := hf.user t'; have := hin h'; simp only [upd]; grind
  noUser := by have := hl.noUser; have := hf.noUser; grind [upd]

theorem Lock.move (hl : Lock n hd pc) {c : PC Mem Job} (hc : ∀ h, c ≠ .rPut h ∧ c ≠ .rClear h)
    (hin : ∀ h, pc t ≠ .rPut h ∧ pc t ≠ .rClear h) : Lock n hd (upd pc t c) where
  hLt := hl.hLt
  hFields := hl.hFields
  rPutOk _ _ e := hl.rPutOk _ _ (of_upd e (hc _).1)
  rClearOk _ _ e := hl.rClearOk _ _ (of_upd e (hc _).2)
  userOk := by have := hl.userOk; grind [upd]
  noUser := hl.noUser

end Lock

/-- The locals of `c` agree with pool pointer `ptr` and pool count `n`. -/
def PC.fits (ptr : Option PoolId) (n : Nat) : PC Mem Job → Prop
  | .gCas _ p => p < n
  | .gReload _ => ptr.isSome
  | .gGet _ p | .gRun _ p _ _ _ => ptr = some p
  | _ => True

/-- What `Inv` says about the pool pointer, over the components it reads: every pool id a goroutine past
`garbleScratchPool`, a handle record or a non-empty free list refers to is the installed one. -/
structure Ptr (ptr : Option PoolId) (n : Nat) (free : PoolId → List ScratchId)
    (hd : HandleId → Option (Handle Mem Job)) (pc : Tid → PC Mem Job) : Prop where
  poolLt   : ∀ p, ptr = some p → p < n
  pcFits   : ∀ t, (pc t).fits ptr n
  hPool    : ∀ h H p, hd h = some H → H.pool = some p → ptr = some p
  freePool : ∀ q x, x ∈ free q → ptr = some q

section
variable {ptr ptr' : Option PoolId} {n n' : Nat} {fr : PoolId → List ScratchId}
  {hd : HandleId → Option (Handle Mem Job)} {pc : Tid → PC Mem Job} {t : Tid} {c : PC Mem Job}
  {h : HandleId} {H : Handle Mem Job} {p : PoolId} {l : List ScratchId}

theorem PC.fits.mono (hc : c.fits ptr n) (h1 : ∀ q, ptr = some q → ptr' = some q) (h2 : n ≤ n') :
    c.fits ptr' n' := by
  cases c with
  | gCas => exact Nat.lt_of_lt_of_le hc h2
  | gReload => obtain ⟨q, hq⟩ := Option.isSome_iff_exists.mp hc; exact h1 q hq ▸ rfl
  | gGet | gRun => exact h1 _ hc
  | _ => trivial

theorem Ptr.at (hp : Ptr ptr n fr hd pc) (e : pc t = c) : c.fits ptr n := e ▸ hp.pcFits t

theorem Ptr.mono (hp : Ptr ptr n fr hd pc) (h1 : ∀ q, ptr = some q → ptr' = some q) (h2 : n ≤ n')
    (h3 : ∀ q, ptr' = some q → q < n') : Ptr ptr' n' fr hd pc where
  poolLt := h3
  pcFits t := (hp.pcFits t).mono h1 h2
  hPool _ _ _ e e' := h1 _ (hp.hPool _ _ _ e e')
  freePool _ _ e := h1 _ (hp.freePool _ _ e)

theorem Ptr.move (hp : Ptr ptr n fr hd pc) (hc : c.fits ptr n) : Ptr ptr n fr hd (upd pc t c) :=
  { hp with pcFits := forall_upd hp.pcFits hc t }

theorem Ptr.setFree (hp : Ptr ptr n fr hd pc) (hl : ∀ x ∈ l, ptr = some p) : Ptr ptr n (upd fr p l) hd pc :=
  { hp with freePool := fun q x e => by have := hp.freePool q x; have := hl x; grind [upd] }

theorem Ptr.handle (hp : Ptr ptr n fr hd pc) (hH : ∀ q, H.pool = some q → ptr = some q) :
    Ptr ptr n fr (upd hd h (some H)) pc :=
  { hp with hPool := fun h' H' q e => by have := hp.hPool h' H' q; have := hH q; grind [upd] }

end

def PC.claim (P : Params Mem Job) (mem : ScratchId → Mem) : PC Mem Job → Prop
  | .gRun j _ x m0 k => mem x = runFrom P j k m0 ∧ k ≤ (P.prog j).length
  | _ => True

/-- What `Inv` says about scratch contents, over the components it reads. -/
structure Cont (P : Params Mem Job) (mem : ScratchId → Mem) (hd : HandleId → Option (Handle Mem Job))
    (pc : Tid → PC Mem Job) : Prop where
  pcClaim  : ∀ t, (pc t).claim P mem
  ownMem   : ∀ h H x, hd h = some H → H.owned = some x → mem x = seqGarble P H.job H.init

section
variable {P : Params Mem Job} {mem : ScratchId → Mem} {hd : HandleId → Option (Handle Mem Job)}
  {pc : Tid → PC Mem Job} {t : Tid} {c : PC Mem Job} {h : HandleId} {H : Handle Mem Job} {x : ScratchId} {v : Mem}

theorem PC.claim.frame {mem' : ScratchId → Mem} (h : c.claim P mem) (e : ∀ y, c.scr = some y → mem' y = mem y) :
    c.claim P mem' := by
  cases c with
  | gRun => exact ⟨(e _ rfl).trans h.1, h.2⟩
  | _ => trivial

theorem Cont.at (hc : Cont P mem hd pc) (e : pc t = c) : c.claim P mem := e ▸ hc.pcClaim t

theorem Cont.move (hc : Cont P mem hd pc) (h : c.claim P mem) : Cont P mem hd (upd pc t c) :=
  { hc with pcClaim := forall_upd hc.pcClaim h t }

theorem Cont.handle (hc : Cont P mem hd pc) (hH : ∀ x, H.owned = some x → mem x = seqGarble P H.job H.init) :
    Cont P mem (upd hd h (some H)) pc :=
  { hc with ownMem := fun h' H' x e => by have := hc.ownMem h' H' x; have := hH x; grind [upd] }

theorem Cont.write (hc : Cont P mem hd pc) (h1 : ∀ t', (pc t').scr = some x → t' = t)
    (h2 : ∀ h H, hd h = some H → H.owned ≠ some x)
    (h : c.claim P (upd mem x v)) : Cont P (upd mem x v) hd (upd pc t c) where
  pcClaim t' := by
    by_cases et : t' = t
    · subst et; rw [upd_same]; exact h
    · -- another goroutine holds another scratch
      rw [upd_ne et]
      exact (hc.pcClaim t').frame fun y ey => upd_ne fun exy => et (h1 t' (exy ▸ ey))
  ownMem h H y e ho := by have := hc.ownMem h H y e ho; have := h2 h H e; grind [upd]

end

section
variable {P : Params Mem Job} {σ σ' : State Mem Job} {t : Tid} {a : Action Job}
  {w : ScratchId → Option Owner}

structure Parts (P : Params Mem Job) (σ : State Mem Job) (w : ScratchId → Option Owner) : Prop where
  tracks : Tracks σ.free σ.pc σ.handle σ.nScratch w
  lock : Lock σ.nHandles σ.handle σ.pc
  ptr : Ptr σ.poolPtr σ.nPools σ.free σ.handle σ.pc
  cont : Cont P σ.mem σ.handle σ.pc

theorem Inv.of_parts (h : Parts P σ w) : Inv P σ :=
  have hT := h.tracks
  { h.lock, h.ptr, h.cont with
    casLt := fun _ _ _ e => h.ptr.at e
    getPool := fun _ _ _ e => h.ptr.at e
    runPool := fun _ _ _ _ _ _ e => h.ptr.at e
    reloadOk := fun _ _ e => h.ptr.at e
    runMem := fun _ _ _ _ _ _ e => h.cont.at e
    freeNodup := hT.nodup
    freeLt := fun q _ hx => hT.lt (o := .pool q) hx
    freeT := fun q _ _ _ _ _ _ hx e => nomatch hT.unique (o := .pool q) hx (At.thread e)
    freeH := fun q _ _ _ hx e ho => nomatch hT.unique (o := .pool q) hx (At.handle e ho)
    heldLt := fun _ _ _ _ _ _ e => hT.lt (At.thread e)
    heldTT := fun _ _ _ _ _ _ _ _ _ _ _ e e' => Owner.thread.inj (hT.unique (At.thread e) (At.thread e'))
    heldH := fun _ _ _ _ _ _ _ _ e e' ho => nomatch hT.unique (At.thread e) (At.handle e' ho)
    ownLt := fun _ _ _ e ho => hT.lt (At.handle e ho)
    ownHH := fun _ _ _ _ _ e e' ho ho' => Owner.handle.inj (hT.unique (At.handle e ho) (At.handle e' ho'))
    owner := fun x hx => by
      obtain ⟨o, ho⟩ := hT.somewhere hx
      cases o with
      | pool q => exact .inl ⟨q, ho⟩
      | thread t => exact .inr (.inl ⟨t, (owns_iff (.thread t)).mpr ho⟩)
      | handle h => exact .inr (.inr ⟨h, (owns_iff (.handle h)).mpr ho⟩) }

theorem parts_init : Parts P (init P) fun _ => none where
  tracks := ⟨fun _ => List.nodup_nil, fun x o => by cases o <;> simp [At, init, PC.scr], fun x => by simp [init]⟩
  lock := by constructor <;> simp [init]
  ptr := by constructor <;> simp [init, PC.fits]
  cont := by constructor <;> simp [init, PC.claim]

/-- Where the scratches are, along a step: `getFree`, `getNew`, `abort`, `publish`, `relPut` hand one scratch
over, every other step leaves every scratch where it is. -/
theorem tracks_step (hl : Lock σ.nHandles σ.handle σ.pc) (hT : Tracks σ.free σ.pc σ.handle σ.nScratch w)
    (hs : Step P true σ t a σ') :
    ∃ w', Tracks σ'.free σ'.pc σ'.handle σ'.nScratch w' := by
  cases hs with
  | callGarble hpc | loadSet hpc | loadNil hpc | casWon hpc | casLost hpc | reload hpc | write hpc =>
    exact ⟨w, hT.move (by rw [hpc]; rfl)⟩
  | read | compute | relNoop => exact ⟨w, hT⟩
  | copyHandle _ _ hs => exact absurd rfl hs
  | getFree hpc hx => exact ⟨_, hT.get hx (by rw [hpc]; rfl) rfl⟩
  | getNew hpc => exact ⟨_, hT.new (by rw [hpc]; rfl) rfl⟩
  | abort hpc => exact ⟨_, hT.put (by rw [hpc]; rfl) rfl⟩
  | publish hpc =>
    have hn : σ.handle σ.nHandles = none := by
      cases e : σ.handle σ.nHandles with
      | none => rfl
      | some H => exact absurd (hl.hLt _ _ e) (Nat.lt_irrefl _)
    exact ⟨_, hT.publish (by rw [hpc]; rfl) rfl hn (Handle.owned_of_live rfl rfl)⟩
  | relBegin hpc hH => exact ⟨w, (hT.handle (by rw [hH]; rfl)).move (by rw [hpc]; rfl)⟩
  | relClear hpc hH =>
    obtain ⟨_, h0, _, _, hd⟩ := hl.rClearOk _ _ hpc
    cases h0.symm.trans hH
    exact ⟨w, (hT.handle (by rw [hH]; exact (Handle.owned_of_released rfl).trans (Handle.owned_of_putDone hd).symm)).move
      (by rw [hpc]; rfl)⟩
  | relPut hpc hH hp hx =>
    obtain ⟨_, h0, _, _, hd⟩ := hl.rPutOk _ _ hpc
    cases h0.symm.trans hH
    exact ⟨_, (hT.release (by rw [hH]; exact (Handle.owned_of_live (by rw [hp]; rfl) hd).trans hx)
      (Handle.owned_of_putDone rfl)).move
      (by rw [hpc]; rfl)⟩

theorem lock_step (hl : Lock σ.nHandles σ.handle σ.pc) (hs : Step P true σ t a σ') :
    Lock σ'.nHandles σ'.handle σ'.pc := by
  -- nobody but `t` is inside a handle whose lock `t` holds or nobody holds
  have mine : ∀ {h H}, σ.handle h = some H → H.user = none ∨ H.user = some t →
      ∀ H0 t', σ.handle h = some H0 → H0.user = some t' → t' = t := by grind
  cases hs with
  | callGarble hpc | loadSet hpc | loadNil hpc | casWon hpc | casLost hpc | reload hpc | getFree hpc
  | getNew hpc | write hpc | abort hpc =>
    exact hl.move (fun _ => ⟨nofun, nofun⟩) fun _ => by rw [hpc]; exact ⟨nofun, nofun⟩
  | read | compute | relNoop => exact hl
  | copyHandle _ _ hs => exact absurd rfl hs
  | publish hpc =>
    refine hl.set ⟨rfl, nofun, nofun, nofun, fun _ => rfl⟩ (Nat.le_succ _) (Nat.lt_succ_self _)
      (fun _ e => by rw [hpc] at e; rcases e with e | e <;> cases e <;> rfl)
      fun H0 _ e => absurd (hl.hLt _ _ e) (Nat.lt_irrefl _)
  | @relBegin _ H hpc hH hu hp =>
    have hu : H.user = none := by simpa using hu
    have hd := hl.noUser _ _ hH hu
    refine hl.set ⟨(hl.hFields _ _ hH :), ?_, nofun, ?_, nofun⟩ (Nat.le_refl _) (hl.hLt _ _ hH)
      (fun _ e => by rw [hpc] at e; rcases e with e | e <;> cases e <;> rfl) (mine hH (.inl hu))
    · intro h' e; cases e; exact ⟨rfl, rfl, hp, hd⟩
    · intro t' e; cases e; exact ⟨rfl, .inl rfl⟩
  | relPut hpc hH =>
    obtain ⟨_, h0, hu, hp, _⟩ := hl.rPutOk _ _ hpc
    cases h0.symm.trans hH
    refine hl.set ⟨(hl.hFields _ _ hH :), nofun, ?_, ?_, ?_⟩ (Nat.le_refl _) (hl.hLt _ _ hH)
      (fun _ e => by rw [hpc] at e; rcases e with e | e <;> cases e <;> rfl) (mine hH (.inr hu))
    · intro h' e; cases e; exact ⟨rfl, hu, hp, rfl⟩
    · intro t' e; cases hu.symm.trans e; exact ⟨rfl, .inr rfl⟩
    · intro e; cases hu.symm.trans e
  | relClear hpc hH =>
    obtain ⟨_, h0, hu, _⟩ := hl.rClearOk _ _ hpc
    cases h0.symm.trans hH
    exact hl.set ⟨rfl, nofun, nofun, nofun, fun _ => rfl⟩ (Nat.le_refl _) (hl.hLt _ _ hH)
      (fun _ e => by rw [hpc] at e; rcases e with e | e <;> cases e <;> rfl) (mine hH (.inr hu))

theorem ptr_step (hp : Ptr σ.poolPtr σ.nPools σ.free σ.handle σ.pc) (hs : Step P true σ t a σ') :
    Ptr σ'.poolPtr σ'.nPools σ'.free σ'.handle σ'.pc := by
  cases hs with
  | loadSet _ e | reload _ e => exact hp.move e
  | loadNil =>
    exact (hp.mono (fun _ => id) (Nat.le_succ _) fun q e => Nat.lt_succ_of_lt (hp.poolLt q e)).move
      (Nat.lt_succ_self _)
  | @casWon _ p hpc e =>
    exact (hp.mono (fun _ e' => by rw [e] at e'; cases e') (Nat.le_refl _)
      fun q e' => Option.some.inj e' ▸ hp.at hpc).move rfl
  | casLost _ e => exact hp.move (by simp [PC.fits, e])
  | getFree hpc =>
    exact (hp.setFree fun x hx => hp.freePool _ x (List.mem_of_mem_erase hx)).move (hp.at hpc :)
  | getNew hpc => exact hp.move (hp.at hpc :)
  | write hpc => exact hp.move (hp.at hpc :)
  | callGarble => exact hp.move (by trivial)
  | read | compute | relNoop => exact hp
  | copyHandle _ _ hs => exact absurd rfl hs
  | abort hpc =>
    have e := hp.at hpc
    exact (hp.setFree fun y hy => e).move (by trivial)
  | publish hpc =>
    have e := hp.at hpc
    exact (hp.handle fun q eq => by cases eq; exact e).move (by trivial)
  | relBegin _ hH =>
    refine Ptr.move (Ptr.handle hp fun q => ?_) trivial
    exact (hp.hPool _ _ q hH :)
  | relPut _ hH e =>
    have e := hp.hPool _ _ _ hH e
    refine Ptr.move (Ptr.handle (hp.setFree fun y hy => e) fun q => ?_) trivial
    exact (hp.hPool _ _ q hH :)
  | relClear => exact (hp.handle fun q e => by cases e).move (by trivial)

theorem cont_step (hT : Tracks σ.free σ.pc σ.handle σ.nScratch w) (hc : Cont P σ.mem σ.handle σ.pc)
    (hs : Step P true σ t a σ') : Cont P σ'.mem σ'.handle σ'.pc := by
  cases hs with
  | callGarble | loadSet | loadNil | casWon | casLost | reload | abort => exact hc.move trivial
  | read | compute | relNoop => exact hc
  | copyHandle _ _ hs => exact absurd rfl hs
  | getFree => exact hc.move ⟨(runFrom_zero ..).symm, Nat.zero_le _⟩
  | getNew =>
    refine hc.write (fun t' e => absurd (hT.lt (o := .thread t') e) (Nat.lt_irrefl _))
      (fun _ _ e ho => Nat.lt_irrefl _ (hT.lt (At.handle e ho))) ⟨by simp, Nat.zero_le _⟩
  | @write j p x m0 k f hpc hf =>
    refine hc.write (fun t' e => Owner.thread.inj (hT.unique (o := .thread t') e (At.thread hpc)))
      (fun _ _ e ho => nomatch hT.unique (At.thread hpc) (At.handle e ho)) ?_
    obtain ⟨hm, _⟩ := hc.at hpc
    have ⟨_, _⟩ := List.getElem?_eq_some_iff.mp hf
    exact ⟨by rw [upd_same, runFrom_succ P j k m0 f hf, hm], by omega⟩
  | publish hpc hk =>
    refine Cont.move (Cont.handle hc fun y ho => ?_) trivial
    obtain ⟨hm, _⟩ := hc.at hpc
    obtain rfl := Option.some.inj ((Handle.owned_of_live rfl rfl).symm.trans ho)
    subst hk
    rw [hm, runFrom_length]
  | relBegin _ hH => exact Cont.move (Cont.handle hc fun y ho => (hc.ownMem _ _ y hH ho :)) trivial
  | relPut => exact Cont.move (Cont.handle hc fun y ho => nomatch (Handle.owned_of_putDone rfl).symm.trans ho) trivial
  | relClear => exact Cont.move (Cont.handle hc fun y ho => nomatch (Handle.owned_of_released rfl).symm.trans ho) trivial

/-- One step keeps the four parts: `Lock` and `Ptr` on their own; where the scratches are, given the lock (what
a record inside `Release` still owns); the contents, given where the scratches are (nobody else claims the
scratch that is written). -/
theorem inv_step (h : Parts P σ w) (hs : step? P true σ t a = some σ') : ∃ w', Parts P σ' w' := by
  have hs := Step.of_step? hs
  obtain ⟨w', hT'⟩ := tracks_step h.lock h.tracks hs
  exact ⟨w', hT', lock_step h.lock hs, ptr_step h.ptr hs, cont_step h.tracks h.cont hs⟩

theorem parts_reachable (hr : Reachable P true σ) : ∃ w, Parts P σ w := by
  induction hr with
  | init => exact ⟨_, parts_init⟩
  | step t a _ hs ih =>
    obtain ⟨w, h⟩ := ih
    exact inv_step h hs

end

/-- The invariant holds in every state reachable under the usage contract:
all interleavings, any number of goroutines, calls and handles. -/
theorem inv_reachable (P : Params Mem Job) (σ : State Mem Job) (h : Reachable P true σ) : Inv P σ :=
  let ⟨_, hp⟩ := parts_reachable h
  .of_parts hp

inductive Steps (P : Params Mem Job) (strict : Bool) : State Mem Job → State Mem Job → Prop where
  | refl (σ : State Mem Job) : Steps P strict σ σ
  | tail {σ σ' σ'' : State Mem Job} (t : Tid) (a : Action Job) :
      Steps P strict σ σ' → step? P strict σ' t a = some σ'' → Steps P strict σ σ''

section
variable (P : Params Mem Job) (strict : Bool)

theorem reachable_steps (σ σ' : State Mem Job)
    (hr : Reachable P strict σ) (hs : Steps P strict σ σ') : Reachable P strict σ' := by
  induction hs with
  | refl => exact hr
  | tail t a _ h ih => exact .step t a ih h

theorem steps_trans (σ σ' σ'' : State Mem Job)
    (h1 : Steps P strict σ σ') (h2 : Steps P strict σ' σ'') : Steps P strict σ σ'' := by
  induction h2 with
  | refl => exact h1
  | tail t a _ hs ih => exact .tail t a ih hs

/-- `c.garblePool`, once non-nil, is never written again (with and without the usage contract). -/
theorem poolPtr_step (σ σ' : State Mem Job) (t : Tid)
    (a : Action Job) (p : PoolId) (h : step? P strict σ t a = some σ') (hp : σ.poolPtr = some p) :
    σ'.poolPtr = some p := by
  cases Step.of_step? h <;> first | exact hp | simp_all

theorem free_grows_only_by_put (σ σ' : State Mem Job) (t : Tid) (b : Action Job)
    (hs : step? P true σ t b = some σ') (q : PoolId)
    (hg : (σ.free q).length < (σ'.free q).length) : b = .relPut ∨ b = .abort := by
  cases Step.of_step? hs with
  | abort => exact .inr rfl
  | relPut => exact .inl rfl
  | @getFree _ p x _ hmem =>
    exfalso
    replace hg : (σ.free q).length < (upd σ.free p ((σ.free p).erase x) q).length := hg
    by_cases e : q = p
    · subst e
      have := List.length_erase_of_mem hmem
      rw [upd_same] at hg
      omega
    · rw [upd_ne e] at hg
      exact absurd hg (Nat.lt_irrefl _)
  | _ => exact absurd hg (Nat.lt_irrefl _)

theorem pc_frame_step (σ σ' : State Mem Job) (t t' : Tid) (a : Action Job)
    (hne : t' ≠ t) (h : step? P strict σ t a = some σ') : σ'.pc t' = σ.pc t' := by
  cases Step.of_step? h <;> first | rfl | exact upd_ne hne

theorem mem_frame_step (σ σ' : State Mem Job) (t : Tid) (a : Action Job)
    (x : ScratchId) (h : step? P strict σ t a = some σ') :
    σ'.mem x = σ.mem x ∨ x = σ.nScratch ∨ ∃ j p m0 k, σ.pc t = .gRun j p x m0 k := by
  cases Step.of_step? h with
  | getNew =>
    by_cases hx : x = σ.nScratch
    · exact .inr (.inl hx)
    · exact .inl (upd_ne hx)
  | @write _ _ y _ _ _ hpc =>
    by_cases hx : x = y
    · exact .inr (.inr ⟨_, _, _, _, hx ▸ hpc⟩)
    · exact .inl (upd_ne hx)
  | _ => exact .inl rfl

theorem other_step_frame (σ σ' : State Mem Job) (hi : Inv P σ)
    (t t' : Tid) (a : Action Job) (j : Job) (p : PoolId) (x : ScratchId) (m0 : Mem) (k : Nat)
    (hpc : σ.pc t = .gRun j p x m0 k) (hne : t' ≠ t) (h : step? P true σ t' a = some σ') :
    σ'.mem x = σ.mem x ∧ σ'.pc t = .gRun j p x m0 k := by
  refine ⟨?_, (pc_frame_step P true σ σ' t' t a hne.symm h).trans hpc⟩
  rcases mem_frame_step P true σ σ' t' a x h with hm | hx | ⟨j', p', m0', k', hpc'⟩
  · exact hm
  · exact absurd (hi.heldLt t j p x m0 k hpc) (hx ▸ Nat.lt_irrefl _)
  · exact absurd (hi.heldTT _ _ _ _ _ _ _ _ _ _ _ hpc' hpc) hne

/-- `H.Later H'`: `H'` is a later record of the handle whose record was `H`. -/
structure Handle.Later (H H' : Handle Mem Job) : Prop where
  job : H'.job = H.job
  init : H'.init = H.init
  owned : ∀ x, H'.owned = some x → H.owned = some x

theorem Handle.Later.refl (H : Handle Mem Job) : H.Later H := ⟨rfl, rfl, fun _ h => h⟩

theorem Handle.Later.trans {H H' H'' : Handle Mem Job} (h : H.Later H') (h' : H'.Later H'') : H.Later H'' :=
  ⟨h'.job.trans h.job, h'.init.trans h.init, fun x e => h.owned x (h'.owned x e)⟩

theorem handle_frame_step (σ σ' : State Mem Job) (t : Tid)
    (a : Action Job) (hh : HandleId) (h : step? P strict σ t a = some σ') :
    σ'.handle hh = σ.handle hh ∨ hh = σ.nHandles ∨
    ∃ H H', σ.handle hh = some H ∧ σ'.handle hh = some H' ∧ H.Later H' ∧
      (a = .relBegin hh ∨ σ.pc t = .rPut hh ∨ σ.pc t = .rClear hh) := by
  have fresh : ∀ o, upd σ.handle σ.nHandles o hh = σ.handle hh ∨ hh = σ.nHandles := fun o => by
    by_cases e : hh = σ.nHandles
    · exact .inr e
    · exact .inl (upd_ne e)
  -- a step entering or inside `Release` of `h0`, seen from `hh`
  have rel : ∀ {h0 H H'}, σ.handle h0 = some H → H.Later H' →
      (a = .relBegin h0 ∨ σ.pc t = .rPut h0 ∨ σ.pc t = .rClear h0) →
      upd σ.handle h0 (some H') hh = σ.handle hh ∨ hh = σ.nHandles ∨
        ∃ K K', σ.handle hh = some K ∧ upd σ.handle h0 (some H') hh = some K' ∧ K.Later K' ∧
          (a = .relBegin hh ∨ σ.pc t = .rPut hh ∨ σ.pc t = .rClear hh) := by
    intro h0 H H' hH hl hc
    by_cases e : hh = h0
    · subst e; exact .inr (.inr ⟨H, H', hH, upd_same .., hl, hc⟩)
    · exact .inl (upd_ne e)
  cases Step.of_step? h with
  | publish | copyHandle => exact (fresh _).imp_right .inl
  | relBegin _ hH => exact rel hH ⟨rfl, rfl, fun _ hx => hx⟩ (.inl rfl)
  | relPut hpc hH =>
    exact rel hH ⟨rfl, rfl, fun x hx => nomatch (Handle.owned_of_putDone rfl).symm.trans hx⟩ (.inr (.inl hpc))
  | relClear hpc hH =>
    exact rel hH ⟨rfl, rfl, fun x hx => nomatch (Handle.owned_of_released rfl).symm.trans hx⟩ (.inr (.inr hpc))
  | _ => exact .inl rfl

theorem handle_steps {σ σ' : State Mem Job} {h : HandleId} {H : Handle Mem Job}
    (hr : Reachable P true σ) (hs : Steps P true σ σ') (hH : σ.handle h = some H) :
    ∃ H', σ'.handle h = some H' ∧ H.Later H' := by
  induction hs with
  | refl => exact ⟨H, hH, .refl H⟩
  | tail t a hs' hstep ih =>
    obtain ⟨Hm, hHm, hl⟩ := ih
    rcases handle_frame_step P true _ _ t a h hstep with e | e | ⟨_, H2, h1, h2, hl', _⟩
    · exact ⟨Hm, e ▸ hHm, hl⟩
    · exact absurd ((inv_reachable P _ (reachable_steps P true σ _ hr hs')).hLt h Hm hHm) (e ▸ Nat.lt_irrefl _)
    · cases h1.symm.trans hHm
      exact ⟨H2, h2, hl.trans hl'⟩

/-- The state after a complete `Release` of live handle `h` (scratch `x`, pool `p`) by `t`. -/
def released (σ : State Mem Job) (t : Tid) (h : HandleId) (H : Handle Mem Job) (p : PoolId)
    (x : ScratchId) : State Mem Job :=
  { σ with free := upd σ.free p (x :: σ.free p),
           handle := upd σ.handle h
             (some { H with scratch := none, pool := none, user := none, putDone := false }),
           pc := upd σ.pc t .idle }

theorem release_runs (σ : State Mem Job) (t : Tid) (h : HandleId)
    (H : Handle Mem Job) (p : PoolId) (x : ScratchId)
    (hpc : σ.pc t = .idle) (hH : σ.handle h = some H) (hu : H.user = none) (hp : H.pool = some p)
    (hx : H.scratch = some x) :
    runSched P true σ [(t, .relBegin h), (t, .relPut), (t, .relClear)] = some (released σ t h H p x) ∧
    step? P true (released σ t h H p x) t (.relBegin h) = some (released σ t h H p x) := by
  constructor
  · simp [runSched, step?, hpc, hH, hu, hp, hx, released]
  · simp [step?, released]

theorem runSched_cons (σ : State Mem Job) (t : Tid) (a : Action Job) (l : List (Tid × Action Job)) :
    runSched P strict σ ((t, a) :: l) = (step? P strict σ t a).bind (runSched P strict · l) := by
  rw [runSched]; cases step? P strict σ t a <;> rfl

theorem runSched_append_bind (l l' : List (Tid × Action Job))
    (σ : State Mem Job) :
    runSched P strict σ (l ++ l') = (runSched P strict σ l).bind (runSched P strict · l') := by
  induction l generalizing σ with
  | nil => rfl
  | cons ta rest ih =>
    rw [List.cons_append, runSched_cons, runSched_cons, Option.bind_assoc]
    exact congrArg _ (funext ih)

theorem runSched_append (σ σ' : State Mem Job)
    (l l' : List (Tid × Action Job)) (h : runSched P strict σ l = some σ') :
    runSched P strict σ (l ++ l') = runSched P strict σ' l' := by
  rw [runSched_append_bind, h]; rfl

theorem runSched_singleton (σ : State Mem Job) (t : Tid) (a : Action Job) :
    runSched P strict σ [(t, a)] = step? P strict σ t a := by
  rw [runSched_cons]; cases step? P strict σ t a <;> rfl

theorem runSched_snoc_iff {P : Params Mem Job} {strict : Bool} {σ σ' : State Mem Job}
    {l : List (Tid × Action Job)} {t : Tid} {a : Action Job} :
    runSched P strict σ (l ++ [(t, a)]) = some σ' ↔
      ∃ σ1, runSched P strict σ l = some σ1 ∧ step? P strict σ1 t a = some σ' := by
  simp only [runSched_append_bind, runSched_singleton, Option.bind_eq_some_iff]

theorem runSched_induct {P : Params Mem Job} {strict : Bool} {I : State Mem Job → Prop}
    (hstep : ∀ σ σ' t a, I σ → step? P strict σ t a = some σ' → I σ')
    {l : List (Tid × Action Job)} {σ σ' : State Mem Job} (h0 : I σ)
    (h : runSched P strict σ l = some σ') : I σ' := by
  induction l generalizing σ with
  | nil => cases h; exact h0
  | cons ta rest ih =>
    obtain ⟨σ1, h1, h⟩ := Option.bind_eq_some_iff.mp ((runSched_cons P strict σ ta.1 ta.2 rest).symm.trans h)
    exact ih (hstep σ σ1 _ _ h0 h1) h

theorem reachable_runSched (σ σ' : State Mem Job)
    (l : List (Tid × Action Job)) (hr : Reachable P strict σ) (h : runSched P strict σ l = some σ') :
    Reachable P strict σ' :=
  runSched_induct (fun _ _ t a hr hs => .step t a hr hs) hr h

theorem steps_runSched (σ σ' : State Mem Job)
    (l : List (Tid × Action Job)) (h : runSched P strict σ l = some σ') : Steps P strict σ σ' :=
  runSched_induct (fun _ _ t a hs h1 => .tail t a hs h1) (.refl σ) h

theorem good_reachable (good : Mem → Prop) (hf : good P.fresh)
    (hp : ∀ j f, f ∈ P.prog j → ∀ m, good m → good (f m)) (strict : Bool)
    (σ : State Mem Job) (hr : Reachable P strict σ) :
    (∀ x, good (σ.mem x)) ∧ (∀ t j p x m0 k, σ.pc t = .gRun j p x m0 k → good m0) ∧
    (∀ h H, σ.handle h = some H → good H.init) := by
  -- pointwise: every scratch, every program counter, every handle record is good
  let Q : PC Mem Job → Prop := fun c => ∀ j p x m0 k, c = .gRun j p x m0 k → good m0
  let R : Option (Handle Mem Job) → Prop := fun o => ∀ H, o = some H → good H.init
  suffices h : (∀ x, good (σ.mem x)) ∧ (∀ t, Q (σ.pc t)) ∧ ∀ h, R (σ.handle h) from
    ⟨h.1, fun t _ _ _ _ _ e => h.2.1 t _ _ _ _ _ e, fun h' _ e => h.2.2 h' _ e⟩
  induction hr with
  | init => exact ⟨fun _ => hf, fun _ => nofun, fun _ => nofun⟩
  | step t a _ hs ih =>
    obtain ⟨i1, i2, i3⟩ := ih
    have pcOk : ∀ {c : PC Mem Job}, Q c → ∀ t', Q (upd _ t c t') := fun hc => forall_upd i2 hc t
    have hdOk : ∀ {o : Option (Handle Mem Job)} {h0}, R o → ∀ h', R (upd _ h0 o h') :=
      fun ho => forall_upd i3 ho _
    cases Step.of_step? hs with
    | callGarble | loadSet | loadNil | casWon | casLost | reload | abort => exact ⟨i1, pcOk nofun, i3⟩
    | read | compute | relNoop => exact ⟨i1, i2, i3⟩
    | getFree => exact ⟨i1, pcOk fun _ _ _ _ _ e => by cases e; exact i1 _, i3⟩
    | getNew => exact ⟨forall_upd i1 hf _, pcOk fun _ _ _ _ _ e => by cases e; exact hf, i3⟩
    | write hpc hfk =>
      exact ⟨forall_upd i1 (hp _ _ (List.mem_of_getElem? hfk) _ (i1 _)) _,
        pcOk fun _ _ _ _ _ e => by cases e; exact i2 t _ _ _ _ _ hpc, i3⟩
    | publish hpc => exact ⟨i1, pcOk nofun, hdOk fun _ e => by cases e; exact i2 t _ _ _ _ _ hpc⟩
    | relBegin _ hH | relPut _ hH | relClear _ hH =>
      exact ⟨i1, pcOk nofun, hdOk fun _ e => by cases e; exact (i3 _ _ hH :)⟩
    | copyHandle _ hH => exact ⟨i1, i2, hdOk fun _ e => by cases e; exact (i3 _ _ hH :)⟩

end

end Mpc.Pool
