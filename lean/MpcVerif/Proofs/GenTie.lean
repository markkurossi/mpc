/-
T1 tie (DESIGN.md 1.3): every definition of `MpcVerif/Gen/LeafC01.lean` — which
`harness/cmd/gofacts translate -group C01` REGENERATES from the current Go source of
`ot/label.go`, `circuit/garble.go`, `circuit/helpers.go` on every run of
`checks/C01.py` — equals the hand-written model (`Model/LabelBV.lean`,
`Model/Garble.lean`) on the joined 128-bit value `join D0 D1 = D0 ++ D1`
(`Label.Bit` / `Label.SetBit`: `goBitPos` / `goBitMask` of GenTieLib, which restate `Iknp.labelPos` of Model/Iknp.lean).
A semantic edit of one of those Go functions changes the generated definition
and breaks the corresponding `tie_*` theorem at `lake build` time.

The tweak is a Go `uint32`, in the generated code a `BitVec 32`; the model
takes a `Nat` (`tweak t = ofNat 128 (t % 2^32)`).  The ties are stated for
`t.toNat` (all `t : BitVec 32`) and, as corollaries `…_nat`, for `t < 2^32`.
`cipher.Block.Encrypt` is the arbitrary function `π`; the scratch buffer
`data` is universally quantified (the result does not depend on it).
-/
import MpcVerif.Gen.LeafC01
import MpcVerif.Proofs.GenTieLib
import MpcVerif.Model.LabelBV

namespace Mpc.GenTie
open Mpc Mpc.Gen

theorem tweak_eq_join (t : BitVec 32) : tweak t.toNat = join 0#64 (BitVec.setWidth 64 t) := by
  apply BitVec.eq_of_toNat_eq
  simp [toNat_join, tweak]
  omega

theorem sbit_eq (x : BitVec 128) : LabelAlg.sbit x = x.msb := rfl

theorem makeKHalf_words (a b : BitVec 64) (i : BitVec 32) :
    Mpc.makeKHalf (join a b) i.toNat = join (a <<< 1 ||| b >>> 63) (b <<< 1 ^^^ BitVec.setWidth 64 i) := by
  rw [Mpc.makeKHalf, tweak_eq_join, join_shl a b 1 (by omega), join_xor, BitVec.xor_zero]

theorem tie_Xor (l o : Gen.Label) : joinL (Label.Xor l o) = joinL l ^^^ joinL o := by
  simp only [Label.Xor, joinL, join_xor] <;> join_ac
theorem tie_And (l o : Gen.Label) : joinL (Label.And l o) = joinL l &&& joinL o := by
  simp only [Label.And, joinL, join_and] <;> join_ac
theorem tie_Mul2 (l : Gen.Label) : joinL (Label.Mul2 l) = joinL l <<< 1 := by
  simp only [Label.Mul2]; exact (join_shl l.1 l.2 1 (by omega)).symm
theorem tie_Mul4 (l : Gen.Label) : joinL (Label.Mul4 l) = joinL l <<< 2 := by
  simp only [Label.Mul4]; exact (join_shl l.1 l.2 2 (by omega)).symm
theorem tie_Equal (l o : Gen.Label) : Label.Equal l o = (joinL l == joinL o) := by
  rw [Bool.eq_iff_iff]; simp [Label.Equal, join_inj]
theorem tie_GetData (l : Gen.Label) (buf : BitVec 128) : Label.GetData l buf = joinL l := by
  simp only [Label.GetData, append_eq_join, extract_hi, extract_lo, hi64_join]
theorem tie_SetData (l : Gen.Label) (d : BitVec 128) : joinL (Label.SetData l d) = d := by
  simp only [Label.SetData, joinL, extract_hi, extract_lo, join_hi_lo]

theorem tie_NewTweak (t : BitVec 32) : joinL (NewTweak t) = tweak t.toNat := by
  rw [tweak_eq_join]; rfl

theorem tie_makeKHalf (x : Gen.Label) (i : BitVec 32) :
    joinL (Gen.makeKHalf x i) = Mpc.makeKHalf (joinL x) i.toNat := by
  simp only [Gen.makeKHalf, Mpc.makeKHalf, tie_Xor, tie_Mul2, tie_NewTweak] <;> ac_rfl
theorem tie_makeK (a b : Gen.Label) (t : BitVec 32) :
    joinL (Gen.makeK a b t) = Mpc.makeK (joinL a) (joinL b) t.toNat := by
  simp only [Gen.makeK, Mpc.makeK, tie_Xor, tie_Mul2, tie_Mul4, tie_NewTweak] <;> ac_rfl

theorem tie_encrypt (π : BitVec 128 → BitVec 128) (a b c : Gen.Label) (t : BitVec 32) (data : BitVec 128) :
    joinL (Gen.encrypt π a b c t data) = (hashOf π).h2 (joinL a) (joinL b) t.toNat ^^^ joinL c := by
  simp only [Gen.encrypt, hashOf, tie_Xor, tie_SetData, tie_GetData, tie_makeK] <;> ac_rfl
theorem tie_decrypt (π : BitVec 128 → BitVec 128) (a b c : Gen.Label) (t : BitVec 32) (data : BitVec 128) :
    joinL (Gen.decrypt π a b t c data) = (hashOf π).h2 (joinL a) (joinL b) t.toNat ^^^ joinL c := by
  simp only [Gen.decrypt, hashOf, tie_Xor, tie_SetData, tie_GetData, tie_makeK] <;> ac_rfl

theorem tie_S (l : Gen.Label) : Label.S l = (joinL l).msb := by
  have h : (0x8000000000000000#64) = BitVec.twoPow 64 63 := by decide
  simp only [Label.S, h, join_msb]
  rw [and_twoPow_ne_zero _ _ (by omega), BitVec.msb_eq_getLsbD_last]

theorem tie_SetS (l : Gen.Label) (s : Bool) :
    joinL (Label.SetS l s) = if s then setS (joinL l) else joinL l &&& ~~~(1#128 <<< 127) := by
  have h1 : (1#128 <<< 127) = join 0x8000000000000000#64 0#64 := by decide
  have h0 : ~~~(1#128 <<< 127) = join 0x7fffffffffffffff#64 (BitVec.allOnes 64) := by decide
  cases s
  · simp only [Label.SetS, Bool.false_eq_true, if_false, h0, joinL, join_and, BitVec.and_allOnes]
  · simp only [Label.SetS, setS, if_true, h1, joinL, join_or, BitVec.or_zero]

theorem tie_idxUnary (a : Gen.Label) : (Gen.idxUnary a).toNat = Mpc.idxUnary (joinL a) := by
  simp only [Gen.idxUnary, Mpc.idxUnary, tie_S, sbit_eq]
  by_cases h : (joinL a).msb = true <;> simp [h]
theorem tie_idx (a b : Gen.Label) : (Gen.idx a b).toNat = Mpc.idx (joinL a) (joinL b) := by
  simp only [Gen.idx, Mpc.idx, tie_S, sbit_eq]
  by_cases h : (joinL a).msb = true <;> by_cases h' : (joinL b).msb = true <;> simp [h, h']

theorem tie_LabelForBit (w : Gen.Wire) (b : Bool) :
    joinL (Gen.LabelForBit w b) = WireL.labelFor ⟨joinL w.1, joinL w.2⟩ b := by
  cases b <;> simp [Gen.LabelForBit, WireL.labelFor]

theorem tie_encryptHalf (π : BitVec 128 → BitVec 128) (x : Gen.Label) (i : BitVec 32) (data : BitVec 128) :
    joinL (Gen.encryptHalf π x i data) = (hashOf π).h1 (joinL x) i.toNat := by
  first
    | -- the label operations are inlined (`encryptHalf` as in circuit/garble.go)
      (simp only [Gen.encryptHalf, append_eq_join, extract_hi, extract_lo, hi64_join, joinL, hashOf]
       rw [← join_xor, join_hi_lo, makeKHalf_words])
    | -- written with makeKHalf / GetData / SetData / Xor calls (`encryptHalfReference`)
      (simp only [Gen.encryptHalf, hashOf, tie_Xor, tie_SetData, tie_GetData, tie_makeKHalf] <;> ac_rfl)

theorem tie_Bit (l : Gen.Label) (i : BitVec 64) :
    Label.Bit l i =
      if i.toNat < 128 then some (if (joinL l).getLsbD (goBitPos i.toNat) then 1#64 else 0#64) else none := by
  have := i.isLt
  simp only [Label.Bit, slt_zero, slt_nonneg 127#64 _ (by decide), slt_nonneg 63#64 _ (by decide), BitVec.reduceToNat, and_one, getLsbD_join, goBitPos]
  by_cases h1 : i.toNat < 64
  · simp [h1, show i.toNat < 128 by omega, show ¬ (2^63 ≤ i.toNat) by omega, show ¬ (63 < i.toNat) by omega]
    omega
  · by_cases h2 : i.toNat < 128
    · have h3 := sub64_toNat i (by omega)
      simp [h1, h2, h3, show ¬ (2^63 ≤ i.toNat) by omega, show 63 < i.toNat by omega,
        show i.toNat < 2^63 by omega, show i.toNat - 64 < 64 by omega,
        show ¬ (2^63 ≤ i.toNat - 64) by omega]
      omega
    · by_cases h3 : 2^63 ≤ i.toNat
      · simp [h2, h3]
      · simp [h2, h3, show 127 < i.toNat by omega, show i.toNat < 2^63 by omega]

theorem tie_SetBit (l : Gen.Label) (i b : BitVec 64) :
    (Label.SetBit l i b).map joinL =
      if (b ≠ 0#64 ∧ b ≠ 1#64) ∨ 2^63 ≤ i.toNat then none
      else some (if b = 1#64 then joinL l ||| goBitMask i.toNat else joinL l &&& ~~~ goBitMask i.toNat) := by
  have := i.isLt
  simp only [Label.SetBit, slt_zero, sle_nonneg 64#64 _ (by decide), BitVec.reduceToNat, ← BitVec.twoPow_eq, goBitMask_eq, joinL]
  by_cases h63 : 2^63 ≤ i.toNat
  · have : ¬ i.toNat < 2^63 := by omega
    simp only [h63, this, and_false, decide_false, decide_true, Bool.false_eq_true, if_true, if_false, or_true, ite_self,
      Option.map_none]
  · have h3 := sub64_toNat i
    by_cases h64 : 64 ≤ i.toNat
    · have : ¬ 2^63 ≤ i.toNat - 64 := by omega
      have : ¬ i.toNat < 64 := by omega
      have : i.toNat < 2^63 := by omega
      simp only [*, and_self, decide_true, decide_false, if_true, if_false, Bool.false_eq_true, or_false, switch01,
        apply_ite (Option.map joinL), Option.map_none, Option.map_some, apply_ite joinL, join_or, join_and, join_not,
        BitVec.or_zero, BitVec.not_zero, BitVec.and_allOnes]
    · have : i.toNat < 64 := by omega
      simp only [*, false_and, decide_false, if_true, if_false, Bool.false_eq_true, or_false, switch01,
        apply_ite (Option.map joinL), Option.map_none, Option.map_some, apply_ite joinL, join_or, join_and, join_not,
        BitVec.or_zero, BitVec.not_zero, BitVec.and_allOnes]

theorem tie_NewTweak_nat (t : Nat) (ht : t < 2^32) : joinL (NewTweak (BitVec.ofNat 32 t)) = tweak t := by
  rw [tie_NewTweak, toNat_ofNat_lt t ht]
theorem tie_makeKHalf_nat (x : Gen.Label) (t : Nat) (ht : t < 2^32) :
    joinL (Gen.makeKHalf x (BitVec.ofNat 32 t)) = Mpc.makeKHalf (joinL x) t := by
  rw [tie_makeKHalf, toNat_ofNat_lt t ht]
theorem tie_makeK_nat (a b : Gen.Label) (t : Nat) (ht : t < 2^32) :
    joinL (Gen.makeK a b (BitVec.ofNat 32 t)) = Mpc.makeK (joinL a) (joinL b) t := by
  rw [tie_makeK, toNat_ofNat_lt t ht]
theorem tie_encryptHalf_nat (π : BitVec 128 → BitVec 128) (x : Gen.Label) (t : Nat) (ht : t < 2^32)
    (data : BitVec 128) :
    joinL (Gen.encryptHalf π x (BitVec.ofNat 32 t) data) = (hashOf π).h1 (joinL x) t := by
  rw [tie_encryptHalf, toNat_ofNat_lt t ht]
theorem tie_encrypt_nat (π : BitVec 128 → BitVec 128) (a b c : Gen.Label) (t : Nat) (ht : t < 2^32)
    (data : BitVec 128) :
    joinL (Gen.encrypt π a b c (BitVec.ofNat 32 t) data) = (hashOf π).h2 (joinL a) (joinL b) t ^^^ joinL c := by
  rw [tie_encrypt, toNat_ofNat_lt t ht]
theorem tie_decrypt_nat (π : BitVec 128 → BitVec 128) (a b c : Gen.Label) (t : Nat) (ht : t < 2^32)
    (data : BitVec 128) :
    joinL (Gen.decrypt π a b (BitVec.ofNat 32 t) c data) = (hashOf π).h2 (joinL a) (joinL b) t ^^^ joinL c := by
  rw [tie_decrypt, toNat_ofNat_lt t ht]

example : Label.Mul2 (1#64, 0x8000000000000001#64) = (3#64, 2#64) := by decide
example : Label.Mul4 (1#64, 0xc000000000000001#64) = (7#64, 4#64) := by decide
example : Label.S (0x8000000000000000#64, 0#64) = true ∧ Label.S (0x4000000000000000#64, 0#64) = false := by decide
example : Gen.idx (0x8000000000000000#64, 0#64) (0#64, 5#64) = 2#64 := by decide
example : Gen.makeKHalf (1#64, 0x8000000000000000#64) 5#32 = (3#64, 5#64) := by decide
example : Label.Bit (1#64, 2#64) 0#64 = some 1#64 ∧ Label.Bit (1#64, 2#64) 65#64 = some 1#64 ∧
    Label.Bit (1#64, 2#64) 128#64 = none := by decide

end Mpc.GenTie
