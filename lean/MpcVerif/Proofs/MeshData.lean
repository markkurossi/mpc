/-
Lemmas for the data layer of the mesh (`Model/MeshData.lean`): every state
reachable with payload events projects to a reachable state of the setup
system; the byte queues are conserved by every event of the code as it is.
-/
import MpcVerif.Model.MeshData
import MpcVerif.Proofs.MeshAccept

namespace Mpc.Mesh

inductive DReach (c : Cfg) : DState → Prop where
  | init : DReach c (dinit c)
  | step {s s' : DState} (e : DEv) : DReach c s → e.real = true → dstep c s e = some s' → DReach c s'

inductive DReachDrop (c : Cfg) : DState → Prop where
  | init : DReachDrop c (dinit c)
  | step {s s' : DState} (e : DEv) : DReachDrop c s → e.dropping = true → dstep c s e = some s' →
      DReachDrop c s'

theorem updC_apply (f : Conn → Nat → List Nat) (cn : Conn) (p : Nat) (v : List Nat) (c : Conn) (x : Nat) :
    updC f cn p v c x = if c = cn ∧ x = p then v else f c x := rfl

theorem updS_apply (f : Nat → Nat → Nat → List Nat) (a b c : Nat) (v : List Nat) (x y z : Nat) :
    updS f a b c v x y z = if x = a ∧ y = b ∧ z = c then v else f x y z := rfl

theorem accFill_base (s : DState) (e : Ev) (r : Nat) (keep : Bool) : (accFill s e r keep).base = s.base := by
  cases e <;> rfl

theorem accFill_out (s : DState) (e : Ev) (r : Nat) (keep : Bool) : (accFill s e r keep).out = s.out := by
  cases e <;> rfl

theorem accFill_inp (s : DState) (e : Ev) (r : Nat) (keep : Bool) : (accFill s e r keep).inp = s.inp := by
  cases e <;> rfl

theorem dreach_base (c : Cfg) (s : DState) (h : DReach c s) : Reach c s.base := by
  induction h with
  | init => exact .init
  | @step s s' e _ he hs ih =>
    cases e with
    | ev e0 r =>
      simp only [dstep] at hs
      cases hst : step c s.base e0 with
      | none => simp [hst] at hs
      | some b =>
        simp only [hst, Option.map_some, Option.some.injEq] at hs
        subst hs
        exact .step e0 ih he hst
    | evDrop => cases he
    | send | recv =>
      simp only [dstep] at hs
      split at hs
      · split at hs
        · simp only [Option.some.injEq] at hs; subst hs; exact ih
        · simp at hs
      · simp at hs

/-- Between q's slot (p, k) and p's slot (q, k) nothing is lost, reordered or made up. -/
def Conserved (s : DState) : Prop :=
  ∀ p q k, p ≠ q → s.inp p q k ++ (s.buf (wire p q k) p ++ s.sock (wire p q k) p) = s.out q p k

theorem conserved_init (c : Cfg) : Conserved (dinit c) := by
  intro p q k _; rfl

theorem conserved_accFill (s : DState) (e : Ev) (r : Nat) (h : Conserved s) : Conserved (accFill s e r true) := by
  intro p q k hpq
  have h0 := h p q k hpq
  cases e with
  | accTake j i k' =>
    simp only [accFill, if_true]
    simp only [updC_apply]
    by_cases hc : wire p q k = ⟨i, j, k'⟩ ∧ p = j
    · obtain ⟨hw, hp⟩ := hc
      subst hp
      rw [hw] at h0
      simp only [hw, and_self, if_true]
      rw [List.append_assoc, List.take_append_drop]
      exact h0
    · simp only [hc, if_false]
      exact h0
  | _ => exact h0

theorem conserved_step (c : Cfg) (s s' : DState) (hb : Inv c s.base) (hJ : Conserved s) (e : DEv)
    (he : e.real = true) (hs : dstep c s e = some s') : Conserved s' := by
  cases e with
  | ev e0 r =>
    simp only [dstep] at hs
    cases hst : step c s.base e0 with
    | none => simp [hst] at hs
    | some b =>
      simp only [hst, Option.map_some, Option.some.injEq] at hs
      subst hs
      exact conserved_accFill s e0 r hJ
  | evDrop => cases he
  | send a b k bs =>
    simp only [dstep] at hs
    split at hs
    · split at hs
      · rename_i cn hcn
        simp only [Option.some.injEq] at hs
        subst hs
        obtain ⟨hw, hab, _, _, _⟩ := hb.slot a b k cn hcn
        intro p q k' hpq
        have h0 := hJ p q k' hpq
        simp only [updS_apply, updC_apply]
        by_cases hc : q = a ∧ p = b ∧ k' = k
        · obtain ⟨rfl, rfl, rfl⟩ := hc
          have hww : wire p q k' = cn := by rw [hw]; exact wire_comm q p k' hab
          simp only [hww, and_self, if_true]
          rw [← hww, ← List.append_assoc, ← List.append_assoc, List.append_assoc (s.inp p q k'), h0]
        · have hne : ¬ (wire p q k' = cn ∧ p = b) := by
            rintro ⟨hw', rfl⟩
            rw [hw, ← wire_comm a p k hab] at hw'
            have := wire_inj p q a k' k hw'
            exact hc ⟨this.1, rfl, this.2⟩
          simp only [hc, hne, if_false]
          exact h0
      · simp at hs
    · simp at hs
  | recv a b k r n =>
    simp only [dstep] at hs
    split at hs
    · split at hs
      · rename_i cn hcn
        simp only [Option.some.injEq] at hs
        subst hs
        obtain ⟨hw, hab, _, _, _⟩ := hb.slot a b k cn hcn
        intro p q k' hpq
        have h0 := hJ p q k' hpq
        simp only [updS_apply, updC_apply]
        by_cases hc : p = a ∧ q = b ∧ k' = k
        · obtain ⟨rfl, rfl, rfl⟩ := hc
          simp only [← hw, and_self, if_true]
          rw [← h0, hw]
          simp only [List.append_assoc]
          rw [← List.append_assoc (List.take n _), List.take_append_drop, List.append_assoc,
            List.take_append_drop]
        · have hne : ¬ (wire p q k' = cn ∧ p = a) := by
            rintro ⟨hw', rfl⟩
            rw [hw] at hw'
            have := wire_inj p q b k' k hw'
            exact hc ⟨rfl, this.1, this.2⟩
          simp only [hc, hne, if_false]
          exact h0
      · simp at hs
    · simp at hs

theorem dreach_conserved (c : Cfg) (hc : c.Ok) (s : DState) (h : DReach c s) : Conserved s := by
  induction h with
  | init => exact conserved_init c
  | step e hr he hs ih => exact conserved_step c _ _ (reach_inv c hc _ (dreach_base c _ hr)) ih e he hs

end Mpc.Mesh
