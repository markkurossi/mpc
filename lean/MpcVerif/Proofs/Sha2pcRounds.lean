/-
The round functions of Model/Sha2pcRounds.lean as equivalences: `round .. = .ok r` iff the round's checks pass and `r`
is the value written out (`round2_eq_ok`, `encryptCO_eq_ok`, `round3_eq_ok`), by splitting the case tree, of which
every leaf but one is an error.  A round run from the bytes of well-formed values is the round run from the values
(`round2B_eq`, `round3B_eq`, `round4B_eq`).  Core Lean only.
-/
import MpcVerif.Model.Sha2pcRounds
import MpcVerif.Proofs.Sha2pcCodec
import MpcVerif.Proofs.Garble

namespace Mpc.Sha2pc

variable {G : Type}

theorem round2_eq_ok {P : Params G} {msg : Round1} {b : Bytes} {scalars : List Nat} {r : Round2 × EvaluatorSession} :
    round2 P msg b scalars = .ok r ↔ msg.curveName = P.curve.name ∧ (bytesToBits b).length = nBits ∧
      ∃ A, P.crypto.ofPt ⟨msg.ax, msg.ay⟩ = some A ∧
        r = ({ sid := msg.sid, curveName := P.curve.name, choices := (List.range nBits).map fun i =>
                P.crypto.toPt (Co.choicePoint P.crypto.Γ P.crypto.g A (scalars.getD i 0) ((bytesToBits b).getD i false)) },
             { sid := msg.sid, curveName := P.curve.name, ax := msg.ax, ay := msg.ay,
               scalars := (List.range nBits).map (fun i => scalars.getD i 0), bits := bytesToBits b }) := by
  refine ⟨fun h => ?_, fun ⟨hn, hb, A, hA, hr⟩ => by
    simp only [round2, hn, hb, hA, hr, ne_eq, not_true_eq_false, if_false]⟩
  unfold round2 at h
  simp only at h
  repeat' split at h
  -- every branch but the last is an error
  all_goals try cases h
  exact ⟨Decidable.of_not_not ‹_›, Decidable.of_not_not ‹_›, _, ‹_›, rfl⟩

theorem encryptCO_eq_ok {K : Crypto G} {st : GarblerSession} {choices : List Point} {wires : Nat → Label × Label}
    {n : Nat} {cts : List (Label × Label)} :
    encryptCO K st choices wires n = .ok cts ↔ ∃ A I pts, K.ofPt ⟨st.ax, st.ay⟩ = some A ∧
      K.ofPt ⟨st.ainvx, st.ainvy⟩ = some I ∧ choices.length = n ∧ choices.mapM K.ofPt = some pts ∧
      Co.encrypt K.Γ (fun _ => true) K.kdf { a := st.scalar, A := A, AaInv := I } n (fun i => pts.getD i A) wires =
        some cts := by
  refine ⟨fun h => ?_, fun ⟨A, I, pts, hA, hI, hn, hm, he⟩ => by
    simp only [encryptCO, hA, hI, hn, hm, he, ne_eq, not_true_eq_false, if_false]⟩
  unfold encryptCO at h
  repeat' split at h
  all_goals try cases h
  exact ⟨_, _, _, ‹_›, ‹_›, Decidable.of_not_not ‹_›, ‹_›, ‹_›⟩

theorem round3_eq_ok {P : Params G} {st : GarblerSession} {a : Bytes} {req : Round2} {key : Bytes} {r0 : Label}
    {inl : Nat → Label} {m3 : Round3} :
    round3 P st a req key r0 inl = .ok m3 ↔ req.sid = st.sid ∧ (bytesToBits a).length = nBits ∧
      let Gd := P.circ.garble (P.hashOf key) (setS r0) inl
      ∃ cts, encryptCO P.crypto st req.choices (fun i => ((Gd.wires.get (nBits + i)).l0, (Gd.wires.get (nBits + i)).l1))
          nBits = .ok cts ∧
        m3 = { sid := st.sid, key := key, tables := Gd.rows,
               inputs := (List.range nBits).map fun i => (Gd.wires.get i).labelFor ((bytesToBits a).getD i false),
               hints := (List.range P.circ.nOut).map fun i =>
                 ((Gd.wires.get (P.circ.numWires - P.circ.nOut + i)).l0,
                  (Gd.wires.get (P.circ.numWires - P.circ.nOut + i)).l1),
               cts := cts } := by
  refine ⟨fun h => ?_, fun ⟨hs, ha, cts, he, hm⟩ => by
    simp only [round3, hs, ha, he, hm, ne_eq, not_true_eq_false, if_false]⟩
  unfold round3 at h
  simp only at h
  repeat' split at h
  all_goals try cases h
  exact ⟨Decidable.of_not_not ‹_›, Decidable.of_not_not ‹_›, _, ‹_›, rfl⟩

theorem round3_sid_mismatch (P : Params G) (st : GarblerSession) (a : Bytes) (req : Round2) (key : Bytes)
    (r0 : Label) (inl : Nat → Label) (h : req.sid ≠ st.sid) : round3 P st a req key r0 inl = .error := by
  rw [round3, if_pos h]

theorem round4_sid_mismatch (P : Params G) (st : EvaluatorSession) (msg : Round3) (h : msg.sid ≠ st.sid) :
    round4 P st msg = .error := by
  rw [round4, if_pos h]
  exact ite_self _

theorem round2_sid (P : Params G) (msg : Round1) (b : Bytes) (scalars : List Nat) (m2 : Round2) (es : EvaluatorSession)
    (h : round2 P msg b scalars = .ok (m2, es)) : m2.sid = msg.sid ∧ es.sid = msg.sid := by
  obtain ⟨_, _, _, _, hr⟩ := round2_eq_ok.mp h
  cases hr
  exact ⟨rfl, rfl⟩

theorem round3_sid (P : Params G) (st : GarblerSession) (a : Bytes) (req : Round2) (key : Bytes)
    (r0 : Label) (inl : Nat → Label) (m3 : Round3) (h : round3 P st a req key r0 inl = .ok m3) :
    m3.sid = st.sid ∧ req.sid = st.sid := by
  obtain ⟨hs, _, _, _, rfl⟩ := round3_eq_ok.mp h
  exact ⟨rfl, hs⟩

/-! No round crashes: every leaf of a round's case tree is an error or a value, except where round 3 and
round 4 pass on the outcome of `encryptCO` / `decryptCO`. -/

theorem decryptCO_noPanic (K : Crypto G) (st : EvaluatorSession) (cts : List (Label × Label)) :
    NoPanic (decryptCO K st cts) := by
  unfold decryptCO
  simp only
  repeat' split
  all_goals first | exact NoPanic.error | exact NoPanic.ok _

theorem encryptCO_noPanic (K : Crypto G) (st : GarblerSession) (choices : List Point) (wires : Nat → Label × Label)
    (n : Nat) : NoPanic (encryptCO K st choices wires n) := by
  unfold encryptCO
  repeat' split
  all_goals first | exact NoPanic.error | exact NoPanic.ok _

theorem round2_noPanic (P : Params G) (msg : Round1) (b : Bytes) (scalars : List Nat) :
    NoPanic (round2 P msg b scalars) := by
  unfold round2
  simp only
  repeat' split
  all_goals first | exact NoPanic.error | exact NoPanic.ok _

theorem round3_noPanic (P : Params G) (st : GarblerSession) (a : Bytes) (req : Round2) (key : Bytes)
    (r0 : Label) (inl : Nat → Label) : NoPanic (round3 P st a req key r0 inl) := by
  unfold round3
  simp only
  repeat' split
  all_goals first | exact NoPanic.error | exact NoPanic.ok _ | exact absurd ‹_› (encryptCO_noPanic _ _ _ _ _)

theorem round4_noPanic (P : Params G) (st : EvaluatorSession) (msg : Round3) : NoPanic (round4 P st msg) := by
  unfold round4
  simp only
  repeat' split
  all_goals first | exact NoPanic.error | exact NoPanic.ok _ | exact absurd ‹_› (decryptCO_noPanic _ _ _)

theorem decryptCO_offcurve_error (K : Crypto G) (st : EvaluatorSession) (cts : List (Label × Label))
    (hA : K.ofPt ⟨st.ax, st.ay⟩ = none) : decryptCO K st cts = .error := by
  rw [decryptCO, hA]

theorem round4_offcurve_error (P : Params G) (st : EvaluatorSession) (msg : Round3)
    (hA : P.crypto.ofPt ⟨st.ax, st.ay⟩ = none) : round4 P st msg = .error := by
  rw [round4, decryptCO_offcurve_error _ _ _ hA, ite_self, ite_self]

theorem encryptCO_offcurve_error (K : Crypto G) (st : GarblerSession) (choices : List Point)
    (wires : Nat → Label × Label) (n : Nat) (hI : K.ofPt ⟨st.ainvx, st.ainvy⟩ = none) :
    encryptCO K st choices wires n = .error := by
  unfold encryptCO
  cases K.ofPt ⟨st.ax, st.ay⟩ with
  | none => rfl
  | some A => simp [hI]

theorem round3B_eq (P : Params G) (hc : P.curve.WF) (st : GarblerSession) (req : Round2) (gsb r2b a key : Bytes)
    (r0 : Label) (inl : Nat → Label) (hst : st.WF P.curve) (hreq : req.WF P.curve)
    (hg : encodeGarblerSession P.curve st = .ok gsb) (h2 : encodeRound2 P.curve req = .ok r2b) :
    round3B P gsb a r2b key r0 inl = (round3 P st a req key r0 inl >>= encodeRound3 (countsOf P.circ)) := by
  rw [round3B, encodeGarblerSession_ok hg, (encodeRound2_ok h2).1, decodeGarblerSession_bytes _ hc st hst,
    decodeRound2_bytes _ hc req hreq]
  rfl

theorem round4B_eq (P : Params G) (hc : P.curve.WF) (st : EvaluatorSession) (msg : Round3) (esb r3b : Bytes)
    (hst : st.WF P.curve) (hmsg : msg.WF (countsOf P.circ)) (he : encodeEvaluatorSession P.curve st = .ok esb)
    (h3 : encodeRound3 (countsOf P.circ) msg = .ok r3b) : round4B P esb r3b = round4 P st msg := by
  rw [round4B, encodeEvaluatorSession_ok he, (encodeRound3_ok h3).1, decodeEvaluatorSession_bytes _ hc st hst,
    decodeRound3_bytes _ msg hmsg]
  rfl

theorem round2B_eq (P : Params G) (hc : P.curve.WF) (msg : Round1) (r1b b : Bytes) (scalars : List Nat)
    (hmsg : msg.WF P.curve) (h1 : encodeRound1 P.curve msg = .ok r1b) :
    round2B P r1b b scalars = (round2 P msg b scalars >>= fun r =>
      encodeRound2 P.curve r.1 >>= fun r2b => encodeEvaluatorSession P.curve r.2 >>= fun esb => pure (r2b, esb)) := by
  rw [round2B, encodeRound1_ok h1, decodeRound1_bytes _ hc msg hmsg]
  rfl

theorem encryptCO_length {K : Crypto G} {st : GarblerSession} {choices : List Point} {wires : Nat → Label × Label}
    {n : Nat} {cts : List (Label × Label)} (h : encryptCO K st choices wires n = .ok cts) : cts.length = n := by
  obtain ⟨_, _, _, _, _, _, _, he⟩ := encryptCO_eq_ok.mp h
  unfold Co.encrypt at he
  repeat' split at he
  all_goals cases he
  rw [List.length_map, List.length_range]

theorem round3_WF (P : Params G) (st : GarblerSession) (a : Bytes) (req : Round2) (key : Bytes)
    (r0 : Label) (inl : Nat → Label) (m3 : Round3) (hsid : st.sid < 2 ^ 64) (hkey : key.length = keyLen)
    (hout : P.circ.nOut = nBits) (h : round3 P st a req key r0 inl = .ok m3) : m3.WF (countsOf P.circ) := by
  obtain ⟨_, _, cts, hcts, rfl⟩ := round3_eq_ok.mp h
  exact {
    sid := hsid, key := hkey, rows := garbleGates_rows_lengths _ _ _ _ _
    inputs := by rw [List.length_map, List.length_range]
    hints := by rw [List.length_map, List.length_range, hout]
    cts := encryptCO_length hcts }

end Mpc.Sha2pc
