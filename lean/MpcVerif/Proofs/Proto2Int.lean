/-
Helper lemmas for the input-encoding layer of C02 (Model/Proto2Int.lean):
`big.Int.Bit` on every integer is the two's complement at any width.
-/
import MpcVerif.Model.Proto2Int
import MpcVerif.Proofs.Proto2

namespace Mpc

theorem bitsOfInt_length (w : Nat) (v : Int) : (bitsOfInt w v).length = w := by simp [bitsOfInt]

theorem encodeArg_length (a : ArgVals) : (encodeArg a).length = argWidth a := by
  induction a with
  | nil => rfl
  | cons m a ih => simp [encodeArg, argWidth, bitsOfInt_length] at *

theorem encodeArg_append (a b : ArgVals) : encodeArg (a ++ b) = encodeArg a ++ encodeArg b := by
  simp [encodeArg]

theorem packLE_natBits (w n : Nat) : packLE (natBits w n) = n % 2 ^ w :=
  packLE_eq_val _ ▸ BitList.val_bits w n

theorem natBits_packLE (bs : List Bool) : natBits bs.length (packLE bs) = bs :=
  packLE_eq_val bs ▸ BitList.bits_val bs

theorem natBits_mod (w n : Nat) : natBits w (n % 2 ^ w) = natBits w n := by
  simp only [natBits]
  apply List.map_congr_left
  intro i hi
  simp [Nat.testBit_mod_two_pow, List.mem_range.mp hi]

theorem bitsOfInt_eq_natBits (w : Nat) (v : Int) :
    bitsOfInt w v = natBits w (v % 2 ^ w).toNat := by
  -- both sides are bit `i` of the `w`-bit two's complement word of `v`
  apply List.map_congr_left
  intro i hi
  have hi := List.mem_range.mp hi
  have h : (v % 2 ^ w).toNat.testBit i = (BitVec.ofInt w v).getLsbD i := by
    rw [BitVec.getLsbD, BitVec.toNat_ofInt, Int.natCast_pow]; rfl
  rw [h]
  cases v with
  | ofNat n =>
    rw [show Int.ofNat n = (n : Int) from rfl, BitVec.ofInt_natCast, BitVec.getLsbD_ofNat,
      decide_eq_true hi]; rfl
  | negSucc n =>
    rw [BitVec.ofInt_negSucc_eq_not_ofNat, BitVec.getLsbD_not, BitVec.getLsbD_ofNat,
      decide_eq_true hi]; rfl

theorem natBits_length (w n : Nat) : (natBits w n).length = w := by simp [natBits]

theorem packLE_bitsOfInt (w : Nat) (v : Int) : packLE (bitsOfInt w v) = (v % 2 ^ w).toNat := by
  rw [bitsOfInt_eq_natBits, packLE_natBits]
  have := (BitVec.ofInt w v).isLt
  rw [BitVec.toNat_ofInt, Int.natCast_pow] at this
  exact Nat.mod_eq_of_lt this

theorem bitsOfInt_congr (w : Nat) (v v' : Int) (h : v % 2 ^ w = v' % 2 ^ w) :
    bitsOfInt w v = bitsOfInt w v' := by
  rw [bitsOfInt_eq_natBits, bitsOfInt_eq_natBits w v', h]

theorem bitsOfInt_emod (w : Nat) (v : Int) : bitsOfInt w (v % 2 ^ w) = bitsOfInt w v :=
  bitsOfInt_congr w _ v (Int.emod_emod ..)

theorem bitsOfInt_packLE (bs : List Bool) : bitsOfInt bs.length (packLE bs : Int) = bs := by
  have : bitsOfInt bs.length (packLE bs : Int) = natBits bs.length (packLE bs) := rfl
  rw [this, natBits_packLE]

theorem bitsOfInt_packArg (a : ArgVals) : bitsOfInt (argWidth a) (packArg a : Int) = encodeArg a := by
  rw [← encodeArg_length, packArg, bitsOfInt_packLE]

theorem absBits_natCast (w n : Nat) : absBits w (n : Int) = bitsOfInt w (n : Int) := rfl

theorem absBits_neg (w : Nat) (v : Int) : absBits w (-v) = absBits w v := by
  simp [absBits]

end Mpc
