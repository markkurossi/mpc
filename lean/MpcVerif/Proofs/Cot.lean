/-
Lemmas for COT / ROT over IKNP with MITCCRH (Model/Cot.lean): every
`Hash(pad, 8, h)` call renews and uses all eight keys; induction along the
batches of a call (`batch_induction`), by which the loops of sender and
receiver are taken in lock step (stale pad entries of a short last batch
differ between the parties and are shown irrelevant).  Core Lean only.
-/
import MpcVerif.Model.Cot
import MpcVerif.Proofs.Iknp
namespace Mpc.Cot
open Mpc.Iknp (Label getD_mk size_mk)

theorem lget_tab (n : Nat) (f : Nat → Label) (i : Nat) (h : i < n) : lget (tab n f) i = f i :=
  getD_mk n f i _ h

theorem wget_tab (n : Nat) (f : Nat → Wire) (i : Nat) (h : i < n) : wget (tab n f) i = f i :=
  getD_mk n f i _ h

@[simp] theorem size_tab {α : Type} (n : Nat) (f : Nat → α) : (tab n f).size = n := size_mk n f

/-- The state after a `Hash` call that renewed the keys and used all 8. -/
def Mitccrh.next (m : Mitccrh) : Mitccrh := { m.renewKeys with keyUsed := otBatchSize }

/-- Key of slot `t` in the next `Hash` call of a `MITCCRH` whose keys are used up. -/
def Mitccrh.key (m : Mitccrh) (t : Nat) : Label := lget m.renewKeys.keys t

/-- In COT/ROT every `Hash(pad, 8, h)` call finds the keys used up
(`keyUsed = batchSize = 8`), renews them and uses all 8: block `idx` is hashed
under key `idx / h`. -/
theorem hash_full (π : Label → Label → Label) (m : Mitccrh) (blks : Array Label) (h : Nat)
    (hb : m.batchSize = otBatchSize) (hu : m.keyUsed = otBatchSize) (hsz : otBatchSize * h = blks.size) :
    m.hash π blks otBatchSize h =
      some (m.next, tab blks.size fun idx => lget blks idx ^^^ π (m.key (idx / h)) (lget blks idx)) := by
  unfold Mitccrh.hash
  have e1 : ¬ (otBatchSize > m.batchSize) := by omega
  have e2 : ¬ (m.batchSize % otBatchSize ≠ 0) := by rw [hb]; decide
  have e3 : ¬ (otBatchSize * h ≠ blks.size) := by omega
  have e4 : m.keyUsed = m.batchSize := by omega
  rw [if_neg e1, if_neg e2, if_neg e3]
  simp only [e4, if_true]
  have e5 : ¬ (m.renewKeys.keyUsed + otBatchSize > m.renewKeys.batchSize) := by
    simp [Mitccrh.renewKeys, hb]
  rw [if_neg e5]
  simp [Mitccrh.next, Mitccrh.key, Mitccrh.renewKeys]

/-- The batch a COT/ROT loop handles at transfer `i < n`: `cnt` transfers, hashed by a `MITCCRH` whose keys are
used up, with the linear facts the loop proofs use of them (`cnt_eq` is the count as the senders compute it,
`cnt_eq'` as `COT.Receive` does). -/
structure Batch (n i cnt : Nat) (m : Mitccrh) : Prop where
  lt : i < n
  size : m.batchSize = otBatchSize
  used : m.keyUsed = otBatchSize
  cnt_eq : min (i + otBatchSize) n - i = cnt
  cnt_eq' : min otBatchSize (n - i) = cnt
  le : cnt ≤ otBatchSize
  le_n : i + cnt ≤ n
  lt_cnt : ∀ {j}, j < n → j < i + otBatchSize → j < i + cnt

theorem batch_induction (n : Nat) {P : Nat → Nat → Mitccrh → Prop}
    (done : ∀ fuel i m, n ≤ i → P fuel i m)
    (step : ∀ fuel i cnt m, Batch n i cnt m → P fuel (i + otBatchSize) m.next → P (fuel + 1) i m) :
    ∀ fuel i m, m.batchSize = otBatchSize → m.keyUsed = otBatchSize → n - i ≤ fuel → P fuel i m := by
  intro fuel
  induction fuel with
  | zero => intro i m _ _ hf; exact done 0 i m (by omega)
  | succ f ih =>
    intro i m hb hu hf
    by_cases hlt : i < n
    · have hob : otBatchSize = 8 := rfl
      obtain ⟨cnt, hc⟩ : ∃ cnt, min (i + otBatchSize) n - i = cnt := ⟨_, rfl⟩
      have h : min otBatchSize (n - i) = cnt ∧ cnt ≤ otBatchSize ∧ i + cnt ≤ n ∧ n - (i + otBatchSize) ≤ f ∧
          ∀ j, j < n → j < i + otBatchSize → j < i + cnt := by
        clear hb hu ih
        refine ⟨by omega, by omega, by omega, by omega, fun j h1 h2 => by omega⟩
      exact step f i cnt m ⟨hlt, hb, hu, hc, h.1, h.2.1, h.2.2.1, fun h1 h2 => h.2.2.2.2 _ h1 h2⟩
        (ih _ _ hb rfl h.2.2.2.1)
    · exact done _ i m (by omega)

/-- The blocks `MITCCRH.Hash(pad, 8, h)` returns. -/
abbrev hashed (π : Label → Label → Label) (m : Mitccrh) (h : Nat) (pad : Array Label) : Array Label :=
  tab pad.size fun idx => lget pad idx ^^^ π (m.key (idx / h)) (lget pad idx)

/-- The sender's pad of the batch at `i`: `data_j`, `data_j xor Delta` for the
`cnt` transfers of the batch, stale entries behind them. -/
abbrev sendPad (delta : Label) (data : Array Label) (i cnt : Nat) (pad : Array Label) : Array Label :=
  tab (2 * otBatchSize) fun t =>
    if t / 2 < cnt then (if t % 2 = 0 then lget data (i + t / 2) else lget data (i + t / 2) ^^^ delta)
    else lget pad t

/-- The receiver's pad of the batch at `i`: `copy(pad, result[i:])`. -/
abbrev recvPad (res : Array Label) (i : Nat) (pad : Array Label) : Array Label :=
  tab otBatchSize fun t => if i + t < res.size then lget res (i + t) else lget pad t

theorem hash_sendPad (π : Label → Label → Label) (m : Mitccrh) (delta : Label) (data pad : Array Label) (i cnt : Nat)
    (hb : m.batchSize = otBatchSize) (hu : m.keyUsed = otBatchSize) :
    m.hash π (sendPad delta data i cnt pad) otBatchSize 2 = some (m.next, hashed π m 2 (sendPad delta data i cnt pad)) :=
  hash_full π m _ 2 hb hu (by rw [sendPad, size_tab, Nat.mul_comm])

theorem hash_recvPad (π : Label → Label → Label) (m : Mitccrh) (res pad : Array Label) (i : Nat)
    (hb : m.batchSize = otBatchSize) (hu : m.keyUsed = otBatchSize) :
    m.hash π (recvPad res i pad) otBatchSize 1 = some (m.next, hashed π m 1 (recvPad res i pad)) :=
  hash_full π m _ 1 hb hu (by rw [recvPad, size_tab, Nat.mul_one])

/-- What makes COT and ROT work: for transfer `j` of the batch at `i` the
receiver hashes `result_j = data_j xor choice_j*Delta` under key `j - i`, and
that is the sender's hashed pad entry for choice `choice_j`. -/
theorem hashed_pads_agree (π : Label → Label → Label) (m : Mitccrh) (delta : Label)
    (data res padS padR : Array Label) (i cnt j : Nat) (f : Bool) (h1 : i ≤ j) (h2 : j < i + cnt)
    (hcnt : cnt ≤ otBatchSize) (h3 : j < res.size)
    (hcorr : lget res j = lget data j ^^^ (if f then delta else 0#128)) :
    lget (hashed π m 1 (recvPad res i padR)) (j - i) =
      lget (hashed π m 2 (sendPad delta data i cnt padS)) (2 * (j - i) + f.toNat) := by
  have hob : otBatchSize = 8 := rfl
  have hf : f.toNat < 2 := by cases f <;> decide
  have hdiv : (2 * (j - i) + f.toNat) / 2 = j - i := by omega
  have hmod : (2 * (j - i) + f.toNat) % 2 = f.toNat := by omega
  have e : i + (j - i) = j := by omega
  have hR : lget (recvPad res i padR) (j - i) = lget res j := by
    unfold recvPad
    rw [lget_tab _ _ _ (by omega), e, if_pos h3]
  have hS : lget (sendPad delta data i cnt padS) (2 * (j - i) + f.toNat) = lget res j := by
    unfold sendPad
    rw [lget_tab _ _ _ (by omega), hdiv, hmod, if_pos (by omega), e, hcorr]
    cases f <;> simp
  rw [lget_tab _ _ _ (by simp only [size_tab]; omega), hR, lget_tab _ _ _ (by simp only [size_tab]; omega), hS,
    hdiv, Nat.div_one]

theorem lget_maskedPad (pad2 : Array Label) (wires : Array Wire) (i cnt t : Nat) (c : Bool) (ht : t < cnt)
    (hc : cnt ≤ otBatchSize) :
    lget (tab (2 * otBatchSize) fun t =>
        if t / 2 < cnt then
          lget pad2 t ^^^ (if t % 2 = 0 then (wget wires (i + t / 2)).1 else (wget wires (i + t / 2)).2)
        else lget pad2 t) (2 * t + c.toNat) =
      lget pad2 (2 * t + c.toNat) ^^^ (if c then (wget wires (i + t)).2 else (wget wires (i + t)).1) := by
  have hf : c.toNat < 2 := by cases c <;> decide
  have hdiv : (2 * t + c.toNat) / 2 = t := by omega
  have hmod : (2 * t + c.toNat) % 2 = c.toNat := by omega
  rw [lget_tab _ _ _ (by omega), hdiv, hmod, if_pos ht]
  cases c <;> rfl

theorem cot_loops (π : Label → Label → Label) (delta : Label) (data : Array Label) (wires : Array Wire)
    (flags : Array Bool) (n : Nat) :
    ∀ (fuel i : Nat) (m : Mitccrh), m.batchSize = otBatchSize → m.keyUsed = otBatchSize → n - i ≤ fuel →
      ∀ padS : Array Label,
      ∃ cts, cotSendLoop π delta data wires n fuel i m padS = some cts ∧
        ∀ padR res : Array Label, res.size = n →
          (∀ j, i ≤ j → j < n → lget res j = lget data j ^^^ (if flags.getD j false then delta else 0#128)) →
          ∃ out, cotRecvLoop π flags n fuel i m padR res cts = some out ∧ out.size = n ∧
            (∀ j, j < i → lget out j = lget res j) ∧
            (∀ j, i ≤ j → j < n →
              lget out j = if flags.getD j false then (wget wires j).2 else (wget wires j).1) := by
  refine batch_induction n (fun fuel i m h padS => ?_) (fun fuel i cnt m hB ih padS => ?_)
  · have e1 : cotSendLoop π delta data wires n fuel i m padS = some [] := by
      cases fuel <;> simp [cotSendLoop, Nat.not_lt.mpr h]
    refine ⟨[], e1, fun padR res hres _ => ⟨res, ?_, hres, fun _ _ => rfl, fun j h1 h2 =>
      absurd h2 (Nat.not_lt.mpr (Nat.le_trans h h1))⟩⟩
    cases fuel <;> simp [cotRecvLoop, Nat.not_lt.mpr h]
  · have hle := hB.le
    have hln := hB.le_n
    simp only [cotSendLoop, hB.lt, if_true, hB.cnt_eq]
    rw [hash_sendPad π m delta data padS i cnt hB.size hB.used]
    simp only
    have gp := lget_maskedPad (hashed π m 2 (sendPad delta data i cnt padS)) wires i cnt
    generalize (tab (2 * otBatchSize) fun t =>
      if t / 2 < cnt then
        lget (hashed π m 2 (sendPad delta data i cnt padS)) t ^^^
          (if t % 2 = 0 then (wget wires (i + t / 2)).1 else (wget wires (i + t / 2)).2)
      else lget (hashed π m 2 (sendPad delta data i cnt padS)) t) = pad3 at gp ⊢
    have hsl : ((List.range (2 * cnt)).map fun t => lget pad3 t).length = 2 * cnt := by
      rw [List.length_map, List.length_range]
    have gs : ∀ t, t < 2 * cnt → ((List.range (2 * cnt)).map fun t => lget pad3 t).getD t 0#128 = lget pad3 t :=
      fun t ht => by rw [getD_range_map, if_pos ht]
    generalize ((List.range (2 * cnt)).map fun t => lget pad3 t) = sent at hsl gs ⊢
    -- the sender's ciphertexts do not depend on the receiver: they are fixed before its buffers come in
    obtain ⟨rest, hsr, hrecv⟩ := ih pad3
    rw [hsr]
    refine ⟨_, rfl, fun padR res hres hcorr => ?_⟩
    have hlen : ¬ ((sent ++ rest).length < 2 * cnt) := by
      rw [List.length_append, hsl]; omega
    have hdrop : (sent ++ rest).drop (2 * cnt) = rest := by
      rw [← hsl]; exact List.drop_left
    have gc : ∀ t, t < 2 * cnt → (sent ++ rest).getD t 0#128 = lget pad3 t := fun t ht => by
      rw [getD_append_left _ _ _ _ (by omega), gs t ht]
    simp only [cotRecvLoop, hB.lt, if_true, hB.cnt_eq']
    rw [hash_recvPad π m res padR i hB.size hB.used]
    simp only [hlen, if_false, hdrop]
    generalize hcts : sent ++ rest = cts at gc ⊢
    generalize hres' : (tab res.size fun j =>
      if i ≤ j ∧ j < i + cnt then
        (if flags.getD j false then cts.getD (2 * (j - i) + 1) 0#128 else cts.getD (2 * (j - i)) 0#128)
          ^^^ lget (hashed π m 1 (recvPad res i padR)) (j - i)
      else lget res j) = res'
    have gr : ∀ j, i ≤ j → j < i + cnt → lget res' j =
        cts.getD (2 * (j - i) + (flags.getD j false).toNat) 0#128 ^^^ lget (hashed π m 1 (recvPad res i padR)) (j - i) :=
      fun j h1 h2 => by
        rw [← hres', lget_tab _ _ _ (by omega), if_pos ⟨h1, h2⟩]
        cases flags.getD j false <;> rfl
    have gr' : ∀ j, j < n → (j < i ∨ i + cnt ≤ j) → lget res' j = lget res j :=
      fun j hj h => by rw [← hres', lget_tab _ _ _ (by omega), if_neg (by omega)]
    obtain ⟨out, hrr, hosz, hlow, hhigh⟩ := hrecv (hashed π m 1 (recvPad res i padR)) res'
      (by rw [← hres', size_tab, hres])
      (fun j h1 h2 => by rw [gr' j h2 (.inr (by omega))]; exact hcorr j (by omega) h2)
    clear hres' hcts
    refine ⟨out, hrr, hosz, fun j hj => ?_, fun j h1 h2 => ?_⟩
    · rw [hlow j (by omega), gr' j (Nat.lt_trans hj hB.lt) (.inl hj)]
    · by_cases hj : j < i + otBatchSize
      · have hjc : j < i + cnt := hB.lt_cnt h2 hj
        have e : i + (j - i) = j := by omega
        rw [hlow j hj, gr j h1 hjc, gc _ (by have : (flags.getD j false).toNat < 2 := by cases flags.getD j false <;> decide
                                             omega),
          gp (j - i) (flags.getD j false) (by omega) hle, e,
          hashed_pads_agree π m delta data res padS padR i cnt j _ h1 hjc hle (hres ▸ h2) (hcorr j h1 h2),
          BitVec.xor_comm, ← BitVec.xor_assoc, BitVec.xor_self, BitVec.zero_xor]
      · exact hhigh j (by omega) h2

theorem rot_loops (π : Label → Label → Label) (delta : Label) (data : Array Label) (flags : Array Bool) (n : Nat) :
    ∀ (fuel i : Nat) (m : Mitccrh), m.batchSize = otBatchSize → m.keyUsed = otBatchSize → n - i ≤ fuel →
      ∀ (padS padR : Array Label) (w : Array Wire) (res : Array Label), res.size = n → w.size = n →
      (∀ j, i ≤ j → j < n → lget res j = lget data j ^^^ (if flags.getD j false then delta else 0#128)) →
      ∃ w' out, rotSendLoop π delta data n fuel i m padS w = some w' ∧
        rotRecvLoop π n fuel i m padR res = some out ∧ w'.size = n ∧ out.size = n ∧
        (∀ j, j < i → lget out j = lget res j ∧ wget w' j = wget w j) ∧
        (∀ j, i ≤ j → j < n → lget out j = if flags.getD j false then (wget w' j).2 else (wget w' j).1) := by
  refine batch_induction n (fun fuel i m h padS padR w res hres hw _ => ?_)
    (fun fuel i cnt m hB ih padS padR w res hres hw hcorr => ?_)
  · have e1 : rotSendLoop π delta data n fuel i m padS w = some w := by
      cases fuel <;> simp [rotSendLoop, Nat.not_lt.mpr h]
    have e2 : rotRecvLoop π n fuel i m padR res = some res := by
      cases fuel <;> simp [rotRecvLoop, Nat.not_lt.mpr h]
    exact ⟨w, res, e1, e2, hw, hres, fun _ _ => ⟨rfl, rfl⟩, fun j h1 h2 => absurd h2 (Nat.not_lt.mpr (Nat.le_trans h h1))⟩
  · simp only [rotSendLoop, rotRecvLoop, hB.lt, if_true, hB.cnt_eq]
    rw [hash_sendPad π m delta data padS i cnt hB.size hB.used, hash_recvPad π m res padR i hB.size hB.used]
    simp only
    generalize hw' : (tab w.size fun j =>
      if i ≤ j ∧ j < i + cnt then
        (lget (hashed π m 2 (sendPad delta data i cnt padS)) (2 * (j - i)),
          lget (hashed π m 2 (sendPad delta data i cnt padS)) (2 * (j - i) + 1))
      else wget w j) = w'
    generalize hres' : (tab res.size fun j =>
      if i ≤ j ∧ j < i + otBatchSize then lget (hashed π m 1 (recvPad res i padR)) (j - i) else lget res j) = res'
    have hle := hB.le
    have hln := hB.le_n
    have gw : ∀ j, i ≤ j → j < i + cnt → wget w' j =
        (lget (hashed π m 2 (sendPad delta data i cnt padS)) (2 * (j - i)),
          lget (hashed π m 2 (sendPad delta data i cnt padS)) (2 * (j - i) + 1)) :=
      fun j h1 h2 => by rw [← hw', wget_tab _ _ _ (by omega), if_pos ⟨h1, h2⟩]
    have gw' : ∀ j, j < n → (j < i ∨ i + cnt ≤ j) → wget w' j = wget w j :=
      fun j hj h => by rw [← hw', wget_tab _ _ _ (by omega), if_neg (by omega)]
    have gr : ∀ j, i ≤ j → j < n → j < i + otBatchSize → lget res' j = lget (hashed π m 1 (recvPad res i padR)) (j - i) :=
      fun j h1 h2 h3 => by rw [← hres', lget_tab _ _ _ (by omega), if_pos ⟨h1, h3⟩]
    have gr' : ∀ j, j < n → (j < i ∨ i + otBatchSize ≤ j) → lget res' j = lget res j :=
      fun j hj h => by rw [← hres', lget_tab _ _ _ (by omega), if_neg (by omega)]
    obtain ⟨w'', out, hs2, hr2, hwsz, hosz, hlow, hhigh⟩ :=
      ih (hashed π m 2 (sendPad delta data i cnt padS)) (hashed π m 1 (recvPad res i padR)) w' res'
        (by rw [← hres', size_tab, hres]) (by rw [← hw', size_tab, hw])
        (fun j h1 h2 => by rw [gr' j h2 (.inr h1)]; exact hcorr j (by omega) h2)
    clear hw' hres'
    refine ⟨w'', out, hs2, hr2, hwsz, hosz, fun j hj => ?_, fun j h1 h2 => ?_⟩
    · have hjn : j < n := Nat.lt_trans hj hB.lt
      rw [(hlow j (by omega)).1, (hlow j (by omega)).2, gr' j hjn (.inl hj), gw' j hjn (.inl hj)]
      exact ⟨rfl, rfl⟩
    · by_cases hj : j < i + otBatchSize
      · have hjc : j < i + cnt := hB.lt_cnt h2 hj
        rw [(hlow j hj).1, (hlow j hj).2, gr j h1 h2 hj, gw j h1 hjc,
          hashed_pads_agree π m delta data res padS padR i cnt j _ h1 hjc hle (hres ▸ h2) (hcorr j h1 h2)]
        cases flags.getD j false <;> rfl
      · exact hhigh j (by omega) h2

theorem new_inv (seed : Label) :
    (Mitccrh.new seed otBatchSize).batchSize = otBatchSize ∧ (Mitccrh.new seed otBatchSize).keyUsed = otBatchSize :=
  ⟨rfl, rfl⟩

/-- See `C06_cot_delivers`. -/
theorem cot_delivers (π : Label → Label → Label) (delta seed : Label) (data result : Array Label)
    (wires : Array Wire) (flags : Array Bool) (hw : wires.size = flags.size) (hr : result.size = flags.size)
    (hcorr : ∀ j, j < flags.size →
      lget result j = lget data j ^^^ (if flags.getD j false then delta else 0#128)) :
    ∃ cts, cotSend π delta seed data wires = some cts ∧
      ∃ out, cotRecv π seed flags result cts = some out ∧ out.size = flags.size ∧
        ∀ j, j < flags.size → lget out j = if flags.getD j false then (wget wires j).2 else (wget wires j).1 := by
  obtain ⟨cts, h1, hrecv⟩ :=
    cot_loops π delta data wires flags flags.size flags.size 0 (Mitccrh.new seed otBatchSize) (new_inv seed).1
      (new_inv seed).2 (Nat.le_refl _) (tab (2 * otBatchSize) fun _ => 0#128)
  obtain ⟨out, h2, h3, _, h5⟩ := hrecv (tab otBatchSize fun _ => 0#128) result hr (fun j _ hj => hcorr j hj)
  refine ⟨cts, ?_, out, ?_, h3, fun j hj => h5 j (Nat.zero_le _) hj⟩
  · unfold cotSend; rw [hw]; exact h1
  · unfold cotRecv; exact h2

/-- See `C06_rot_consistent`. -/
theorem rot_consistent (π : Label → Label → Label) (delta seed : Label) (data result : Array Label)
    (wires : Array Wire) (flags : Array Bool) (hw : wires.size = flags.size) (hr : result.size = flags.size)
    (hcorr : ∀ j, j < flags.size →
      lget result j = lget data j ^^^ (if flags.getD j false then delta else 0#128)) :
    ∃ w out, rotSend π delta seed data wires = some w ∧ rotRecv π seed flags result = some out ∧
      w.size = flags.size ∧ out.size = flags.size ∧
      ∀ j, j < flags.size → lget out j = if flags.getD j false then (wget w j).2 else (wget w j).1 := by
  obtain ⟨w, out, h1, h2, h3, h4, _, h6⟩ :=
    rot_loops π delta data flags flags.size flags.size 0 (Mitccrh.new seed otBatchSize) (new_inv seed).1 (new_inv seed).2
      (Nat.le_refl _) (tab (2 * otBatchSize) fun _ => 0#128) (tab otBatchSize fun _ => 0#128) wires result hr hw
      (fun j _ hj => hcorr j hj)
  refine ⟨w, out, ?_, ?_, h3, h4, fun j hj => h6 j (Nat.zero_le _) hj⟩
  · unfold rotSend; rw [hw]; exact h1
  · unfold rotRecv; exact h2

theorem lget_toArray (l : List Label) (i : Nat) : lget l.toArray i = l.getD i 0#128 := getD_toArray l i _

end Mpc.Cot
