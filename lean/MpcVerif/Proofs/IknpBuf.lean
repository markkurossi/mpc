/-
Lemmas about caller-provided output buffers of the IKNP extension
(Model/IknpBuf.lean): the label form with `Store.assign` does not depend on what
the buffer held.  Packed-bit form: with `BitStore.write` positions `< n` hold
the correlation of the call whatever the buffer held and positions `≥ n` are
unchanged (`bits_call_write`); with `BitStore.orOnly` the loops are those of
Model/Iknp.lean.  From these, one call and any history of calls on long-lived
arrays meet `CallSpecB` (`call_okB`, `sessionB_ok`).  `iknp_eval` evaluates
closed runs.
-/
import MpcVerif.Proofs.Iknp

namespace Mpc.Iknp

@[simp] theorem size_createLabelsAt (store : Store) (l : Array Label) (ofs : Nat) (buf : Bytes) (w : Nat) :
    (createLabelsAt store l ofs buf w).size = l.size := by simp [createLabelsAt]

@[simp] theorem size_zerosL (n : Nat) : (zerosL n).size = n := size_mk ..

@[simp] theorem size_zerosW (n : Nat) : (zerosW n).size = n := size_mk ..

theorem lgetA_mk (n : Nat) (f : Nat → Label) (i : Nat) (h : i < n) : lgetA (mk n f) i = f i := getD_mk n f i _ h

theorem getD_createLabels_row (len : Nat) (buf : Bytes) (w idx : Nat) (h : idx < min (w * 8) len) :
    (createLabels len buf w).getD idx 0#128 = rowLabel buf w idx := getD_createLabels len buf w idx h

theorem lgetA_createLabelsAt (store : Store) (l : Array Label) (ofs : Nat) (buf : Bytes) (w p : Nat) (hp : p < l.size) :
    lgetA (createLabelsAt store l ofs buf w) p =
      if ofs ≤ p ∧ p < ofs + min (w * 8) (l.size - ofs) then
        store (lgetA l p) ((createLabels (l.size - ofs) buf w).getD (p - ofs) 0#128)
      else lgetA l p := by
  unfold createLabelsAt
  rw [lgetA_mk _ _ _ hp]
  by_cases h : ofs ≤ p ∧ p < ofs + min (w * 8) (l.size - ofs)
  · rw [if_pos h, if_pos h, getD_createLabels_row _ _ _ _ (Nat.sub_lt_left_of_lt_add h.1 h.2)]
  · rw [if_neg h, if_neg h]

theorem recvLoopAt_spec (store : Store) (R0 R1 : Nat → Nat → Byte) (bbuf : Bytes) (n : Nat) :
    ∀ (fuel ofs : Nat), (ofs % 512 = 0 ∨ n ≤ ofs) → n - ofs ≤ fuel → ∀ (st : RecvSt) (res : Array Label), res.size = n →
      (recvLoopAt store R0 R1 bbuf n fuel ofs st res).1 = (recvLoop R0 R1 bbuf n fuel ofs st).1 ∧
      (recvLoopAt store R0 R1 bbuf n fuel ofs st res).2.2 = (recvLoop R0 R1 bbuf n fuel ofs st).2.2 ∧
      (recvLoopAt store R0 R1 bbuf n fuel ofs st res).2.1.size = n ∧
      ∀ p, p < n →
        lgetA (recvLoopAt store R0 R1 bbuf n fuel ofs st res).2.1 p =
          if ofs ≤ p then store (lgetA res p) ((recvLoop R0 R1 bbuf n fuel ofs st).2.1.getD (p - ofs) 0#128)
          else lgetA res p := by
  refine chunk_induction n (fun fuel ofs h st res hs => ?_) (fun f ofs rows w hc ih st res hs => ?_)
  · cases fuel with
    | zero => exact ⟨rfl, rfl, hs, fun p hp => by rw [if_neg (by omega)]; rfl⟩
    | succ f =>
      simp only [recvLoopAt, recvLoop, Nat.not_lt.mpr h, if_false]
      exact ⟨trivial, trivial, hs, fun p hp => by rw [if_neg (by omega)]⟩
  · rw [recvLoop_step R0 R1 bbuf hc]
    simp only [recvLoopAt, hc.lt, if_true, ← hc.rows_eq, ← hc.w_eq]
    generalize (recvCols R0 R1 st w fun tmp => xorBytes tmp (sliceFrom bbuf (ofs / 8))).2 = buf
    obtain ⟨i1, i2, i3, i4⟩ := ih (st.adv w) (createLabelsAt store res ofs buf w) (by rw [size_createLabelsAt, hs])
    have hlen := hc.len
    have hle := hc.le
    refine ⟨i1, by rw [i2], i3, fun p hp => ?_⟩
    rw [i4 p hp, lgetA_createLabelsAt _ _ _ _ _ _ (by omega), hs, hlen]
    by_cases h1 : ofs + rows ≤ p
    · rw [if_pos h1, if_neg (by omega), if_pos (by omega),
        getD_append_right _ _ _ _ (by rw [length_createLabels, hlen]; omega), length_createLabels, hlen]
      congr 2
      omega
    · rw [if_neg h1]
      by_cases h3 : ofs ≤ p
      · rw [if_pos ⟨h3, by omega⟩, if_pos h3, getD_append_left _ _ _ _ (by rw [length_createLabels, hlen]; omega)]
      · rw [if_neg (by omega), if_neg h3]

theorem array_ext_lgetA (a b : Array Label) (hs : a.size = b.size) (h : ∀ p, p < a.size → lgetA a p = lgetA b p) :
    a = b := by
  apply Array.ext hs
  intro i h1 h2
  have := h i h1
  simpa [lgetA, Array.getD, h1, h2] using this

theorem lgetA_toArray (l : List Label) (p : Nat) : lgetA l.toArray p = l.getD p 0#128 := getD_toArray l p _

theorem receiveAt_spec (store : Store) (R0 R1 : Nat → Nat → Byte) (st : RecvSt) (b : Array Bool) (res : Array Label)
    (hs : res.size = b.size) :
    ∃ out, receiveAt store R0 R1 st b res = some ((receive R0 R1 st b).1, out, (receive R0 R1 st b).2.2) ∧
      out.size = b.size ∧
      ∀ p, p < b.size → lgetA out p = store (lgetA res p) ((receive R0 R1 st b).2.1.getD p 0#128) := by
  obtain ⟨h1, h2, h3, h4⟩ :=
    recvLoopAt_spec store R0 R1 (packBools b) b.size b.size 0 (.inl (Nat.zero_mod _)) (Nat.le_refl _) st res hs
  refine ⟨(recvLoopAt store R0 R1 (packBools b) b.size b.size 0 st res).2.1, ?_, h3, ?_⟩
  · unfold receiveAt
    rw [if_neg (by omega)]
    unfold receive
    rw [← h1, ← h2]
  · intro p hp
    have := h4 p hp
    simpa [receive] using this

theorem receiveAt_of_store (store : Store) (R0 R1 : Nat → Nat → Byte) (st : RecvSt) (b : Array Bool)
    (res : Array Label) (hs : res.size = b.size) (hst : ∀ p, p < b.size → ∀ x, store (lgetA res p) x = x) :
    receiveAt store R0 R1 st b res =
      some ((receive R0 R1 st b).1, (receive R0 R1 st b).2.1.toArray, (receive R0 R1 st b).2.2) := by
  obtain ⟨out, h1, h2, h3⟩ := receiveAt_spec store R0 R1 st b res hs
  rw [h1]
  have : out = (receive R0 R1 st b).2.1.toArray := by
    apply array_ext_lgetA
    · rw [h2]; simp [length_receive]
    · intro p hp
      rw [h3 p (by omega), hst p (by omega), lgetA_toArray]
  rw [this]

/-- See `C06_iknp_receive_buffer_independent`. -/
theorem receiveAt_assign (R0 R1 : Nat → Nat → Byte) (st : RecvSt) (b : Array Bool) (res : Array Label)
    (hs : res.size = b.size) :
    receiveAt Store.assign R0 R1 st b res =
      some ((receive R0 R1 st b).1, (receive R0 R1 st b).2.1.toArray, (receive R0 R1 st b).2.2) :=
  receiveAt_of_store _ R0 R1 st b res hs fun _ _ _ => rfl

theorem receiveAt_orInto_zeros (R0 R1 : Nat → Nat → Byte) (st : RecvSt) (b : Array Bool) :
    receiveAt Store.orInto R0 R1 st b (zerosL b.size) = receiveAt Store.assign R0 R1 st b (zerosL b.size) := by
  rw [receiveAt_assign R0 R1 st b (zerosL b.size) (size_zerosL _),
    receiveAt_of_store Store.orInto R0 R1 st b (zerosL b.size) (size_zerosL _)]
  intro p hp x
  rw [zerosL, lgetA_mk _ _ _ hp, Store.orInto, BitVec.zero_or]

/-- `receiveMalAt` from the outcomes of its two `receiveAt` calls.  The check
vector and its buffer are variables `c`, `z` here: with the closed terms in
their place the kernel, when it checks the reduction of the `match`, would
build both arrays to compare their sizes. -/
theorem receiveMalAt_eq (store : Store) (R0 R1 : Nat → Nat → Byte) (st : RecvSt) (b : Array Bool) (b0 b1 : Label)
    (res : Array Label) {st1 st2 : RecvSt} {l1 l2 : Array Label} {m1 m2 : List Bytes} {c : Array Bool}
    {z : Array Label} (hc : bcvOf b0 b1 = c) (hz : zerosL 256 = z)
    (h1 : receiveAt store R0 R1 st b res = some (st1, l1, m1))
    (h2 : receiveAt store R0 R1 st1 c z = some (st2, l2, m2)) :
    receiveMalAt store R0 R1 st b b0 b1 res = some (st2, l1, m1 ++ m2) := by
  unfold receiveMalAt
  rw [hc, hz, h1]
  dsimp only
  rw [h2]

theorem receiveMalAt_assign (R0 R1 : Nat → Nat → Byte) (st : RecvSt) (b : Array Bool) (b0 b1 : Label)
    (res : Array Label) (hs : res.size = b.size) :
    receiveMalAt Store.assign R0 R1 st b b0 b1 res =
      some ((receiveMal R0 R1 st b b0 b1).1, (receiveMal R0 R1 st b b0 b1).2.1.toArray,
        (receiveMal R0 R1 st b b0 b1).2.2) := by
  obtain ⟨e1, e2, e3⟩ := proj_of_eq (receiveMal_eq R0 R1 st b b0 b1)
  rw [e1, e2, e3]
  exact receiveMalAt_eq _ R0 R1 st b b0 b1 res rfl rfl (receiveAt_assign R0 R1 st b res hs)
    (receiveAt_assign R0 R1 _ _ _ ((size_zerosL _).trans (size_bcvOf b0 b1).symm))

theorem recvBitsLoopS_orOnly (R0 R1 : Nat → Nat → Byte) (ch : Words) (n fuel ofs : Nat) (st : RecvSt) (res : Words) :
    recvBitsLoopS .orOnly R0 R1 ch n fuel ofs st res = recvBitsLoop wordsHead R0 R1 ch n fuel ofs st res := by
  rw [recvBitsLoopS_eq, recvBitsLoop_eq]

theorem receiveBitsS_orOnly (R0 R1 : Nat → Nat → Byte) (st : RecvSt) (ch res : Words) (n : Nat) :
    receiveBitsS .orOnly R0 R1 st ch res n = receiveBits R0 R1 st ch res n := by
  simp only [receiveBitsS, receiveBits, receiveBitsWith, recvBitsLoopS_orOnly]

theorem sendBitsS_orOnly (SS : Nat → Nat → Byte) (delta : Label) (ss : SendSt) (n : Nat) (res : Words) (msgs : List Bytes) :
    sendBitsS .orOnly SS delta ss n res msgs = sendBits SS delta ss n res msgs := by
  simp only [sendBitsS, sendBits, sendBitsLoopS_orOnly]

/-- See `C06_iknp_bits_dirty`. -/
theorem bits_call_write (R0 R1 SS : Nat → Nat → Byte) (delta : Label) (hb : BaseOK R0 R1 SS delta)
    (rs : RecvSt) (ss : SendSt) (hs : InStep rs ss) (choices : Words) (n : Nat)
    (hch : (n + 63) / 64 ≤ choices.size) (rwin swin : Words)
    (hr : (n + 63) / 64 ≤ rwin.size) (hsw : (n + 63) / 64 ≤ swin.size) :
    ∃ rs' ss' rw sw msgs,
      receiveBitsS .write R0 R1 rs choices rwin n = some (rs', rw, msgs) ∧
      sendBitsS .write SS delta ss n swin msgs = some (ss', sw, []) ∧
      InStep rs' ss' ∧ rw.size = rwin.size ∧ sw.size = swin.size ∧
      (∀ j, j < n → bitAt rw j = (bitAt sw j ^^ (labelBit delta 0 && bitAt choices j))) ∧
      (∀ j, n ≤ j → bitAt rw j = bitAt rwin j ∧ bitAt sw j = bitAt swin j) := by
  obtain ⟨ss', sw, h1, h2, h3, h4, h5, h6⟩ :=
    bits_run wordsHead .write R0 R1 SS delta hb choices n rs ss rwin swin [] hs hr hsw (fun hk => by cases hk)
  rw [← recvBitsLoopS_eq, List.append_nil] at h1
  rw [← recvBitsLoopS_eq] at h2 h3 h5 h6
  refine ⟨_, ss', _, sw, (recvBitsLoopS .write R0 R1 choices n n 0 rs rwin).2.2, ?_, ?_, h2, h3, h4, fun j hj => ?_,
    fun j hj => h5 j hj⟩
  · rw [receiveBitsS, if_neg (by omega), if_neg (by omega)]
  · rw [sendBitsS, if_neg (by omega)]
    exact h1
  · rw [h6 j hj, covered_head n j hj, Bool.true_and]

def Arena.Sized (ar : Arena) (SL SW : Nat) : Prop :=
  ar.labels.size = SL ∧ ar.rwords.size = SW ∧ ar.swords.size = SW

/-- Caller obligations on a buffer.  `exact`: the label form gets a slice of exactly the number of choices
(`receive` panics otherwise); the packed-bit form accepts a longer one. -/
def BufSrc.WF {α : Type} (S need : Nat) (exact : Bool) : BufSrc α → Prop
  | .fresh => True
  | .arena pre off extra => (∀ a, pre = some a → a.size = S) ∧ off + need + extra ≤ S ∧ (exact = true → extra = 0)

def CallB.WF (SL SW : Nat) : CallB → Prop
  | .labels _ b _ _ buf => buf.WF SL b.size true
  | .bits n ch rbuf sbuf =>
    (n + 63) / 64 ≤ ch.size ∧ rbuf.WF SW ((n + 63) / 64) false ∧ sbuf.WF SW ((n + 63) / 64) false

/-- What a call of a history must deliver, whatever the buffers held.  Label
form: exactly `CallSpec` (`received_i = sent_i xor choice_i*Delta` on the
receiver's slice).  Packed-bit form: both slices keep their lengths,
`received_j = sent_j xor (Delta.Bit(0) and choice_j)` at every position `< n`,
and every position `≥ n` (the rest of the last word and all later words of a
longer-than-needed slice) is unchanged. -/
def CallSpecB (delta : Label) : CallB → CallOutB → Prop
  | .labels mal b b0 b1 _, o => CallSpec delta (.labels mal b b0 b1) o.out
  | .bits n ch _ _, o =>
    o.out.rcvdW.size = o.initRW.size ∧ o.out.sentW.size = o.initSW.size ∧
    (∀ j, j < n → bitAt o.out.rcvdW j = (bitAt o.out.sentW j ^^ (labelBit delta 0 && bitAt ch j))) ∧
    (∀ j, n ≤ j → bitAt o.out.rcvdW j = bitAt o.initRW j ∧ bitAt o.out.sentW j = bitAt o.initSW j)

@[simp] theorem size_window {α : Type} (d : α) (a : Array α) (off len : Nat) : (window d a off len).size = len := by
  simp [window]

@[simp] theorem size_writeBack {α : Type} (d : α) (a : Array α) (off : Nat) (w : Array α) :
    (writeBack d a off w).size = a.size := by simp [writeBack]

theorem resolve_ok {α : Type} (d : α) (cur : Array α) (S need : Nat) (exact : Bool) (buf : BufSrc α)
    (hc : cur.size = S) (hw : buf.WF S need exact) :
    ∃ a off len, buf.resolve d cur need = some (a, off, len) ∧ need ≤ len ∧ (exact = true → len = need) ∧
      ∀ w : Array α, (buf.commit d cur a off w).size = S := by
  cases buf with
  | fresh => exact ⟨_, 0, need, rfl, Nat.le_refl _, fun _ => rfl, fun w => by simp [BufSrc.commit, hc]⟩
  | arena pre off extra =>
    obtain ⟨h1, h2, h3⟩ := hw
    have hsz : (pre.getD cur).size = S := by
      cases pre with
      | none => simpa using hc
      | some a => simpa using h1 a rfl
    refine ⟨pre.getD cur, off, need + extra, ?_, by omega, fun e => by rw [h3 e]; rfl, fun w => ?_⟩
    · simp only [BufSrc.resolve]
      rw [if_pos (by omega)]
    · simp [BufSrc.commit, hsz]

theorem runCallB_labels (store : Store) (bs : BitStore) (R0 R1 SS : Nat → Nat → Byte) (delta : Label) (rs : RecvSt)
    (ss : SendSt) (ar : Arena) (mal : Bool) (b : Array Bool) (b0 b1 : Label) (buf : BufSrc Label)
    {a : Array Label} {off len : Nat} {rs' : RecvSt} {rl : Array Label} {msgs : List Bytes} {ss' : SendSt}
    {sent : List Label}
    (hres : buf.resolve 0#128 ar.labels b.size = some (a, off, len))
    (hrecv : (if mal then receiveMalAt store R0 R1 rs b b0 b1 (window 0#128 a off len)
      else receiveAt store R0 R1 rs b (window 0#128 a off len)) = some (rs', rl, msgs))
    (hsend : (if mal then sendMal SS delta ss b.size msgs else send SS delta ss b.size msgs) = some (ss', sent, [])) :
    runCallB store bs R0 R1 SS delta rs ss ar (.labels mal b b0 b1 buf) =
      some (rs', ss', { ar with labels := buf.commit 0#128 ar.labels a off rl },
        { out := { sentL := sent, rcvdL := rl.toList } }, msgs) := by
  simp only [runCallB, hres, hrecv, hsend]

theorem call_okB (R0 R1 SS : Nat → Nat → Byte) (delta : Label) (hb : BaseOK R0 R1 SS delta)
    (rs : RecvSt) (ss : SendSt) (hs : InStep rs ss) (ar : Arena) (SL SW : Nat) (har : ar.Sized SL SW)
    (c : CallB) (hc : c.WF SL SW) :
    ∃ rs' ss' ar' out u, runCallB Store.assign .write R0 R1 SS delta rs ss ar c = some (rs', ss', ar', out, u) ∧
      InStep rs' ss' ∧ ar'.Sized SL SW ∧ CallSpecB delta c out := by
  obtain ⟨hL, hRW, hSW⟩ := har
  cases c with
  | labels mal b b0 b1 buf =>
    obtain ⟨a, off, len, e1, _, e3, e4⟩ := resolve_ok 0#128 ar.labels SL b.size true buf hL hc
    have hlen : len = b.size := e3 rfl
    subst hlen
    have hwin : (window 0#128 a off b.size).size = b.size := by simp
    cases mal with
    | false =>
      obtain ⟨ss', sent, h1, h2, h3, h4, h5⟩ := label_call R0 R1 SS delta hb rs ss hs b []
      rw [List.append_nil] at h1
      exact ⟨_, _, _, _, _, runCallB_labels _ _ R0 R1 SS delta rs ss ar false b b0 b1 buf e1
        (receiveAt_assign _ _ _ _ _ hwin) h1, h2, ⟨e4 _, hRW, hSW⟩, h3, h4, h5⟩
    | true =>
      obtain ⟨ss', sent, h1, h2, h3, h4, h5⟩ := label_call_mal R0 R1 SS delta hb rs ss hs b b0 b1 []
      rw [List.append_nil] at h1
      exact ⟨_, _, _, _, _, runCallB_labels _ _ R0 R1 SS delta rs ss ar true b b0 b1 buf e1
        (receiveMalAt_assign _ _ _ _ _ _ _ hwin) h1, h2, ⟨e4 _, hRW, hSW⟩, h3, h4, h5⟩
  | bits n ch rbuf sbuf =>
    obtain ⟨hch, hwr, hws⟩ := hc
    obtain ⟨ra, roff, rlen, r1, r2, _, r4⟩ := resolve_ok 0#64 ar.rwords SW ((n + 63) / 64) false rbuf hRW hwr
    obtain ⟨sa, soff, slen, s1, s2, _, s4⟩ := resolve_ok 0#64 ar.swords SW ((n + 63) / 64) false sbuf hSW hws
    obtain ⟨rs', ss', rw, sw, msgs, g1, g2, g3, g4, g5, g6, g7⟩ :=
      bits_call_write R0 R1 SS delta hb rs ss hs ch n hch (window 0#64 ra roff rlen) (window 0#64 sa soff slen)
        (by simpa using r2) (by simpa using s2)
    refine ⟨rs', ss', { ar with rwords := rbuf.commit 0#64 ar.rwords ra roff rw,
                                swords := sbuf.commit 0#64 ar.swords sa soff sw },
      { out := { sentW := sw, rcvdW := rw }, initRW := window 0#64 ra roff rlen, initSW := window 0#64 sa soff slen },
      msgs, ?_, g3, ⟨hL, r4 _, s4 _⟩, g4, g5, g6, g7⟩
    simp only [runCallB, r1, s1, g1, g2]

/-- See `C06_iknp_history_buffers`. -/
theorem sessionB_ok (R0 R1 SS : Nat → Nat → Byte) (delta : Label) (hb : BaseOK R0 R1 SS delta) (SL SW : Nat) :
    ∀ (cs : List CallB) (rs : RecvSt) (ss : SendSt) (ar : Arena), InStep rs ss → ar.Sized SL SW →
      (∀ c ∈ cs, c.WF SL SW) →
      ∃ outs, sessionB Store.assign .write R0 R1 SS delta rs ss ar cs = some outs ∧ outs.length = cs.length ∧
        ∀ k (hk : k < cs.length) (hk' : k < outs.length), CallSpecB delta cs[k] outs[k] :=
  fun cs rs ss ar hs har => Run.session_of_call (σ := RecvSt × SendSt × Arena)
    (run := fun s => sessionB Store.assign .write R0 R1 SS delta s.1 s.2.1 s.2.2)
    (I := fun s => InStep s.1 s.2.1 ∧ s.2.2.Sized SL SW) (fun _ => rfl)
    (fun s c _ hs hc =>
      let ⟨rs', ss', ar', out, _, h1, h2, h2', h3⟩ := call_okB R0 R1 SS delta hb s.1 s.2.1 hs.1 s.2.2 SL SW hs.2 c hc
      ⟨(rs', ss', ar'), out, ⟨h2, h2'⟩, h3, by simp only [sessionB, h1]⟩) cs (rs, ss, ar) ⟨hs, har⟩

/-- Results that hold a whole chunk are compared as lists: the kernel is slow
to decide an equation between arrays of 128 bytes. -/
theorem eq_of_toLists {o o' : Option (Array Label × List Bytes)}
    (h : o.map (fun p => (p.1.toList, p.2.map Array.toList)) = o'.map fun p => (p.1.toList, p.2.map Array.toList)) :
    o = o' := by
  refine (Option.map_inj_right ?_).mp h
  intro p q h
  simp only [Prod.mk.injEq, Array.toList_inj, List.map_inj_right fun _ _ => Array.toList_inj.mp] at h
  exact Prod.ext h.1 h.2

/-- Evaluation of a closed run of the model by the kernel.  The definitions on
the way are unfolded first and every read from a `mk` buffer is made an
application (`getD_mk_ite`), the buffers that remain are turned into lists
(`mk_eq_list`): left to itself the kernel builds each `Array.map` over an
`Array.range`, which is slow.  A caller first unfolds
`runCall` / `runCallB` with `rw`: `simp` records that unfolding as a
definitional step, and to re-check it the kernel evaluates the `match`
discriminants, that is, the run on `mk` buffers. -/
macro "iknp_eval" : tactic => `(tactic| (
  simp only [window, receiveBits, receiveBitsWith, recvBitsLoop, sendBits, sendBitsLoop, receiveBitsS, recvBitsLoopS,
    sendBitsS, sendBitsLoopS, receiveAt, recvLoopAt, send, sendLoop, List.size_toArray, List.length_cons,
    List.length_nil, recvCols, sendCols, createLabelsAt, rowLabel, createLabels, flat, prgRead, xorBytes, xorWords,
    sliceFrom, bget, getD_mk_ite, size_mk]
  simp only [mk_eq_list]
  decide +kernel))

end Mpc.Iknp
