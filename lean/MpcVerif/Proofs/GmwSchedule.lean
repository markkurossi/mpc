/-
C10: the evaluation order of `gmw.Network.run` (level by level of
`AssignLevels(TargetGMW)`, on each level first the non-AND gates in circuit
order, then the AND batch; model `Mpc.Gmw.blocks` / `Mpc.Gmw.schedule`) is the
stable sort of the gates by (level, non-AND first), the list `Mpc.gmwSchedule` of
Model/Levels.lean (`schedule_eq_gmwSchedule`: filtering level by level is a bucket
sort, and a bucket sort by a key is the stable merge sort by that key).  Hence it
is a topological reordering of a single-assignment circuit; the AND gates of
one level are mutually independent.
-/
import MpcVerif.Proofs.Levels
import MpcVerif.Model.Gmw

namespace Mpc.Gmw
open Mpc

section Bucket
variable {α : Type} (key : α → Nat)

def bucket (l : List α) (K : Nat) : List α :=
  (List.range K).flatMap fun k => l.filter fun a => key a == k

theorem bucket_zero (l : List α) : bucket key l 0 = [] := rfl

theorem bucket_succ (l : List α) (K : Nat) :
    bucket key l (K + 1) = bucket key l K ++ l.filter (fun a => key a == K) := by
  simp [bucket, List.range_succ, List.flatMap_append]

theorem bucket_two (l : List α) : ∀ K : Nat,
    bucket key l (2 * K) = (List.range K).flatMap fun i =>
      (l.filter fun a => key a == 2 * i) ++ l.filter fun a => key a == 2 * i + 1
  | 0 => bucket_zero key l
  | K + 1 => by
    have : 2 * (K + 1) = 2 * K + 1 + 1 := by omega
    rw [this, bucket_succ, bucket_succ, bucket_two l K, List.range_succ, List.flatMap_append]
    simp

theorem filter_lt_succ_of_sorted (K : Nat) : ∀ l : List α, l.Pairwise (fun a b => key a ≤ key b) →
    (l.filter fun a => decide (key a < K)) ++ l.filter (fun a => key a == K) = l.filter fun a => decide (key a < K + 1)
  | [], _ => rfl
  | a :: l, h => by
    rw [List.pairwise_cons] at h
    have ih := filter_lt_succ_of_sorted K l h.2
    rcases Nat.lt_trichotomy (key a) K with hlt | heq | hgt
    · simp only [List.filter_cons, hlt, Nat.lt_succ_of_lt hlt, Nat.ne_of_lt hlt, decide_true, if_true, beq_iff_eq, if_false,
        List.cons_append, ih]
    · have hnil : (l.filter fun b => decide (key b < K)) = [] :=
        List.filter_eq_nil_iff.mpr fun b hb => by have := h.1 b hb; simp; omega
      rw [hnil] at ih
      simp only [List.filter_cons, heq, Nat.lt_irrefl, Nat.lt_succ_self, decide_true, decide_false, if_true, beq_self_eq_true,
        Bool.false_eq_true, if_false, hnil, List.nil_append, ← ih]
    · have h1 : ¬ key a < K := by omega
      have h2 : ¬ key a < K + 1 := by omega
      have h3 : ¬ key a = K := by omega
      simp only [List.filter_cons, h1, h2, h3, decide_false, Bool.false_eq_true, if_false, beq_iff_eq, ih]

theorem bucket_of_sorted (l : List α) (hs : l.Pairwise (fun a b => key a ≤ key b)) : ∀ K : Nat,
    bucket key l K = l.filter fun a => decide (key a < K)
  | 0 => by simp [bucket_zero]
  | K + 1 => by rw [bucket_succ, bucket_of_sorted l hs K, filter_lt_succ_of_sorted key K l hs]

variable (le : α → α → Bool) (hle : ∀ a b, le a b = true ↔ key a ≤ key b)
include hle

theorem mergeSort_filter_key (l : List α) (k : Nat) :
    (l.mergeSort le).filter (fun a => key a == k) = l.filter fun a => key a == k := by
  have h1 : (l.filter fun a => key a == k).Sublist (l.mergeSort le) :=
    List.sublist_mergeSort (le_trans_of_key key le hle) (le_total_of_key key le hle)
      (List.pairwise_of_forall_mem_list fun a ha b hb => by
        have := (List.mem_filter.mp ha).2; have := (List.mem_filter.mp hb).2; rw [hle]; simp at *; omega)
      List.filter_sublist
  have h2 := h1.filter fun a => key a == k
  rw [List.filter_filter] at h2
  simp only [Bool.and_self] at h2
  exact (h2.eq_of_length ((List.mergeSort_perm l le).filter _).length_eq.symm).symm

theorem bucket_eq_mergeSort (l : List α) (K : Nat) (hK : ∀ a ∈ l, key a < K) :
    bucket key l K = l.mergeSort le := by
  have hs : (l.mergeSort le).Pairwise fun a b => key a ≤ key b :=
    (List.pairwise_mergeSort (le_trans_of_key key le hle) (le_total_of_key key le hle) l).imp fun h => (hle _ _).mp h
  have h := bucket_of_sorted key _ hs K
  rw [List.filter_eq_self.mpr fun a ha => by simpa using hK a ((List.mergeSort_perm l le).mem_iff.mp ha)] at h
  rw [← h]
  simp only [bucket, mergeSort_filter_key key le hle]

end Bucket

theorem gatesAt_eq (gl : List (Gate × Nat)) (i : Nat) (isAnd : Bool) :
    gatesAt gl i isAnd =
      (gl.filter fun a => gKey a == 2 * i + (if isAnd then 1 else 0)).map Prod.fst := by
  unfold gatesAt
  congr 1
  apply List.filter_congr
  intro a _
  rw [Bool.eq_iff_iff]
  simp only [gKey, Bool.and_eq_true, beq_iff_eq]
  by_cases ha : a.1.op = .and <;> cases isAnd <;> simp [ha] <;> omega

/-- The gates paired with their `AssignLevels(TargetGMW)` level. -/
def glv (c : Circuit) : List (Gate × Nat) := c.gates.zip (c.assignLevels true).1

/-- Number of buckets: two per level `0 .. Stats[NumLevels]`. -/
def kmax (c : Circuit) : Nat := 2 * ((c.assignLevels true).2 + 1)

theorem schedule_eq (c : Circuit) :
    schedule c = (bucket gKey (glv c) (kmax c)).map Prod.fst := by
  unfold glv kmax
  rw [bucket_two]
  simp only [schedule, blocks, List.flatMap_map, List.map_flatMap, List.map_append, gatesAt_eq]
  simp

theorem assignLevelsGo_max_ge (gmw : Bool) : ∀ (gs : List Gate) (lv : Array Nat) (mx : Nat),
    mx ≤ (assignLevelsGo gmw gs lv mx).2 := by
  intro gs
  induction gs with
  | nil => intro lv mx; exact Nat.le_refl _
  | cons g gs ih =>
    intro lv mx
    rw [assignLevelsGo_cons]
    exact Nat.le_trans (Nat.le_max_left _ _) (ih _ _)

/-- The level of a gate is at most the level written for its output, which enters the maximum. -/
theorem assignLevelsGo_le_max (gmw : Bool) : ∀ (gs : List Gate) (lv : Array Nat) (mx : Nat),
    ∀ l ∈ (assignLevelsGo gmw gs lv mx).1, l ≤ (assignLevelsGo gmw gs lv mx).2 := by
  intro gs
  induction gs with
  | nil => intro lv mx l hl; simp [assignLevelsGo] at hl
  | cons g gs ih =>
    intro lv mx l hl
    rw [assignLevelsGo_cons] at hl ⊢
    rcases List.mem_cons.mp hl with rfl | hl
    · exact Nat.le_trans (Nat.le_trans (Nat.le_add_right _ _) (Nat.le_max_right mx _)) (assignLevelsGo_max_ge _ _ _ _)
    · exact ih _ _ l hl

theorem glv_map_fst (c : Circuit) : (glv c).map Prod.fst = c.gates :=
  c.zip_assignLevels_fst true

theorem glv_map_out (c : Circuit) : (glv c).map (fun a => a.1.out) = c.gates.map (·.out) := by
  have := congrArg (List.map (·.out)) (glv_map_fst c)
  rw [List.map_map] at this
  exact this

theorem glv_nodup_out (c : Circuit) (hssa : SSA c.numWires c.gates c.inputDefined) :
    ((glv c).map (fun a => a.1.out)).Nodup := by
  rw [glv_map_out]; exact hssa.2.1

theorem glv_mem_gate (c : Circuit) (a : Gate × Nat) (ha : a ∈ glv c) : a.1 ∈ c.gates :=
  (List.of_mem_zip (a := a.1) (b := a.2) ha).1

theorem gKey_lt (c : Circuit) : ∀ a ∈ glv c, gKey a < kmax c := by
  intro a ha
  have : a.2 ≤ (c.assignLevels true).2 :=
    assignLevelsGo_le_max true c.gates _ 0 a.2 (List.of_mem_zip (a := a.1) (b := a.2) ha).2
  simp only [gKey, kmax]
  split <;> omega

theorem exists_of_mem_blocks (c : Circuit) (b : List Gate × List Gate) (hb : b ∈ blocks c) :
    ∃ i, b = (gatesAt (glv c) i false, gatesAt (glv c) i true) := by
  simp only [blocks, List.mem_map, List.mem_range] at hb
  obtain ⟨i, _, rfl⟩ := hb
  exact ⟨i, rfl⟩

theorem mem_gatesAt (gl : List (Gate × Nat)) (i : Nat) (isAnd : Bool) (g : Gate) :
    g ∈ gatesAt gl i isAnd ↔ (g, i) ∈ gl ∧ (g.op == .and) = isAnd := by
  simp only [gatesAt, List.mem_map, List.mem_filter, Bool.and_eq_true, beq_iff_eq]
  constructor
  · rintro ⟨⟨g', l⟩, ⟨hm, rfl, hop⟩, rfl⟩; exact ⟨hm, hop⟩
  · rintro ⟨hm, hop⟩; exact ⟨(g, i), ⟨hm, rfl, hop⟩, rfl⟩

theorem blocks_ops (c : Circuit) :
    ∀ b ∈ blocks c, (∀ g ∈ b.1, g.op ≠ .and) ∧ (∀ g ∈ b.2, g.op = .and) := by
  intro b hb
  obtain ⟨i, rfl⟩ := exists_of_mem_blocks c b hb
  constructor <;> intro g hg <;> simpa using ((mem_gatesAt _ _ _ _).mp hg).2

theorem blocks_subset (c : Circuit) :
    ∀ b ∈ blocks c, (∀ g ∈ b.1, g ∈ c.gates) ∧ (∀ g ∈ b.2, g ∈ c.gates) := by
  intro b hb
  obtain ⟨i, rfl⟩ := exists_of_mem_blocks c b hb
  constructor <;> intro g hg <;> exact glv_mem_gate c (g, i) ((mem_gatesAt _ _ _ _).mp hg).1

theorem schedule_eq_gmwSchedule (c : Circuit) : schedule c = (gmwSchedule (glv c)).map Prod.fst := by
  rw [schedule_eq, gmwSchedule, bucket_eq_mergeSort gKey gmwLe gmwLe_iff (glv c) (kmax c) (gKey_lt c)]

theorem schedule_perm (c : Circuit) : (schedule c).Perm c.gates := by
  rw [schedule_eq_gmwSchedule, ← glv_map_fst c]
  exact (List.mergeSort_perm _ _).map _

theorem schedule_wf (c : Circuit) (hssa : SSA c.numWires c.gates c.inputDefined) :
    wfFrom c.numWires (schedule c) c.inputDefined = true := by
  rw [schedule_eq_gmwSchedule]
  exact c.assignLevels_sort_wf true gmwLe gKey gmwLe_iff gKey_mono hssa

theorem schedule_ssa (c : Circuit) (hssa : SSA c.numWires c.gates c.inputDefined) :
    SSA c.numWires (schedule c) c.inputDefined :=
  hssa.perm (schedule_perm c) (schedule_wf c hssa)

/-- Evaluating the gates in the order of `Network.run` gives every wire the value of
in-order evaluation. -/
theorem gmw_level_schedule (c : Circuit) (hssa : SSA c.numWires c.gates c.inputDefined) (x : List Bool) :
    ∀ w, (evalPlainGates (schedule c) (initStore c.numWires false (x.take c.nIn))).get w =
      (c.plainEval x).get w :=
  perm_eval c.numWires c.gates (schedule c) c.inputDefined _ (initStore_size _ _ _) hssa
    (schedule_perm c) (schedule_wf c hssa)

theorem and_level_indep (c : Circuit) (hssa : SSA c.numWires c.gates c.inputDefined) (i : Nat)
    (g h : Gate) (hg : (g, i) ∈ glv c) (hh : (h, i) ∈ glv c) (hop : h.op = .and)
    (w : Nat) (hw : w ∈ g.ins) : h.out ≠ w := by
  intro heq
  obtain ⟨p0, q0, hl0⟩ := List.append_of_mem hg
  have hwf0 : wfFrom c.numWires ((glv c).map Prod.fst) c.inputDefined = true := by
    rw [glv_map_fst]; exact hssa.1
  rw [hl0] at hwf0
  have hhg : h ∈ c.gates := glv_mem_gate c (h, i) hh
  rcases wf_pre Prod.fst c.numWires p0 (g, i) q0 _ hwf0 w hw with hd | ⟨h', hh', hout⟩
  · rw [← heq, hssa.2.2 h hhg] at hd
    exact Bool.false_ne_true hd
  · have hmem : h' ∈ glv c := by rw [hl0]; exact List.mem_append_left _ hh'
    have hq : h' = (h, i) :=
      eq_of_nodup_map (fun a => a.1.out) (glv c) (glv_nodup_out c hssa) h' hmem (h, i) hh
        (by simp only [hout, heq])
    subst hq
    have := c.assignLevels_mono true hssa p0 (g, i) q0 hl0 (h, i) hh' (by simp only [heq]; exact hw)
    simp only [bump, hop, beq_self_eq_true, if_true] at this
    omega

theorem blocks_indep (c : Circuit) (hssa : SSA c.numWires c.gates c.inputDefined) :
    ∀ b ∈ blocks c, ∀ g ∈ b.2, ∀ h ∈ b.2, h.out ≠ g.in0 ∧ h.out ≠ g.in1 := by
  intro b hb g hg h hh
  obtain ⟨i, rfl⟩ := exists_of_mem_blocks c b hb
  obtain ⟨hgm, hgo⟩ := (mem_gatesAt _ _ _ _).mp hg
  obtain ⟨hhm, hho⟩ := (mem_gatesAt _ _ _ _).mp hh
  have hgo' : g.op = .and := by simpa using hgo
  have hho' : h.op = .and := by simpa using hho
  have hbin : g.op.binary = true := by rw [hgo']; rfl
  exact ⟨and_level_indep c hssa i g h hgm hhm hho' _ ((mem_ins _ _).mpr (Or.inl rfl)),
    and_level_indep c hssa i g h hgm hhm hho' _ ((mem_ins _ _).mpr (Or.inr ⟨hbin, rfl⟩))⟩

end Mpc.Gmw
