/-
What a table gate (OR, INV) transmits, in any label algebra and for any hash.
`garbleCore` fills a four-slot table indexed by select bits and sends every slot but slot 0.  When the
input pairs differ by an offset with the select bit set, the result has a form without indices, the
garbled table with row reduction: the pad of the two input labels with select bits `(0, 0)` IS the
output label of their values, and each row is the pad of another pair of input labels XOR the output
label of that pair's values.  The correctness and secrecy proofs see the table only through these forms.
The file opens with the XOR lemmas of the label algebra, on which every proof about labels rests.
-/
import MpcVerif.Model.Garble

namespace Mpc
open LabelAlg
variable {L : Type} [LabelAlg L]

namespace LabelAlg

theorem xor_assoc' (a b c : L) : (a ^^^ b) ^^^ c = a ^^^ (b ^^^ c) := LabelAlg.xor_assoc a b c
theorem xor_comm' (a b : L) : a ^^^ b = b ^^^ a := LabelAlg.xor_comm a b
@[simp] theorem xor_self' (a : L) : a ^^^ a = (LabelAlg.zero : L) := LabelAlg.xor_self a
@[simp] theorem xor_zero' (a : L) : a ^^^ (LabelAlg.zero : L) = a := LabelAlg.xor_zero a
@[simp] theorem zero_xor' (a : L) : (LabelAlg.zero : L) ^^^ a = a := by
  rw [xor_comm', xor_zero']
theorem sbit_xor' (a b : L) : sbit (a ^^^ b) = (sbit a != sbit b) := LabelAlg.sbit_xor a b
@[simp] theorem xor_xor_cancel_left (a b : L) : a ^^^ (a ^^^ b) = b := by
  rw [← xor_assoc', xor_self', zero_xor']
@[simp] theorem xor_xor_cancel_right (a b : L) : (b ^^^ a) ^^^ a = b := by
  rw [xor_assoc', xor_self', xor_zero']
theorem xor_left_comm' (a b c : L) : a ^^^ (b ^^^ c) = b ^^^ (a ^^^ c) := by
  rw [← xor_assoc', xor_comm' a b, xor_assoc']
@[simp] theorem xor_cancel_mid (p c : L) : p ^^^ c ^^^ p = c := by
  rw [xor_comm' p c, xor_xor_cancel_right]

theorem eq_of_xor_eq_zero (a b : L) (h : a ^^^ b = (LabelAlg.zero : L)) : a = b := by
  have : (a ^^^ b) ^^^ b = (LabelAlg.zero : L) ^^^ b := by rw [h]
  simpa using this

theorem ne_zero_of_sbit (r : L) (hr : sbit r = true) : r ≠ (LabelAlg.zero : L) := by
  intro h
  have h2 := sbit_xor' r r
  rw [xor_self', ← h, hr] at h2
  simp at h2

theorem ne_xor_of_sbit (a r : L) (hr : sbit r = true) : a ≠ a ^^^ r := fun h =>
  ne_zero_of_sbit r hr (by rw [← xor_xor_cancel_left a r, ← h, xor_self'])

end LabelAlg

theorem garbleCore_xor (H : Hash L) (r : L) (a b : WireL L) (id : Nat) :
    garbleCore H r .xor a b id = (⟨a.l0 ^^^ b.l0, a.l0 ^^^ b.l0 ^^^ r⟩, []) := rfl

theorem garbleCore_xnor (H : Hash L) (r : L) (a b : WireL L) (id : Nat) :
    garbleCore H r .xnor a b id = (⟨a.l0 ^^^ b.l0 ^^^ r, a.l0 ^^^ b.l0⟩, []) := rfl

theorem garbleCore_and_rows (H : Hash L) (r : L) (a b : WireL L) (id : Nat) :
    (garbleCore H r .and a b id).2 =
      [if sbit b.l0 then H.h1 a.l0 id ^^^ H.h1 a.l1 id ^^^ r else H.h1 a.l0 id ^^^ H.h1 a.l1 id,
        H.h1 b.l0 (id + 1) ^^^ H.h1 b.l1 (id + 1) ^^^ a.l0] := rfl

theorem garbleCore_pair (H : Hash L) (r : L) (op : Op) (a b : WireL L) (id : Nat) :
    (garbleCore H r op a b id).1.l1 = (garbleCore H r op a b id).1.l0 ^^^ r := by
  cases op
  case xor | and => rfl
  case xnor => exact (xor_xor_cancel_right _ _).symm
  case or | inv => simp only [garbleCore]; split <;> simp

theorem WireL.sbit_labelFor {w : WireL L} {r : L} (hr : sbit r = true) (h : w.l1 = w.l0 ^^^ r) (u : Bool) :
    sbit (w.labelFor u) = (sbit w.l0 != u) := by
  cases u
  · exact (Bool.bne_false _).symm
  · show sbit w.l1 = _
    rw [h, sbit_xor', hr]

/-- With `sa`, `sb` the select bits of the two zero-labels, the labels of the values
`(sa, sb)` have select bits `(0, 0)`: theirs is slot 0, the one that is not sent. -/
theorem garbleCore_or_form (H : Hash L) (r : L) (hr : sbit r = true) (a b : WireL L) (id : Nat)
    (ha : a.l1 = a.l0 ^^^ r) (hb : b.l1 = b.l0 ^^^ r) :
    let c := garbleCore H r .or a b id
    let P := fun u w => H.h2 (a.labelFor u) (b.labelFor w) id
    let sa := sbit a.l0
    let sb := sbit b.l0
    c.1.labelFor (sa || sb) = P sa sb ∧
    c.2 = [P sa (!sb) ^^^ c.1.labelFor (sa || !sb), P (!sa) sb ^^^ c.1.labelFor (!sa || sb),
      P (!sa) (!sb) ^^^ c.1.labelFor (!sa || !sb)] := by
  have hsa1 : sbit a.l1 = !sbit a.l0 := (WireL.sbit_labelFor hr ha true).trans (Bool.bne_true _)
  have hsb1 : sbit b.l1 = !sbit b.l0 := (WireL.sbit_labelFor hr hb true).trans (Bool.bne_true _)
  cases hsa : sbit a.l0 <;> cases hsb : sbit b.l0 <;>
    simp [garbleCore, idx, Tab.set, WireL.labelFor, hsa, hsa1, hsb, hsb1]

theorem garbleCore_inv_form (H : Hash L) (r : L) (hr : sbit r = true) (a b : WireL L) (id : Nat)
    (ha : a.l1 = a.l0 ^^^ r) :
    let c := garbleCore H r .inv a b id
    let P := fun u => H.h2 (a.labelFor u) LabelAlg.zero id
    let sa := sbit a.l0
    c.1.labelFor (!sa) = P sa ∧ c.2 = [P (!sa) ^^^ c.1.labelFor sa] := by
  have hsa1 : sbit a.l1 = !sbit a.l0 := (WireL.sbit_labelFor hr ha true).trans (Bool.bne_true _)
  cases hsa : sbit a.l0 <;>
    simp [garbleCore, idxUnary, Tab.set, WireL.labelFor, hsa, hsa1]

theorem garbleCore_or_eval (H : Hash L) (r : L) (hr : sbit r = true) (a b : WireL L)
    (va vb : Bool) (id : Nat) (ha : a.l1 = a.l0 ^^^ r) (hb : b.l1 = b.l0 ^^^ r) :
    evalCore H .or (garbleCore H r .or a b id).2 (a.labelFor va) (b.labelFor vb) id =
      .ok ((garbleCore H r .or a b id).1.labelFor (va || vb)) := by
  obtain ⟨hanchor, hrows⟩ := garbleCore_or_form H r hr a b id ha hb
  rw [hrows]
  -- `x`, `y`: the select bits the evaluator sees; it reads slot `2x + y`, whose pad cancels against its own
  obtain ⟨x, rfl⟩ : ∃ x, va = (sbit a.l0 != x) := ⟨sbit a.l0 != va, by cases va <;> cases sbit a.l0 <;> rfl⟩
  obtain ⟨y, rfl⟩ : ∃ y, vb = (sbit b.l0 != y) := ⟨sbit b.l0 != vb, by cases vb <;> cases sbit b.l0 <;> rfl⟩
  cases x <;> cases y <;>
    simp [evalCore, idx, WireL.sbit_labelFor hr ha, WireL.sbit_labelFor hr hb, ← hanchor]

theorem garbleCore_inv_eval (H : Hash L) (r : L) (hr : sbit r = true) (a b : WireL L) (eb : L)
    (va : Bool) (id : Nat) (ha : a.l1 = a.l0 ^^^ r) :
    evalCore H .inv (garbleCore H r .inv a b id).2 (a.labelFor va) eb id =
      .ok ((garbleCore H r .inv a b id).1.labelFor (!va)) := by
  obtain ⟨hanchor, hrows⟩ := garbleCore_inv_form H r hr a b id ha
  rw [hrows]
  obtain ⟨x, rfl⟩ : ∃ x, va = (sbit a.l0 != x) := ⟨sbit a.l0 != va, by cases va <;> cases sbit a.l0 <;> rfl⟩
  cases x <;> simp [evalCore, idxUnary, WireL.sbit_labelFor hr ha, ← hanchor]

end Mpc
