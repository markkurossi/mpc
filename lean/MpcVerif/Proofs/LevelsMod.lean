/-
C10: levels as a topological schedule (`TopoLevels`, `levels_topological`), and where a fixed-width level counter
stops giving one (`Model/LevelsMod.lean`): while the AND depth fits `k` bits the wrapping loop computes the `Nat`
levels (`assignLevelsModGo_eq`); a chain of `2^k + 1` dependent AND gates has no topological table of levels below
`2^k` (`chain_bounded_not_topo`).  The level oracle `topoGo` decides the walk `LevelWalk` of Proofs/Levels
(`topoGo_iff_walk`), so it accepts the levels of `AssignLevels(TargetGMW)` and only topological tables.
-/
import MpcVerif.Proofs.GmwSchedule
import MpcVerif.Proofs.LevelsWrap
import MpcVerif.Model.LevelsMod

namespace Mpc
open Mpc.Gmw

/-- Under the level table `gl`, `Network.run` evaluates every gate after the producers of its inputs: an AND
producer has a strictly smaller level, so it is in an earlier batch; a non-AND producer has at most the level of the
gate and, on the same level, is among the `rest` gates, earlier in circuit order. -/
def TopoLevels (gl : List (Gate × Nat)) : Prop :=
  ∀ pre a post, gl = pre ++ a :: post → ∀ h ∈ pre, h.1.out ∈ a.1.ins → h.2 + andBump h.1 ≤ a.2

theorem bump_true (g : Gate) : bump true g = andBump g := rfl

theorem levels_topological (c : Circuit) (hssa : SSA c.numWires c.gates c.inputDefined) : TopoLevels (glv c) :=
  c.assignLevels_mono true hssa

theorem topoGo_cons (a : Gate × Nat) (rest : List (Gate × Nat)) (nd : Array Nat) :
    topoGo (a :: rest) nd =
      (a.1.ins.all (fun w => decide (nd.getD w 0 ≤ a.2)) &&
        topoGo rest (nd.setIfInBounds a.1.out (a.2 + andBump a.1))) := rfl

theorem topoGo_iff_walk : ∀ (gl : List (Gate × Nat)) (nd : Array Nat), topoGo gl nd = true ↔ LevelWalk andBump gl nd
  | [], _ => ⟨fun _ => trivial, fun _ => rfl⟩
  | a :: rest, nd => by
    rw [topoGo_cons, Bool.and_eq_true, topoGo_iff_walk rest, List.all_eq_true]
    simp only [decide_eq_true_eq]
    rfl

theorem topoGo_sound (gl : List (Gate × Nat)) (nd : Array Nat) (hnd : (gl.map (·.1.out)).Nodup)
    (hsz : ∀ a ∈ gl, a.1.out < nd.size) (h : topoGo gl nd = true) : TopoLevels gl :=
  ((topoGo_iff_walk gl nd).mp h).mono hnd hsz

theorem topoCheck_sound (n : Nat) (gl : List (Gate × Nat)) (hnd : (gl.map (·.1.out)).Nodup)
    (hsz : ∀ a ∈ gl, a.1.out < n) (h : topoCheck n gl = true) : TopoLevels gl :=
  topoGo_sound gl _ hnd (fun a ha => by rw [Array.size_replicate]; exact hsz a ha) h

theorem topoGo_assignLevelsGo (gs : List Gate) (lv : Array Nat) (mx : Nat) :
    topoGo (gs.zip (assignLevelsGo true gs lv mx).1) lv = true :=
  (topoGo_iff_walk _ _).mpr (assignLevelsGo_walk true gs lv mx)

theorem assignLevelsModGo_cons (k : Nat) (g : Gate) (gs : List Gate) (lv : Array Nat) (mx : Nat) :
    assignLevelsModGo k (g :: gs) lv mx =
      let level := if g.op.binary then max (lv.getD g.in0 0) (lv.getD g.in1 0) else lv.getD g.in0 0
      let r := assignLevelsModGo k gs (lv.setIfInBounds g.out ((level + andBump g) % 2 ^ k))
        (max mx ((level + andBump g) % 2 ^ k))
      (level :: r.1, r.2) := rfl

theorem assignLevelsModGo_length (k : Nat) : ∀ (gs : List Gate) (lv : Array Nat) (mx : Nat),
    (assignLevelsModGo k gs lv mx).1.length = gs.length := by
  intro gs
  induction gs with
  | nil => intro lv mx; rfl
  | cons g gs ih => intro lv mx; rw [assignLevelsModGo_cons]; simp [ih]

theorem assignLevelsModGo_lt (k : Nat) : ∀ (gs : List Gate) (lv : Array Nat) (mx : Nat),
    (∀ i, lv.getD i 0 < 2 ^ k) → ∀ l ∈ (assignLevelsModGo k gs lv mx).1, l < 2 ^ k := by
  intro gs
  induction gs with
  | nil => intro lv mx _ l hl; simp [assignLevelsModGo] at hl
  | cons g gs ih =>
    intro lv mx hlv l hl
    rw [assignLevelsModGo_cons] at hl
    simp only [List.mem_cons] at hl
    rcases hl with rfl | hl
    · have h0 := hlv g.in0
      have h1 := hlv g.in1
      split <;> omega
    · refine ih _ _ (fun i => ?_) l hl
      rw [getD_set]
      by_cases h : g.out = i ∧ g.out < lv.size
      · rw [if_pos h]; exact Nat.mod_lt _ (Nat.two_pow_pos k)
      · rw [if_neg h]; exact hlv i

theorem assignLevelsMod_lt (c : Circuit) (k : Nat) : ∀ l ∈ (c.assignLevelsMod k).1, l < 2 ^ k := by
  refine assignLevelsModGo_lt k c.gates _ 0 (fun i => ?_)
  have : (Array.replicate c.numWires 0).getD i 0 = 0 := by simp [Array.getD]
  rw [this]; exact Nat.two_pow_pos k

theorem assignLevelsModGo_eq (k : Nat) : ∀ (gs : List Gate) (lv : Array Nat) (mx : Nat),
    (assignLevelsGo true gs lv mx).2 < 2 ^ k →
    assignLevelsModGo k gs lv mx = assignLevelsGo true gs lv mx := by
  intro gs
  induction gs with
  | nil => intro lv mx _; rfl
  | cons g gs ih =>
    intro lv mx h
    rw [assignLevelsGo_cons] at h ⊢
    rw [assignLevelsModGo_cons]
    simp only [bump_true] at h ⊢
    generalize (if g.op.binary then max (lv.getD g.in0 0) (lv.getD g.in1 0) else lv.getD g.in0 0) = level at h ⊢
    -- the new level is at most the final maximum, hence below `2^k`
    have hlt : level + andBump g < 2 ^ k :=
      Nat.lt_of_le_of_lt (Nat.le_trans (Nat.le_max_right mx _) (assignLevelsGo_max_ge true gs _ _)) h
    simp only [Nat.mod_eq_of_lt hlt]
    rw [ih _ _ h]

theorem chainGates_length (d : Nat) : (chainGates d).length = d := by simp [chainGates]

theorem chain_zip (d : Nat) (lv : List Nat) (hl : lv.length = d) :
    (chainGates d).zip lv = (List.range d).map fun j => (chainGate j, lv.getD j 0) :=
  zip_range_map chainGate d lv hl

theorem chain_levels_ge (f : Nat → Nat) : ∀ d, TopoLevels ((List.range d).map fun j => (chainGate j, f j)) →
    ∀ j, j < d → f 0 + j ≤ f j := by
  intro d
  induction d with
  | zero => intro _ j hj; omega
  | succ d ih =>
    intro ht j hj
    rw [List.range_succ, List.map_append] at ht
    -- a prefix of a topological table is one; the last gate reads the output of the gate before it
    have hpre := ih fun pre a post hl => ht pre a (post ++ [(chainGate d, f d)]) (by rw [hl]; simp)
    by_cases hjd : j < d
    · exact hpre j hjd
    · obtain rfl : j = d := by omega
      cases j with
      | zero => omega
      | succ j =>
        have h1 : f j + 1 ≤ f (j + 1) := ht _ (chainGate (j + 1), f (j + 1)) [] rfl (chainGate j, f j)
          (List.mem_map_of_mem (List.mem_range.mpr (Nat.lt_succ_self j))) (by simp [chainGate, Gate.ins, Op.binary])
        have := hpre j (Nat.lt_succ_self j)
        omega

theorem chain_bounded_not_topo (k : Nat) (lv : List Nat) (hl : lv.length = 2 ^ k + 1)
    (hb : ∀ l ∈ lv, l < 2 ^ k) : ¬ TopoLevels ((chainGates (2 ^ k + 1)).zip lv) := by
  intro ht
  rw [chain_zip _ lv hl] at ht
  have h := chain_levels_ge _ _ ht (2 ^ k) (by omega)
  have hlt : 2 ^ k < lv.length := by omega
  have hmem : lv.getD (2 ^ k) 0 ∈ lv := getD_mem _ _ _ hlt
  have := hb _ hmem
  omega

theorem chain_out_nodup (d : Nat) : ((chain d).gates.map (·.out)).Nodup := by
  simp only [chain, chainGates, List.map_map]
  exact nodup_range_map _ (fun _ _ e => Nat.add_right_cancel e) d

theorem chain_out_lt (d : Nat) : ∀ g ∈ (chain d).gates, g.out < (chain d).numWires := by
  intro g hg
  simp only [chain, chainGates, List.mem_map, List.mem_range] at hg
  obtain ⟨j, hj, rfl⟩ := hg
  simp [chain, chainGate]; omega

theorem initStoreFast_eq {α : Type} (n : Nat) (d : α) (l : List α) : initStoreFast n d l = initStore n d l :=
  initStoreArr_eq n d l

theorem computeFast_eq (c : Circuit) (x : List Bool) : c.computeFast x = c.compute x := by
  simp [Circuit.computeFast, Circuit.compute, Circuit.plainEval, initStoreFast_eq]

theorem schedule_eq_scheduleWith (c : Circuit) : schedule c = scheduleWith c (c.assignLevels true) := by
  simp [schedule, scheduleWith, blocks, List.flatMap_map]

end Mpc
