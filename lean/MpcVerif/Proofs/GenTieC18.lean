/-
T1 tie (DESIGN.md 1.3) of `sha2pc.pointSign` (sha2pc/encoding.go: the stored parity bit of the
i-th compressed point) to `Mpc.Sha2pc.pointSign` of the C18 model Model/Sha2pc.lean: the definition
of MpcVerif/Gen/LeafC18.lean, regenerated from the current Go source by `gofacts translate -group
C18`, returns the model's bit for a non-negative index, `none` = Go's index-out-of-range panic
exactly when the model panics.
-/
import MpcVerif.Gen.LeafC18
import MpcVerif.Proofs.GenTieLib
import MpcVerif.Model.Sha2pc

namespace Mpc.GenTie
open Mpc Mpc.Gen Mpc.Gen.C18

def toU8s (a : Array (BitVec 8)) : List UInt8 := a.toList.map UInt8.ofBitVec

/-- Go outcome of the model (`pointSign` has no error result). -/
def resOpt {α : Type} : Sha2pc.Res α → Option α
  | .ok a => some a
  | _ => none

/-- The bit test of `pointSign` for a source that writes it `b>>n&1 == 1` or `b>>n&1 != 0` (as it stands, `b&(1<<n) != 0`:
`and_shl_one_ne_zero`). -/
theorem shr_and_one_eq_one8 (b : BitVec 8) (n : Nat) : ((b >>> n) &&& 1#8 == 1#8) = b.toNat.testBit n := by
  rw [and_one]; show _ = b.getLsbD n; cases b.getLsbD n <;> decide
theorem shr_and_one_ne_zero8 (b : BitVec 8) (n : Nat) : ((b >>> n) &&& 1#8 != 0#8) = b.toNat.testBit n := by
  rw [and_one]; show _ = b.getLsbD n; cases b.getLsbD n <;> decide

theorem tie_pointSign (signs : Array (BitVec 8)) (idx : BitVec 64) (hsz : signs.size < 2^63) (hi : idx.toNat < 2^63) :
    Gen.C18.pointSign signs idx = resOpt (Sha2pc.pointSign (toU8s signs) idx.toNat) := by
  have hw := sdiv_nonneg idx 8 hi (by omega)
  have ho := srem_nonneg idx 8 hi (by omega)
  simp only [Gen.C18.pointSign, Sha2pc.pointSign, ofNat_beq_zero signs.size (by omega), slt_zero, hw, ho]
  by_cases h0 : signs.size = 0
  · have : (toU8s signs).isEmpty = true := by simp [toU8s, Array.eq_empty_of_size_eq_zero h0]
    simp [h0, this, resOpt]
  · have hne : ¬ signs = #[] := by intro h; exact h0 (by simp [h])
    simp only [h0, decide_false, Bool.false_eq_true, if_false, show ¬ (2^63 ≤ idx.toNat / 8) by omega,
      Bool.false_or, Sha2pc.byteAt, toU8s]
    by_cases hb : signs.size ≤ idx.toNat / 8
    · simp [hb, hne, resOpt, bind, Sha2pc.Res.bind]
    · have hlt : idx.toNat / 8 < signs.size := by omega
      simp [hb, hlt, hne, resOpt, bind, Sha2pc.Res.bind, pure, and_shl_one_ne_zero _ _ (show idx.toNat % 8 < 8 by omega),
        shr_and_one_eq_one8, shr_and_one_ne_zero8, Array.getD]

example : Gen.C18.pointSign #[0x04#8] 2#64 = some true ∧ Gen.C18.pointSign #[0x04#8] 8#64 = none ∧
    Gen.C18.pointSign #[] 8#64 = some false := by decide

end Mpc.GenTie
