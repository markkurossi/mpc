/-
Lemmas about Model/ConnDuplex.lean behind C11: send-half events do not reach the receive side (`run_recvView`); the
round vocabulary in which `C11_conn_duplex_faults` is stated (`Round`, `RoundsOK`, `roundsEvs`, `lastTail`, `roundsVals`,
`roundsBytes`; `run_rounds`); each side of a `Sess` is a `Local.run` (`Reachable`, `sideStep_reachable`).  Core Lean only.
-/
import MpcVerif.Model.ConnDuplex
import MpcVerif.Proofs.ConnRecv

namespace Mpc.Conn
open ByteArray

theorem Local.run_nil (wc : Bool) (frag : Frag) (l : Local) : Local.run wc frag l [] = (l, []) := rfl

theorem Local.run_cons (wc : Bool) (frag : Frag) (l : Local) (e : Ev) (es : List Ev) :
    Local.run wc frag l (e :: es) =
      ((Local.run wc frag (l.step wc frag e).1 es).1, (l.step wc frag e).2 :: (Local.run wc frag (l.step wc frag e).1 es).2) := rfl

theorem Local.run_append (wc : Bool) (frag : Frag) (l : Local) (es fs : List Ev) :
    Local.run wc frag l (es ++ fs) =
      ((Local.run wc frag (Local.run wc frag l es).1 fs).1,
       (Local.run wc frag l es).2 ++ (Local.run wc frag (Local.run wc frag l es).1 fs).2) := by
  induction es generalizing l with
  | nil => simp [Local.run_nil]
  | cons e es ih => simp [Local.run_cons, ih]

theorem recvObs_append (a b : List Obs) : recvObs (a ++ b) = recvObs a ++ recvObs b := by
  induction a with
  | nil => rfl
  | cons o os ih => cases o <;> simp [recvObs, ih]

theorem recvObs_cons (o : Obs) (os : List Obs) : recvObs (o :: os) = recvObs [o] ++ recvObs os :=
  recvObs_append [o] os

theorem recvObs_got (vs : List Val) : recvObs (vs.map Obs.got) = vs.map Obs.got := by
  induction vs with
  | nil => rfl
  | cons v vs ih => simp [recvObs, ih]

theorem recvObs_skips (n : Nat) : recvObs (List.replicate n Obs.skip) = [] := by
  induction n with
  | zero => rfl
  | succ n ih => simp [List.replicate_succ, recvObs, ih]

theorem sendEffect_false_r (l : Local) (s : FSender) : (l.sendEffect false s).r = l.r := by
  simp [Local.sendEffect]

theorem sendEffect_snd (wc : Bool) (l : Local) (s : FSender) : (l.sendEffect wc s).snd = s := by
  unfold Local.sendEffect; split <;> rfl

theorem sendEffect_rcv (wc : Bool) (l : Local) (s : FSender) : (l.sendEffect wc s).r.rcv = l.r.rcv := by
  unfold Local.sendEffect; split <;> rfl

theorem sendEffect_dead (wc : Bool) (l : Local) (s : FSender) : (l.sendEffect wc s).r.dead = l.r.dead := by
  unfold Local.sendEffect; split <;> rfl

theorem sendEffect_inClosed (wc : Bool) (l : Local) (s : FSender) :
    (l.sendEffect wc s).r.inClosed = l.r.inClosed := by
  unfold Local.sendEffect; split <;> rfl

theorem sendEffect_epClosed (l : Local) (s : FSender) :
    (l.sendEffect true s).r.epClosed = (l.r.epClosed || (s.werr && !l.snd.werr)) := by
  unfold Local.sendEffect
  split
  · simp_all
  · cases h1 : s.werr <;> cases h2 : l.snd.werr <;> simp_all

theorem step_send (frag : Frag) (l : Local) (e : Ev) (he : e.isSend = true) :
    (l.step false frag e).1.r = l.r ∧ recvObs [(l.step false frag e).2] = [] := by
  cases e <;> simp [Ev.isSend] at he <;> simp [Local.step, sendEffect_false_r, recvObs]

theorem step_other (frag : Frag) (l l' : Local) (e : Ev) (he : e.isSend = false) (hc : e.isClose = false)
    (h : l.r = l'.r) :
    (l.step false frag e).1.r = (l'.step false frag e).1.r ∧ (l.step false frag e).2 = (l'.step false frag e).2 := by
  cases e <;> simp [Ev.isSend] at he <;> simp [Ev.isClose] at hc <;> simp [Local.step, h]

theorem run_recvView (frag : Frag) (evs : List Ev) (l l' : Local) (hnc : ∀ e ∈ evs, e.isClose = false)
    (h : l.r = l'.r) :
    (Local.run false frag l evs).1.r = (Local.run false frag l' (recvView evs)).1.r ∧
    recvObs (Local.run false frag l evs).2 = recvObs (Local.run false frag l' (recvView evs)).2 := by
  induction evs generalizing l l' with
  | nil => exact ⟨h, rfl⟩
  | cons e es ih =>
    have hnc' : ∀ e ∈ es, e.isClose = false := fun x hx => hnc x (List.mem_cons_of_mem _ hx)
    cases hs : e.isSend with
    | true =>
      obtain ⟨s1, s2⟩ := step_send frag l e hs
      simp only [recvView, hs, if_true, Local.run_cons]
      rw [recvObs_cons, s2]
      exact ih _ l' hnc' (s1.trans h)
    | false =>
      obtain ⟨s1, s2⟩ := step_other frag l l' e hs (hnc e List.mem_cons_self) h
      obtain ⟨i1, i2⟩ := ih _ _ hnc' s1
      simp only [recvView, hs, Bool.false_eq_true, if_false, Local.run_cons]
      rw [recvObs_cons, recvObs_cons (l'.step false frag e).2, s2, i2]
      exact ⟨i1, rfl⟩

theorem run_peerWrites (wc : Bool) (frag : Frag) (cs : List ByteArray) (l : Local) :
    Local.run wc frag l (cs.map Ev.peerWrite) =
      ({ l with r := { l.r with rcv := { l.r.rcv with pend := l.r.rcv.pend ++ joinB cs } } },
       List.replicate cs.length Obs.skip) := by
  induction cs generalizing l with
  | nil => simp [Local.run_nil, joinB]
  | cons c cs ih =>
    simp only [List.map_cons, Local.run_cons, Local.step, ih, RSide.peerWrite, joinB,
      ByteArray.append_assoc, List.length_cons, List.replicate_succ]

theorem run_recvs (wc : Bool) (frag : Frag) (vs : List Val) (hv : ∀ v ∈ vs, v.Valid) (l : Local)
    (hd : l.r.dead = false) (hc : l.r.epClosed = false) (hi : RInv l.r.rcv)
    (tail : ByteArray) (hu : l.r.rcv.unread = encodeVals vs ++ tail) :
    ∃ r', Local.run wc frag l (vs.map fun v => Ev.recv v.kind) =
        ({ l with r := { l.r with rcv := r' } }, vs.map Obs.got) ∧
      RInv r' ∧ r'.unread = tail ∧ Acct l.r.rcv r' := by
  induction vs generalizing l with
  | nil =>
    exact ⟨l.r.rcv, by simp [Local.run_nil], hi, by simpa [encodeVals] using hu, Acct.refl _⟩
  | cons v vs ih =>
    obtain ⟨r1, e1, i1, u1, a1⟩ := recvVal_spec frag v (hv v (by simp)) l.r.rcv hi (encodeVals vs ++ tail)
      (by rw [hu, encodeVals, ByteArray.append_assoc])
    have hstep : l.step wc frag (Ev.recv v.kind) = ({ l with r := { l.r with rcv := r1 } }, Obs.got v) := by
      have hp : r1.pend = l.r.rcv.pend := a1.pend_eq
      simp only [Local.step, RSide.recv, hd, hc, Bool.false_eq_true, if_false]
      rw [e1]
      simp only
      rw [← hp]
    obtain ⟨r2, e2, i2, u2, a2⟩ := ih (fun w hw => hv w (by simp [hw]))
      { l with r := { l.r with rcv := r1 } } hd hc i1 u1
    refine ⟨r2, ?_, i2, u2, a1.trans a2⟩
    simp only [List.map_cons, Local.run_cons, hstep, e2]

/-- One round: the transport accepts `chunks` from the peer, then the local side
receives `vals`; `tail` = bytes that have arrived but belong to later values. -/
structure Round where
  chunks : List ByteArray
  vals : List Val
  tail : ByteArray

def roundEvs (rd : Round) : List Ev :=
  rd.chunks.map Ev.peerWrite ++ rd.vals.map fun v => Ev.recv v.kind

def roundsEvs : List Round → List Ev
  | [] => []
  | rd :: rs => roundEvs rd ++ roundsEvs rs

/-- Every receive of a round happens when its value has arrived completely; `t` = what earlier rounds left over. -/
def RoundsOK : ByteArray → List Round → Prop
  | _, [] => True
  | t, rd :: rs => (∀ v ∈ rd.vals, v.Valid) ∧ t ++ joinB rd.chunks = encodeVals rd.vals ++ rd.tail ∧
      RoundsOK rd.tail rs

def lastTail : ByteArray → List Round → ByteArray
  | t, [] => t
  | _, rd :: rs => lastTail rd.tail rs

def roundsVals : List Round → List Val
  | [] => []
  | rd :: rs => rd.vals ++ roundsVals rs

def roundsBytes : List Round → ByteArray
  | [] => ByteArray.empty
  | rd :: rs => joinB rd.chunks ++ roundsBytes rs

theorem run_rounds (wc : Bool) (frag : Frag) (rs : List Round) (l : Local)
    (hd : l.r.dead = false) (hc : l.r.epClosed = false) (hi : RInv l.r.rcv)
    (hok : RoundsOK l.r.rcv.unread rs) :
    ∃ r', (Local.run wc frag l (roundsEvs rs)).1 = { l with r := { l.r with rcv := r' } } ∧
      recvObs (Local.run wc frag l (roundsEvs rs)).2 = (roundsVals rs).map Obs.got ∧
      RInv r' ∧ r'.unread = lastTail l.r.rcv.unread rs ∧
      r'.pend = l.r.rcv.pend ++ roundsBytes rs ∧
      r'.recvd + l.r.rcv.pos = l.r.rcv.recvd + r'.pos := by
  induction rs generalizing l with
  | nil =>
    exact ⟨l.r.rcv, by simp [roundsEvs, Local.run_nil], by simp [roundsEvs, Local.run_nil, roundsVals, recvObs],
      hi, rfl, by simp [roundsBytes], rfl⟩
  | cons rd rs ih =>
    obtain ⟨hv, heq, hrest⟩ := hok
    obtain ⟨ia, ua⟩ := append_pend_spec l.r.rcv (joinB rd.chunks) hi
    obtain ⟨r2, e2, i2, u2, a2⟩ := run_recvs wc frag rd.vals hv
      { l with r := { l.r with rcv := { l.r.rcv with pend := l.r.rcv.pend ++ joinB rd.chunks } } } hd hc
      ia rd.tail (ua.trans heq)
    obtain ⟨r3, e3, o3, i3, u3, p3, (c3 : r3.recvd + r2.pos = r2.recvd + r3.pos)⟩ :=
      ih { l with r := { l.r with rcv := r2 } } hd hc i2
      (show RoundsOK r2.unread rs from u2.symm ▸ hrest)
    have hrun : Local.run wc frag l (roundsEvs (rd :: rs)) =
        ((Local.run wc frag { l with r := { l.r with rcv := r2 } } (roundsEvs rs)).1,
         (List.replicate rd.chunks.length Obs.skip ++ rd.vals.map Obs.got) ++
           (Local.run wc frag { l with r := { l.r with rcv := r2 } } (roundsEvs rs)).2) := by
      simp only [roundsEvs, roundEvs, Local.run_append, run_peerWrites, e2]
    have h1 : r2.recvd + l.r.rcv.pos = l.r.rcv.recvd + r2.pos := a2.recvd_eq
    refine ⟨r3, by rw [hrun, e3], ?_, i3, ?_, ?_, by omega⟩
    · rw [hrun]
      simp only [recvObs_append, recvObs_skips, recvObs_got, o3, roundsVals, List.map_append, List.nil_append]
    · rw [u3, lastTail]
      exact congrArg (lastTail · rs) u2
    · rw [p3, roundsBytes, ← ByteArray.append_assoc]
      exact congrArg (· ++ roundsBytes rs) a2.pend_eq

theorem rounds_bytes (t : ByteArray) (rs : List Round) (hok : RoundsOK t rs) :
    t ++ roundsBytes rs = encodeVals (roundsVals rs) ++ lastTail t rs := by
  induction rs generalizing t with
  | nil => simp [roundsBytes, roundsVals, lastTail, encodeVals]
  | cons rd rs ih =>
    obtain ⟨_, heq, hrest⟩ := hok
    have := ih rd.tail hrest
    have henc : ∀ a b : List Val, encodeVals (a ++ b) = encodeVals a ++ encodeVals b := by
      intro a b
      induction a with
      | nil => simp [encodeVals]
      | cons x xs ihx => simp [encodeVals, ihx, ByteArray.append_assoc]
    simp only [roundsBytes, roundsVals, lastTail, henc]
    rw [← ByteArray.append_assoc, heq, ByteArray.append_assoc, this, ByteArray.append_assoc]

def Reachable (frag : Frag) (l : Local) (os : List Obs) : Prop :=
  ∃ ev, (l, os) = Local.run false frag Local.init ev

theorem Reachable.run {frag : Frag} {l : Local} {os : List Obs} (h : Reachable frag l os)
    (es : List Ev) :
    Reachable frag (Local.run false frag l es).1 (os ++ (Local.run false frag l es).2) := by
  obtain ⟨ev, h⟩ := h
  exact ⟨ev ++ es, by rw [Local.run_append, ← h]⟩

theorem deliver_reachable {frag : Frag} {y : Local} {oy : List Obs} (h : Reachable frag y oy)
    (g d : Nat) (chunks : List ByteArray) (ca : Bool) :
    Reachable frag (deliver frag y g d chunks ca).1 (oy ++ (deliver frag y g d chunks ca).2.2.2) := by
  by_cases hc : y.r.epClosed = true
  · simp only [deliver, hc, if_true]; exact h.run _
  · simp only [deliver, hc]; exact h.run _

theorem sideStep_reachable {fx fy : Frag} {x y : Local} {ox oy : List Obs} (hx : Reachable fx x ox)
    (hy : Reachable fy y oy) (g d : Nat) (act : Act) :
    Reachable fx (sideStep fx fy x y g d act).x (ox ++ (sideStep fx fy x y g d act).obsX) ∧
    Reachable fy (sideStep fx fy x y g d act).y (oy ++ (sideStep fx fy x y g d act).obsY) := by
  cases act with
  | recv k => exact ⟨hx.run _, by rw [sideStep, List.append_nil]; exact hy⟩
  | op o =>
    refine ⟨?_, deliver_reachable hy _ _ _ _⟩
    have := (hx.run [.op (linkFault x.r.epClosed y.r.epClosed g x.snd.wire.length) lazySched o]).run
      [.writer (linkFault x.r.epClosed y.r.epClosed g x.snd.wire.length)
        (Local.run false fx x [.op (linkFault x.r.epClosed y.r.epClosed g x.snd.wire.length) lazySched o]).1.snd.queue.length]
    rwa [List.append_assoc] at this
  | close => exact ⟨hx.run _, deliver_reachable hy _ _ _ _⟩

end Mpc.Conn
