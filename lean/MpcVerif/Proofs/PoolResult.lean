/-
Result histories (Model/PoolResult.lean): under `Impl.fresh`, the code as it is,
each call appends its value to the heap and returns the new address, so a whole
history has a closed form (`run_fresh`).
-/
import MpcVerif.Model.PoolResult

namespace Mpc.Pool.Res

variable (c : Circuit) (widths : List Nat)

theorem run_cons (impl : Impl) (st : St) (x : List Bool) (h : List (List Bool)) :
    run impl c widths st (x :: h) = run impl c widths (call impl c widths st x) h := rfl

theorem run_append (impl : Impl) (st : St) (h1 h2 : List (List Bool)) :
    run impl c widths st (h1 ++ h2) = run impl c widths (run impl c widths st h1) h2 := by
  simp [run, List.foldl_append]

theorem call_fresh_heap (st : St) (x : List Bool) :
    (call .fresh c widths st x).heap = st.heap ++ [computeVal c widths x] := rfl

theorem call_fresh_rets (st : St) (x : List Bool) :
    (call .fresh c widths st x).rets = st.rets ++ [st.heap.length] := rfl

theorem run_fresh (st : St) (h : List (List Bool)) :
    run .fresh c widths st h =
      { st with heap := st.heap ++ h.map (computeVal c widths),
                rets := st.rets ++ List.range' st.heap.length h.length } := by
  induction h generalizing st with
  | nil => simp [run]
  | cons x h ih => rw [run_cons, ih]; simp [call, List.range'_succ]

end Mpc.Pool.Res
