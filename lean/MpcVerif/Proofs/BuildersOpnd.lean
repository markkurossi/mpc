/-
Operand shapes (Model/BuildersOpnd.lean, C07): an operand bus handed to a builder is a concatenation of slices
of known buses and of the Compiler's constant wires.  `mkOperand_bits`: making such an operand only extends
the state (the constant wires may be created) and its wires carry `opndVal` of the known values; a repeated
wire carries its value at every occurrence.  A builder specification asks of an operand only that its wires exist
and speaks of the values they carry, so it applies unchanged: `SCall.shaped2_sound`, `SCall.shaped3_sound`.
-/
import MpcVerif.Model.BuildersOpnd
import MpcVerif.Proofs.BuildersHist

namespace Mpc.Bld
open Mpc

variable {s : St} {inp : List Bool} {acc : List (List Nat)} {v : List (List Bool)}

theorem mkPiece_bits (hwf : WF s inp) (hc : Cols s inp acc v) (p : Piece) :
    Spec inp s (mkPiece acc p) (fun w s' => Bits s' inp w (pieceVal v p)) := by
  cases p with
  | bus k lo len => exact Spec.pure hwf (hc.pick k lo len)
  | zeros n => exact zeros_bits hwf n
  | ones n =>
    simp only [mkPiece]
    split
    · next h => subst h; exact Spec.pure hwf .nil
    · exact (oneWire_spec hwf).map fun _ _ _ ho => .replicate ho n

theorem mkOperand_bits : ∀ (ps : List Piece) {s : St}, WF s inp → Cols s inp acc v →
    Spec inp s (mkOperand acc ps) (fun w s' => Bits s' inp w (opndVal v ps))
  | [], s, hwf, _ => Spec.pure hwf .nil
  | p :: ps, s, hwf, hc => by
    simp only [mkOperand, opndVal]
    refine Spec.bind (mkPiece_bits hwf hc p) ?_
    intro a s1 e1 ha
    refine Spec.bind (mkOperand_bits ps e1.wf (hc.mono e1)) ?_
    intro r s2 e2 hr
    exact Spec.pure e2.wf ((ha.mono e2).append hr)

theorem pieceVal_length (v : List (List Bool)) : ∀ (p : Piece), (pieceVal v p).length =
    match p with
    | .bus k lo len => min len ((v.getD k []).length - lo)
    | .zeros n => n
    | .ones n => n
  | .bus k lo len => by simp [pieceVal]
  | .zeros n => by simp [pieceVal]
  | .ones n => by simp [pieceVal]

def SCall.shaped2 (b : List Nat → List Nat → BM (List Nat)) (px py : List Piece)
    (pre : List Bool → List Bool → Prop) (post : List Bool → List Bool → List Bool → Prop) : SCall :=
  { call := shapedCall2 b px py
    pre := fun v => pre (opndVal v px) (opndVal v py)
    post := fun v z => post (opndVal v px) (opndVal v py) z }

theorem SCall.shaped2_sound {inp : List Bool} {b : List Nat → List Nat → BM (List Nat)} (px py : List Piece)
    {pre : List Bool → List Bool → Prop} {post : List Bool → List Bool → List Bool → Prop}
    (hb : Sound2 inp b pre post) : (SCall.shaped2 b px py pre post).Sound inp := by
  refine .of fun hwf hc hpre => ?_
  simp only [SCall.shaped2, shapedCall2] at hpre ⊢
  refine Spec.bind (mkOperand_bits px hwf hc) ?_
  intro x s1 e1 hx
  refine Spec.bind (mkOperand_bits py e1.wf (hc.mono e1)) ?_
  intro y s2 e2 hy
  exact hb.on e2.wf (hx.mono e2) hy hpre

def SCall.shaped3 (b : List Nat → List Nat → List Nat → BM (List Nat)) (px py pw : List Piece)
    (pre : List Bool → List Bool → List Bool → Prop)
    (post : List Bool → List Bool → List Bool → List Bool → Prop) : SCall :=
  { call := shapedCall3 b px py pw
    pre := fun v => pre (opndVal v px) (opndVal v py) (opndVal v pw)
    post := fun v z => post (opndVal v px) (opndVal v py) (opndVal v pw) z }

theorem SCall.shaped3_sound {inp : List Bool} {b : List Nat → List Nat → List Nat → BM (List Nat)}
    (px py pw : List Piece)
    {pre : List Bool → List Bool → List Bool → Prop}
    {post : List Bool → List Bool → List Bool → List Bool → Prop} (hb : Sound3 inp b pre post) :
    (SCall.shaped3 b px py pw pre post).Sound inp := by
  refine .of fun hwf hc hpre => ?_
  simp only [SCall.shaped3, shapedCall3] at hpre ⊢
  refine Spec.bind (mkOperand_bits px hwf hc) ?_
  intro x s1 e1 hx
  refine Spec.bind (mkOperand_bits py e1.wf (hc.mono e1)) ?_
  intro y s2 e2 hy
  refine Spec.bind (mkOperand_bits pw e2.wf ((hc.mono e1).mono e2)) ?_
  intro w s3 e3 hw
  exact hb.on e3.wf ((hx.mono e2).mono e3) (hy.mono e3) hw hpre

theorem opndVal_constPieces (v : List (List Bool)) : ∀ (n c : Nat), opndVal v (constPieces n c) = ofNat n c
  | 0, _ => rfl
  | n + 1, c => by
    simp only [constPieces, opndVal, ofNat]
    rw [opndVal_constPieces v n (c / 2)]
    by_cases h : c % 2 = 1 <;> simp [h, pieceVal]

theorem opndVal_zextPieces (v : List (List Bool)) (k len n : Nat) :
    opndVal v (zextPieces k len n) = ((v.getD k []).drop 0).take len ++ List.replicate (n - len) false := by
  simp only [zextPieces, opndVal, pieceVal, List.append_nil]

theorem toNat_opndVal_zext (v : List (List Bool)) (k len n : Nat) :
    toNat (opndVal v (zextPieces k len n)) = toNat (((v.getD k []).drop 0).take len) := by
  rw [opndVal_zextPieces, toNat_append_zeros]

def eqShaped (px py : List Piece) : SCall :=
  SCall.shaped2 eqComparator px py (fun xv yv => 0 < max xv.length yv.length)
    (fun xv yv z => z = [decide (toNat xv = toNat yv)])

theorem eqComparator_sound (inp : List Bool) :
    Sound2 inp eqComparator (fun xv yv => 0 < max xv.length yv.length)
      (fun xv yv z => z = [decide (toNat xv = toNat yv)]) :=
  .of_bits fun hwf hx hy hne => eqComparator_bits hwf hx hy hne

theorem eqShaped_sound (inp : List Bool) (px py : List Piece) : (eqShaped px py).Sound inp :=
  SCall.shaped2_sound px py (eqComparator_sound inp)

def neqShaped (px py : List Piece) : SCall :=
  SCall.shaped2 neqComparator px py (fun xv yv => 0 < max xv.length yv.length)
    (fun xv yv z => z = [decide (toNat xv ≠ toNat yv)])

theorem neqComparator_sound (inp : List Bool) :
    Sound2 inp neqComparator (fun xv yv => 0 < max xv.length yv.length)
      (fun xv yv z => z = [decide (toNat xv ≠ toNat yv)]) :=
  .of_bits fun hwf hx hy hne => neqComparator_bits hwf hx hy hne

theorem neqShaped_sound (inp : List Bool) (px py : List Piece) : (neqShaped px py).Sound inp :=
  SCall.shaped2_sound px py (neqComparator_sound inp)

def ucmpShaped (k : CmpKind) (px py : List Piece) : SCall :=
  SCall.shaped2 (comparator false k) px py (fun _ _ => True)
    (fun xv yv z => z = [k.relNat (toNat xv) (toNat yv)])

theorem ucomparator_sound (inp : List Bool) (k : CmpKind) :
    Sound2 inp (comparator false k) (fun _ _ => True) (fun xv yv z => z = [k.relNat (toNat xv) (toNat yv)]) :=
  .of_bits fun hwf hx hy _ => ucomparator_bits hwf k hx hy

theorem ucmpShaped_sound (inp : List Bool) (k : CmpKind) (px py : List Piece) : (ucmpShaped k px py).Sound inp :=
  SCall.shaped2_sound px py (ucomparator_sound inp k)

def adderShaped (nz : Nat) (px py : List Piece) : SCall :=
  SCall.shaped2 (fun a b => rippleAdder a b nz) px py (fun xv yv => 0 < max xv.length yv.length ∧ 0 < nz)
    (fun xv yv z => z.length = nz ∧ toNat z = (toNat xv + toNat yv) % 2 ^ nz)

theorem adderShaped_sound (inp : List Bool) (nz : Nat) (px py : List Piece) : (adderShaped nz px py).Sound inp :=
  SCall.shaped2_sound px py (rippleAdder_sound inp nz)

/-- `NewMUX` with the condition as a third, one-wire operand. -/
theorem mux_sound (inp : List Bool) :
    Sound3 inp (fun t f c => do let r ← newMUX (c.getD 0 0) t f (max t.length f.length); pure (r.getD []))
      (fun _ _ cv => cv.length = 1)
      (fun tv fv cv z => z = if cv.getD 0 false then padTo tv (max tv.length fv.length)
        else padTo fv (max tv.length fv.length)) := by
  intro s tw fw cw hwf ht hf hc hcl
  rw [busVal_length] at hcl
  refine (newMUX_bits hwf (.of ht) (.of hf) ((Bits.of hc).getD 0 (by omega))).map ?_
  rintro _ s' _ ⟨r, rfl, hr⟩
  exact ⟨hr.bnd, hr.val⟩

/-! The state of the non-vacuity examples of Props/C07.lean: two input wires (0, 1) and the constant-wire
prologue: wire 2 = INV(input 0), wire 3 = the zero wire, wire 4 = the one wire. -/

theorem exSt_wf : WF (initSt 2 true) [true, false] := (initSt_ext (inp := [true, false]) rfl (by decide) true).wf

theorem exSt_bnd (ws : List Nat) (h : ws.all (· < 5) = true) : Bnd (initSt 2 true) ws := by
  intro w hw
  have := List.all_eq_true.mp h w hw
  have hn : (initSt 2 true).next = 5 := by decide
  rw [hn]; simpa using this

end Mpc.Bld
