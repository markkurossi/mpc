/-
Message-level lemmas for the sha2pc codec model (Model/Sha2pc.lean).  Every message has a wire
image (`Round1.bytes`, ...): the encoder returns it (`encode*_eq`,
`encode*_ok`), it has the documented length (`*.bytes_length`), the decoder
maps it back (`decode*_bytes`) and accepts nothing else (`decode*_ok`); no
decoder crashes (`decode*_noPanic`); a decoder for a curve with another name
rejects it (`decode*_other_curve`).  Core Lean only.
-/
import MpcVerif.Proofs.Sha2pc

namespace Mpc.Sha2pc

/-- The four supported curves have names of 5 bytes and fields of 28/32/48/66 bytes.  Where the bounds come from:
`name_lt` makes the length prefix of the name one byte, as the documented sizes have it (`writeChunk_length_small`);
`bl_le` keeps the chunk of an evaluator session (258 field elements) within `chunkSizeLimit`, for which any bound up
to about 4000 would do; `name_pos` because `readChunk` refuses an empty chunk that ends its input
(`readChunk_eq_ok`). -/
structure Curve.WF (c : Curve) : Prop where
  name_pos : 0 < c.name.length
  name_lt : c.name.length < 128
  bl_pos : 0 < c.byteLen
  bl_le : c.byteLen ≤ 1000

/-- `v` fits the fixed field width (Go's `writeFixedBigInt` panics otherwise;
coordinates and scalars of the curve always fit). -/
def fits (c : Curve) (v : Nat) : Prop := v < 256 ^ c.byteLen

structure Round1.WF (c : Curve) (m : Round1) : Prop where
  sid : m.sid < 2 ^ 64
  name : m.curveName = c.name
  ax : fits c m.ax
  ay : fits c m.ay

structure Round2.WF (c : Curve) (m : Round2) : Prop where
  sid : m.sid < 2 ^ 64
  name : m.curveName = c.name
  count : m.choices.length = nBits
  xs : ∀ p ∈ m.choices, fits c p.x
  /-- true of every affine point of the curve -/
  onCurve : ∀ p ∈ m.choices, c.decompress p.x (yOdd p) = some p.y

structure Round3.WF (counts : List Nat) (m : Round3) : Prop where
  sid : m.sid < 2 ^ 64
  key : m.key.length = keyLen
  rows : m.tables.map List.length = counts
  inputs : m.inputs.length = nBits
  hints : m.hints.length = nBits
  cts : m.cts.length = nBits

structure GarblerSession.WF (c : Curve) (s : GarblerSession) : Prop where
  sid : s.sid < 2 ^ 64
  name : s.curveName = c.name
  scalar : fits c s.scalar
  ax : fits c s.ax
  ay : fits c s.ay
  ainvx : fits c s.ainvx
  ainvy : fits c s.ainvy

structure EvaluatorSession.WF (c : Curve) (s : EvaluatorSession) : Prop where
  sid : s.sid < 2 ^ 64
  name : s.curveName = c.name
  ax : fits c s.ax
  ay : fits c s.ay
  count : s.scalars.length = nBits
  scalars : ∀ v ∈ s.scalars, fits c v
  bits : s.bits.length = nBits

theorem Curve.WF.readChunk_name {c : Curve} (hc : c.WF) (rest : Bytes) :
    readChunk (writeChunk c.name ++ rest) = .ok (c.name, rest) :=
  readChunk_write _ _ (by have := hc.name_lt; unfold chunkSizeLimit; omega)
    (List.append_ne_nil_of_left_ne_nil (List.ne_nil_of_length_pos hc.name_pos) _)

def Round1.bytes (c : Curve) (m : Round1) : Bytes :=
  header magicR1 m.sid ++ (writeChunk c.name ++ (beBytes c.byteLen m.ax ++ beBytes c.byteLen m.ay))

theorem encodeRound1_eq (c : Curve) (m : Round1) (h : m.curveName = c.name) : encodeRound1 c m = .ok (m.bytes c) :=
  if_neg fun h' => h'.2 h

theorem encodeRound1_ok {c : Curve} {m : Round1} {enc : Bytes} (he : encodeRound1 c m = .ok enc) : enc = m.bytes c := by
  obtain ⟨_, he⟩ := Res.ite_error_eq_ok.mp he
  cases he
  rfl

theorem Round1.bytes_length (c : Curve) (hc : c.WF) (m : Round1) :
    (m.bytes c).length = 2 + 8 + 1 + c.name.length + 2 * c.byteLen := by
  simp only [Round1.bytes, List.length_append, header_length, magicR1_length, writeChunk_length_small _ hc.name_lt,
    beBytes_length]
  omega

theorem decodeRound1_bytes (c : Curve) (hc : c.WF) (m : Round1) (hm : m.WF c) : decodeRound1 c (m.bytes c) = .ok m := by
  simp only [decodeRound1, Round1.bytes, readHeader_header _ _ _ magicR1_length hm.sid, hc.readChunk_name,
    readFixed_append _ _ _ hm.ax, readFixed_beBytes _ _ hm.ay, Res.ok_bind, Res.pure_eq, ne_eq, not_true_eq_false,
    if_false]
  rw [← hm.name]

theorem decodeRound1_ok {c : Curve} {data : Bytes} {m : Round1} (h : decodeRound1 c data = .ok m) :
    data = m.bytes c ∧ m.WF c := by
  simp only [decodeRound1, Res.bind_eq_ok, Res.ite_error_eq_ok, Prod.exists, readHeader_eq_ok _ _ _ _ magicR1_length,
    readChunk_eq_ok, readFixed_eq_ok, Res.pure_eq, Res.ok.injEq, Decidable.not_not] at h
  obtain ⟨sid, r, ⟨rfl, hs⟩, name, r1, ⟨rfl, _⟩, rfl, x, r2, ⟨rfl, hx⟩, y, r3, ⟨rfl, hy⟩, rfl, rfl⟩ := h
  exact ⟨by rw [List.append_nil]; rfl, hs, rfl, hx, hy⟩

theorem decodeRound1_noPanic (c : Curve) (data : Bytes) : NoPanic (decodeRound1 c data) := by
  simp only [decodeRound1, NoPanic.bind_iff, NoPanic.ite_iff, readHeader_noPanic, readChunk_noPanic, readFixed_noPanic,
    NoPanic.error, NoPanic.pure, implies_true, and_self]

theorem decodeRound1_other_curve (c c' : Curve) (hc' : c'.WF) (hne : c'.name ≠ c.name) (m : Round1) (enc extra : Bytes)
    (hm : m.sid < 2 ^ 64) (he : encodeRound1 c' m = .ok enc) : decodeRound1 c (enc ++ extra) = .error := by
  cases encodeRound1_ok he
  simp only [decodeRound1, Round1.bytes, List.append_assoc, readHeader_header _ _ _ magicR1_length hm,
    hc'.readChunk_name, Res.ok_bind, ne_eq, hne, not_false_eq_true, if_true]

/-- `encodeCOSenderSetup`'s output, the chunk inside a stored garbler session. -/
def GarblerSession.inner (c : Curve) (s : GarblerSession) : Bytes :=
  writeChunk c.name ++ (beBytes c.byteLen s.scalar ++ (beBytes c.byteLen s.ax ++
    (beBytes c.byteLen s.ay ++ (beBytes c.byteLen s.ainvx ++ beBytes c.byteLen s.ainvy))))

def GarblerSession.bytes (c : Curve) (s : GarblerSession) : Bytes := header magicGS s.sid ++ writeChunk (s.inner c)

theorem encodeSenderSetup_eq (c : Curve) (s : GarblerSession) (h : s.curveName = c.name) :
    encodeSenderSetup c s = .ok (s.inner c) :=
  if_neg fun h' => h'.2 h

theorem encodeGarblerSession_eq (c : Curve) (s : GarblerSession) (h : s.curveName = c.name) :
    encodeGarblerSession c s = .ok (s.bytes c) := by
  rw [encodeGarblerSession, encodeSenderSetup_eq c s h]
  rfl

theorem encodeGarblerSession_ok {c : Curve} {s : GarblerSession} {enc : Bytes}
    (he : encodeGarblerSession c s = .ok enc) : enc = s.bytes c := by
  obtain ⟨inner, hi, he⟩ := Res.bind_eq_ok.mp he
  obtain ⟨_, hi⟩ := Res.ite_error_eq_ok.mp hi
  cases hi
  cases he
  rfl

theorem GarblerSession.inner_length (c : Curve) (hc : c.WF) (s : GarblerSession) :
    (s.inner c).length = 1 + c.name.length + 5 * c.byteLen := by
  simp only [GarblerSession.inner, List.length_append, writeChunk_length_small _ hc.name_lt, beBytes_length]
  omega

theorem GarblerSession.bytes_length (c : Curve) (hc : c.WF) (s : GarblerSession) :
    (s.bytes c).length =
      2 + 8 + (putUvarint (1 + c.name.length + 5 * c.byteLen)).length + (1 + c.name.length + 5 * c.byteLen) := by
  simp only [GarblerSession.bytes, writeChunk_length, List.length_append, header_length, magicGS_length,
    s.inner_length c hc]
  omega

theorem GarblerSession.readChunk_inner (c : Curve) (hc : c.WF) (s : GarblerSession) :
    readChunk (writeChunk (s.inner c)) = .ok (s.inner c, []) := by
  have := hc.name_lt
  have := hc.bl_le
  exact readChunk_all _ (by rw [s.inner_length c hc]; unfold chunkSizeLimit; omega) (by rw [s.inner_length c hc]; omega)

theorem decodeSenderSetup_inner (c : Curve) (hc : c.WF) (s : GarblerSession) (hs : s.WF c) :
    decodeSenderSetup c s.sid (s.inner c) = .ok s := by
  simp only [decodeSenderSetup, GarblerSession.inner, hc.readChunk_name, readFixed_append _ _ _ hs.scalar,
    readFixed_append _ _ _ hs.ax, readFixed_append _ _ _ hs.ay, readFixed_append _ _ _ hs.ainvx,
    readFixed_beBytes _ _ hs.ainvy, Res.ok_bind, Res.pure_eq, ne_eq, not_true_eq_false, if_false]
  rw [← hs.name]

theorem decodeGarblerSession_bytes (c : Curve) (hc : c.WF) (s : GarblerSession) (hs : s.WF c) :
    decodeGarblerSession c (s.bytes c) = .ok s := by
  simp only [decodeGarblerSession, GarblerSession.bytes, readHeader_header _ _ _ magicGS_length hs.sid,
    s.readChunk_inner c hc, Res.ok_bind, ne_eq, not_true_eq_false, if_false]
  exact decodeSenderSetup_inner c hc s hs

theorem decodeSenderSetup_ok {c : Curve} {sid : Nat} {chunk : Bytes} {s : GarblerSession}
    (h : decodeSenderSetup c sid chunk = .ok s) (hsid : sid < 2 ^ 64) : chunk = s.inner c ∧ s.sid = sid ∧ s.WF c := by
  simp only [decodeSenderSetup, Res.bind_eq_ok, Res.ite_error_eq_ok, Prod.exists, readChunk_eq_ok, readFixed_eq_ok,
    Res.pure_eq, Res.ok.injEq, Decidable.not_not] at h
  obtain ⟨name, r1, ⟨rfl, _⟩, rfl, v1, r2, ⟨rfl, l1⟩, v2, r3, ⟨rfl, l2⟩, v3, r4, ⟨rfl, l3⟩, v4, r5, ⟨rfl, l4⟩,
    v5, r6, ⟨rfl, l5⟩, rfl, rfl⟩ := h
  exact ⟨by rw [List.append_nil]; rfl, rfl,
    { sid := hsid, name := rfl, scalar := l1, ax := l2, ay := l3, ainvx := l4, ainvy := l5 }⟩

theorem decodeGarblerSession_ok {c : Curve} {data : Bytes} {s : GarblerSession}
    (h : decodeGarblerSession c data = .ok s) : data = s.bytes c ∧ s.WF c := by
  simp only [decodeGarblerSession, Res.bind_eq_ok, Res.ite_error_eq_ok, Prod.exists,
    readHeader_eq_ok _ _ _ _ magicGS_length, readChunk_eq_ok, Decidable.not_not] at h
  obtain ⟨sid, r, ⟨rfl, hsid⟩, chunk, rest, ⟨rfl, _⟩, rfl, h⟩ := h
  obtain ⟨rfl, rfl, hwf⟩ := decodeSenderSetup_ok h hsid
  exact ⟨by rw [List.append_nil]; rfl, hwf⟩

theorem decodeSenderSetup_noPanic (c : Curve) (sid : Nat) (chunk : Bytes) : NoPanic (decodeSenderSetup c sid chunk) := by
  simp only [decodeSenderSetup, NoPanic.bind_iff, NoPanic.ite_iff, readChunk_noPanic, readFixed_noPanic,
    NoPanic.error, NoPanic.pure, implies_true, and_self]

theorem decodeGarblerSession_noPanic (c : Curve) (data : Bytes) : NoPanic (decodeGarblerSession c data) := by
  simp only [decodeGarblerSession, NoPanic.bind_iff, NoPanic.ite_iff, readHeader_noPanic, readChunk_noPanic,
    decodeSenderSetup_noPanic, NoPanic.error, implies_true, and_self]

theorem decodeGarblerSession_other_curve (c c' : Curve) (hc' : c'.WF) (hne : c'.name ≠ c.name) (s : GarblerSession)
    (enc : Bytes) (hs : s.sid < 2 ^ 64) (he : encodeGarblerSession c' s = .ok enc) :
    decodeGarblerSession c enc = .error := by
  cases encodeGarblerSession_ok he
  simp only [decodeGarblerSession, GarblerSession.bytes, readHeader_header _ _ _ magicGS_length hs,
    s.readChunk_inner c' hc', Res.ok_bind, ne_eq, not_true_eq_false, if_false]
  simp only [decodeSenderSetup, GarblerSession.inner, hc'.readChunk_name, Res.ok_bind, ne_eq, hne, not_false_eq_true,
    if_true]

/-- `encodeChoiceBundle`'s output, the chunk inside a stored evaluator session. -/
def EvaluatorSession.inner (c : Curve) (s : EvaluatorSession) : Bytes :=
  writeChunk c.name ++ (beBytes c.byteLen s.ax ++ (beBytes c.byteLen s.ay ++
    (s.scalars.flatMap (beBytes c.byteLen) ++ bitsToBytes s.bits)))

def EvaluatorSession.bytes (c : Curve) (s : EvaluatorSession) : Bytes :=
  header magicES s.sid ++ writeChunk (s.inner c)

theorem encodeChoiceBundle_eq (c : Curve) (s : EvaluatorSession) (hs : s.WF c) :
    encodeChoiceBundle c s = .ok (s.inner c) := by
  rw [encodeChoiceBundle, if_neg fun h' => h'.2 hs.name, if_neg (not_not_intro hs.count), if_neg (not_not_intro hs.bits)]
  rfl

theorem encodeEvaluatorSession_eq (c : Curve) (s : EvaluatorSession) (hs : s.WF c) :
    encodeEvaluatorSession c s = .ok (s.bytes c) := by
  rw [encodeEvaluatorSession, encodeChoiceBundle_eq c s hs]
  rfl

theorem encodeEvaluatorSession_ok {c : Curve} {s : EvaluatorSession} {enc : Bytes}
    (he : encodeEvaluatorSession c s = .ok enc) : enc = s.bytes c := by
  obtain ⟨inner, hi, he⟩ := Res.bind_eq_ok.mp he
  simp only [encodeChoiceBundle, Res.ite_error_eq_ok, Res.ok.injEq] at hi
  obtain ⟨_, _, _, rfl⟩ := hi
  cases he
  rfl

theorem EvaluatorSession.inner_length (c : Curve) (hc : c.WF) (s : EvaluatorSession)
    (hn : s.scalars.length = nBits) (hb : s.bits.length = nBits) :
    (s.inner c).length = 1 + c.name.length + 2 * c.byteLen + nBits * c.byteLen + signBytes := by
  simp only [EvaluatorSession.inner, List.length_append, writeChunk_length_small _ hc.name_lt, beBytes_length,
    flatMap_beBytes_length, bitsToBytes_length_nBits hb, hn, Nat.mul_comm c.byteLen]
  omega

theorem EvaluatorSession.bytes_length (c : Curve) (hc : c.WF) (s : EvaluatorSession)
    (hn : s.scalars.length = nBits) (hb : s.bits.length = nBits) :
    (s.bytes c).length =
      2 + 8 + (putUvarint (1 + c.name.length + 2 * c.byteLen + nBits * c.byteLen + signBytes)).length +
        (1 + c.name.length + 2 * c.byteLen + nBits * c.byteLen + signBytes) := by
  simp only [EvaluatorSession.bytes, writeChunk_length, List.length_append, header_length, magicES_length,
    s.inner_length c hc hn hb]
  omega

theorem EvaluatorSession.readChunk_inner (c : Curve) (hc : c.WF) (s : EvaluatorSession)
    (hn : s.scalars.length = nBits) (hb : s.bits.length = nBits) :
    readChunk (writeChunk (s.inner c)) = .ok (s.inner c, []) := by
  have := hc.name_lt
  have := hc.bl_le
  exact readChunk_all _ (by rw [s.inner_length c hc hn hb]; unfold chunkSizeLimit nBits signBytes; omega)
    (by rw [s.inner_length c hc hn hb]; omega)

theorem decodeChoiceBundle_inner (c : Curve) (hc : c.WF) (s : EvaluatorSession) (hs : s.WF c) :
    decodeChoiceBundle c s.sid (s.inner c) = .ok s := by
  have hN := readFixedN_append c.byteLen s.scalars (bitsToBytes s.bits) hs.scalars
  rw [hs.count] at hN
  have hrf : readFull signBytes (bitsToBytes s.bits) = .ok (bitsToBytes s.bits, []) :=
    (readFull_eq_ok ..).mpr ⟨(List.append_nil _).symm, bitsToBytes_length_nBits hs.bits⟩
  have hrt : bytesToBits (bitsToBytes s.bits) = s.bits := bytesToBits_bitsToBytes _ (by rw [hs.bits]; rfl)
  simp only [decodeChoiceBundle, EvaluatorSession.inner, hc.readChunk_name, readFixed_append _ _ _ hs.ax,
    readFixed_append _ _ _ hs.ay, hN, hrf, hrt, hs.bits, Nat.lt_irrefl, List.take_of_length_le (Nat.le_of_eq hs.bits),
    Res.ok_bind, Res.pure_eq, ne_eq, not_true_eq_false, if_false]
  rw [← hs.name]

theorem decodeEvaluatorSession_bytes (c : Curve) (hc : c.WF) (s : EvaluatorSession) (hs : s.WF c) :
    decodeEvaluatorSession c (s.bytes c) = .ok s := by
  simp only [decodeEvaluatorSession, EvaluatorSession.bytes, readHeader_header _ _ _ magicES_length hs.sid,
    s.readChunk_inner c hc hs.count hs.bits, Res.ok_bind, ne_eq, not_true_eq_false, if_false]
  exact decodeChoiceBundle_inner c hc s hs

theorem decodeChoiceBundle_ok {c : Curve} {sid : Nat} {chunk : Bytes} {s : EvaluatorSession}
    (h : decodeChoiceBundle c sid chunk = .ok s) (hsid : sid < 2 ^ 64) : chunk = s.inner c ∧ s.sid = sid ∧ s.WF c := by
  simp only [decodeChoiceBundle, Res.bind_eq_ok, Res.ite_error_eq_ok, Prod.exists, readChunk_eq_ok, readFixed_eq_ok,
    readFixedN_eq_ok, readFull_eq_ok, Res.pure_eq, Res.ok.injEq, Decidable.not_not] at h
  obtain ⟨name, r1, ⟨rfl, _⟩, rfl, v1, r2, ⟨rfl, l1⟩, v2, r3, ⟨rfl, l2⟩, scalars, r4, ⟨rfl, l3, l3'⟩,
    raw, r5, ⟨rfl, l4⟩, rfl, _, rfl⟩ := h
  have hbl : (bytesToBits raw).length = nBits := bytesToBits_length_signBytes l4
  rw [List.take_of_length_le (Nat.le_of_eq hbl)]
  exact ⟨by rw [EvaluatorSession.inner, bitsToBytes_bytesToBits, List.append_nil], rfl,
    { sid := hsid, name := rfl, ax := l1, ay := l2, count := l3, scalars := l3', bits := hbl }⟩

theorem decodeEvaluatorSession_ok {c : Curve} {data : Bytes} {s : EvaluatorSession}
    (h : decodeEvaluatorSession c data = .ok s) : data = s.bytes c ∧ s.WF c := by
  simp only [decodeEvaluatorSession, Res.bind_eq_ok, Res.ite_error_eq_ok, Prod.exists,
    readHeader_eq_ok _ _ _ _ magicES_length, readChunk_eq_ok, Decidable.not_not] at h
  obtain ⟨sid, r, ⟨rfl, hsid⟩, chunk, rest, ⟨rfl, _⟩, rfl, h⟩ := h
  obtain ⟨rfl, rfl, hwf⟩ := decodeChoiceBundle_ok h hsid
  exact ⟨by rw [List.append_nil]; rfl, hwf⟩

theorem decodeChoiceBundle_noPanic (c : Curve) (sid : Nat) (chunk : Bytes) : NoPanic (decodeChoiceBundle c sid chunk) := by
  simp only [decodeChoiceBundle, NoPanic.bind_iff, NoPanic.ite_iff, readChunk_noPanic, readFixed_noPanic,
    readFixedN_noPanic, readFull_noPanic, NoPanic.error, NoPanic.pure, implies_true, and_self]

theorem decodeEvaluatorSession_noPanic (c : Curve) (data : Bytes) : NoPanic (decodeEvaluatorSession c data) := by
  simp only [decodeEvaluatorSession, NoPanic.bind_iff, NoPanic.ite_iff, readHeader_noPanic, readChunk_noPanic,
    decodeChoiceBundle_noPanic, NoPanic.error, implies_true, and_self]

theorem decodeEvaluatorSession_other_curve (c c' : Curve) (hc' : c'.WF) (hne : c'.name ≠ c.name) (s : EvaluatorSession)
    (enc : Bytes) (hs : s.WF c') (he : encodeEvaluatorSession c' s = .ok enc) :
    decodeEvaluatorSession c enc = .error := by
  cases encodeEvaluatorSession_ok he
  simp only [decodeEvaluatorSession, EvaluatorSession.bytes, readHeader_header _ _ _ magicES_length hs.sid,
    s.readChunk_inner c' hc' hs.count hs.bits, Res.ok_bind, ne_eq, not_true_eq_false, if_false]
  simp only [decodeChoiceBundle, EvaluatorSession.inner, hc'.readChunk_name, Res.ok_bind, ne_eq, hne,
    not_false_eq_true, if_true]

theorem sliceFixedN_step {data : Bytes} {n : Nat} : ∀ {xs : List Nat} {off : Nat} {r : Bytes},
    data.drop off = xs.flatMap (beBytes n) ++ r → off ≤ data.length → (∀ x ∈ xs, x < 256 ^ n) →
    sliceFixedN data n xs.length off = .ok xs ∧ data.drop (off + xs.length * n) = r ∧
      off + xs.length * n ≤ data.length
  | [], off, r, h, hoff, _ => by
    rw [List.length_nil, Nat.zero_mul]
    exact ⟨rfl, h, hoff⟩
  | x :: xs, off, r, h, hoff, hx => by
    rw [List.flatMap_cons, List.append_assoc] at h
    obtain ⟨s, d, b⟩ := slice_step (hi := off + n) h hoff (by rw [beBytes_length])
    obtain ⟨s', d', b'⟩ := sliceFixedN_step d b fun y hy => hx y (List.mem_cons_of_mem _ hy)
    rw [List.length_cons, Nat.succ_mul, Nat.add_comm (xs.length * n) n, ← Nat.add_assoc]
    refine ⟨?_, d', b'⟩
    simp only [sliceFixedN, s, s', Res.ok_bind, Res.pure_eq, beNat_beBytes n x (hx x List.mem_cons_self)]

theorem sliceFixedN_ok {data : Bytes} {n : Nat} : ∀ {k off : Nat} {xs : List Nat}, sliceFixedN data n k off = .ok xs →
    data.drop off = xs.flatMap (beBytes n) ++ data.drop (off + k * n) ∧ xs.length = k ∧ ∀ x ∈ xs, x < 256 ^ n
  | 0, off, xs, h => by
    cases h
    rw [Nat.zero_mul]
    exact ⟨rfl, rfl, fun _ hx => nomatch hx⟩
  | k + 1, off, xs, h => by
    simp only [sliceFixedN, Res.bind_eq_ok, slice_eq_ok_iff_drop, Res.pure_eq, Res.ok.injEq] at h
    obtain ⟨b, ⟨d, l, _⟩, vs, h2, rfl⟩ := h
    obtain ⟨i1, rfl, i3⟩ := sliceFixedN_ok h2
    have lb : b.length = n := Nat.add_left_cancel l
    refine ⟨?_, rfl, List.forall_mem_cons.mpr ⟨lb ▸ beNat_lt b, i3⟩⟩
    rw [List.flatMap_cons, beBytes_beNat n b lb, List.append_assoc, d, i1, Nat.succ_mul, Nat.add_comm (vs.length * n) n,
      ← Nat.add_assoc]

theorem sliceFixedN_noPanic (data : Bytes) (n : Nat) : ∀ (k off : Nat), off + k * n ≤ data.length →
    NoPanic (sliceFixedN data n k off)
  | 0, _, _ => NoPanic.ok _
  | k + 1, off, h => by
    rw [Nat.succ_mul, Nat.add_comm (k * n), ← Nat.add_assoc] at h
    simp only [sliceFixedN, NoPanic.bind_iff, sliceFixedN_noPanic data n k _ h, NoPanic.pure, implies_true, and_self,
      slice_noPanic _ _ _ (Nat.le_add_right ..) (Nat.le_trans (Nat.le_add_right ..) h)]

theorem decompressAll_packed (c : Curve) (ps : List Point) :
    ∀ done : List Point, (∀ p ∈ ps, c.decompress p.x (yOdd p) = some p.y) →
      decompressAll c (bitsToBytes ((done ++ ps).map yOdd)) (ps.map (·.x)) done.length = .ok ps := by
  induction ps with
  | nil => intro done _; simp [decompressAll]
  | cons p ps ih =>
    intro done h
    simp only [List.map_cons, decompressAll]
    rw [pointSign_packed _ _ (by simp)]
    simp only [Res.ok_bind]
    have hbit : ((done ++ p :: ps).map yOdd).getD done.length false = yOdd p := by
      simp [List.getD_eq_getElem?_getD]
    rw [hbit, h p (by simp)]
    simp only
    have := ih (done ++ [p]) (fun q hq => h q (by simp [hq]))
    simp only [List.append_assoc, List.singleton_append, List.length_append, List.length_singleton] at this
    rw [this]
    simp

theorem decompressAll_noPanic (c : Curve) (signs : Bytes) : ∀ (xs : List Nat) (i : Nat),
    i + xs.length ≤ 8 * signs.length → NoPanic (decompressAll c signs xs i)
  | [], _, _ => NoPanic.ok _
  | x :: xs, i, h => by
    rw [List.length_cons] at h
    rw [decompressAll, pointSign_eq signs i (by omega), Res.ok_bind]
    cases c.decompress x (signBit signs i) with
    | none => exact NoPanic.error
    | some y =>
      simp only [NoPanic.bind_iff, decompressAll_noPanic c signs xs (i + 1) (by omega), NoPanic.pure, implies_true,
        and_self]

theorem encodePoints_eq (c : Curve) (ps : List Point) (h : ps.length = nBits) :
    encodePoints c ps = .ok ((ps.map (·.x)).flatMap (beBytes c.byteLen) ++ bitsToBytes (ps.map yOdd)) := by
  unfold encodePoints
  rw [if_neg (by simp [h])]
  simp [List.flatMap_map]

theorem decodePoints_encode (c : Curve) (ps : List Point) (hn : ps.length = nBits)
    (hx : ∀ p ∈ ps, fits c p.x) (hd : ∀ p ∈ ps, c.decompress p.x (yOdd p) = some p.y) :
    decodePoints c ((ps.map (·.x)).flatMap (beBytes c.byteLen) ++ bitsToBytes (ps.map yOdd)) = .ok ps := by
  have hl2 : (bitsToBytes (ps.map yOdd)).length = signBytes := bitsToBytes_length_nBits ((List.length_map ..).trans hn)
  generalize hD : (ps.map (·.x)).flatMap (beBytes c.byteLen) ++ bitsToBytes (ps.map yOdd) = data
  have hlen : data.length = nBits * c.byteLen + signBytes := by
    rw [← hD, List.length_append, flatMap_beBytes_length, List.length_map, hn, hl2, Nat.mul_comm]
  obtain ⟨s1, d1, b1⟩ := sliceFixedN_step (off := 0) hD.symm (Nat.zero_le _) (List.forall_mem_map.mpr hx)
  rw [List.length_map, hn] at s1 d1 b1
  rw [Nat.zero_add] at d1 b1
  obtain ⟨s2, _, _⟩ := slice_step (r := []) (hi := nBits * c.byteLen + signBytes) (by rw [d1, List.append_nil]) b1
    (by rw [hl2])
  simp only [decodePoints, hlen, s1, s2, Res.ok_bind, ne_eq, not_true_eq_false, if_false]
  exact decompressAll_packed c ps [] hd

theorem decodePoints_noPanic (c : Curve) (data : Bytes) : NoPanic (decodePoints c data) := by
  simp only [decodePoints, NoPanic.ite_iff, NoPanic.bind_iff, NoPanic.error, Decidable.not_not, implies_true, true_and]
  intro hlen
  refine ⟨sliceFixedN_noPanic data c.byteLen nBits 0 (by omega), fun xs h1 =>
    ⟨slice_noPanic _ _ _ (by omega) (Nat.le_refl _), fun signs h2 => decompressAll_noPanic c signs xs 0 ?_⟩⟩
  rw [(sliceFixedN_ok h1).2.1, slice_length _ _ _ _ h2, hlen, Nat.add_sub_cancel_left]
  decide

/-- Assumed of `elliptic.UnmarshalCompressed`, which selects the root by its low bit.  Canonicity of round 2 needs
it (`decodeRound2_ok`): the signs the decoder read are then the parities of the points it returns. -/
def Curve.ParitySound (c : Curve) : Prop := ∀ x odd y, c.decompress x odd = some y → y.testBit 0 = odd

theorem decompressAll_ok (c : Curve) (hp : c.ParitySound) (signs : Bytes) : ∀ (xs : List Nat) (i : Nat) (ps : List Point),
    decompressAll c signs xs i = .ok ps → i + xs.length ≤ 8 * signs.length →
    ps.map (·.x) = xs ∧ ps.map yOdd = (List.range' i xs.length).map (signBit signs) ∧
      ∀ p ∈ ps, c.decompress p.x (yOdd p) = some p.y
  | [], i, ps, h, _ => by
    cases h
    exact ⟨rfl, rfl, fun _ hp => nomatch hp⟩
  | x :: xs, i, ps, h, hb => by
    rw [List.length_cons] at hb
    rw [decompressAll, pointSign_eq signs i (by omega), Res.ok_bind] at h
    cases hd : c.decompress x (signBit signs i) with
    | none => rw [hd] at h; cases h
    | some y =>
      rw [hd] at h
      obtain ⟨ps', h2, h⟩ := Res.bind_eq_ok.mp h
      cases h
      obtain ⟨i1, i2, i3⟩ := decompressAll_ok c hp signs xs (i + 1) ps' h2 (by omega)
      have hy : yOdd ⟨x, y⟩ = signBit signs i := hp _ _ _ hd
      refine ⟨by rw [List.map_cons, i1], by rw [List.map_cons, List.length_cons, List.range'_succ, List.map_cons, hy, i2],
        List.forall_mem_cons.mpr ⟨?_, i3⟩⟩
      rw [hy]
      exact hd

theorem decodePoints_ok (c : Curve) (hp : c.ParitySound) (data : Bytes) (ps : List Point)
    (h : decodePoints c data = .ok ps) :
    data = (ps.map (·.x)).flatMap (beBytes c.byteLen) ++ bitsToBytes (ps.map yOdd) ∧ ps.length = nBits ∧
      (∀ p ∈ ps, fits c p.x) ∧ ∀ p ∈ ps, c.decompress p.x (yOdd p) = some p.y := by
  simp only [decodePoints, Res.ite_error_eq_ok, Res.bind_eq_ok, slice_eq_ok_iff_drop, Decidable.not_not] at h
  obtain ⟨hlen, xs, h1, signs, ⟨d2, l2, _⟩, h3⟩ := h
  obtain ⟨d1, s2, s3⟩ := sliceFixedN_ok h1
  rw [Nat.zero_add, d2, List.drop_length, List.append_nil] at d1
  have ls : signs.length = signBytes := by omega
  obtain ⟨e1, e2, e3⟩ := decompressAll_ok c hp signs xs 0 ps h3 (by rw [s2, ls]; decide)
  have hr : List.range' 0 xs.length = List.range (8 * signs.length) := by rw [s2, ls, List.range_eq_range']; rfl
  rw [e2, hr, map_signBit_eq_bytesToBits, bitsToBytes_bytesToBits, e1]
  exact ⟨d1, by rw [← s2, ← e1, List.length_map], fun p hpm => s3 p.x (e1 ▸ List.mem_map_of_mem hpm), e3⟩

def Round2.bytes (c : Curve) (m : Round2) : Bytes :=
  header magicR2 m.sid ++ (writeChunk c.name ++
    ((m.choices.map (·.x)).flatMap (beBytes c.byteLen) ++ bitsToBytes (m.choices.map yOdd)))

theorem encodeRound2_eq (c : Curve) (m : Round2) (h : m.choices.length = nBits) :
    encodeRound2 c m = .ok (m.bytes c) := by
  rw [encodeRound2, encodePoints_eq c _ h]
  rfl

theorem encodeRound2_ok {c : Curve} {m : Round2} {enc : Bytes} (he : encodeRound2 c m = .ok enc) :
    enc = m.bytes c ∧ m.choices.length = nBits := by
  have hn : m.choices.length = nBits := Decidable.byContradiction fun hn => by
    rw [encodeRound2, encodePoints, if_pos hn] at he
    cases he
  rw [encodeRound2_eq c m hn] at he
  cases he
  exact ⟨rfl, hn⟩

theorem Round2.bytes_length (c : Curve) (hc : c.WF) (m : Round2) (hn : m.choices.length = nBits) :
    (m.bytes c).length = 2 + 8 + 1 + c.name.length + nBits * c.byteLen + signBytes := by
  simp only [Round2.bytes, List.length_append, header_length, magicR2_length, writeChunk_length_small _ hc.name_lt,
    flatMap_beBytes_length, bitsToBytes_length_nBits ((List.length_map ..).trans hn), List.length_map, hn, Nat.mul_comm c.byteLen]
  omega

theorem decodeRound2_bytes (c : Curve) (hc : c.WF) (m : Round2) (hm : m.WF c) : decodeRound2 c (m.bytes c) = .ok m := by
  simp only [decodeRound2, Round2.bytes, readHeader_header _ _ _ magicR2_length hm.sid, hc.readChunk_name,
    decodePoints_encode c _ hm.count hm.xs hm.onCurve, Res.ok_bind, Res.pure_eq, ne_eq, not_true_eq_false, if_false]
  rw [← hm.name]

theorem decodeRound2_ok {c : Curve} (hp : c.ParitySound) {data : Bytes} {m : Round2}
    (h : decodeRound2 c data = .ok m) : data = m.bytes c ∧ m.WF c := by
  simp only [decodeRound2, Res.bind_eq_ok, Res.ite_error_eq_ok, Prod.exists,
    readHeader_eq_ok _ _ _ _ magicR2_length, readChunk_eq_ok, Res.pure_eq, Res.ok.injEq, Decidable.not_not] at h
  obtain ⟨sid, r, ⟨rfl, hs⟩, name, rest, ⟨rfl, _⟩, rfl, ps, h3, rfl⟩ := h
  obtain ⟨rfl, p2, p3, p4⟩ := decodePoints_ok c hp rest ps h3
  exact ⟨rfl, { sid := hs, name := rfl, count := p2, xs := p3, onCurve := p4 }⟩

theorem decodeRound2_noPanic (c : Curve) (data : Bytes) : NoPanic (decodeRound2 c data) := by
  simp only [decodeRound2, NoPanic.bind_iff, NoPanic.ite_iff, readHeader_noPanic, readChunk_noPanic,
    decodePoints_noPanic, NoPanic.error, NoPanic.pure, implies_true, and_self]

theorem decodeRound2_other_curve (c c' : Curve) (hc' : c'.WF) (hne : c'.name ≠ c.name) (m : Round2) (enc : Bytes)
    (hs : m.sid < 2 ^ 64) (he : encodeRound2 c' m = .ok enc) : decodeRound2 c enc = .error := by
  cases (encodeRound2_ok he).1
  simp only [decodeRound2, Round2.bytes, readHeader_header _ _ _ magicR2_length hs, hc'.readChunk_name, Res.ok_bind,
    ne_eq, hne, not_false_eq_true, if_true]

def Round3.bytes (m : Round3) : Bytes :=
  header magicR3 m.sid ++ (m.key ++ (bytesOfLabels m.tables.flatten ++ (bytesOfLabels m.inputs ++
    (bytesOfLabels (unpairs m.hints) ++ bytesOfLabels (unpairs m.cts)))))

theorem Round3.bytes_length (counts : List Nat) (m : Round3) (hm : m.WF counts) :
    m.bytes.length = round3Len counts := by
  simp only [Round3.bytes, List.length_append, header_length, magicR3_length, bytesOfLabels_length,
    unpairs_length, hm.key, hm.inputs, hm.hints, hm.cts, List.length_flatten, hm.rows, round3Len, labelLen]
  omega

theorem encodeRound3_eq (counts : List Nat) (m : Round3) (hm : m.WF counts) :
    encodeRound3 counts m = .ok m.bytes := by
  have hl : m.tables.length = counts.length := by rw [← hm.rows, List.length_map]
  simp only [encodeRound3, hl, hm.rows, hm.inputs, hm.hints, hm.cts, ne_eq, not_true_eq_false, if_false]
  exact if_neg (not_not_intro (m.bytes_length counts hm))

theorem encodeRound3_ok {counts : List Nat} {m : Round3} {bs : Bytes} (he : encodeRound3 counts m = .ok bs) :
    bs = m.bytes ∧ bs.length = round3Len counts := by
  simp only [encodeRound3, Res.ite_error_eq_ok, Decidable.not_not, Res.ok.injEq] at he
  obtain ⟨_, _, _, _, _, hl, rfl⟩ := he
  exact ⟨rfl, hl⟩

/-- The cursor (`slice_step`) starts with the whole image left; each field's length moves it to the next offset of
`DecodeRound3`. -/
theorem decodeRound3_bytes (counts : List Nat) (m : Round3) (hm : m.WF counts) : decodeRound3 counts m.bytes = .ok m := by
  have hlen := m.bytes_length counts hm
  have hsum : m.tables.flatten.length = counts.sum := by rw [List.length_flatten, hm.rows]
  obtain ⟨s0, d0, b0⟩ := slice_step (b := m.bytes) (lo := 0) (hi := 2) (header_append ..) (Nat.zero_le _) rfl
  obtain ⟨s1, d1, b1⟩ := slice_step (hi := 10) d0 b0 (by rw [beBytes_length])
  obtain ⟨s2, d2, b2⟩ := slice_step (hi := 10 + keyLen) d1 b1 (by rw [hm.key])
  obtain ⟨s3, d3, b3⟩ := slice_step (hi := 10 + keyLen + labelLen * counts.sum) d2 b2
    (by rw [bytesOfLabels_length, hsum]; rfl)
  obtain ⟨s4, d4, b4⟩ := slice_step (hi := 10 + keyLen + labelLen * counts.sum + labelLen * nBits) d3 b3
    (by rw [bytesOfLabels_length, hm.inputs]; rfl)
  obtain ⟨s5, d5, b5⟩ := slice_step
    (hi := 10 + keyLen + labelLen * counts.sum + labelLen * nBits + 2 * labelLen * nBits) d4 b4
    (by rw [bytesOfLabels_length, unpairs_length, hm.hints]; rfl)
  obtain ⟨s6, _, _⟩ := slice_step (r := [])
    (hi := 10 + keyLen + labelLen * counts.sum + labelLen * nBits + 2 * labelLen * nBits + 2 * labelLen * nBits)
    (by rw [d5, List.append_nil]) b5 (by rw [bytesOfLabels_length, unpairs_length, hm.cts]; rfl)
  have hr := splitRows_flatten m.tables []
  rw [hm.rows, List.append_nil] at hr
  simp only [decodeRound3, hlen, s0, s1, s2, s3, s4, s5, s6, Res.ok_bind, Res.pure_eq, ne_eq, not_true_eq_false,
    if_false, beNat_beBytes 8 m.sid hm.sid, labelsOfBytes_bytesOfLabels, pairs_unpairs, hr]

/-- The round-3 format is canonical.  The seven slices are consecutive and end at the checked total length, so
(`slice_eq_ok_iff_drop`) they concatenate to the input; the label fields have the lengths that make
`labelsOfBytes`, `pairs` and `splitRows` invertible. -/
theorem decodeRound3_ok {counts : List Nat} {data : Bytes} {m : Round3} (h : decodeRound3 counts data = .ok m) :
    data = m.bytes ∧ m.WF counts := by
  simp only [decodeRound3, Res.ite_error_eq_ok, Res.bind_eq_ok, slice_eq_ok_iff_drop, Res.pure_eq, Res.ok.injEq,
    Decidable.not_not] at h
  obtain ⟨hlen, mg, ⟨d0, _⟩, rfl, sid, ⟨d1, l1, _⟩, key, ⟨d2, l2, _⟩, tb, ⟨d3, l3, _⟩, ib, ⟨d4, l4, _⟩,
    hb, ⟨d5, l5, _⟩, cb, ⟨d6, l6, _⟩, rfl⟩ := h
  have l1 : sid.length = 8 := Nat.add_left_cancel (n := 2) l1
  obtain ⟨t1, t2⟩ := labelsOfBytes_spec counts.sum tb (Nat.add_left_cancel l3)
  obtain ⟨i1, i2⟩ := labelsOfBytes_spec nBits ib (Nat.add_left_cancel l4)
  obtain ⟨h1, h2⟩ := labelsOfBytes_spec (2 * nBits) hb (Nat.add_left_cancel l5)
  obtain ⟨c1, c2⟩ := labelsOfBytes_spec (2 * nBits) cb (Nat.add_left_cancel l6)
  obtain ⟨ph1, ph2⟩ := pairs_spec nBits (labelsOfBytes hb) h2
  obtain ⟨pc1, pc2⟩ := pairs_spec nBits (labelsOfBytes cb) c2
  obtain ⟨r1, r2⟩ := splitRows_spec counts (labelsOfBytes tb) (Nat.le_of_eq t2.symm)
  refine ⟨?_, {
    sid := (l1 ▸ beNat_lt sid : beNat sid < 256 ^ 8), key := Nat.add_left_cancel l2, rows := r1,
    inputs := i2, hints := ph2, cts := pc2 }⟩
  have hend : data.drop (10 + keyLen + labelLen * counts.sum + labelLen * nBits + 2 * labelLen * nBits +
      2 * labelLen * nBits) = [] := List.drop_eq_nil_of_le (Nat.le_of_eq hlen)
  rw [hend, List.append_nil] at d6
  simp only [Round3.bytes, header_append, beBytes_beNat 8 sid l1, r2, ← t2, List.take_length, t1, i1, ph1, h1, pc1, c1]
  rw [← d6, ← d5, ← d4, ← d3, ← d2, ← d1, ← d0]
  rfl

theorem decodeRound3_length (counts : List Nat) (data : Bytes) (m : Round3) (h : decodeRound3 counts data = .ok m) :
    data.length = round3Len counts :=
  Decidable.of_not_not (Res.ite_error_eq_ok.mp h).1

theorem decodeRound3_noPanic (counts : List Nat) (data : Bytes) : NoPanic (decodeRound3 counts data) := by
  unfold decodeRound3
  split
  · exact NoPanic.error
  · rename_i hne
    have hb : ∀ hi, hi ≤ round3Len counts → hi ≤ data.length := fun _ h => Decidable.of_not_not hne ▸ h
    simp only [round3Len] at hb
    refine NoPanic.bind_iff.mpr ⟨slice_noPanic _ _ _ (by decide) (hb _ (by omega)), fun m _ => ?_⟩
    refine NoPanic.ite_iff.mpr ⟨fun _ => NoPanic.error, fun _ => ?_⟩
    refine NoPanic.bind_iff.mpr ⟨slice_noPanic _ _ _ (by decide) (hb _ (by omega)), fun sid _ => ?_⟩
    refine NoPanic.bind_iff.mpr ⟨slice_noPanic _ _ _ (Nat.le_add_right ..) (hb _ (by omega)), fun key _ => ?_⟩
    refine NoPanic.bind_iff.mpr ⟨slice_noPanic _ _ _ (Nat.le_add_right ..) (hb _ (by omega)), fun tb _ => ?_⟩
    refine NoPanic.bind_iff.mpr ⟨slice_noPanic _ _ _ (Nat.le_add_right ..) (hb _ (by omega)), fun ib _ => ?_⟩
    refine NoPanic.bind_iff.mpr ⟨slice_noPanic _ _ _ (Nat.le_add_right ..) (hb _ (by omega)), fun hs _ => ?_⟩
    exact NoPanic.bind_iff.mpr ⟨slice_noPanic _ _ _ (Nat.le_add_right ..) (hb _ (by omega)), fun cb _ => NoPanic.pure _⟩

end Mpc.Sha2pc
