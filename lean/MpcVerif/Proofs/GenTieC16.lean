/-
T1 tie (DESIGN.md 1.3) of `circuit.BitFromLabel` (circuit/helpers.go) to
`WireL.bitFrom` (Model/Garble.lean; used by C01 and C16): the definition of
MpcVerif/Gen/LeafC16.lean, regenerated from the current Go source by `gofacts
translate -group C16` on every run of checks/C16.py, returns `some b` exactly when the
model does and `none` (Go: a non-nil error) otherwise.
-/
import MpcVerif.Gen.LeafC16
import MpcVerif.Proofs.GenTieLib
import MpcVerif.Model.Garble

namespace Mpc.GenTie
open Mpc Mpc.Gen Mpc.Gen.C16

/-- Go's `==` on `ot.Label` structs. -/
theorem label_beq (a b : Gen.Label) : (a == b) = (joinL a == joinL b) := by
  rw [Bool.eq_iff_iff]; simp only [beq_iff_eq, joinL_inj]

/-- The group's own copy of `ot.Label.Equal` (callee of `BitFromLabel`). -/
theorem tie_Equal16 (l o : Gen.Label) : Label.Equal l o = (joinL l == joinL o) := by
  rw [Bool.eq_iff_iff]; simp [Label.Equal, join_inj]

theorem tie_BitFromLabel (w : Gen.Wire) (l : Gen.Label) :
    Gen.C16.BitFromLabel w l = WireL.bitFrom ⟨joinL w.1, joinL w.2⟩ (joinL l) := by
  -- `label.Equal(wire.L0)`, `wire.L0.Equal(label)` or `==`: every comparison is turned to `… = joinL l`
  simp only [Gen.C16.BitFromLabel, WireL.bitFrom, tie_Equal16, label_beq, beq_iff_eq, eq_comm (a := joinL l)]

example : Gen.C16.BitFromLabel ((1#64, 2#64), (3#64, 4#64)) (3#64, 4#64) = some true ∧
    Gen.C16.BitFromLabel ((1#64, 2#64), (3#64, 4#64)) (3#64, 5#64) = none := by decide

end Mpc.GenTie
