/-
The scratch-pool model instantiated with the garbling of C01: a scratch buffer
holds the wire-pair table and the per-gate row slices, a Garble call is the
sequence of writes of `Circuit.Garble` (circuit/garble.go): one write per input
wire (`wires[i] = w`), then one per gate (`gate.garbleInto` writes
`wires[g.Output]`; the loop body copies the rows into the slab and sets
`gates[i]`).  Shows that on a well-formed circuit the result does not depend
on the stale contents of a reused scratch and equals `Circuit.garble` of
`Model/Garble.lean`, the function the C01 theorems are about.
-/
import MpcVerif.Model.Pool
import MpcVerif.Proofs.Garble

namespace Mpc.Pool
open Mpc LabelAlg

variable {L : Type} [LabelAlg L]

/-- Contents of a `garbledScratch`: `wires`, and `gates[i]` (the slab is the
backing store of the row slices and is not observable separately). -/
structure GMem (L : Type) where
  wires  : Store (WireL L)
  tables : Nat → List L

/-- What determines a Garble call: the key (through the hash functions), and
the random tape (offset `r` after `SetS(true)`, input zero-labels). -/
structure GJob (L : Type) where
  H   : Hash L
  r   : L
  inl : Nat → L

/-- `wires[i] = makeLabels(rand, r)` -/
def inputWrite (j : GJob L) (i : Nat) : GMem L → GMem L :=
  fun m => { m with wires := m.wires.set i ⟨j.inl i, j.inl i ^^^ j.r⟩ }

/-- One iteration of the gate loop of `Circuit.Garble` for gate number `i`
with tweak counter `id`. -/
def gateWrite (j : GJob L) (g : Gate) (i id : Nat) : GMem L → GMem L :=
  fun m =>
    { wires := (garbleGate j.H j.r g m.wires id).1,
      tables := fun k => if k = i then (garbleGate j.H j.r g m.wires id).2.2 else m.tables k }

def gateWrites (j : GJob L) : List Gate → Nat → Nat → List (GMem L → GMem L)
  | [], _, _ => []
  | g :: gs, i, id => gateWrite j g i id :: gateWrites j gs (i + 1) (id + g.op.tweaks)

def garbleProg (c : Circuit) (j : GJob L) : List (GMem L → GMem L) :=
  (List.range c.nIn).map (inputWrite j) ++ gateWrites j c.gates 0 0

def garbleParams (c : Circuit) : Params (GMem L) (GJob L) :=
  { fresh := { wires := Array.replicate c.numWires default, tables := fun _ => [] },
    prog := garbleProg c }

def AgreeOn (D : Nat → Bool) (a b : Store (WireL L)) : Prop :=
  ∀ w, D w = true → a.get w = b.get w

theorem gateWrites_agree (j : GJob L) (n : Nat) (gs : List Gate) :
    ∀ (D : Nat → Bool) (m : GMem L) (ws' : Store (WireL L)) (i id : Nat),
      m.wires.size = n → ws'.size = n → wfFrom n gs D = true → AgreeOn D m.wires ws' →
      ((gateWrites j gs i id).foldl (fun m f => f m) m).wires.size = n ∧
      AgreeOn (definedAfter gs D) ((gateWrites j gs i id).foldl (fun m f => f m) m).wires
        (garbleGates j.H j.r gs ws' id).1 ∧
      (∀ k, k < gs.length →
        ((gateWrites j gs i id).foldl (fun m f => f m) m).tables (i + k) =
          (garbleGates j.H j.r gs ws' id).2.2.getD k []) ∧
      (∀ k, k < i → ((gateWrites j gs i id).foldl (fun m f => f m) m).tables k = m.tables k) := by
  induction gs with
  | nil =>
    intro D m ws' i id hm _ _ hag
    exact ⟨hm, hag, fun k hk => absurd hk (Nat.not_lt_zero k), fun _ _ => rfl⟩
  | cons g gs ih =>
    intro D m ws' i id hm hw hwf hag
    obtain ⟨hd0, hd1, _, _, hout, hrest⟩ := wfFrom_cons _ _ _ _ hwf
    -- the gate reads the same pairs in both stores
    have hcore : garbleCore j.H j.r g.op (m.wires.get g.in0) (m.wires.get g.in1) id =
        garbleCore j.H j.r g.op (ws'.get g.in0) (ws'.get g.in1) id := by
      rw [hag g.in0 hd0]
      cases hb : g.op.binary
      · rw [Op.eq_inv_of_not_binary hb]; rfl
      · rw [hag g.in1 (hd1 hb)]
    have hag1 : AgreeOn (fun w => w == g.out || D w) (gateWrite j g i id m).wires
        (garbleGate j.H j.r g ws' id).1 := by
      intro w hw'
      simp only [gateWrite, garbleGate_wires]
      by_cases hwo : g.out = w
      · subst hwo
        rw [Store.get_set_eq _ _ _ (by omega), Store.get_set_eq _ _ _ (by omega), hcore]
      · rw [Store.get_set_ne _ _ _ _ hwo, Store.get_set_ne _ _ _ _ hwo]
        exact hag w (by simpa [Ne.symm hwo] using hw')
    obtain ⟨h1, h2, h3, h4⟩ := ih (fun w => w == g.out || D w) (gateWrite j g i id m)
      (garbleGate j.H j.r g ws' id).1 (i + 1) (id + g.op.tweaks)
      (by simp [gateWrite, garbleGate_wires, hm]) (by simp [garbleGate_wires, hw]) hrest hag1
    simp only [gateWrites, List.foldl_cons]
    rw [garbleGates_cons]
    simp only [definedAfter_cons, garbleGate_id]
    refine ⟨h1, h2, ?_, ?_⟩
    · intro k hk
      cases k with
      | zero =>
        have := h4 i (Nat.lt_succ_self i)
        simp only [Nat.add_zero] at this ⊢
        rw [this]
        simp only [gateWrite, garbleGate_rows, if_true, List.getD_cons_zero]
        rw [hcore]
      | succ k =>
        have := h3 k (by simpa using hk)
        rw [show i + (k + 1) = i + 1 + k by omega, this]
        simp
    · intro k hk
      rw [h4 k (by omega)]
      simp only [gateWrite]
      rw [if_neg (by omega)]

theorem inputWrites_spec (j : GJob L) (n : Nat) :
    ∀ (k : Nat), k ≤ n → ∀ (m : GMem L), m.wires.size = n →
      (((List.range k).map (inputWrite j)).foldl (fun m f => f m) m).wires.size = n ∧
      (∀ w, w < k → (((List.range k).map (inputWrite j)).foldl (fun m f => f m) m).wires.get w =
          ⟨j.inl w, j.inl w ^^^ j.r⟩) ∧
      (((List.range k).map (inputWrite j)).foldl (fun m f => f m) m).tables = m.tables := by
  intro k
  induction k with
  | zero => intro _ m hm; exact ⟨hm, fun w hw => absurd hw (Nat.not_lt_zero w), rfl⟩
  | succ k ih =>
    intro hk m hm
    obtain ⟨h1, h2, h3⟩ := ih (by omega) m hm
    rw [List.range_succ, List.map_append, List.foldl_append]
    simp only [List.map_cons, List.map_nil, List.foldl_cons, List.foldl_nil, inputWrite]
    refine ⟨by simp [h1], ?_, h3⟩
    intro w hw
    by_cases hwk : k = w
    · subst hwk; rw [Store.get_set_eq _ _ _ (by omega)]
    · rw [Store.get_set_ne _ _ _ _ hwk]; exact h2 w (by omega)

theorem garbleProg_size (c : Circuit) (j : GJob L) (f : GMem L → GMem L) (hf : f ∈ garbleProg c j)
    (m : GMem L) (hm : m.wires.size = c.numWires) : (f m).wires.size = c.numWires := by
  simp only [garbleProg, List.mem_append, List.mem_map] at hf
  rcases hf with ⟨i, _, rfl⟩ | hf
  · simp [inputWrite, hm]
  · have : ∀ (gs : List Gate) (i id : Nat), f ∈ gateWrites j gs i id → (f m).wires.size = c.numWires := by
      intro gs
      induction gs with
      | nil => intro i id h; simp [gateWrites] at h
      | cons g gs ih =>
        intro i id h
        simp only [gateWrites, List.mem_cons] at h
        rcases h with rfl | h
        · simp [gateWrite, garbleGate_wires, hm]
        · exact ih _ _ h
    exact this _ _ _ hf

/-- **Sequential Garble on any scratch = `Circuit.garble` of C01.**  For a
well-formed circuit, whatever the previous contents `m` of the scratch (of the
right size), the single-goroutine Garble leaves on every defined wire the pair
that `Circuit.garble` computes, and `gates[k]` is its row list of gate `k`. -/
theorem seqGarble_eq_garble (c : Circuit) (hwf : c.WF = true) (j : GJob L) (m : GMem L)
    (hm : m.wires.size = c.numWires) :
    (∀ w, c.defined w = true →
      (seqGarble (garbleParams c) j m).wires.get w = (c.garble j.H j.r j.inl).wires.get w) ∧
    (∀ k, k < c.gates.length →
      (seqGarble (garbleParams c) j m).tables k = (c.garble j.H j.r j.inl).rows.getD k []) := by
  obtain ⟨hnin, _, hwfg, _⟩ := c.WF_iff.mp hwf
  let ws0 : Store (WireL L) :=
    (Array.range c.numWires).map fun i =>
      if i < c.nIn then ⟨j.inl i, j.inl i ^^^ j.r⟩ else default
  have hG : c.garble j.H j.r j.inl =
      { r := j.r, wires := (garbleGates j.H j.r c.gates ws0 0).1,
        rows := (garbleGates j.H j.r c.gates ws0 0).2.2 } := rfl
  obtain ⟨h1, h2, _⟩ := inputWrites_spec j c.numWires c.nIn hnin m hm
  have hag : AgreeOn c.inputDefined
      (((List.range c.nIn).map (inputWrite j)).foldl (fun m f => f m) m).wires ws0 := by
    intro w hw
    rw [Circuit.inputDefined_eq_true] at hw
    rw [h2 w hw, get_range_map _ _ _ (by omega)]
    simp [hw]
  obtain ⟨_, g2, g3, _⟩ := gateWrites_agree j c.numWires c.gates c.inputDefined _ ws0 0 0 h1
    (by simp [ws0]) hwfg hag
  have hseq : seqGarble (garbleParams c) j m =
      (gateWrites j c.gates 0 0).foldl (fun m f => f m)
        (((List.range c.nIn).map (inputWrite j)).foldl (fun m f => f m) m) := by
    simp [seqGarble, garbleParams, garbleProg, List.foldl_append]
  rw [hseq, hG]
  exact ⟨g2, fun k hk => by simpa using g3 k hk⟩

theorem input_defined (c : Circuit) (i : Nat) (h : i < c.nIn) : c.defined i = true :=
  definedAfter_mono c.gates c.inputDefined i ((c.inputDefined_eq_true i).mpr h)

end Mpc.Pool
