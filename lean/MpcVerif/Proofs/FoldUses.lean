/-
Helper lemmas for the theorems of Props/C12.lean about constants used several times (Model/FoldUses.lean):
under pure folding the bindings after any sequence of folds are the declarations followed by the fold
results, each a function of the declarations and the earlier results.
-/
import MpcVerif.Model.FoldUses
import MpcVerif.Proofs.Fold

namespace Mpc.Fold
open Mpc.Mpa

/-- `runUses` without the write-back: every fold is evaluated on the bindings the sequence starts from followed by the
results of the folds before it. -/
def foldResults (nm : CV → String) (env : List Bound) : List Use → Res (List Bound)
  | [] => .ok []
  | u :: rest =>
    match u.eval env with
    | .error e => .error e
    | .ok res =>
      match foldResults nm (env ++ [(nm res, res)]) rest with
      | .error e => .error e
      | .ok more => .ok ((nm res, res) :: more)

theorem setObj_self {env : List Bound} {i : Nat} {l : CV} (h : getVar env i = .ok l) : setObj env i l = env := by
  unfold getVar at h
  unfold setObj
  cases hb : env[i]? with
  | none => rfl
  | some b =>
    rw [hb] at h
    simp only [Except.ok.injEq] at h
    subst h
    obtain ⟨hi, hb'⟩ := List.getElem?_eq_some_iff.mp hb
    simp only
    rw [← hb']
    exact List.set_getElem_self hi

theorem eval_ok_operands {u : Use} {env : List Bound} {res : CV} (h : u.eval env = .ok res) :
    ∃ l r, getVar env u.l = .ok l ∧ u.right env = .ok r := by
  obtain ⟨l, hl, h⟩ := bind_eq_ok.1 h
  obtain ⟨r, hr, _⟩ := bind_eq_ok.1 h
  exact ⟨l, r, hl, hr⟩

theorem runUses_pure (nm : CV → String) : ∀ (us : List Use) (env : List Bound),
    runUses nm pureFold env us = (foldResults nm env us).map (env ++ ·) := by
  intro us
  induction us with
  | nil => intro env; simp [runUses, foldResults, Except.map]
  | cons u rest ih =>
    intro env
    cases he : u.eval env with
    | error e =>
      cases h2 : getVar env u.l <;> cases h3 : u.right env <;> simp [runUses, foldResults, he, h2, h3, Except.map]
    | ok res =>
      obtain ⟨l, r, h2, h3⟩ := eval_ok_operands he
      simp only [runUses, foldResults, he, h2, h3, pureFold, setObj_self h2]
      rw [ih]
      cases foldResults nm (env ++ [(nm res, res)]) rest with
      | error e => simp [Except.map]
      | ok more => simp [Except.map]

theorem runUses_pure_decls (nm : CV → String) (us : List Use) (env final : List Bound)
    (h : runUses nm pureFold env us = .ok final) : ∀ i, i < env.length → final[i]? = env[i]? := by
  rw [runUses_pure] at h
  cases hf : foldResults nm env us with
  | error e => simp [hf, Except.map] at h
  | ok more =>
    simp [hf, Except.map] at h
    subst h
    intro i hi
    exact List.getElem?_append_left hi

end Mpc.Fold
