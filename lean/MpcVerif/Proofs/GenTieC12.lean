/-
T1 tie (DESIGN.md 1.3) of the SMALL paths of `mpa.Int` (compiler/mpa/mpint.go: `isSmall`,
`small`, `setSmall`, `Add Sub Mul Div Mod And AndNot Or Xor Lsh Rsh`, `Cmp`, `Int64`, `Bit`,
`BitLen`, `Sign`) to the C12 model Model/Mpa.lean: the definitions of MpcVerif/Gen/LeafC12.lean,
regenerated from the current Go source by `gofacts translate -group C12` on every run of
checks/C12.py, equal `Mpc.Mpa.add` … for receivers with `0 ≤ bits ≤ 64`.

A `*mpa.Int` is the triple `(bits, i64, values)`; `toM` reads it as the model's `MInt`
(`bits` is a Go `int32`: the ties assume it is not negative).  The code of the large paths
(math/big, evaluated circuits) is outside the translator's subset: it is the universally
quantified parameter `large'N` of the generated definition, and every tie is stated for ALL
values of it under the hypothesis that selects the small path.  `none` = the Go function
panics.
-/
import MpcVerif.Gen.LeafC12
import MpcVerif.Proofs.GenTieLib
import MpcVerif.Proofs.MpaLemmas

namespace Mpc.GenTie
open Mpc Mpc.Gen Mpc.Gen.C12 Mpc.Mpa

def toM (z : MpaInt) : MInt := { bits := z.1.toNat, i64 := z.2.1, big := z.2.2 }

/-- `bits` (an `int32`) is not negative. -/
abbrev BitsOk (z : MpaInt) : Prop := z.1.toNat < 2^31

theorem bits_le64 (z : MpaInt) (hz : BitsOk z) : BitVec.sle z.1 64#32 = decide (z.1.toNat ≤ 64) :=
  sle_toNat z.1 64#32 hz (by decide)
theorem bits_gt64 (z : MpaInt) (hz : BitsOk z) : BitVec.slt 64#32 z.1 = decide (64 < z.1.toNat) :=
  slt_toNat 64#32 z.1 (by decide) hz

theorem isSmall_toM (z : MpaInt) : (toM z).isSmall = decide (z.1.toNat ≤ 64) := rfl
theorem bits_toM (z : MpaInt) : (toM z).bits = z.1.toNat := rfl
theorem tie_isSmall (z : MpaInt) (hz : BitsOk z) : Int.isSmall z = (toM z).isSmall := by
  rw [isSmall_toM, Int.isSmall]
  -- `z.bits <= 64`, `!(z.bits > 64)`, `64 >= z.bits`, ...
  by_cases h : z.1.toNat ≤ 64
  · simp [bits_le64 z hz, bits_gt64 z hz, h, show ¬ (64 < z.1.toNat) by omega]
  · simp [bits_le64 z hz, bits_gt64 z hz, h, show 64 < z.1.toNat by omega]

theorem tie_small (z : MpaInt) : Int.small z = (toM z).small := by
  obtain ⟨b, i, v⟩ := z
  cases v <;> simp [Int.small, MInt.small, toM]

theorem tie_setSmall (z : MpaInt) (x : BitVec 64) (hz : BitsOk z) :
    (Int.setSmall z x).map toM = Mpa.setSmall z.1.toNat x := by
  have hall : (0xffffffffffffffff#64) = BitVec.allOnes 64 := by decide
  simp only [Int.setSmall, Mpa.setSmall, Mpa.mask, bits_gt64 z hz, slt_zero, hall]
  by_cases h : 64 < z.1.toNat
  · simp [h]
  · have h2 : (64#32 - z.1).toNat = 64 - z.1.toNat := BitVec.toNat_sub_of_le (show z.1.toNat ≤ 64 by omega)
    simp [h, h2, toM, show ¬ (2^31 ≤ 64 - z.1.toNat) by omega]

/-- Every `z.setSmall(v); return z` method: `Op z x y large = setSmall z.bits v` on the small path. -/
theorem small_op (z : MpaInt) (v : BitVec 64) (hz : BitsOk z) :
    (Option.elim (Int.setSmall z v) none (fun c => some c)).map toM = Mpa.setSmall (toM z).bits v := by
  rw [bits_toM, ← tie_setSmall z v hz]
  cases Int.setSmall z v <;> rfl

/-- The same when the value is written differently (`y*x` for `x*y`, ...). -/
theorem small_op' (z : MpaInt) (v v' : BitVec 64) (hz : BitsOk z) (h : v = v') :
    (Option.elim (Int.setSmall z v) none (fun c => some c)).map toM = Mpa.setSmall (toM z).bits v' := h ▸ small_op z v hz

/-- `if z.isSmall() { z.setSmall(v); return z }; <large path>`: selects the small path whether the test is the call of
`isSmall` or its body inlined, and closes the goal up to associativity / commutativity of the value. -/
macro "small_path" z:term "," hz:term "," hs:term : tactic =>
  `(tactic| (have hb : ($z : MpaInt).1.toNat ≤ 64 := le_of_isSmall $hs
             simp only [tie_isSmall $z $hz, $hs:term, bits_le64 $z $hz, bits_gt64 $z $hz, hb, decide_true, Bool.not_true,
               Bool.not_false, Bool.false_eq_true, show ¬ (64 < ($z : MpaInt).1.toNat) by omega, decide_false, if_true,
               if_false, tie_small]
             refine small_op' $z _ _ $hz ?_
             first | rfl | ac_rfl | (simp only [BitVec.mul_comm, BitVec.add_comm, BitVec.and_comm, BitVec.or_comm, BitVec.xor_comm])))

theorem tie_Add (z x y : MpaInt) (large : Option MpaInt) (hz : BitsOk z) (hs : (toM z).isSmall = true) :
    (Int.Add z x y large).map toM = Mpa.add (toM z) (toM x) (toM y) := by
  simp only [Int.Add, Mpa.add]
  small_path z, hz, hs
theorem tie_Sub (z x y : MpaInt) (large : Option MpaInt) (hz : BitsOk z) (hs : (toM z).isSmall = true) :
    (Int.Sub z x y large).map toM = Mpa.sub (toM z) (toM x) (toM y) := by
  simp only [Int.Sub, Mpa.sub]
  small_path z, hz, hs
theorem tie_Mul (z x y : MpaInt) (large : Option MpaInt) (hz : BitsOk z) (hs : (toM z).isSmall = true) :
    (Int.Mul z x y large).map toM = Mpa.mul (toM z) (toM x) (toM y) := by
  simp only [Int.Mul, Mpa.mul]
  small_path z, hz, hs
theorem tie_And (z x y : MpaInt) (large : Option MpaInt) (hz : BitsOk z) (hs : (toM z).isSmall = true) :
    (Int.And z x y large).map toM = Mpa.and (toM z) (toM x) (toM y) := by
  simp only [Int.And, Mpa.and, Mpa.bitwise]
  small_path z, hz, hs
theorem tie_Or (z x y : MpaInt) (large : Option MpaInt) (hz : BitsOk z) (hs : (toM z).isSmall = true) :
    (Int.Or z x y large).map toM = Mpa.or (toM z) (toM x) (toM y) := by
  simp only [Int.Or, Mpa.or, Mpa.bitwise]
  small_path z, hz, hs
theorem tie_Xor (z x y : MpaInt) (large : Option MpaInt) (hz : BitsOk z) (hs : (toM z).isSmall = true) :
    (Int.Xor z x y large).map toM = Mpa.xor (toM z) (toM x) (toM y) := by
  simp only [Int.Xor, Mpa.xor, Mpa.bitwise]
  small_path z, hz, hs
theorem tie_AndNot (z x y : MpaInt) (large : Option MpaInt) (hz : BitsOk z) (hs : (toM z).isSmall = true) :
    (Int.AndNot z x y large).map toM = Mpa.andNot (toM z) (toM x) (toM y) := by
  simp only [Int.AndNot, Mpa.andNot, Mpa.bitwise]
  small_path z, hz, hs
theorem tie_Lsh (z x : MpaInt) (n : BitVec 64) (large : Option MpaInt) (hz : BitsOk z) (hs : (toM z).isSmall = true) :
    (Int.Lsh z x n large).map toM = Mpa.lsh (toM z) (toM x) n.toNat := by
  simp only [Int.Lsh, Mpa.lsh]
  small_path z, hz, hs
theorem tie_Rsh (z x : MpaInt) (n : BitVec 64) (alias : Bool) (large : Option MpaInt) (hz : BitsOk z)
    (hs : (toM z).isSmall = true) :
    (Int.Rsh z x n large).map toM = Mpa.rsh (toM z) (toM x) n.toNat alias := by
  simp only [Int.Rsh, Mpa.rsh]
  small_path z, hz, hs

theorem tie_Div (z x y : MpaInt) (large : Option MpaInt) (hz : BitsOk z) (hs : (toM z).isSmall = true) :
    (Int.Div z x y large).map toM = Mpa.div (toM z) (toM x) (toM y) := by
  have hm1 : (-1#64) = BitVec.allOnes 64 := by decide
  -- the zero test as a proposition, whichever way round the source writes it
  simp only [Int.Div, Mpa.div, tie_isSmall z hz, hs, if_true, tie_small, hm1, beq_iff_eq, bne_iff_ne, ne_eq, ite_not,
    eq_comm (a := 0#64)]
  split <;> exact small_op z _ hz

theorem tie_Mod (z x y : MpaInt) (large : Option MpaInt) (hz : BitsOk z) (hs : (toM z).isSmall = true) :
    (Int.Mod z x y large).map toM = Mpa.mod (toM z) (toM x) (toM y) := by
  simp only [Int.Mod, Mpa.mod, tie_isSmall z hz, hs, if_true, tie_small, beq_iff_eq, bne_iff_ne, ne_eq, ite_not,
    eq_comm (a := 0#64)]
  split <;> exact small_op z _ hz

theorem tie_Bit (z : MpaInt) (i : BitVec 64) (large : BitVec 64) (hz : BitsOk z) (hs : (toM z).isSmall = true) :
    Int.Bit z i large = if (toM z).bit i.toNat then 1#64 else 0#64 := by
  simp only [Int.Bit, MInt.bit, tie_isSmall z hz, hs, if_true, tie_small]
  have := and_one ((toM z).small.sshiftRight i.toNat) 0
  simpa using this

theorem tie_Sign (z : MpaInt) (large : BitVec 64) (hz : BitsOk z) (hs : (toM z).isSmall = true) :
    (Int.Sign z large).toInt = (toM z).sign := by
  simp only [Int.Sign, MInt.sign, tie_isSmall z hz, hs, if_true, tie_small]
  have h0 : (0#64).toInt = 0 := by decide
  simp only [BitVec.slt, h0, decide_eq_true_eq, gt_iff_lt, apply_ite BitVec.toInt]
  rfl

theorem tie_Int64 (z : MpaInt) (large : Option (BitVec 64)) (hz : BitsOk z) (hs : (toM z).isSmall = true) :
    Int.Int64 z large = (toM z).int64 := by
  have hb : z.1.toNat ≤ 64 := le_of_isSmall hs
  simp only [Int.Int64, MInt.int64, tie_isSmall z hz, hs, if_true, tie_small, slt_zero]
  rw [bits_toM]
  by_cases h0 : z.1.toNat = 0
  · have hz0 : z.1 = 0#32 := BitVec.eq_of_toNat_eq (by simpa using h0)
    simp [h0, hz0]
  · have hs1 : (z.1 - 1#32).toNat = z.1.toNat - 1 := BitVec.toNat_sub_of_le (show 1 ≤ z.1.toNat by omega)
    have h64 : z.1 = 64#32 ↔ z.1.toNat = 64 := BitVec.toNat_inj.symm
    simp only [h0, hs1, show ¬ (2^31 ≤ z.1.toNat - 1) by omega, decide_false, Bool.false_eq_true, if_false]
    -- by cases on the two tests, however the source combines them (`a || b` with `return v` first, `!a && !b`, `64 == z.bits`)
    by_cases hA : z.1.toNat = 64
    · simp [hA, h64, eq_comm (a := 64#32)]
    · by_cases hB : (toM z).small &&& 1#64 <<< (z.1.toNat - 1) = 0#64
      · simp [hA, hB, h64, eq_comm (a := 64#32)]
      · simp [hA, hB, h64, eq_comm (a := 64#32)]

theorem tie_Cmp (z x : MpaInt) (l1 l2 l3 : Option (BitVec 64)) (hz : BitsOk z) (hx : BitsOk x)
    (hs : (toM z).isSmall = true) (hsx : (toM x).isSmall = true) :
    (Int.Cmp z x l1 l2 l3).map BitVec.toInt = Mpa.cmp (toM z) (toM x) := by
  simp only [Int.Cmp, Mpa.cmp, tie_isSmall z hz, tie_isSmall x hx, hs, hsx, Bool.and_self, and_self, if_true,
    tie_Int64 z l1 hz hs, tie_Int64 x l2 hx hsx]
  cases (toM z).int64 with
  | none => rfl
  | some a =>
    cases (toM x).int64 with
    | none => rfl
    | some b =>
      simp only [Option.elim, BitVec.slt, cmpInt, bind, Option.bind, pure, decide_eq_true_eq, gt_iff_lt,
        apply_ite (Option.map BitVec.toInt), Option.map_some, ← apply_ite some, apply_ite BitVec.toInt]
      rfl

/-- `v & (0xffffffffffffffff << L) == 0` says that `v` has at most `L` bits: the masked value is `v >> L << L`. -/
theorem high_mask_eq_zero' (v : BitVec 64) (L : Nat) :
    (v &&& (BitVec.allOnes 64 <<< L) == 0#64) = decide (v.toNat < 2 ^ L) := by
  have := Nat.div_mul_le_self v.toNat (2 ^ L)
  have := v.isLt
  have := Nat.two_pow_pos L
  rw [← BitVec.shiftLeft_ushiftRight, Bool.eq_iff_iff, beq_iff_eq, decide_eq_true_eq, ← BitVec.toNat_inj,
    BitVec.toNat_shiftLeft, BitVec.toNat_ushiftRight, Nat.shiftLeft_eq, Nat.shiftRight_eq_div_pow,
    Nat.mod_eq_of_lt (by omega), BitVec.toNat_ofNat, Nat.zero_mod, Nat.mul_eq_zero, Nat.div_eq_zero_iff]
  omega

theorem high_mask_eq_zero (v : BitVec 64) (L : Nat) :
    ((BitVec.allOnes 64 <<< L) &&& v == 0#64) = decide (v.toNat < 2 ^ L) := by
  rw [BitVec.and_comm, high_mask_eq_zero']

/-- State of the loop of `BitLen` after `k` iterations. -/
def blState (v : BitVec 64) (k : Nat) : Bool × BitVec 64 :=
  if 0 < k ∧ v.toNat < 2 ^ k then (true, BitVec.ofNat 64 (bitLen64 v)) else (false, BitVec.ofNat 64 (k + 1))

/-- The loop has not stopped after `k` iterations and stops in the next. -/
theorem bitLen64_of_range (v : BitVec 64) (k : Nat) (h1 : ¬ (0 < k ∧ v.toNat < 2 ^ k)) (h2 : v.toNat < 2 ^ (k + 1)) :
    bitLen64 v = k + 1 := by
  have hle := (bitLen64_le_iff v (Nat.succ_pos k)).mpr h2
  have hpos := bitLen64_pos v
  by_cases hk : 0 < k
  · have := mt (bitLen64_le_iff v hk).mp fun h => h1 ⟨hk, h⟩
    omega
  · omega

theorem tie_BitLen (z : MpaInt) (large : BitVec 64) (hz : BitsOk z) (hs : (toM z).isSmall = true) :
    (Int.BitLen z large).toNat = (toM z).bitLen := by
  have hall : (0xffffffffffffffff#64) = BitVec.allOnes 64 := by decide
  simp only [Int.BitLen, MInt.bitLen, tie_isSmall z hz, hs, if_true, tie_small, hall]
  generalize (toM z).small = v
  rw [foldl_range_eq _ (blState v) 63 (false, 1#64)]
  · have hv := v.isLt
    simp only [blState]
    by_cases h : v.toNat < 2 ^ 63
    · have := (bitLen64_le_iff v (show 0 < 63 by omega)).mpr h
      simp only [h, show 0 < 63 by omega, and_self, if_true, BitVec.toNat_ofNat]; omega
    · have := bitLen64_of_range v 63 (by omega) (by omega)
      simp [h, this]
  · simp [blState]
  · intro k hk
    simp only [blState]
    by_cases hb : 0 < k ∧ v.toNat < 2 ^ k
    · have : v.toNat < 2 ^ (k + 1) := by rw [Nat.pow_succ]; omega
      simp [hb, this]
    · have hL : (BitVec.ofNat 64 (k + 1)).toNat = k + 1 := toNat_ofNat_lt _ (by omega)
      simp only [hb, if_false, Bool.false_eq_true, hL, high_mask_eq_zero, high_mask_eq_zero']
      by_cases ht : v.toNat < 2 ^ (k + 1)
      · simp [ht, bitLen64_of_range v k hb ht]
      · simp [ht, BitVec.ofNat_add]

example : Int.setSmall (8#32, 0#64, none) 0x1ff#64 = some (8#32, 0xff#64, none) := by decide
example : Int.Add (8#32, 0#64, none) (8#32, 200#64, none) (8#32, 100#64, none) none = some (8#32, 44#64, none) := by decide
example : Int.Int64 (8#32, 0xff#64, none) none = some (-1#64) := by decide
example : Int.setSmall (65#32, 0#64, none) 1#64 = none := by decide
example : Int.BitLen (64#32, 5#64, none) 0#64 = 3#64 := by decide +kernel

end Mpc.GenTie
