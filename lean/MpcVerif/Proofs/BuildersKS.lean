/-
Kogge-Stone adder / subtractor (C07): each loop of the builders delivers, between named values, what its counterpart
on bits in BuildersKSBits computes (`cellV`, `stageV`, `stagesV`, `sumBit`), so `ksAdderWith_num` /
`ksSubtractorWith_num` are exact when `ksWidth ≤ 2 ^ stages` (the subtractor's patch of `g0` is the carry-in of
`initV`, `initV_eq`).  Then `NewAdder` / `NewSubtractor` as written, for either target (`newAdder_num`,
`newSubtractor_num`), and `subCmp_num`: a subtractor on one more wire than its operands is a comparison and a
conditional difference.
-/
import MpcVerif.Proofs.BuildersSpec
import MpcVerif.Proofs.BuildersKSBits

namespace Mpc.Bld
open Mpc

variable {s : St} {inp : List Bool}

theorem pad_bits (hwf : WF s inp) {x : List Nat} {xv : List Bool} (n : Nat) (hx : Bits s inp x xv) :
    Spec inp s (pad x n) (fun r s' => Bits s' inp r (padTo xv n)) := by
  unfold pad
  rw [hx.length]
  split
  · next h => exact Spec.pure hwf (by rwa [padTo_self h])
  · exact (zeroWire_spec hwf).map fun z s1 e1 hz => (hx.mono e1).append (.replicate hz _)

theorem pad_num (hwf : WF s inp) {x : List Nat} {nx X : Nat} (n : Nat) (hx : Num s inp x nx X) :
    Spec inp s (pad x n) (fun r s' => Num s' inp r (max nx n) X) := by
  obtain ⟨xv, bx, rfl, rfl⟩ := hx.bits
  exact (pad_bits hwf n bx).mono fun _ _ _ h => h.num.cast (padTo_length ..) (toNat_padTo ..)

theorem ksPre_p (l : List (Nat × Nat)) : ∀ {s : St} {lv : List (Bool × Bool)}, WF s inp → PBits s inp l lv →
    Spec inp s (ksPre l) (fun pg s' => PBits s' inp pg (lv.map fun p => (p.1 != p.2, p.1 && p.2))) := by
  induction l with
  | nil => intro s lv hwf hl; rw [hl.eq_nil]; exact Spec.pure hwf .nil
  | cons q rest ih =>
    intro s lv hwf hl
    obtain ⟨a, b⟩ := q
    obtain ⟨av, bv, lv', rfl, ha, hb, ht⟩ := hl.uncons
    simp only [ksPre]
    refine Spec.bind (gate_spec .xor hwf ha hb) ?_
    intro p s1 e1 hp
    refine Spec.bind (gate_spec .and e1.wf (ha.mono e1) (hb.mono e1)) ?_
    intro g s2 e2 hg
    refine Spec.bind (ih e2.wf (ht.mono (e1.trans e2))) ?_
    intro t s3 e3 ht'
    exact Spec.pure e3.wf (.cons ((hp.mono e2).mono e3) (hg.mono e3) ht')

def CellsOK (inp : List Bool) (cells : List ((Nat × Nat) × (Nat × Nat)) → BM (List (Nat × Nat))) : Prop :=
  ∀ {a b : List (Nat × Nat)} {av bv : List (Bool × Bool)} {s : St}, WF s inp → PBits s inp a av → PBits s inp b bv →
    Spec inp s (cells (a.zip b)) (fun r s' => PBits s' inp r ((av.zip bv).map cellV))

/-- The cell loops of the adder and of the subtractor run the same cell with
the gates in another order. -/
theorem ksCells_p {cells : List ((Nat × Nat) × (Nat × Nat)) → BM (List (Nat × Nat))}
    {cell : Nat → Nat → Nat → Nat → BM (Nat × Nat)}
    (hnil : cells [] = pure [])
    (hcons : ∀ pi gi pj gj r, cells (((pi, gi), (pj, gj)) :: r) = do
      let o ← cell pi gi pj gj
      let t ← cells r
      pure (o :: t))
    (hcell : ∀ {s : St} {pi gi pj gj : Nat} {pv gv pv' gv' : Bool}, WF s inp → Holds s inp pi pv → Holds s inp gi gv →
      Holds s inp pj pv' → Holds s inp gj gv' →
      Spec inp s (cell pi gi pj gj) (fun o s' => Holds s' inp o.1 (pv && pv') ∧ Holds s' inp o.2 (gv != (pv && gv')))) :
    CellsOK inp cells := by
  intro a
  induction a with
  | nil => intro b av bv s hwf ha _; rw [List.zip_nil_left, hnil, ha.eq_nil]; exact Spec.pure hwf .nil
  | cons p a ih =>
    intro b av bv s hwf ha hb
    cases b with
    | nil => rw [List.zip_nil_right, hnil, hb.eq_nil, List.zip_nil_right]; exact Spec.pure hwf .nil
    | cons q b =>
      obtain ⟨pi, gi⟩ := p
      obtain ⟨pj, gj⟩ := q
      obtain ⟨_, _, _, rfl, h1, h2, hat⟩ := ha.uncons
      obtain ⟨_, _, _, rfl, h3, h4, hbt⟩ := hb.uncons
      rw [List.zip_cons_cons, hcons]
      refine Spec.bind (hcell hwf h1 h2 h3 h4) ?_
      intro o s1 e1 ⟨ho1, ho2⟩
      refine Spec.bind (ih e1.wf (hat.mono e1) (hbt.mono e1)) ?_
      intro t s2 e2 ht
      exact Spec.pure e2.wf (.cons (ho1.mono e2) (ho2.mono e2) ht)

theorem ksCellsA_p : CellsOK inp ksCellsA := by
  refine ksCells_p (cell := fun pi gi pj gj => do
    let andG ← gate .and pi gj
    let np ← gate .and pi pj
    let ng ← gate .xor gi andG
    pure (np, ng)) rfl (fun _ _ _ _ _ => rfl) ?_
  intro s pi gi pj gj pv gv pv' gv' hwf h1 h2 h3 h4
  refine Spec.bind (gate_spec .and hwf h1 h4) ?_
  intro andG s1 e1 ha
  refine Spec.bind (gate_spec .and e1.wf (h1.mono e1) (h3.mono e1)) ?_
  intro np s2 e2 hnp
  exact (gate_spec .xor e2.wf (h2.mono (e1.trans e2)) (ha.mono e2)).map fun ng s3 e3 hng => ⟨hnp.mono e3, hng⟩

theorem ksCellsS_p : CellsOK inp ksCellsS := by
  refine ksCells_p (cell := fun pi gi pj gj => do
    let pg ← gate .and pi gj
    let ng ← gate .xor gi pg
    let np ← gate .and pi pj
    pure (np, ng)) rfl (fun _ _ _ _ _ => rfl) ?_
  intro s pi gi pj gj pv gv pv' gv' hwf h1 h2 h3 h4
  refine Spec.bind (gate_spec .and hwf h1 h4) ?_
  intro pg s1 e1 ha
  refine Spec.bind (gate_spec .xor e1.wf (h2.mono e1) ha) ?_
  intro ng s2 e2 hng
  exact (gate_spec .and e2.wf (h1.mono (e1.trans e2)) (h3.mono (e1.trans e2))).map
    fun np s3 e3 hnp => ⟨hnp, hng.mono e3⟩

theorem ksStage_p {cells : List ((Nat × Nat) × (Nat × Nat)) → BM (List (Nat × Nat))} (hc : CellsOK inp cells)
    (shift : Nat) {pg : List (Nat × Nat)} {pv : List (Bool × Bool)} {s : St} (hwf : WF s inp) (hpg : PBits s inp pg pv) :
    Spec inp s (ksStage cells shift pg) (fun r s' => PBits s' inp r (stageV shift pv)) :=
  (hc hwf (hpg.drop shift) hpg).map fun _ _ e1 hhi => ((hpg.take shift).mono e1).append hhi

theorem ksStages_p {cells : List ((Nat × Nat) × (Nat × Nat)) → BM (List (Nat × Nat))} (hc : CellsOK inp cells) :
    ∀ (k shift : Nat) {pg : List (Nat × Nat)} {pv : List (Bool × Bool)} {s : St} (_ : WF s inp), PBits s inp pg pv →
    Spec inp s (ksStages cells k shift pg) (fun r s' => PBits s' inp r (stagesV k shift pv))
  | 0, shift, pg, pv, s, hwf, hpg => by
    simp only [ksStages]; exact Spec.pure hwf hpg
  | k + 1, shift, pg, pv, s, hwf, hpg => by
    simp only [ksStages]
    exact Spec.bind (ksStage_p hc shift hwf hpg) fun pg' s1 e1 h => ksStages_p hc k (2 * shift) e1.wf h

theorem ksPostA_bits : ∀ (r : List (Nat × Nat)) (cs : List Nat) {rv : List (Bool × Bool)} {cv : List Bool} {s : St}
    (_ : WF s inp), PBits s inp r rv → Bits s inp cs cv →
    Spec inp s (ksPostA r cs) (fun z s' => Bits s' inp z (List.zipWith sumBit rv cv))
  | [], _, rv, cv, s, hwf, hr, _ => by
    simp only [ksPostA]; rw [hr.eq_nil]; exact Spec.pure hwf .nil
  | _ :: _, [], rv, cv, s, hwf, _, hcs => by
    simp only [ksPostA]; rw [← hcs.val]; exact Spec.pure hwf (by simpa using Bits.nil)
  | (a, b) :: r, c :: cs, rv, cv, s, hwf, hr, hcs => by
    simp only [ksPostA]
    obtain ⟨av, bv, rv', rfl, ha, hb, hrt⟩ := hr.uncons
    obtain ⟨c0, cv', rfl, hc, hct⟩ := hcs.uncons
    refine Spec.bind (gate_spec .xor hwf ha hb) ?_
    intro xr s1 e1 hxr
    refine Spec.bind (gate_spec .xor e1.wf hxr (hc.mono e1)) ?_
    intro w s2 e2 hw
    have e12 := e1.trans e2
    refine Spec.bind (ksPostA_bits r cs e2.wf (hrt.mono e12) (hct.mono e12)) ?_
    intro t s3 e3 ht
    exact Spec.pure e3.wf (.cons (hw.mono e3) ht)

theorem le_two_pow_ceilLog2 (n : Nat) : n ≤ 2 ^ ceilLog2 n := by
  unfold ceilLog2
  split
  · simp; omega
  · have := @Nat.lt_log2_self (n - 1)
    omega

/-- The `if` is `n1` of `ksAdderWith` / `ksSubtractorWith`, to which both operands are padded; the network covers
`ksWidth` positions. -/
theorem ks_widths (a b nz : Nat) :
    max a b ≤ (if nz > max a b then max a b + 1 else max a b) ∧
    ksWidth a b nz ≤ (if nz > max a b then max a b + 1 else max a b) ∧
    (if (if nz > max a b then max a b + 1 else max a b) > nz then nz
      else (if nz > max a b then max a b + 1 else max a b)) = ksWidth a b nz := by
  rcases ksWidth_cases a b nz with ⟨h, e⟩ | ⟨h, e⟩ <;> rw [e]
  · rw [if_pos h]; split <;> omega
  · rw [if_neg (Nat.not_lt.mpr h)]; split <;> omega

/-- `NewKoggeStoneAdder` with `stages` prefix stages is exact for every operand
and result width PROVIDED `2^stages` reaches the network width
`ksWidth = min(max(|x|,|y|)+1, nz)`; `ceil(log2 ksWidth)` stages do. -/
theorem ksAdderWith_num (hwf : WF s inp) {x y : List Nat} {nx ny X Y : Nat} (nz stages : Nat)
    (hx : Num s inp x nx X) (hy : Num s inp y ny Y) (hnz : 0 < nz) (hst : ksWidth nx ny nz ≤ 2 ^ stages) :
    Spec inp s (ksAdderWith stages x y nz) (fun z s' => Num s' inp z nz ((X + Y) % 2 ^ nz)) := by
  obtain ⟨xv, bx, rfl, rfl⟩ := hx.bits
  obtain ⟨yv, by', rfl, rfl⟩ := hy.bits
  unfold ksAdderWith
  simp only
  rw [bx.length, by'.length]
  obtain ⟨hn1, hnle, hn⟩ := ks_widths xv.length yv.length nz
  generalize (if nz > max xv.length yv.length then max xv.length yv.length + 1 else max xv.length yv.length) = n1 at *
  have hxl : xv.length ≤ n1 := Nat.le_trans (Nat.le_max_left ..) hn1
  have hyl : yv.length ≤ n1 := Nat.le_trans (Nat.le_max_right ..) hn1
  refine Spec.bind (pad_bits hwf n1 bx) ?_
  intro x' s1 e1 hx'
  refine Spec.bind (pad_bits e1.wf n1 (by'.mono e1)) ?_
  intro y' s2 e2 hy'
  rw [hx'.length, padTo_length, Nat.max_eq_right hxl, hn]
  have hL : PBits s2 inp _ (operandBits xv yv n1 (ksWidth xv.length yv.length nz)) := .zip ((hx'.mono e2).take _) (hy'.take _)
  have hLlen := operandBits_length hxl hyl (ksWidth xv.length yv.length nz)
  rw [Nat.min_eq_left hnle] at hLlen
  refine Spec.bind (ksPre_p _ e2.wf hL) ?_
  intro pg s3 e3 hpg
  rw [← initV_false] at hpg
  refine Spec.bind (ksStages_p ksCellsA_p stages 1 e3.wf hpg) ?_
  intro pgN s4 e4 hpgN
  have e24 := e3.trans e4
  cases hxy : (x'.take (ksWidth xv.length yv.length nz)).zip (y'.take (ksWidth xv.length yv.length nz)) with
  | nil => rw [hxy] at hL; exact absurd (hL.length.symm.trans rfl) (by rw [hLlen]; exact Nat.ne_of_gt (ksWidth_pos hnz))
  | cons ab rest =>
    obtain ⟨a, b⟩ := ab
    rw [hxy] at hL
    obtain ⟨av, bv, Lr, hLeq, ha, hb, hrest⟩ := hL.uncons
    refine Spec.bind (gate_spec .xor e4.wf (ha.mono e24) (hb.mono e24)) ?_
    intro z0 s5 e5 hz0
    refine Spec.bind (ksPostA_bits _ _ e5.wf ((hrest.mono e24).mono e5) (hpgN.snd.mono e5)) ?_
    intro zs s6 e6 hzs
    refine Spec.bind (zeros_bits e6.wf _) ?_
    intro zr s7 e7 hzr
    have hsum := (Bits.cons (hz0.mono (e6.trans e7)) (hzs.mono e7)).append hzr
    have hz : ((av != bv) :: List.zipWith sumBit Lr (List.map Prod.snd (stagesV stages 1 (initV ((av, bv) :: Lr) false)))) =
        (addBits ((av, bv) :: Lr) false).take ((av, bv) :: Lr).length := by
      rw [← stagesV_sumBits _ false stages (by rw [← hLeq, hLlen]; exact hst)]; simp [sumBit]
    rw [hLeq] at hsum
    rw [eval_xor, hz, ← hLeq, hLlen] at hsum
    refine Spec.pure e7.wf (hsum.num.cast ?_ (toNat_adderBits hxl hyl nz _ rfl (Nat.le_refl _)))
    have := ksWidth_le xv.length yv.length nz
    rw [List.length_append, List.length_take, chainBits_length, hLlen, List.length_replicate, Nat.min_eq_left (Nat.le_succ _)]
    exact Nat.add_sub_cancel' this

/-- `NewKoggeStoneAdder`: `ceil(log2 ksWidth)` stages reach the network width. -/
theorem ksAdder_num (hwf : WF s inp) {x y : List Nat} {nx ny X Y : Nat} (nz : Nat)
    (hx : Num s inp x nx X) (hy : Num s inp y ny Y) (hnz : 0 < nz) :
    Spec inp s (ksAdder x y nz) (fun z s' => Num s' inp z nz ((X + Y) % 2 ^ nz)) := by
  unfold ksAdder
  rw [hx.len, hy.len]
  exact ksAdderWith_num hwf nz _ hx hy hnz (le_two_pow_ceilLog2 _)

theorem ksPreS_p (l : List (Nat × Nat)) : ∀ {s : St} {lv : List (Bool × Bool)}, WF s inp → PBits s inp l lv →
    Spec inp s (ksPreS l) (fun pg s' => PBits s' inp pg ((invSnd lv).map fun p => (p.1 != p.2, p.1 && p.2))) := by
  induction l with
  | nil => intro s lv hwf hl; rw [hl.eq_nil]; exact Spec.pure hwf .nil
  | cons q rest ih =>
    intro s lv hwf hl
    obtain ⟨a, b⟩ := q
    obtain ⟨av, bv, lv', rfl, ha, hb, ht⟩ := hl.uncons
    simp only [ksPreS]
    refine Spec.bind (inv_spec hwf hb) ?_
    intro bi s1 e1 hbi
    refine Spec.bind (gate_spec .xor e1.wf (ha.mono e1) hbi) ?_
    intro p s2 e2 hp
    refine Spec.bind (gate_spec .and e2.wf ((ha.mono e1).mono e2) (hbi.mono e2)) ?_
    intro g s3 e3 hg
    refine Spec.bind (ih e3.wf (ht.mono ((e1.trans e2).trans e3))) ?_
    intro t s4 e4 ht'
    exact Spec.pure e4.wf (.cons ((hp.mono e3).mono e4) (hg.mono e4) ht')

theorem ksPostS_bits : ∀ (ps cs : List Nat) {pv cv : List Bool} {s : St} (_ : WF s inp),
    Bits s inp ps pv → Bits s inp cs cv →
    Spec inp s (ksPostS ps cs) (fun z s' => Bits s' inp z (List.zipWith (fun p c => p != c) pv cv))
  | [], _, pv, cv, s, hwf, hp, _ => by
    simp only [ksPostS]; rw [← hp.val]; exact Spec.pure hwf .nil
  | _ :: _, [], pv, cv, s, hwf, _, hcs => by
    simp only [ksPostS]; rw [← hcs.val]; exact Spec.pure hwf (by simpa using Bits.nil)
  | p :: r, c :: cs, pv, cv, s, hwf, hp, hcs => by
    simp only [ksPostS]
    obtain ⟨p0, pv', rfl, hp0, hpt⟩ := hp.uncons
    obtain ⟨c0, cv', rfl, hc, hct⟩ := hcs.uncons
    refine Spec.bind (gate_spec .xor hwf hp0 hc) ?_
    intro w s1 e1 hw
    refine Spec.bind (ksPostS_bits r cs e1.wf (hpt.mono e1) (hct.mono e1)) ?_
    intro t s2 e2 ht
    exact Spec.pure e2.wf (.cons (hw.mono e2) ht)

theorem invSnd_length (l : List (Bool × Bool)) : (invSnd l).length = l.length := by simp [invSnd]
/-- `NewKoggeStoneSubtractor` with `stages` prefix stages is exact for every
operand and result width provided `2^stages` reaches the network width:
`z + y ≡ x (mod 2^nz)`. -/
theorem ksSubtractorWith_num (hwf : WF s inp) {x y : List Nat} {nx ny X Y : Nat} (nz stages : Nat)
    (hx : Num s inp x nx X) (hy : Num s inp y ny Y) (hnz : 0 < nz) (hst : ksWidth nx ny nz ≤ 2 ^ stages) :
    Spec inp s (ksSubtractorWith stages x y nz) (fun z s' => ∃ Z, Num s' inp z nz Z ∧
      (Z + Y) % 2 ^ nz = X % 2 ^ nz) := by
  obtain ⟨xv, bx, rfl, rfl⟩ := hx.bits
  obtain ⟨yv, by', rfl, rfl⟩ := hy.bits
  unfold ksSubtractorWith
  simp only
  rw [bx.length, by'.length]
  obtain ⟨hn1, hnle, hn⟩ := ks_widths xv.length yv.length nz
  generalize (if nz > max xv.length yv.length then max xv.length yv.length + 1 else max xv.length yv.length) = n1 at *
  have hxl : xv.length ≤ n1 := Nat.le_trans (Nat.le_max_left ..) hn1
  have hyl : yv.length ≤ n1 := Nat.le_trans (Nat.le_max_right ..) hn1
  refine Spec.bind (pad_bits hwf n1 bx) ?_
  intro x' s1 e1 hx'
  refine Spec.bind (pad_bits e1.wf n1 (by'.mono e1)) ?_
  intro y' s2 e2 hy'
  rw [hx'.length, padTo_length, Nat.max_eq_right hxl, hn]
  have hL0 : PBits s2 inp _ (operandBits xv yv n1 (ksWidth xv.length yv.length nz)) := .zip ((hx'.mono e2).take _) (hy'.take _)
  have hL0len := operandBits_length hxl hyl (ksWidth xv.length yv.length nz)
  rw [Nat.min_eq_left hnle] at hL0len
  generalize hL0def : operandBits xv yv n1 (ksWidth xv.length yv.length nz) = L0 at hL0 hL0len
  refine Spec.bind (ksPreS_p _ e2.wf hL0) ?_
  intro pg s3 e3 hpg
  have hLlen : (invSnd L0).length = ksWidth xv.length yv.length nz := by rw [invSnd_length, hL0len]
  cases pg with
  | nil => exact absurd (hpg.length.trans (by rw [List.length_map, hLlen])) (Nat.ne_of_lt (ksWidth_pos hnz))
  | cons pg0 rest =>
    obtain ⟨p0, g0⟩ := pg0
    obtain ⟨pv, gv, rv, hpeq, hp0, hg0, hrest⟩ := hpg.uncons
    simp only
    -- carry-in 1: `g0 ⊕ p0`
    refine Spec.bind (gate_spec .xor e3.wf hg0 hp0) ?_
    intro w s4 e4 hw
    have hpg1 : PBits s4 inp ((p0, w) :: rest) (initV (invSnd L0) true) := by
      rw [initV_eq, hpeq]
      exact .cons (hp0.mono e4) hw (hrest.mono e4)
    refine Spec.bind (ksStages_p ksCellsS_p stages 1 e4.wf hpg1) ?_
    intro pgN s5 e5 hpgN
    refine Spec.bind (inv_spec e5.wf ((hp0.mono e4).mono e5)) ?_
    intro z0 s6 e6 hz0
    refine (ksPostS_bits _ _ e6.wf (((hrest.fst).mono (e4.trans e5)).mono e6) (hpgN.snd.mono e6)).map ?_
    intro zs s7 e7 hzs
    -- the sum wires carry the low bits of `x + ¬y + 1`, that is of `x - y`
    have hz := Bits.cons (hz0.mono e7) hzs
    have hv : ((!pv) :: List.zipWith (fun p c => p != c) (rv.map Prod.fst)
          (List.map Prod.snd (stagesV stages 1 (initV (invSnd L0) true)))) =
        (subBits L0 false).take (ksWidth xv.length yv.length nz) := by
      rw [← hL0len, show (subBits L0 false).take L0.length = _ from (addBits_invSnd L0 true).symm, ← invSnd_length L0,
        ← stagesV_sumBits _ true stages (hLlen ▸ hst)]
      generalize stagesV stages 1 (initV (invSnd L0) true) = G
      cases hL : invSnd L0 with
      | nil => rw [hL] at hpeq; exact absurd hpeq (by simp)
      | cons q Lr =>
        rw [hL, List.map_cons, List.cons.injEq, Prod.mk.injEq] at hpeq
        obtain ⟨⟨rfl, -⟩, rfl⟩ := hpeq
        rw [List.zipWith_cons_cons, List.map_map, List.zipWith_map_left]
        exact congrArg (· :: _) (Bool.bne_true _).symm  -- the tails agree by unfolding `sumBit`
    rw [hv, ← hL0def] at hz
    have hzl : (z0 :: zs).length = ksWidth xv.length yv.length nz := by
      rw [hz.length, List.length_take, chainBits_length, hL0def, hL0len, Nat.min_eq_left (Nat.le_succ _)]
    have hfill := hz.append (.replicate (hz.last (List.cons_ne_nil _ _)) (nz - ksWidth xv.length yv.length nz))
    refine ⟨_, hfill.num.cast ?_ rfl, toNat_subtractorBits hxl hyl nz rfl (Nat.le_refl _) (Nat.le_succ_of_le hnle) rfl⟩
    have := ksWidth_le xv.length yv.length nz
    rw [← hfill.length, List.length_append, List.length_replicate, hzl]; exact Nat.add_sub_cancel' this

/-- `NewKoggeStoneSubtractor`: `for step := 1; step < n; step *= 2` reaches the network width. -/
theorem ksSubtractor_num (hwf : WF s inp) {x y : List Nat} {nx ny X Y : Nat} (nz : Nat)
    (hx : Num s inp x nx X) (hy : Num s inp y ny Y) (hnz : 0 < nz) :
    Spec inp s (ksSubtractor x y nz) (fun z s' => ∃ Z, Num s' inp z nz Z ∧ (Z + Y) % 2 ^ nz = X % 2 ^ nz) := by
  unfold ksSubtractor
  rw [hx.len, hy.len]
  exact ksSubtractorWith_num hwf nz _ hx hy hnz (le_two_pow_ceilLog2 _)

section
variable {s s' : St} {inp : List Bool} {ws x y : List Nat} {n nx ny X Y : Nat}

theorem newAdder_num (hwf : WF s inp) (gmw : Bool) (nz : Nat) (hx : Num s inp x nx X) (hy : Num s inp y ny Y)
    (hne : 0 < max nx ny) (hnz : 0 < nz) :
    Spec inp s (newAdder gmw x y nz) (fun z s' => Num s' inp z nz ((X + Y) % 2 ^ nz)) := by
  cases gmw
  · exact rippleAdder_num hwf nz hx hy hne hnz
  · exact ksAdder_num hwf nz hx hy hnz

theorem newSubtractor_num (hwf : WF s inp) (gmw : Bool) (nz : Nat) (hx : Num s inp x nx X) (hy : Num s inp y ny Y)
    (hnz : 0 < nz) :
    Spec inp s (newSubtractor gmw x y nz) (fun z s' => ∃ Z, Num s' inp z nz Z ∧ (Z + Y) % 2 ^ nz = X % 2 ^ nz) := by
  cases gmw
  · exact rippleSubtractor_num hwf nz hx hy hnz
  · exact ksSubtractor_num hwf nz hx hy hnz

theorem subCmp_num (hwf : WF s inp) (gmw : Bool) (k : Nat) (hx : Num s inp x nx X) (hy : Num s inp y ny Y)
    (hX : X < 2 ^ k) (hY : Y < 2 ^ k) :
    Spec inp s (newSubtractor gmw x y (k + 1)) (fun z s' => z.length = k + 1 ∧
      Holds s' inp (z.getD k 0) (decide (X < Y)) ∧
      Num s' inp (z.take k) k (if X < Y then X + 2 ^ k - Y else X - Y)) := by
  refine (newSubtractor_num hwf gmw (k + 1) hx hy (Nat.succ_pos k)).mono ?_
  intro z s' _ ⟨Z, hz, v⟩
  have hZ := hz.lt
  rw [Nat.pow_succ] at hZ v
  have hlow := (hz.take k).cast (Nat.min_eq_left (Nat.le_succ k)) rfl
  have htop := hz.top
  rcases mod_sub_cases Z X Y (2 ^ k * 2) hZ (by omega) (by omega) v with ⟨h, rfl⟩ | ⟨h, rfl⟩
  · rw [decide_eq_false (by omega)] at htop
    rw [Nat.mod_eq_of_lt (by omega)] at hlow
    exact ⟨hz.len, by rwa [decide_eq_false (by omega)], by rwa [if_neg (by omega)]⟩
  · rw [decide_eq_true (by omega)] at htop
    rw [show X + 2 ^ k * 2 - Y = (X + 2 ^ k - Y) + 2 ^ k by omega, Nat.add_mod_right,
      Nat.mod_eq_of_lt (by omega)] at hlow
    exact ⟨hz.len, by rwa [decide_eq_true h], by rwa [if_pos h]⟩

end

end Mpc.Bld
