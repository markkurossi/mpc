/-
Bit-level theory of the Kogge-Stone prefix network (C07), without builder states: interval generate /
propagate signals (`carryOf`, `segP` on `seg`), the doubling invariant `KSInv` kept by a stage (`KSInv_step`), and the sum
bits after enough stages (`stagesV_sumBits`).
-/
import MpcVerif.Proofs.BuildersBits

namespace Mpc.Bld

def carryOf : List (Bool × Bool) → Bool → Bool
  | [], c => c
  | (a, b) :: r, c => carryOf r (carry a b c)

def segP (l : List (Bool × Bool)) : Bool := l.all fun p => p.1 != p.2

theorem carryOf_append (l1 l2 : List (Bool × Bool)) (c : Bool) :
    carryOf (l1 ++ l2) c = carryOf l2 (carryOf l1 c) := by
  induction l1 generalizing c with
  | nil => rfl
  | cons p r ih => obtain ⟨a, b⟩ := p; simp [carryOf, ih]

theorem segP_append (l1 l2 : List (Bool × Bool)) : segP (l1 ++ l2) = (segP l1 && segP l2) := by
  simp [segP]

/-- Block carry = block generate ⊕ (block propagate ∧ carry-in). -/
theorem carryOf_eq (l : List (Bool × Bool)) (c : Bool) :
    carryOf l c = (carryOf l false != (segP l && c)) := by
  induction l generalizing c with
  | nil => simp [carryOf, segP]
  | cons p r ih =>
    obtain ⟨a, b⟩ := p
    simp only [carryOf, segP, List.all_cons]
    rw [ih (carry a b c), ih (carry a b false)]
    have : (r.all fun p => p.1 != p.2) = segP r := rfl
    rw [this]
    generalize carryOf r false = G
    generalize segP r = P
    cases a <;> cases b <;> cases c <;> cases G <;> cases P <;> rfl

/-- The bit pairs of the positions `[max(0, i-w+1), i]`. -/
def seg (L : List (Bool × Bool)) (i w : Nat) : List (Bool × Bool) := (L.take (i + 1)).drop (i + 1 - w)

theorem take_drop_split {α : Type} (L : List α) (a b c : Nat) (hab : a ≤ b) (hbc : b ≤ c) (hc : c ≤ L.length) :
    (L.take c).drop a = (L.take b).drop a ++ (L.take c).drop b := by
  have h1 : L.take c = L.take b ++ (L.take c).drop b := by
    have := List.take_append_drop b (L.take c)
    rw [List.take_take, Nat.min_eq_left hbc] at this
    exact this.symm
  conv => lhs; rw [h1]
  rw [List.drop_append_of_le_length (by simp; omega)]

theorem seg_split (L : List (Bool × Bool)) (i w : Nat) (hw : w ≤ i) (hi : i < L.length) :
    seg L i (2 * w) = seg L (i - w) w ++ seg L i w := by
  simp only [seg]
  have e1 : i - w + 1 = i + 1 - w := by omega
  have e2 : i + 1 - w - w = i + 1 - 2 * w := by omega
  rw [e1, e2]
  exact take_drop_split L (i + 1 - 2 * w) (i + 1 - w) (i + 1) (by omega) (by omega) (by omega)

theorem seg_small (L : List (Bool × Bool)) (i w : Nat) (h : i + 1 ≤ w) : seg L i w = L.take (i + 1) := by
  simp only [seg]
  have : i + 1 - w = 0 := by omega
  rw [this]; rfl

/-- Value of the pair `(p, g)` of position `i` when it covers the interval of
width `w`; `c0` is the carry into position 0 (0 for the adder, 1 for the
subtractor) and enters the generate signal of the intervals that start at 0. -/
def ksVal (L : List (Bool × Bool)) (c0 : Bool) (w i : Nat) : Bool × Bool :=
  (segP (seg L i w), carryOf (seg L i w) (if i + 1 ≤ w then c0 else false))

def KSInv (L : List (Bool × Bool)) (c0 : Bool) (w : Nat) (pgv : List (Bool × Bool)) : Prop :=
  pgv.length = L.length ∧ ∀ i, i < L.length → pgv.getD i (false, false) = ksVal L c0 w i

def cellV (q : (Bool × Bool) × (Bool × Bool)) : Bool × Bool :=
  (q.1.1 && q.2.1, q.1.2 != (q.1.1 && q.2.2))

def stageV (w : Nat) (pgv : List (Bool × Bool)) : List (Bool × Bool) :=
  pgv.take w ++ ((pgv.drop w).zip pgv).map cellV

theorem stageV_length (w : Nat) (pgv : List (Bool × Bool)) : (stageV w pgv).length = pgv.length := by
  simp [stageV]; omega

theorem stageV_getD (w : Nat) (pgv : List (Bool × Bool)) (i : Nat) (hi : i < pgv.length) (d : Bool × Bool) :
    (stageV w pgv).getD i d =
      if i < w then pgv.getD i d else cellV (pgv.getD i d, pgv.getD (i - w) d) := by
  simp only [stageV, List.getD_eq_getElem?_getD]
  by_cases h : i < w
  · rw [List.getElem?_append_left (by simp; omega)]
    simp [h]
  · have hl : (pgv.take w).length = w := by simp; omega
    rw [List.getElem?_append_right (by simp; omega), hl]
    simp only [h, if_false]
    have h1 : i - w < ((pgv.drop w).zip pgv).length := by simp; omega
    rw [List.getElem?_map, List.getElem?_eq_getElem h1]
    simp only [List.getElem_zip, List.getElem_drop, Option.map_some, Option.getD_some]
    have e : w + (i - w) = i := by omega
    simp only [e]
    rw [List.getElem?_eq_getElem hi, List.getElem?_eq_getElem (by omega : i - w < pgv.length)]
    simp

theorem KSInv_step (L : List (Bool × Bool)) (c0 : Bool) (w : Nat) (pgv : List (Bool × Bool))
    (h : KSInv L c0 w pgv) : KSInv L c0 (2 * w) (stageV w pgv) := by
  refine ⟨by rw [stageV_length]; exact h.1, ?_⟩
  intro i hi
  rw [stageV_getD w pgv i (by rw [h.1]; exact hi)]
  by_cases hiw : i < w
  · simp only [hiw, if_true]
    rw [h.2 i hi]
    simp only [ksVal]
    rw [seg_small L i w (by omega), seg_small L i (2 * w) (by omega)]
    have h1 : i + 1 ≤ w := by omega
    have h2 : i + 1 ≤ 2 * w := by omega
    simp [h1, h2]
  · simp only [hiw, if_false]
    rw [h.2 i hi, h.2 (i - w) (by omega)]
    simp only [ksVal, cellV]
    rw [seg_split L i w (by omega) hi, segP_append, carryOf_append]
    have h1 : ¬ (i + 1 ≤ w) := by omega
    have h2 : (i - w + 1 ≤ w) = (i + 1 ≤ 2 * w) := propext (by omega)
    simp only [h1, h2, if_false]
    rw [carryOf_eq (seg L i w) (carryOf (seg L (i - w) w) _), Bool.and_comm]

def stagesV : Nat → Nat → List (Bool × Bool) → List (Bool × Bool)
  | 0, _, pgv => pgv
  | k + 1, w, pgv => stagesV k (2 * w) (stageV w pgv)

theorem KSInv_stages (L : List (Bool × Bool)) (c0 : Bool) : ∀ (k w : Nat) (pgv : List (Bool × Bool)),
    KSInv L c0 w pgv → KSInv L c0 (w * 2 ^ k) (stagesV k w pgv)
  | 0, w, pgv, h => by simpa [stagesV] using h
  | k + 1, w, pgv, h => by
    have := KSInv_stages L c0 k (2 * w) (stageV w pgv) (KSInv_step L c0 w pgv h)
    have e : 2 * w * 2 ^ k = w * 2 ^ (k + 1) := by rw [Nat.pow_succ]; grind
    rw [e] at this
    exact this

theorem KSInv_full (L : List (Bool × Bool)) (c0 : Bool) (w : Nat) (pgv : List (Bool × Bool))
    (h : KSInv L c0 w pgv) (hw : L.length ≤ w) (i : Nat) (hi : i < L.length) :
    (pgv.getD i (false, false)).2 = carryOf (L.take (i + 1)) c0 := by
  rw [h.2 i hi]
  simp only [ksVal]
  rw [seg_small L i w (by omega)]
  have : i + 1 ≤ w := by omega
  simp [this]

/-- Initial `(p, g)` values: position 0 absorbs the carry-in `c0`. -/
def initV : List (Bool × Bool) → Bool → List (Bool × Bool)
  | [], _ => []
  | (a, b) :: r, c0 => (a != b, carry a b c0) :: r.map fun p => (p.1 != p.2, p.1 && p.2)

theorem initV_false (L : List (Bool × Bool)) : initV L false = L.map fun p => (p.1 != p.2, p.1 && p.2) := by
  cases L with
  | nil => rfl
  | cons p r => obtain ⟨a, b⟩ := p; simp [initV, carry]

/-- In the shape the subtractor emits it: for `c0 = true` the patch is `g_0 ⊕ p_0`. -/
theorem initV_eq (L : List (Bool × Bool)) (c0 : Bool) :
    initV L c0 = match L.map fun p => (p.1 != p.2, p.1 && p.2) with
      | [] => []
      | (p, g) :: r => (p, g != (c0 && p)) :: r := by
  cases L with
  | nil => rfl
  | cons q r => obtain ⟨a, b⟩ := q; cases a <;> cases b <;> cases c0 <;> rfl

theorem KSInv_init (L : List (Bool × Bool)) (c0 : Bool) : KSInv L c0 1 (initV L c0) := by
  refine ⟨by cases L with
    | nil => rfl
    | cons p r => obtain ⟨a, b⟩ := p; simp [initV], ?_⟩
  intro i hi
  simp only [ksVal, seg]
  -- the interval of width 1 is the position itself: `seg L i 1 = [L[i]]`
  rw [Nat.add_sub_cancel, List.drop_take, Nat.add_sub_cancel_left, List.drop_eq_getElem_cons hi, List.take_succ_cons,
    List.take_zero]
  cases L with
  | nil => simp at hi
  | cons p r =>
    obtain ⟨a, b⟩ := p
    cases i with
    | zero => simp [initV, segP, carryOf]
    | succ i =>
      have hi' : i < r.length := by simpa using hi
      simp only [initV, List.getD_cons_succ, List.getElem_cons_succ]
      rw [List.getD_eq_getElem?_getD, List.getElem?_map, List.getElem?_eq_getElem hi']
      simp [segP, carryOf, carry]

def sumBit (p : Bool × Bool) (c : Bool) : Bool := (p.1 != p.2) != c

theorem sumBits_of_gens : ∀ (L : List (Bool × Bool)) (c0 : Bool) (gs : List Bool), gs.length = L.length →
    (∀ i, i < L.length → gs.getD i false = carryOf (L.take (i + 1)) c0) →
    List.zipWith sumBit L (c0 :: gs) = (addBits L c0).take L.length
  | [], _, _, _, _ => rfl
  | _ :: _, _, [], hl, _ => by simp at hl
  | (a, b) :: r, c0, g :: gs, hl, hg => by
    have h0 : g = carry a b c0 := hg 0 (Nat.succ_pos _)
    unfold addBits
    rw [List.zipWith_cons_cons, List.length_cons, take_chainBits_cons, ← h0]
    refine congrArg _ (sumBits_of_gens r g gs (by simpa using hl) fun i hi => ?_)
    rw [h0]
    exact hg (i + 1) (Nat.succ_lt_succ hi)

/-- With `2^stages ≥ |L|` every interval starts at position 0, so the generate signals are the carries. -/
theorem stagesV_sumBits (L : List (Bool × Bool)) (c0 : Bool) (stages : Nat) (h : L.length ≤ 2 ^ stages) :
    List.zipWith sumBit L (c0 :: (stagesV stages 1 (initV L c0)).map Prod.snd) = (addBits L c0).take L.length := by
  have hinv := KSInv_stages L c0 stages 1 _ (KSInv_init L c0)
  rw [Nat.one_mul] at hinv
  refine sumBits_of_gens L c0 _ (by rw [List.length_map, hinv.1]) fun i hi => ?_
  rw [getD_map Prod.snd _ i (false, false)]
  exact KSInv_full L c0 _ _ hinv h i hi

end Mpc.Bld
