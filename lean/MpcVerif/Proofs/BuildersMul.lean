/-
Array multiplier (C07).  Inside a row the adder cells are read as a ripple chain over bit lists
(`amRowCells_bits`, `amFinalCells_bits`: which bits come out, as `addBits` of the cells' operand
bits); between the rows only numbers are carried (`amRow_num`, `amRows_num`, `amFinal_num`), and
`am_total` adds the rows up to `arrayMultiplier_num`, for every operand and result width.
-/
import MpcVerif.Proofs.BuildersSpec

namespace Mpc.Bld
open Mpc

variable {s s' : St} {inp : List Bool}

/-- A half adder on a cell's first input and the carry is the full adder cell whose second input is absent. -/
theorem halfAdder_noSum (hwf : WF s inp) {a c : Nat} {av cv : Bool} (ha : Holds s inp a av) (hc : Holds s inp c cv) :
    Spec inp s (halfAdder a c) (fun r s' => Holds s' inp r.1 ((av != false) != cv) ∧
      Holds s' inp r.2 (carry av false cv)) :=
  (halfAdder_h hwf ha hc).mono fun _ _ _ ⟨h1, h2⟩ =>
    ⟨by rwa [Bool.bne_false], by cases av <;> cases cv <;> exact h2⟩

/-- A half adder on a cell's two inputs is the full adder cell with no carry coming in. -/
theorem halfAdder_noCarry (hwf : WF s inp) {a b : Nat} {av bv : Bool} (ha : Holds s inp a av) (hb : Holds s inp b bv) :
    Spec inp s (halfAdder a b) (fun r s' => Holds s' inp r.1 ((av != bv) != false) ∧
      Holds s' inp r.2 (carry av bv false)) :=
  (halfAdder_h hwf ha hb).mono fun _ _ _ ⟨h1, h2⟩ =>
    ⟨by rwa [Bool.bne_false], by cases av <;> cases bv <;> exact h2⟩

theorem amAnds_bits (yj : Nat) {yv : Bool} (x : List Nat) : ∀ {xv : List Bool} {s : St} (_ : WF s inp),
    Bits s inp x xv → Holds s inp yj yv → Spec inp s (amAnds yj x) (fun r s' => Bits s' inp r (xv.map (· && yv))) := by
  induction x with
  | nil => intro xv s hwf hx _; obtain rfl : xv = [] := hx.val.symm; exact Spec.pure hwf .nil
  | cons xb xs ih =>
    intro xv s hwf hx hy
    obtain ⟨x0, xv, rfl, hx0, hx⟩ := hx.uncons
    simp only [amAnds]
    refine Spec.bind (gate_spec .and hwf hx0 hy) ?_
    intro a s1 e1 ha
    refine Spec.bind (ih e1.wf (hx.mono e1) (hy.mono e1)) ?_
    intro r s2 e2 hr
    exact Spec.pure e2.wf (.cons (ha.mono e2) hr)

theorem amAnds_num (hwf : WF s inp) {yj : Nat} {yv : Bool} {x : List Nat} {n X : Nat} (hx : Num s inp x n X)
    (hy : Holds s inp yj yv) : Spec inp s (amAnds yj x) (fun r s' => Num s' inp r n (X * yv.toNat)) := by
  obtain ⟨xv, hxb, rfl, rfl⟩ := hx.bits
  exact (amAnds_bits yj x hwf hxb hy).mono fun _ _ _ h => h.num.cast (List.length_map ..) (toNat_map_and ..)

theorem amRowCells_bits : ∀ (as ss : List Nat) (c : Nat) {av sv : List Bool} {cv : Bool} {s : St} (_ : WF s inp),
    Bits s inp as av → Bits s inp ss sv → Holds s inp c cv →
    Spec inp s (amRowCells as ss c) (fun r s' => Bits s' inp (r.1 ++ [r.2])
      (addBits (operandBits av sv av.length av.length) cv))
  | [], ss, c, av, sv, cv, s, hwf, ha, _, hc => by
    obtain rfl : av = [] := ha.val.symm
    simp only [amRowCells]
    exact Spec.pure hwf (.cons hc .nil)
  | a :: as, [], c, av, sv, cv, s, hwf, ha, hs, hc => by
    obtain ⟨a0, av, rfl, ha0, ha⟩ := ha.uncons
    obtain rfl : sv = [] := hs.val.symm
    simp only [amRowCells]
    refine Spec.bind (halfAdder_noSum hwf ha0 hc) ?_
    intro r s1 e1 ⟨hr1, hr2⟩
    refine Spec.bind (amRowCells_bits as [] r.2 e1.wf (ha.mono e1) .nil hr2) ?_
    intro t s2 e2 ht
    refine Spec.pure e2.wf ?_
    rw [List.length_cons, operandBits_cons]
    exact .cons (hr1.mono e2) ht
  | a :: as, sm :: sms, c, av, sv, cv, s, hwf, ha, hs, hc => by
    obtain ⟨a0, av, rfl, ha0, ha⟩ := ha.uncons
    obtain ⟨s0, sv, rfl, hs0, hs⟩ := hs.uncons
    simp only [amRowCells]
    refine Spec.bind (fullAdder_h hwf ha0 hs0 hc) ?_
    intro r s1 e1 ⟨hr1, hr2⟩
    refine Spec.bind (amRowCells_bits as sms r.2 e1.wf (ha.mono e1) (hs.mono e1) hr2) ?_
    intro t s2 e2 ht
    refine Spec.pure e2.wf ?_
    rw [List.length_cons, operandBits_cons]
    exact .cons (hr1.mono e2) ht

theorem amRow_num (hwf : WF s inp) {ands sums : List Nat} {n k A S : Nat} (ha : Num s inp ands n A)
    (hs : Num s inp sums k S) (hk : 0 < k) (hkn : k ≤ n) :
    Spec inp s (amRow ands sums) (fun r s' => Num s' inp (r.1 :: r.2) (n + 1) (A + S)) := by
  obtain ⟨av, hab, rfl, rfl⟩ := ha.bits
  obtain ⟨sv, hsb, rfl, rfl⟩ := hs.bits
  obtain ⟨a0, as, rfl⟩ := List.exists_cons_of_length_pos (l := ands) (by rw [ha.len]; omega)
  obtain ⟨s0, ss, rfl⟩ := List.exists_cons_of_length_pos (l := sums) (by rw [hs.len]; exact hk)
  obtain ⟨a0v, av, rfl, ha0, hab⟩ := hab.uncons
  obtain ⟨s0v, sv, rfl, hs0, hsb⟩ := hsb.uncons
  simp only [amRow]
  refine Spec.bind (halfAdder_noCarry hwf ha0 hs0) ?_
  intro r s1 e1 ⟨hr1, hr2⟩
  refine Spec.bind (amRowCells_bits as ss r.2 e1.wf (hab.mono e1) (hsb.mono e1) hr2) ?_
  intro t s2 e2 ht
  have hrow : Bits s2 inp (r.1 :: (t.1 ++ [t.2]))
      (addBits (operandBits (a0v :: av) (s0v :: sv) (a0v :: av).length (a0v :: av).length) false) := by
    rw [List.length_cons, operandBits_cons]
    exact .cons (hr1.mono e2) ht
  refine Spec.pure e2.wf (hrow.num.cast ?_ ?_)
  · rw [chainBits_length, operandBits_length (Nat.le_refl _) hkn, Nat.min_self]
  · rw [toNat_addBits, toNat_operandBits_fst (Nat.le_refl _) hkn, toNat_operandBits_snd (Nat.le_refl _) hkn,
      Nat.mod_eq_of_lt (toNat_lt _), Nat.mod_eq_of_lt (lt_two_pow_of_le (toNat_lt _) hkn), Bool.toNat_false,
      Nat.add_zero]

theorem amRows_num {x : List Nat} {n X : Nat} :
    ∀ (ys sums : List Nat) {m k Y S : Nat} {s : St} (_ : WF s inp), Num s inp x n X → Num s inp ys m Y →
    Num s inp sums k S → 0 < k → k ≤ n →
    Spec inp s (amRows x ys sums) (fun r s' => ∃ Z S', Num s' inp r.1 m Z ∧
      Num s' inp r.2 (if m = 0 then k else n) S' ∧ Z + 2 ^ m * S' = S + X * Y)
  | [], sums, m, k, Y, S, s, hwf, _, hy, hs, _, _ => by
    obtain rfl : 0 = m := hy.len
    obtain rfl : 0 = Y := hy.val
    simp only [amRows]
    exact Spec.pure hwf ⟨0, S, .nil, hs, by simp⟩
  | yj :: ys, sums, m, k, Y, S, s, hwf, hx, hy, hs, hk, hkn => by
    obtain ⟨m, rfl⟩ : ∃ m', m = m' + 1 := ⟨ys.length, hy.len.symm⟩
    obtain ⟨yv, Y', hyj, hys, rfl⟩ := hy.uncons
    simp only [amRows]
    refine Spec.bind (amAnds_num hwf hx hyj) ?_
    intro ands s1 e1 ha
    refine Spec.bind (amRow_num e1.wf ha (hs.mono e1) hk hkn) ?_
    intro r s2 e2 hr
    obtain ⟨zv, S1, hz, hs1, hrv⟩ := hr.uncons
    rw [Nat.add_sub_cancel] at hys hs1
    have e12 := e1.trans e2
    refine Spec.bind (amRows_num ys r.2 e2.wf (hx.mono e12) (hys.mono e12) hs1 (by omega) (Nat.le_refl n)) ?_
    intro t s3 e3 ⟨Z, S', ht1, ht2, htv⟩
    refine Spec.pure e3.wf ⟨zv.toNat + 2 * Z, S', .cons (hz.mono e3) ht1, ht2.cast (by simp) rfl, ?_⟩
    rw [Nat.mul_add, Nat.mul_left_comm X 2, Nat.pow_succ', Nat.mul_assoc]
    omega

theorem amFinalCells_bits (yl : Nat) {yv : Bool} : ∀ (xs sums : List Nat) (c lim : Nat) {xv sv : List Bool} {cv : Bool}
    {s : St} (_ : WF s inp), Holds s inp yl yv → Bits s inp xs xv → Bits s inp sums sv → Holds s inp c cv →
    Spec inp s (amFinalCells yl xs sums c lim) (fun r s' => Bits s' inp (r.1 ++ [r.2])
      (addBits (operandBits (xv.map (· && yv)) sv xv.length lim) cv))
  | [], sums, c, lim, xv, sv, cv, s, hwf, _, hx, _, hc => by
    obtain rfl : xv = [] := hx.val.symm
    simp only [amFinalCells]
    refine Spec.pure hwf ?_
    rw [List.map_nil, List.length_nil, operandBits_nil]
    exact .cons hc .nil
  | xb :: xs, sums, c, 0, xv, sv, cv, s, hwf, hy, hx, hs, hc => by
    obtain ⟨x0, xv, rfl, hx0, hx⟩ := hx.uncons
    simp only [amFinalCells]
    refine Spec.bind (gate_spec .and hwf hx0 hy) ?_
    intro a s1 e1 _
    exact amFinalCells_bits yl xs sums.tail c 0 (xv := xv) (sv := sv.tail) e1.wf (hy.mono e1) (hx.mono e1)
      (hs.tail.mono e1) (hc.mono e1)
  | xb :: xs, sums, c, lim + 1, xv, sv, cv, s, hwf, hy, hx, hs, hc => by
    obtain ⟨x0, xv, rfl, hx0, hx⟩ := hx.uncons
    simp only [amFinalCells]
    refine Spec.bind (gate_spec .and hwf hx0 hy) ?_
    intro a s1 e1 ha
    have hadd : Spec inp s1 (match sums with
        | [] => halfAdder a c
        | sm :: _ => fullAdder' a sm c)
        (fun r s' => Holds s' inp r.1 (((x0 && yv) != sv.headD false) != cv) ∧
          Holds s' inp r.2 (carry (x0 && yv) (sv.headD false) cv)) := by
      cases sums with
      | nil => obtain rfl : sv = [] := hs.val.symm; exact halfAdder_noSum e1.wf ha (hc.mono e1)
      | cons sm sms =>
        obtain ⟨s0, sv, rfl, hs0, _⟩ := hs.uncons
        exact fullAdder_h e1.wf ha (hs0.mono e1) (hc.mono e1)
    refine Spec.bind hadd ?_
    intro r s2 e2 ⟨hr1, hr2⟩
    have e12 := e1.trans e2
    refine Spec.bind (amFinalCells_bits yl xs sums.tail r.2 lim e2.wf (hy.mono e12) (hx.mono e12)
      (hs.tail.mono e12) hr2) ?_
    intro t s3 e3 ht
    refine Spec.pure e3.wf ?_
    rw [List.length_cons, List.map_cons, operandBits_cons]
    exact .cons (hr1.mono e3) ht

theorem amFinal_num (hwf : WF s inp) {yl : Nat} {yv : Bool} {x sums : List Nat} {n k X S : Nat} (lim : Nat)
    (hy : Holds s inp yl yv) (hx : Num s inp x n X) (hs : Num s inp sums k S) (hk : 0 < k) (hkn : k ≤ n)
    (hlim : 0 < lim) :
    Spec inp s (amFinal yl x sums lim) (fun r s' => Num s' inp r (min lim (n + 1)) ((X * yv.toNat + S) % 2 ^ lim)) := by
  obtain ⟨xv, hxb, rfl, rfl⟩ := hx.bits
  obtain ⟨sv, hsb, rfl, rfl⟩ := hs.bits
  obtain ⟨x0, xs, rfl⟩ := List.exists_cons_of_length_pos (l := x) (by rw [hx.len]; omega)
  obtain ⟨s0, ss, rfl⟩ := List.exists_cons_of_length_pos (l := sums) (by rw [hs.len]; exact hk)
  obtain ⟨l, rfl⟩ : ∃ l, lim = l + 1 := ⟨lim - 1, by omega⟩
  obtain ⟨x0v, xv, rfl, hx0, hxb⟩ := hxb.uncons
  obtain ⟨s0v, sv, rfl, hs0, hsb⟩ := hsb.uncons
  simp only [amFinal]
  refine Spec.bind (gate_spec .and hwf hx0 hy) ?_
  intro a s1 e1 ha
  refine Spec.bind (halfAdder_noCarry e1.wf ha (hs0.mono e1)) ?_
  intro r s2 e2 ⟨hr1, hr2⟩
  have e12 := e1.trans e2
  refine Spec.bind (amFinalCells_bits yl xs ss r.2 l e2.wf (hy.mono e12) (hxb.mono e12) (hsb.mono e12) hr2) ?_
  intro t s3 e3 ht
  have hxl : ((x0v :: xv).map (· && yv)).length ≤ (x0v :: xv).length := Nat.le_of_eq (List.length_map ..)
  have hrow : Bits s3 inp (r.1 :: (t.1 ++ [t.2]))
      (addBits (operandBits ((x0v :: xv).map (· && yv)) (s0v :: sv) (x0v :: xv).length (l + 1)) false) := by
    rw [List.length_cons, List.map_cons, operandBits_cons]
    exact .cons (hr1.mono e3) ht
  -- the result wires are the first `l + 1` wires of the row: all of it, or all but the last carry
  have hres : (r.1 :: t.1 ++ if l ≥ (x0 :: xs).length then [t.2] else []) = (r.1 :: (t.1 ++ [t.2])).take (l + 1) := by
    have htl := ht.num.len
    have hxsl := hxb.num.len
    rw [List.length_append, chainBits_length, operandBits_length (Nat.le_of_eq (List.length_map ..))
      (Nat.le_of_succ_le_succ hkn)] at htl
    simp only [List.length_cons, List.length_nil] at htl ⊢
    split
    · rw [List.take_of_length_le (by simp only [List.length_cons, List.length_append, List.length_nil]; omega)]; rfl
    · rw [List.append_nil, List.take_succ_cons, List.take_left' (by omega)]
  refine Spec.pure e3.wf ?_
  rw [hres]
  refine (hrow.take (l + 1)).num.cast ?_ ?_
  · rw [List.length_take, chainBits_length, operandBits_length hxl hkn]; omega
  · rw [toNat_take, toNat_addBits, toNat_operandBits_fst hxl hkn, toNat_operandBits_snd hxl hkn, toNat_map_and,
      Bool.toNat_false, Nat.add_zero, ← Nat.add_mod]

/-- The rows of the array multiplier add up: bit `z0` of row 0, the `j` bits
`ZM` of the intermediate rows, and the final row `(X·yl + SF) mod 2^k` give
`X·Y mod 2^(j+1+k)` for `Y = y0 + 2·(YM + 2^j·yl)`. -/
theorem am_total (X y0 YM yl z0 S0 ZM SF j k : Nat) (hz0 : z0 < 2) (hZM : ZM < 2 ^ j)
    (h0 : z0 + 2 * S0 = X * y0) (hm : ZM + 2 ^ j * SF = S0 + X * YM) :
    z0 + 2 * (ZM + 2 ^ j * ((X * yl + SF) % 2 ^ k)) = (X * (y0 + 2 * (YM + 2 ^ j * yl))) % 2 ^ (j + 1 + k) := by
  have hprod : X * (y0 + 2 * (YM + 2 ^ j * yl)) = (z0 + 2 * ZM) + 2 ^ (j + 1) * (X * yl + SF) := by
    rw [Nat.pow_succ']; grind
  rw [hprod, add_mul_mod_pow _ _ _ _ (by rw [Nat.pow_succ']; omega), Nat.pow_succ']
  grind

/-- `NewArrayMultiplier` is exact for every operand width and every result width: `(x·y) mod 2^nz`. -/
theorem arrayMultiplier_num (hwf : WF s inp) {x y : List Nat} {nx ny X Y : Nat} (nz : Nat) (hx : Num s inp x nx X)
    (hy : Num s inp y ny Y) (hne : 0 < max nx ny) (hnz : 0 < nz) :
    Spec inp s (arrayMultiplier x y nz) (fun z s' => Num s' inp z nz ((X * Y) % 2 ^ nz)) := by
  unfold arrayMultiplier
  refine Spec.bind (zeroPad_take_num hwf nz hx hy) ?_
  intro p s1 e1 ⟨hxt, hyt⟩
  simp only
  rw [Nat.mul_mod]
  -- from here on only the cut operands, of a common width `0 < n ≤ nz`, matter
  generalize p.1.take nz = xt at *
  generalize p.2.take nz = yt at *
  generalize X % 2 ^ nz = X at *
  generalize Y % 2 ^ nz = Y at *
  generalize hn : min nz (max nx ny) = n at hxt hyt
  obtain ⟨hn0, hnle⟩ : 0 < n ∧ n ≤ nz := by omega
  clear hn hne hx hy
  match xt, yt, hxt, hyt with
  | [], _, hxt, _ => exact absurd hxt.len (Nat.ne_of_lt hn0)
  | _ :: _, [], _, hyt => exact absurd hyt.len (Nat.ne_of_lt hn0)
  | [x0], y0 :: ys, hxt, hyt =>
    obtain rfl : 1 = n := hxt.len
    obtain ⟨xv, X1, hx0, hx1, rfl⟩ := hxt.uncons
    obtain ⟨yv, Y1, hy0, hy1, rfl⟩ := hyt.uncons
    obtain rfl : X1 = 0 := Nat.lt_one_iff.mp hx1.lt
    obtain rfl : Y1 = 0 := Nat.lt_one_iff.mp hy1.lt
    refine Spec.bind (gate_spec .and e1.wf hx0 hy0) ?_
    intro w s2 e2 hw
    refine (zeros_num e2.wf _).map ?_
    intro zs s3 e3 hzs
    refine (Num.cons (hw.mono e3) hzs).cast (by omega) ?_
    have h2 : 1 < 2 ^ nz := Nat.one_lt_two_pow (by omega)
    cases xv <;> cases yv <;> simp [Nat.mod_eq_of_lt h2]
  | x0 :: x1 :: xs, y0 :: ys, hxt, hyt =>
    obtain ⟨j, rfl⟩ : ∃ j, n = j + 2 := ⟨xs.length, hxt.len.symm⟩
    obtain ⟨y0v, Y1, hy0, hys, rfl⟩ := hyt.uncons
    replace hys : Num s1 inp ys (j + 1) Y1 := hys
    simp only
    generalize x0 :: x1 :: xs = xl at hxt ⊢
    rw [hxt.len]
    refine Spec.bind (amAnds_num e1.wf hxt hy0) ?_
    intro row0 s2 e2 hr0
    obtain ⟨z0, sums0, rfl⟩ := List.exists_cons_of_length_pos (l := row0) (by rw [hr0.len]; omega)
    obtain ⟨z0v, S0, hz0, hs0, h0⟩ := hr0.uncons
    simp only [List.tail_cons, List.headD_cons]
    refine Spec.bind (amRows_num ys.dropLast sums0 e2.wf (hxt.mono e2) (hys.dropLast.mono e2) hs0 (by omega)
      (by omega)) ?_
    intro mid s3 e3 ⟨ZM, SM, hm1, hm2, hmv⟩
    have e13 := e2.trans e3
    refine Spec.bind (amFinal_num e3.wf (nz - (j + 1)) (hys.getLastD.mono e13) (hxt.mono e13) hm2 (by split <;> omega)
      (by split <;> omega) (by omega)) ?_
    intro fin s4 e4 hfin
    refine (zeros_num e4.wf _).map ?_
    intro zs s5 e5 hzs
    refine (((Num.cons (hz0.mono (e3.trans (e4.trans e5))) (hm1.mono (e4.trans e5))).append (hfin.mono e5)).append
      hzs).cast (by omega) ?_
    have := am_total X y0v.toNat (Y1 % 2 ^ j) (decide (2 ^ j ≤ Y1)).toNat z0v.toNat S0 ZM SM j (nz - (j + 1))
      (Bool.toNat_lt _) hm1.lt h0.symm hmv
    rw [← top_split hys.lt, show j + 1 + (nz - (j + 1)) = nz by omega] at this
    rw [← this, Nat.pow_succ', Nat.mul_assoc]
    omega

end Mpc.Bld
