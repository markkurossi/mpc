/-
Basic lemmas for the correctness proof of `Ssa.lower` (Model/MpclLower.lean):
straight-line execution of step lists, the environment that the bindings of the
lowering denote in an SSA store (`NEnv.den`), values of scalar types.  The emitted code assigns
every value id once, in order, from operands defined before (`Wf`): a run of such
code is a store in which all its equations hold (`Sat`, `Wf.run`), and the
agreement with the interpreter is stated about such a store.
-/
import MpcVerif.Model.MpclLower
import MpcVerif.Proofs.Mpcl

namespace Mpc.Mpcl.Ssa
open Mpc.Mpcl

def Frame (k : Nat) (st st' : Nat → Nat) : Prop := ∀ id, id < k → st' id = st id

theorem Frame.refl (k : Nat) (st : Nat → Nat) : Frame k st st := fun _ _ => rfl

theorem Frame.trans {k k' : Nat} {a b c : Nat → Nat} (h1 : Frame k a b) (h2 : Frame k' b c) (hk : k ≤ k') :
    Frame k a c := fun id hid => by rw [h2 id (Nat.lt_of_lt_of_le hid hk), h1 id hid]

theorem Frame.mono {k k' : Nat} {a b : Nat → Nat} (h : Frame k' a b) (hk : k ≤ k') : Frame k a b :=
  fun id hid => h id (Nat.lt_of_lt_of_le hid hk)

theorem ssaSteps_append (c1 c2 : List SInstr) (st : Nat → Nat) :
    ssaSteps (c1 ++ c2) st = (ssaSteps c1 st).bind (ssaSteps c2) := by
  fun_induction ssaSteps c1 st <;> simp_all [ssaSteps]

theorem ssaEval_eq {ins : List (Nat × Nat)} {args : List Nat} {st0 : Nat → Nat} (steps : List SInstr)
    (h : loadInputs ins args (SStore.empty : Nat → Nat) = some st0) :
    ssaEval (Nat → Nat) ins steps args = ssaRun steps st0 := by
  simp only [ssaEval, h, Option.bind_some]

theorem ssaSteps_cons (op : SOp) (ins : List SArg) (id w : Nat) (c : List SInstr) (st : Nat → Nat) :
    ssaSteps (⟨op, ins, some (id, w)⟩ :: c) st =
      (evalOp op (ins.map (argVal st)) w).bind fun v => ssaSteps c fun j => if j = id then v else st j := by
  simp only [ssaSteps]
  cases evalOp op (ins.map (argVal st)) w <;> rfl

theorem Frame.set {k id v : Nat} {st : Nat → Nat} (h : k ≤ id) : Frame k st (fun j => if j = id then v else st j) := by
  intro j hj
  have : j ≠ id := by omega
  simp [this]

theorem argVal_var (σ : Nat → Nat) (id w : Nat) : argVal σ (.var id w) = (σ id, w) := rfl

theorem argVal_k (σ : Nat → Nat) (n : Nat) : argVal σ (.k n) = (n, 0) := rfl

theorem argVal_pat (σ : Nat → Nat) (v b : Nat) : argVal σ (.pat v b) = (v % 2 ^ b, b) := rfl

def ArgBelow (k : Nat) : SArg → Prop
  | .var id _ => id < k
  | _ => True

theorem argVal_frame {k : Nat} {a : SArg} {st st' : Nat → Nat} (ha : ArgBelow k a) (hf : Frame k st st') :
    argVal st' a = argVal st a := by
  cases a with
  | var id b => rw [argVal_var, argVal_var, hf id ha]
  | const _ _ _ _ _ => rfl
  | pat _ _ => rfl
  | k _ => rfl

theorem ArgBelow.mono {k k' : Nat} {a : SArg} (h : ArgBelow k a) (hk : k ≤ k') : ArgBelow k' a := by
  cases a <;> simp_all [ArgBelow] <;> omega

/-- The operands are read in `σ` itself, the final store, not in the store of the moment. -/
def Sat (σ : Nat → Nat) (code : List SInstr) : Prop :=
  ∀ i ∈ code, ∃ id w, i.out = some (id, w) ∧ evalOp i.op (i.ins.map (argVal σ)) w = some (σ id)

theorem Sat.nil (σ : Nat → Nat) : Sat σ [] := fun _ h => by cases h

theorem Sat.append {σ : Nat → Nat} {a b : List SInstr} : Sat σ (a ++ b) ↔ Sat σ a ∧ Sat σ b :=
  List.forall_mem_append

theorem Sat.cons {σ : Nat → Nat} {i : SInstr} {c : List SInstr} : Sat σ (i :: c) ↔ Sat σ [i] ∧ Sat σ c :=
  Sat.append (a := [i])

theorem Sat.one {σ : Nat → Nat} {op : SOp} {ins : List SArg} {id w : Nat} :
    Sat σ [⟨op, ins, some (id, w)⟩] ↔ evalOp op (ins.map (argVal σ)) w = some (σ id) := by
  refine ⟨fun h => ?_, fun h i hi => ?_⟩
  · obtain ⟨_, _, e, h⟩ := h _ (List.mem_singleton_self _)
    cases e; exact h
  · cases List.mem_singleton.1 hi; exact ⟨id, w, rfl, h⟩

def Wf (d : Bool) : Nat → List SInstr → Nat → Prop
  | k, [], k' => k = k'
  | k, i :: c, k' => (∃ w, i.out = some (k, w)) ∧ (∀ a ∈ i.ins, ArgBelow k a) ∧ instrOk d i = true ∧ Wf d (k + 1) c k'

section
variable {d : Bool}

theorem Wf.nil (d : Bool) (k : Nat) : Wf d k [] k := rfl

theorem Wf.le : ∀ {code : List SInstr} {k k' : Nat}, Wf d k code k' → k ≤ k'
  | [], _, _, h => Nat.le_of_eq h
  | _ :: _, _, _, h => Nat.le_of_succ_le (Wf.le h.2.2.2)

theorem Wf.append : ∀ {a b : List SInstr} {k k1 k2 : Nat}, Wf d k a k1 → Wf d k1 b k2 → Wf d k (a ++ b) k2
  | [], _, _, _, _, ha, hb => by cases ha; exact hb
  | _ :: _, _, _, _, _, ha, hb => ⟨ha.1, ha.2.1, ha.2.2.1, Wf.append ha.2.2.2 hb⟩

theorem Wf.one {op : SOp} {ins : List SArg} {k w : Nat} (hok : instrOk d ⟨op, ins, some (k, w)⟩ = true)
    (h : ∀ a ∈ ins, ArgBelow k a) : Wf d k [⟨op, ins, some (k, w)⟩] (k + 1) := ⟨⟨w, rfl⟩, h, hok, rfl⟩

/-- The equations hold in the final store because no operand is overwritten after it was read. -/
theorem Wf.run : ∀ {code : List SInstr} {k k' : Nat} {st st' : Nat → Nat}, Wf d k code k' →
    ssaSteps code st = some st' → Sat st' code ∧ Frame k st st'
  | [], k, _, st, st', _, h => by cases h; exact ⟨Sat.nil _, Frame.refl _ _⟩
  | ⟨op, ins, out⟩ :: c, k, k', st, st', hw, h => by
    obtain ⟨⟨w, rfl⟩, hins, _, hc⟩ := hw
    rw [ssaSteps_cons] at h
    obtain ⟨v, hev, h2⟩ := Option.bind_eq_some_iff.1 h
    obtain ⟨hsat, hfr⟩ := Wf.run hc h2
    have hfk : Frame k st st' := (Frame.set (Nat.le_refl k)).trans hfr (Nat.le_succ k)
    refine ⟨Sat.cons.2 ⟨Sat.one.2 ?_, hsat⟩, hfk⟩
    have hk : st' k = v := (hfr k (Nat.lt_succ_self k)).trans (if_pos rfl)
    rw [hk, ← hev]
    congr 1
    exact List.map_congr_left fun a ha => argVal_frame (hins a ha) hfk

theorem instrOk_noRet {i : SInstr} (h : instrOk d i = true) : i.op ≠ .ret := by
  intro hr
  obtain ⟨op, ins, out⟩ := i
  simp only at hr
  subst hr
  simp [instrOk, instrTotal, instrDiv] at h

theorem Wf.ssaRun_ret (outs : List SArg) : ∀ {code : List SInstr} {k k' : Nat} (st : Nat → Nat), Wf d k code k' →
    ssaRun (code ++ [⟨.ret, outs, none⟩]) st = (ssaSteps code st).map fun σ => outs.map (argVal σ)
  | [], _, _, _, _ => rfl
  | ⟨op, ins, out⟩ :: c, _, _, st, hw => by
    obtain ⟨⟨w, rfl⟩, _, hok, hc⟩ := hw
    rw [ssaSteps_cons]
    simp only [List.cons_append, ssaRun, instrOk_noRet hok, if_false]
    cases evalOp op (ins.map (argVal st)) w with
    | none => rfl
    | some v => exact Wf.ssaRun_ret outs _ hc

end

theorem lt_constBits (n : Nat) : n < 2 ^ constBits n := by
  unfold constBits
  split
  · assumption
  · split
    · assumption
    · exact Nat.lt_log2_self

theorem constWires_self (n own b : Nat) (sg : Bool) : constWires n own b sg b = n % 2 ^ b := by
  unfold constWires
  by_cases hb : b = 0
  · subst hb; simp [Nat.mod_one]
  · simp [hb]

/-- The only constants `lower` emits (`constArg`, `zeroArg`, the `$0` of `-e`) are used at the size their wires
were allocated for: the re-sizing branch of `constWires` is never met. -/
theorem argVal_const (σ : Nat → Nat) (v own b : Nat) (sg : Bool) : argVal σ (.const v own b sg b) = (v % 2 ^ b, b) := by
  rw [argVal, constWires_self]

theorem constArg_val (st : Nat → Nat) (n : Nat) (s : Bool) (w : Nat) (hn : n < 2 ^ w) :
    ∃ b, argVal st (constArg n s w) = (n, b) ∧ n < 2 ^ b ∧ b ≤ w ∧ (constArg n s w).isConst = true ∧
      constVal (constArg n s w) = n := by
  unfold constArg
  by_cases h : w < constBits n
  · simp only [h, if_true]
    exact ⟨w, by rw [argVal_const, Nat.mod_eq_of_lt hn], hn, Nat.le_refl _, rfl, rfl⟩
  · simp only [h, if_false]
    have hlt := lt_constBits n
    exact ⟨constBits n, by rw [argVal_const, Nat.mod_eq_of_lt hlt], hlt, by omega, rfl, rfl⟩

theorem constArg_below (k n : Nat) (s : Bool) (w : Nat) : ArgBelow k (constArg n s w) := by
  unfold constArg
  dsimp only
  split <;> trivial

theorem zeroArg_below (k : Nat) (t : Ty) : ArgBelow k (zeroArg t) := by
  cases t <;> trivial

mutual
theorem tyEq_eq : ∀ {t t' : Ty}, tyEq t t' = true → t = t'
  | .bool, t', h => by cases t' <;> simp_all [tyEq]
  | .int a, t', h => by cases t' <;> simp_all [tyEq]
  | .uint a, t', h => by cases t' <;> simp_all [tyEq]
  | .arr n e, t', h => by
    cases t' with
    | arr m e' =>
      simp only [tyEq, Bool.and_eq_true, beq_iff_eq] at h
      rw [h.1, tyEq_eq h.2]
    | _ => simp [tyEq] at h
  | .struct fs, t', h => by
    cases t' with
    | struct gs =>
      simp only [tyEq] at h
      rw [tyEqList_eq h]
    | _ => simp [tyEq] at h
theorem tyEqList_eq : ∀ {ts us : List Ty}, tyEqList ts us = true → ts = us
  | [], [], _ => rfl
  | [], _ :: _, h => by simp [tyEqList] at h
  | _ :: _, [], h => by simp [tyEqList] at h
  | t :: ts, u :: us, h => by
    simp only [tyEqList, Bool.and_eq_true] at h
    rw [tyEq_eq h.1, tyEqList_eq h.2]
end

theorem numTy_sbits {t : Ty} {s : Bool} {w : Nat} (h : numTy t = some (s, w)) : sbits t = some w := by
  cases t <;> simp_all [numTy, sbits]

theorem sbits_bits {t : Ty} {w : Nat} (h : sbits t = some w) : t.bits = w := by
  cases t <;> simp_all [sbits, Ty.bits]

theorem numTy_bits {t : Ty} {s : Bool} {w : Nat} (h : numTy t = some (s, w)) : t.bits = w :=
  sbits_bits (numTy_sbits h)

theorem lowerBin_sbits {op : BinOp} {t : Ty} {sop : SOp} {tr : Ty} (h : lowerBin op t = some (sop, tr)) :
    (∃ w, sbits t = some w) ∧ ∃ wr, sbits tr = some wr := by
  cases t <;> cases op <;> cases h <;> exact ⟨⟨_, rfl⟩, ⟨_, rfl⟩⟩

theorem decode_num {t : Ty} {s : Bool} {w a : Nat} (h : numTy t = some (s, w)) (ha : a < 2 ^ w) :
    t.decode a = .num s w a := by
  cases t <;> simp [numTy] at h <;> (obtain ⟨h1, h2⟩ := h; subst h1; subst h2; simp [Ty.decode, Nat.mod_eq_of_lt ha])

theorem decode_bool (a : Nat) : Ty.decode .bool a = .bool (a % 2 == 1) := rfl

theorem ofInt_lt (w : Nat) (i : Int) : ofInt w i < 2 ^ w := by
  rw [ofInt_eq]; exact (BitVec.ofInt w i).isLt

theorem ofInt_natCast {w n : Nat} (h : n < 2 ^ w) : ofInt w (n : Int) = n := by
  rw [ofInt_eq, BitVec.ofInt_natCast, BitVec.toNat_ofNat, Nat.mod_eq_of_lt h]

theorem toInt_small {w a : Nat} (h : 2 * a < 2 ^ w) : toInt w a = (a : Int) := by
  simp [toInt, h]

theorem retCallOf_some {es : List Expr} {g : Nat} {args : List Expr} (h : retCallOf es = some (g, args)) :
    es = [.call g args] := by
  unfold retCallOf at h
  split at h <;> cases h
  rfl

theorem popN_some {nms : Option NEnv} {n : NEnv} (h : popN nms = some n) : ∃ n0, nms = some n0 ∧ n = n0.tail := by
  cases nms with
  | none => cases h
  | some n0 => cases h; exact ⟨n0, rfl, rfl⟩

def Bind.den (σ : Nat → Nat) : Bind → Val
  | .val id t => t.decode (σ id)
  | .konst n => .num true 32 n

def NScope.den (σ : Nat → Nat) (s : NScope) : Scope := s.map fun p => (p.1, Bind.den σ p.2)

def NEnv.den (σ : Nat → Nat) (nm : NEnv) : Env := nm.map (NScope.den σ)

section
variable (σ : Nat → Nat) (x : String)

theorem NScope.lookup_den (s : NScope) : Scope.lookup (NScope.den σ s) x = (NScope.find s x).map (Bind.den σ) := by
  fun_induction NScope.find s x <;> simp_all [NScope.den, Scope.lookup]

theorem NEnv.lookup_den (nm : NEnv) : Env.lookup (NEnv.den σ nm) x = (NEnv.find nm x).map (Bind.den σ) := by
  fun_induction NEnv.find nm x <;> simp_all [NEnv.den, Env.lookup, NScope.lookup_den]

theorem NScope.set_den (s : NScope) (b : Bind) :
    Scope.set (NScope.den σ s) x (Bind.den σ b) = (NScope.set s x b).map (NScope.den σ) := by
  fun_induction NScope.set s x b <;> simp_all [NScope.den, Scope.set, Function.comp_def]

theorem NEnv.set_den (nm : NEnv) (b : Bind) :
    Env.set (NEnv.den σ nm) x (Bind.den σ b) = (NEnv.set nm x b).map (NEnv.den σ) := by
  fun_induction NEnv.set nm x b <;> simp_all [NEnv.den, Env.set, NScope.set_den, Function.comp_def]

theorem NEnv.declare_den (nm : NEnv) (b : Bind) :
    (NEnv.den σ nm).declare x (Bind.den σ b) = NEnv.den σ (nm.declare x b) := by
  cases nm <;> rfl

theorem NEnv.tail_den (nm : NEnv) : (NEnv.den σ nm).tail = NEnv.den σ nm.tail := by
  cases nm <;> rfl

theorem Bind.den_val (id : Nat) (t : Ty) : Bind.den σ (.val id t) = t.decode (σ id) := rfl

theorem Bind.den_konst (n : Nat) : Bind.den σ (.konst n) = .num true 32 n := rfl

theorem NScope.den_nil : NScope.den σ [] = [] := rfl

theorem NScope.den_cons (b : Bind) (s : NScope) : NScope.den σ ((x, b) :: s) = (x, Bind.den σ b) :: NScope.den σ s := rfl

theorem NEnv.den_cons (s : NScope) (nm : NEnv) : NEnv.den σ (s :: nm) = NScope.den σ s :: NEnv.den σ nm := rfl

variable {σ x}

theorem evalE_var_den (P : Prog) (f : Nat) {nm : NEnv} {b : Bind} (hf : NEnv.find nm x = some b) :
    evalE P (f + 1) (.var x) (NEnv.den σ nm) = some (Bind.den σ b) := by
  simp [evalE, NEnv.lookup_den, hf]

theorem NEnv.declare_val {nm : NEnv} {id a : Nat} {t : Ty} (h : σ id = a) :
    NEnv.den σ (nm.declare x (.val id t)) = (NEnv.den σ nm).declare x (t.decode a) := by
  rw [← h, ← NEnv.declare_den]; rfl

end

def NScope.All (p : Bind → Prop) (s : NScope) : Prop := ∀ q ∈ s, p q.2

def NEnv.All (p : Bind → Prop) (nm : NEnv) : Prop := ∀ s ∈ nm, NScope.All p s

section
variable {p : Bind → Prop} {x : String} {b : Bind}

theorem NScope.All.nil (p : Bind → Prop) : NScope.All p [] := nofun

theorem NScope.All.cons {s : NScope} (hb : p b) (h : NScope.All p s) : NScope.All p ((x, b) :: s) :=
  List.forall_mem_cons.2 ⟨hb, h⟩

theorem NScope.All.find {s : NScope} (h : NScope.All p s) : NScope.find s x = some b → p b := by
  fun_induction NScope.find s x <;> intro e
  · cases e
  · cases e; exact (List.forall_mem_cons.1 h).1
  · rename_i ih; exact ih (List.forall_mem_cons.1 h).2 e

theorem NScope.All.set {s s' : NScope} (h : NScope.All p s) (hb : p b) : NScope.set s x b = some s' → NScope.All p s' := by
  fun_induction NScope.set s x b generalizing s' <;> intro e
  · cases e
  · cases e; exact .cons hb (List.forall_mem_cons.1 h).2
  · rename_i ih
    obtain ⟨r', hr, rfl⟩ := Option.map_eq_some_iff.1 e
    exact .cons (List.forall_mem_cons.1 h).1 (ih (List.forall_mem_cons.1 h).2 hb hr)

theorem NEnv.All.nil (p : Bind → Prop) : NEnv.All p [] := nofun

theorem NEnv.All.cons {s : NScope} {nm : NEnv} (hs : NScope.All p s) (h : NEnv.All p nm) : NEnv.All p (s :: nm) :=
  List.forall_mem_cons.2 ⟨hs, h⟩

theorem NEnv.All.head {s : NScope} {nm : NEnv} (h : NEnv.All p (s :: nm)) : NScope.All p s := h s (List.mem_cons_self ..)

theorem NEnv.All.tail {nm : NEnv} (h : NEnv.All p nm) : NEnv.All p nm.tail := fun s hs => h s (List.mem_of_mem_tail hs)

theorem NEnv.All.imp {q : Bind → Prop} {nm : NEnv} (h : NEnv.All p nm) (hpq : ∀ b, p b → q b) : NEnv.All q nm :=
  fun s hs r hr => hpq _ (h s hs r hr)

theorem NEnv.All.find {nm : NEnv} (h : NEnv.All p nm) : NEnv.find nm x = some b → p b := by
  fun_induction NEnv.find nm x <;> intro e
  · cases e
  · cases e; exact h.head.find ‹_›
  · rename_i ih; exact ih h.tail e

theorem NEnv.All.set {nm nm' : NEnv} (h : NEnv.All p nm) (hb : p b) : NEnv.set nm x b = some nm' → NEnv.All p nm' := by
  fun_induction NEnv.set nm x b generalizing nm' <;> intro e
  · cases e
  · cases e; exact .cons (h.head.set hb ‹_›) h.tail
  · rename_i ih
    obtain ⟨r', hr, rfl⟩ := Option.map_eq_some_iff.1 e
    exact .cons h.head (ih h.tail hb hr)

theorem NEnv.All.declare {nm : NEnv} (h : NEnv.All p nm) (hb : p b) : NEnv.All p (nm.declare x b) := by
  cases nm with
  | nil => exact .cons (.cons hb (.nil p)) (.nil p)
  | cons s r => exact .cons (.cons hb h.head) h.tail

theorem NEnv.All.popN {nms : Option NEnv} (h : ∀ n', nms = some n' → NEnv.All p n') {n : NEnv}
    (hn : popN nms = some n) : NEnv.All p n := by
  obtain ⟨n0, rfl, rfl⟩ := popN_some hn
  exact (h n0 rfl).tail

end

def BelowB (k : Nat) : Bind → Prop
  | .val id _ => id < k
  | .konst _ => True

abbrev BelowS (k : Nat) (s : NScope) : Prop := NScope.All (BelowB k) s

abbrev Below (k : Nat) (nm : NEnv) : Prop := NEnv.All (BelowB k) nm

theorem BelowB.mono {k k' : Nat} {b : Bind} (h : BelowB k b) (hk : k ≤ k') : BelowB k' b := by
  cases b <;> simp_all [BelowB] <;> omega

theorem Below.mono {k k' : Nat} {nm : NEnv} (h : Below k nm) (hk : k ≤ k') : Below k' nm :=
  h.imp fun _ hb => hb.mono hk

theorem Below.declare_val {k k' : Nat} {nm : NEnv} (h : Below k nm) (hk : k ≤ k') (x : String) (t : Ty) :
    Below (k' + 1) (nm.declare x (.val k' t)) :=
  NEnv.All.declare (h.mono (Nat.le_succ_of_le hk)) (b := .val k' t) (Nat.lt_succ_self k')

/-- `2 ^ 31`: `lowerFor` admits a loop constant only in `0 .. 2^31-1`. -/
def Bind.Fits (σ : Nat → Nat) : Bind → Prop
  | .val id t => σ id < 2 ^ t.bits
  | .konst n => n < 2 ^ 31

abbrev Fits (σ : Nat → Nat) (nm : NEnv) : Prop := NEnv.All (Bind.Fits σ) nm

theorem Fits.declare_val {σ : Nat → Nat} {nm : NEnv} {x : String} {id a : Nat} {t : Ty} (hfit : Fits σ nm) (h : σ id = a)
    (ha : a < 2 ^ t.bits) : Fits σ (nm.declare x (.val id t)) :=
  NEnv.All.declare hfit (b := .val id t) (h ▸ ha : σ id < _)

end Mpc.Mpcl.Ssa
