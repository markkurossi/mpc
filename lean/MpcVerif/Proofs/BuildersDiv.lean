/-
Long divider (C07): restoring division for `NewUDividerLong` (`divLongLoop_spec`, the loop between named
numbers; `uDividerLong_num`), the sign handling of `NewIDivider` in sign-magnitude form (`iDividerCore_bits`), its
reading on two's complement values (`signed_quotient`; `iDivider_tc`, and `iDividerSignPad_tc` for the proposed repair).
-/
import MpcVerif.Proofs.BuildersKS

namespace Mpc.Bld
open Mpc

/-- One step of restoring division on numbers: where `B` fits into the
shifted remainder `R1` it is subtracted and `P` goes to the quotient. -/
theorem div_step (R1 B P T : Nat) (hB : 0 < B) :
    (R1 * P + T) / B = (if R1 < B then 0 else P) + ((if R1 < B then R1 else R1 - B) * P + T) / B ∧
    (R1 * P + T) % B = ((if R1 < B then R1 else R1 - B) * P + T) % B := by
  split
  · simp
  · have h1 : R1 * P + T = B * P + ((R1 - B) * P + T) := by
      rw [← Nat.add_assoc, ← Nat.add_mul]; congr 2; omega
    rw [h1, Nat.mul_add_div hB, Nat.mul_add_mod]; exact ⟨rfl, rfl⟩

/-- Quotient bits: the new bit goes on top of the `min nq m` low bits. -/
theorem q_combine (Q' m nq qi : Nat) (hQ : Q' < 2 ^ m) (hqi : qi ≤ 1) :
    (if m < nq then Q' % 2 ^ (min nq m) + 2 ^ (min nq m) * qi else Q' % 2 ^ (min nq m)) =
      (qi * 2 ^ m + Q') % 2 ^ (min nq (m + 1)) := by
  rw [Nat.add_comm (qi * _), Nat.mul_comm qi]
  by_cases h : m < nq
  · rw [if_pos h, Nat.min_eq_right (Nat.le_of_lt h), Nat.min_eq_right h, add_mul_mod_pow _ _ _ 1 hQ,
      Nat.mod_eq_of_lt hQ, Nat.mod_eq_of_lt (by omega : qi < 2 ^ 1)]
  · have hle : nq ≤ m := Nat.le_of_not_lt h
    rw [if_neg h, Nat.min_eq_left hle, Nat.min_eq_left (Nat.le_succ_of_le hle),
      Nat.add_mod _ (2 ^ m * qi), Nat.mod_eq_zero_of_dvd (Nat.dvd_mul_right_of_dvd (Nat.pow_dvd_pow 2 hle) qi),
      Nat.add_zero, Nat.mod_mod]

theorem getLastD_eq_getD {α : Type} (l : List α) (d : α) : l.getLastD d = l.getD (l.length - 1) d := by
  rw [List.getLastD_eq_getLast?, List.getLast?_eq_getElem?, List.getD_eq_getElem?_getD]

section
variable {s : St} {inp : List Bool}

/-- The loop of `NewUDividerLong` between named numbers: restoring division of `R·2^m + L` by `B`, where `L` is
the number on the `m` dividend wires still to come (`l`, most significant first) and `R` the running remainder. -/
theorem divLongLoop_spec (gmw : Bool) {b : List Nat} (nq n : Nat) :
    ∀ (l r : List Nat) {m B R L : Nat} {s : St} (_ : WF s inp), Num s inp b (n + 1) B → Num s inp l.reverse m L →
    Num s inp r (n + 1) R → m ≤ n + 1 → 0 < B → R < B → R < 2 ^ (n + 1 - m) →
    Spec inp s (divLongLoop gmw b nq l r) (fun t s' =>
      Num s' inp t.1 (min nq m) (((R * 2 ^ m + L) / B) % 2 ^ (min nq m)) ∧
      Num s' inp t.2 (n + 1) ((R * 2 ^ m + L) % B)) := by
  intro l
  induction l with
  | nil =>
    intro r m B R L s hwf _ hl hr _ hB hRB _
    obtain rfl : m = 0 := hl.len.symm
    obtain rfl : L = 0 := hl.val.symm
    simp only [divLongLoop]
    exact Spec.pure hwf ⟨Num.nil.cast (by simp) (by simp [Nat.mod_one]), hr.cast rfl (by simp [Nat.mod_eq_of_lt hRB])⟩
  | cons ai as ih =>
    intro r m B R L s hwf hb hl hr hm hB hRB hRk
    simp only [divLongLoop]
    rw [List.reverse_cons] at hl
    obtain ⟨k, rfl⟩ : ∃ k, m = k + 1 := ⟨as.length, by rw [← hl.len]; simp⟩
    obtain ⟨hai, hl'⟩ := hl.unsnoc
    have hk : as.length = k := by have := hl'.len; simpa using this
    have hLs := top_split hl.lt
    have hL' := hl'.lt
    generalize decide (2 ^ k ≤ L) = a at hai hLs
    generalize L % 2 ^ k = L' at hl' hLs hL'
    -- r1 = r << 1 with a_i at the bottom; the top wire of r carries zero
    have hp : 2 ^ (n + 1 - k) = 2 * 2 ^ (n + 1 - (k + 1)) := by rw [← Nat.pow_succ']; congr 1; omega
    have hr1 := Num.shiftIn hai hr (lt_two_pow_of_le hRk (by omega))
    have ha1 := Bool.toNat_le a
    have hT : R * 2 ^ (k + 1) + L = (a.toNat + 2 * R) * 2 ^ k + L' := by rw [hLs, Nat.pow_succ]; grind
    rw [hT]
    generalize hR1 : a.toNat + 2 * R = R1 at hr1 ⊢
    have hR1k : R1 < 2 ^ (n + 1 - k) := by omega
    have hR1n : R1 < 2 ^ (n + 1) := lt_two_pow_of_le hR1k (by omega)
    have hR1B : R1 < 2 * B := by omega
    clear hT hLs hRk hRB ha1 hp hR1 hl hai
    -- diff = r1 - b on one more wire: the top wire is the borrow `R1 < B`
    rw [hr1.len]
    refine Spec.bind (subCmp_num hwf gmw (n + 1) hr1 hb hR1n hb.lt) ?_
    intro diff s1 e1 ⟨hdl, hbor, hlow⟩
    replace hbor : Holds s1 inp (diff.getLastD 0) (decide (R1 < B)) := by
      rw [getLastD_eq_getD, hdl, Nat.add_sub_cancel]; exact hbor
    replace hlow : Num s1 inp diff.dropLast (n + 1) (if R1 < B then R1 + 2 ^ (n + 1) - B else R1 - B) := by
      rw [List.dropLast_eq_take, hdl, Nat.add_sub_cancel]; exact hlow
    rw [hk]
    have hq : Spec inp s1 (if k < nq then do
          let z ← zeroWire
          let o ← oneWire
          muxBits (diff.getLastD 0) [(z, o)]
        else pure [])
        (fun qb s' => Num s' inp qb (if k < nq then 1 else 0) (if k < nq then (if R1 < B then 0 else 1) else 0)) := by
      split
      · refine Spec.bind (zeroWire_spec e1.wf) ?_
        intro z s2 e2 hz
        refine Spec.bind (oneWire_spec e2.wf) ?_
        intro o s3 e3 ho
        refine (muxBus_num (t := [z]) (f := [o]) e3.wf (hbor.mono (e2.trans e3)) (.single (hz.mono e3))
          (.one ho)).mono ?_
        intro qb s4 _ h
        exact h.cast rfl (by simp)
      · exact Spec.pure e1.wf .nil
    refine Spec.bind hq ?_
    intro qb s2 e2 hqb
    refine Spec.bind (muxBus_num e2.wf (hbor.mono e2) (hr1.mono (e1.trans e2)) (hlow.mono e2)) ?_
    intro nr s3 e3 hnr
    replace hnr := hnr.cast rfl (show (if decide (R1 < B) = true then R1 else if R1 < B then R1 + 2 ^ (n + 1) - B
      else R1 - B) = if R1 < B then R1 else R1 - B by by_cases h : R1 < B <;> simp [h])
    have e13 := (e1.trans e2).trans e3
    refine Spec.bind (ih nr e3.wf (hb.mono e13) (hl'.mono e13) hnr (by omega) hB
      (by split <;> omega) (by split <;> omega)) ?_
    intro t s4 e4 ⟨ht1, ht2⟩
    obtain ⟨hdq, hdr⟩ := div_step R1 B (2 ^ k) L' hB
    refine Spec.pure e4.wf ⟨(ht1.append (hqb.mono (e3.trans e4))).cast (by split <;> omega) ?_, ht2.cast rfl hdr.symm⟩
    have hQ'lt : ((if R1 < B then R1 else R1 - B) * 2 ^ k + L') / B < 2 ^ k := by
      apply Nat.div_lt_of_lt_mul
      have : ((if R1 < B then R1 else R1 - B) + 1) * 2 ^ k ≤ B * 2 ^ k :=
        Nat.mul_le_mul_right _ (by split <;> omega)
      rw [Nat.add_mul] at this; omega
    have hqi : (if R1 < B then 0 else 2 ^ k) = (if R1 < B then 0 else 1) * 2 ^ k := by split <;> simp
    rw [hdq, hqi, ← q_combine _ k nq _ hQ'lt (by split <;> omega)]
    by_cases h : k < nq <;> simp [h]

theorem Bnd.reverse {s : St} {ws : List Nat} (h : Bnd s ws) : Bnd s ws.reverse :=
  fun w hw => h w (List.mem_reverse.mp hw)

/-- `NewUDividerLong` between named numbers, for a non-zero divisor and every result width. -/
theorem uDividerLong_num (hwf : WF s inp) (gmw : Bool) {a b : List Nat} {na nb A B : Nat} (nq nr : Nat)
    (ha : Num s inp a na A) (hb : Num s inp b nb B) (hne : 0 < max na nb) (hB : 0 < B) :
    Spec inp s (uDividerLong gmw a b nq nr) (fun t s' =>
      Num s' inp t.1 nq ((A / B) % 2 ^ nq) ∧ Num s' inp t.2 nr ((A % B) % 2 ^ nr)) := by
  unfold uDividerLong
  refine Spec.bind (zeroPad_num hwf ha hb) ?_
  intro p s1 e1 ⟨hp1, hp2⟩
  obtain ⟨m, hm⟩ : ∃ m, max na nb = m + 1 := ⟨max na nb - 1, by omega⟩
  rw [hm] at hp1 hp2
  rw [hp1.len]
  refine Spec.bind (zeros_num e1.wf _) ?_
  intro r0 s2 e2 hr0
  refine Spec.bind (divLongLoop_spec gmw nq m p.1.reverse r0 e2.wf (hp2.mono e2)
    ((List.reverse_reverse p.1).symm ▸ hp1.mono e2 : Num s2 inp p.1.reverse.reverse (m + 1) A) hr0 (Nat.le_refl _) hB hB
    (by rw [Nat.sub_self]; exact Nat.one_pos)) ?_
  intro t s3 e3 ⟨ht1, ht2⟩
  rw [Nat.zero_mul, Nat.zero_add] at ht1 ht2
  refine Spec.bind (zeros_num e3.wf _) ?_
  intro zq s4 e4 hzq
  refine Spec.bind (zeros_num e4.wf _) ?_
  intro zr s5 e5 hzr
  refine Spec.pure e5.wf ⟨((ht1.mono (e4.trans e5)).append (hzq.mono e5)).cast (by omega) ?_,
    (((ht2.take nr).mono (e4.trans e5)).append hzr).cast (by omega) ?_⟩
  · rw [Nat.mul_zero, Nat.add_zero]
    exact mod_min_pow _ (m + 1) nq (Nat.lt_of_le_of_lt (Nat.div_le_self _ _) hp1.lt)
  · rw [Nat.mul_zero, Nat.add_zero]

end

theorem neg_mod (z A M : Nat) (hz : z < M) (hA : A < M) (h : (z + A) % M = 0 % M) : z = (M - A) % M := by
  rcases mod_sub_cases z 0 A M hz (by omega) hA h with ⟨h0, hz0⟩ | ⟨_, hz1⟩
  · rw [hz0, Nat.le_zero.mp h0, Nat.sub_zero, Nat.sub_zero, Nat.mod_self]
  · rw [hz1, Nat.zero_add, Nat.mod_eq_of_lt (by omega)]

/-- Magnitude of an `n`-bit two's complement value (as an `n`-bit number:
`|-2^(n-1)| = 2^(n-1)`). -/
def absN (xs : List Bool) : Nat :=
  if xs.getLastD false then (2 ^ xs.length - toNat xs) % 2 ^ xs.length else toNat xs

section
variable {s : St} {inp : List Bool}

theorem negate_num (hwf : WF s inp) (gmw : Bool) {zero : Nat} {a : List Nat} {n X : Nat}
    (hz : Holds s inp zero false) (ha : Num s inp a n X) (hne : 0 < n) :
    Spec inp s (newSubtractor gmw [zero] a n) (fun z s' => Num s' inp z n ((2 ^ n - X) % 2 ^ n)) := by
  refine (newSubtractor_num hwf gmw n (.single hz) ha hne).mono ?_
  intro z s' _ ⟨Z, hZ, v⟩
  exact hZ.cast rfl (neg_mod _ _ _ hZ.lt ha.lt v)

theorem signFlip_h (hwf : WF s inp) {neg neg' sg : Nat} {v t : Bool} (hn : Holds s inp neg v)
    (hn' : Holds s inp neg' (!v)) (hs : Holds s inp sg t) :
    Spec inp s (muxBits sg [(neg', neg)]) (fun z s' => Holds s' inp (z.getD 0 0) (v != t)) := by
  refine (muxBus_num (t := [neg']) (f := [neg]) hwf hs (.single hn') (.single hn)).mono ?_
  intro z s' _ h
  have := Num.top (n := 0) h
  cases v <;> cases t <;> exact this

/-- The block `NewIDivider` runs on each operand `p` (sign-magnitude conversion): the flag `neg` is flipped where `p`
is negative and `p` is replaced by its magnitude; `k` is the rest of the program. -/
theorem absFlip_bind {β : Type} {k : List Nat → List Nat → BM β} {R : β → St → Prop} (hwf : WF s inp)
    {zw neg : Nat} {v : Bool} {p : List Nat} {xs : List Bool} (hz : Holds s inp zw false) (hn : Holds s inp neg v)
    (hp : Bits s inp p xs) (hne : 0 < xs.length)
    (hk : ∀ (negN p2 : List Nat) (s' : St), Ext s s' inp → Holds s' inp (negN.getD 0 0) (v != xs.getLastD false) →
      Num s' inp p2 xs.length (absN xs) → Spec inp s' (k negN p2) R) :
    Spec inp s (do
      let neg' ← inv neg
      let p1 ← newSubtractor false [zw] p p.length
      let negN ← muxBits (p.getLastD 0) [(neg', neg)]
      let p2 ← muxBits (p.getLastD 0) (p1.zip p)
      k negN p2) R := by
  have hnum := hp.num
  have hsg := hp.last (List.length_pos_iff.mp (hnum.len ▸ hne))
  rw [hnum.len]
  refine Spec.bind (inv_spec hwf hn) ?_
  intro neg' s1 e1 hn'
  refine Spec.bind (negate_num e1.wf false (hz.mono e1) (hnum.mono e1) hne) ?_
  intro p1 s2 e2 hp1
  have e02 := e1.trans e2
  refine Spec.bind (signFlip_h e2.wf (hn.mono e02) (hn'.mono e2) (hsg.mono e02)) ?_
  intro negN s3 e3 hnegN
  refine Spec.bind (muxBus_num e3.wf (hsg.mono (e02.trans e3)) (hp1.mono e3) (hnum.mono (e02.trans e3))) ?_
  intro p2 s4 e4 hp2
  exact hk negN p2 s4 ((e02.trans e3).trans e4) (hnegN.mono e4) hp2

theorem iDividerCore_bits (hwf : WF s inp) {p1 p2 : List Nat} {xs ys : List Bool} (nq nr : Nat)
    (h1 : Bits s inp p1 xs) (h2 : Bits s inp p2 ys) (hl : xs.length = ys.length) (hne : 0 < xs.length)
    (hB : 0 < absN ys) :
    Spec inp s (iDividerCore false p1 p2 nq nr) (fun t s' =>
      Num s' inp t.1 nq (if (xs.getLastD false != ys.getLastD false)
        then (2 ^ nq - (absN xs / absN ys) % 2 ^ nq) % 2 ^ nq else (absN xs / absN ys) % 2 ^ nq) ∧
      Num s' inp t.2 nr ((absN xs % absN ys) % 2 ^ nr)) := by
  unfold iDividerCore
  simp only [uDivider, Bool.false_eq_true, if_false]
  refine Spec.bind (zeroWire_spec hwf) ?_
  intro zero s1 e1 hzero
  refine absFlip_bind e1.wf hzero hzero (h1.mono e1) hne ?_
  intro neg2 a2 s2 e2 hneg2 ha2
  rw [Bool.false_bne] at hneg2
  have e02 := e1.trans e2
  refine absFlip_bind e2.wf (hzero.mono e2) hneg2 (h2.mono e02) (hl ▸ hne) ?_
  intro neg4 b2 s3 e3 hneg4 hb2
  have hdiv := fun nq => uDividerLong_num e3.wf false nq nr (ha2.mono e3) hb2 (max_pos_left hne) hB
  split
  · next hq0 =>
    subst hq0
    exact (hdiv 0).mono fun _ _ _ ⟨h1, h2⟩ => ⟨h1.cast rfl (by simp [Nat.mod_one]), h2⟩
  · next hq0 =>
    refine Spec.bind (hdiv nq) ?_
    intro d s4 e4 ⟨hd1, hd2⟩
    refine Spec.bind (negate_num e4.wf false (hzero.mono ((e2.trans e3).trans e4)) hd1 (by omega)) ?_
    intro q1 s5 e5 hq1
    refine (muxBus_num e5.wf (hneg4.mono (e4.trans e5)) hq1 (hd1.mono e5)).map ?_
    intro q s6 e6 hq
    exact ⟨hq, hd2.mono (e5.trans e6)⟩

end

theorem toInt_sign_abs (xs : List Bool) (hne : xs ≠ []) :
    toInt xs = (if xs.getLastD false then -((absN xs : Nat) : Int) else ((absN xs : Nat) : Int)) ∧
    (toInt xs).natAbs = absN xs := by
  have hlast := toNat_getLast xs hne
  have hlow := toNat_lt xs.dropLast
  rw [List.length_dropLast] at hlow
  have hlt := toNat_lt xs
  have hp : 2 ^ xs.length = 2 * 2 ^ (xs.length - 1) := by
    rw [← Nat.pow_succ', Nat.succ_eq_add_one, Nat.sub_add_cancel (List.length_pos_iff.mpr hne)]
  simp only [toInt_cast, absN]
  cases htop : xs.getLastD false with
  | false => simp
  | true =>
    rw [htop] at hlast
    simp only [Bool.toNat_true, Nat.mul_one] at hlast
    simp only [if_true]
    have hmod : (2 ^ xs.length - toNat xs) % 2 ^ xs.length = 2 ^ xs.length - toNat xs :=
      Nat.mod_eq_of_lt (by omega)
    rw [hmod]
    constructor <;> omega

theorem neg_emod_nat (D M : Nat) (hM : 0 < M) : (((M - D % M) % M : Nat) : Int) = (-(D : Int)) % (M : Int) := by
  rw [Int.natCast_emod, Int.natCast_sub (Nat.le_of_lt (Nat.mod_lt D hM)), Int.natCast_emod, Int.sub_emod,
    Int.emod_self, Int.emod_emod, ← Int.zero_sub (D : Int), Int.sub_emod 0 (D : Int), Int.zero_emod]

/-- The quotient the signed divider delivers is the truncated quotient of the
two's complement values, modulo `2^nq`. -/
theorem signed_quotient (xs ys : List Bool) (hx : xs ≠ []) (hy : ys ≠ []) (nq : Nat) :
    (((if (xs.getLastD false != ys.getLastD false)
        then (2 ^ nq - (absN xs / absN ys) % 2 ^ nq) % 2 ^ nq
        else (absN xs / absN ys) % 2 ^ nq : Nat)) : Int) =
      (Int.tdiv (toInt xs) (toInt ys)) % ((2 ^ nq : Nat) : Int) := by
  obtain ⟨hxs, _⟩ := toInt_sign_abs xs hx
  obtain ⟨hys, _⟩ := toInt_sign_abs ys hy
  rw [hxs, hys]
  have hM : 0 < 2 ^ nq := Nat.two_pow_pos nq
  cases xs.getLastD false <;> cases ys.getLastD false <;>
    simp only [bne_self_eq_false, Bool.false_eq_true, if_false, if_true, Bool.not_false, Bool.bne_true,
      Bool.bne_false]
  · rw [← Int.ofNat_tdiv, Int.natCast_emod]
  · rw [Int.tdiv_neg, ← Int.ofNat_tdiv, neg_emod_nat _ _ hM]
  · rw [Int.neg_tdiv, ← Int.ofNat_tdiv, neg_emod_nat _ _ hM]
  · rw [Int.neg_tdiv, Int.tdiv_neg, Int.neg_neg, ← Int.ofNat_tdiv, Int.natCast_emod]

theorem absN_pos {ys : List Bool} (hy : ys ≠ []) (h : toInt ys ≠ 0) : 0 < absN ys := by
  rw [← (toInt_sign_abs _ hy).2]; exact Int.natAbs_pos.mpr h

section
variable {s : St} {inp : List Bool}

/-- `iDividerCore_bits` read on two's complement values: the quotient truncates toward zero, the remainder is
`|x| mod |y|`. -/
theorem iDividerCore_tc (hwf : WF s inp) {p1 p2 : List Nat} {xs ys : List Bool} (nq nr : Nat)
    (h1 : Bits s inp p1 xs) (h2 : Bits s inp p2 ys) (hl : xs.length = ys.length) (hne : 0 < xs.length)
    (h0 : toInt ys ≠ 0) :
    Spec inp s (iDividerCore false p1 p2 nq nr) (fun t s' =>
      (∃ Q, Num s' inp t.1 nq Q ∧ (Q : Int) = Int.tdiv (toInt xs) (toInt ys) % ((2 ^ nq : Nat) : Int)) ∧
      Num s' inp t.2 nr ((toInt xs).natAbs % (toInt ys).natAbs % 2 ^ nr)) := by
  have hx : xs ≠ [] := List.length_pos_iff.mp hne
  have hy : ys ≠ [] := List.length_pos_iff.mp (hl ▸ hne)
  refine (iDividerCore_bits hwf nq nr h1 h2 hl hne (absN_pos hy h0)).mono fun _ _ _ ⟨hq, hr⟩ =>
    ⟨⟨_, hq, signed_quotient xs ys hx hy nq⟩, ?_⟩
  rw [(toInt_sign_abs xs hx).2, (toInt_sign_abs ys hy).2]; exact hr

/-- `NewIDivider` as in the code (long divider inside): the operands are ZERO padded to the common width and read
as two's complement numbers there. -/
theorem iDivider_tc (hwf : WF s inp) {a b : List Nat} {av bv : List Bool} (nq nr : Nat) (ha : Bits s inp a av)
    (hb : Bits s inp b bv) (hne : 0 < max av.length bv.length)
    (h0 : toInt (padTo bv (max av.length bv.length)) ≠ 0) :
    Spec inp s (iDivider false a b nq nr) (fun t s' =>
      (∃ Q, Num s' inp t.1 nq Q ∧ (Q : Int) = Int.tdiv (toInt (padTo av (max av.length bv.length)))
        (toInt (padTo bv (max av.length bv.length))) % ((2 ^ nq : Nat) : Int)) ∧
      Num s' inp t.2 nr ((toInt (padTo av (max av.length bv.length))).natAbs %
        (toInt (padTo bv (max av.length bv.length))).natAbs % 2 ^ nr)) := by
  unfold iDivider
  refine Spec.bind (zeroPad_bits hwf ha hb) ?_
  intro p s1 e1 ⟨h1, h2⟩
  exact iDividerCore_tc e1.wf nq nr h1 h2
    (by rw [padTo_length, padTo_length, Nat.max_eq_right (Nat.le_max_left ..), Nat.max_eq_right (Nat.le_max_right ..)])
    (by rw [padTo_length]; exact Nat.lt_of_lt_of_le hne (Nat.le_max_right ..)) h0

/-- The PROPOSED REPAIR `iDividerSignPad` (operands sign extended to the common width): each operand is read as a
two's complement number at its own width. -/
theorem iDividerSignPad_tc (hwf : WF s inp) {a b : List Nat} {av bv : List Bool} (nq nr : Nat) (ha : Bits s inp a av)
    (hb : Bits s inp b bv) (hane : 0 < av.length) (hbne : 0 < bv.length) (h0 : toInt bv ≠ 0) :
    Spec inp s (iDividerSignPad a b nq nr) (fun t s' =>
      (∃ Q, Num s' inp t.1 nq Q ∧ (Q : Int) = Int.tdiv (toInt av) (toInt bv) % ((2 ^ nq : Nat) : Int)) ∧
      Num s' inp t.2 nr ((toInt av).natAbs % (toInt bv).natAbs % 2 ^ nr)) := by
  unfold iDividerSignPad signPad
  rw [← toInt_sextTo av (max av.length bv.length), ← toInt_sextTo bv (max av.length bv.length)] at *
  rw [ha.length, hb.length]
  exact iDividerCore_tc hwf nq nr (ha.signExt (List.length_pos_iff.mp (ha.length ▸ hane)) _)
    (hb.signExt (List.length_pos_iff.mp (hb.length ▸ hbne)) _)
    (by rw [sextTo_length, sextTo_length, Nat.max_eq_right (Nat.le_max_left ..), Nat.max_eq_right (Nat.le_max_right ..)])
    (by rw [sextTo_length]; exact max_pos_left hane) h0

end

end Mpc.Bld
