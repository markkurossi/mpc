/-
C09 / C10: a rearrangement of a single-assignment circuit that keeps every producer before its consumers
is topological (`reorder_topological`), in particular a stable sort by an order that does not decrease from
producer to consumer (`sort_topological`); the orders of `Compiler.Compile` and of the GMW evaluator as
numeric keys (`compileLe_iff`, `gmwLe_iff`); levels accepted by the walk of `AssignLevels` grow along
dependencies (`LevelWalk.mono`, `Circuit.assignLevels_mono`).  Model file: `Model/Levels.lean`.
-/
import MpcVerif.Proofs.PlainEval

namespace Mpc

section SortSec
variable {α : Type} (gate : α → Gate)

theorem mem_pre_of_pair_sublist (h a : α) (pre post : List α)
    (hsub : List.Sublist [h, a] (pre ++ a :: post)) (hnd : (pre ++ a :: post).Nodup) : h ∈ pre := by
  have ha : a ∉ post := (List.nodup_cons.mp (List.nodup_append.mp hnd).2.1).1
  -- the list splits into a part containing `h` and a part containing `a`; compare with the given split
  obtain ⟨r₁, r₂, e, h1, h2⟩ := List.append_sublist_iff.mp (show List.Sublist ([h] ++ [a]) _ from hsub)
  have hh := List.singleton_sublist.mp h1
  rcases List.append_eq_append_iff.mp e with ⟨c, rfl, e'⟩ | ⟨c, rfl, _⟩
  · cases c with
    | nil => simpa using hh
    | cons x c =>
      obtain ⟨rfl, rfl⟩ := List.cons.inj e'
      exact absurd (List.mem_append_right _ (List.singleton_sublist.mp h2)) ha
  · exact List.mem_append_left _ hh

theorem reorder_topological (n : Nat) (l l' : List α) (d : Nat → Bool) (hssa : SSA n (l.map gate) d) (hperm : l'.Perm l)
    (hord : ∀ h a, List.Sublist [h, a] l → (gate h).out ∈ (gate a).ins → List.Sublist [h, a] l') :
    wfFrom n (l'.map gate) d = true := by
  have hndl : l.Nodup := by
    have := hssa.2.1
    rw [List.map_map] at this
    exact List.Pairwise.of_map _ (fun a b hab h => hab (by rw [h])) this
  have hnds : l'.Nodup := (hperm.nodup_iff).mpr hndl
  have hbl := wf_bounds n _ d hssa.1
  refine (wfFrom_iff_topo n _ d).mpr ⟨(topo_iff_pre gate l' _).mpr fun pre a post hl w hw => ?_,
    List.forall_mem_map.mpr fun a ha => hbl (gate a) (List.mem_map_of_mem (hperm.mem_iff.mp ha))⟩
  have ha : a ∈ l := hperm.mem_iff.mp (by rw [hl]; simp)
  obtain ⟨p0, q0, hl0⟩ := List.append_of_mem ha
  have hwf0 := hssa.1
  rw [hl0] at hwf0
  refine (wf_pre gate n p0 a q0 d hwf0 w hw).imp_right fun ⟨h, hh, e⟩ => ?_
  have hsub : List.Sublist [h, a] l := hl0 ▸
    (List.singleton_sublist.mpr hh).append (List.singleton_sublist.mpr List.mem_cons_self)
  have hsub' := hord h a hsub (e ▸ hw)
  rw [hl] at hsub' hnds
  exact ⟨h, mem_pre_of_pair_sublist h a pre post hsub' hnds, e⟩

theorem sort_topological (n : Nat) (le : α → α → Bool)
    (trans : ∀ (a b c : α), le a b → le b c → le a c)
    (total : ∀ (a b : α), le a b || le b a)
    (l : List α) (d : Nat → Bool) (hssa : SSA n (l.map gate) d)
    (hdep : ∀ h a, List.Sublist [h, a] l → (gate h).out ∈ (gate a).ins → le h a = true) :
    wfFrom n ((l.mergeSort le).map gate) d = true :=
  reorder_topological gate n l _ d hssa (List.mergeSort_perm l le) fun h a hsub hw =>
    List.pair_sublist_mergeSort trans total (hdep h a hsub hw) hsub

end SortSec

def cKey (a : Gate × Nat) : Nat := 2 * a.2 + (if a.1.op = .and then 0 else 1)
def gKey (a : Gate × Nat) : Nat := 2 * a.2 + (if a.1.op = .and then 1 else 0)

theorem cKey_bounds (a : Gate × Nat) : 2 * a.2 ≤ cKey a ∧ cKey a ≤ 2 * a.2 + 1 := by
  unfold cKey; split <;> omega

/-- "Level first, then flagged gates first" is the order of a numeric key. -/
theorem lexLe_iff (x y : Nat) (p q : Bool) :
    (!(decide (y < x) || (y == x && q && !p))) = true ↔
      2 * x + (if p then 0 else 1) ≤ 2 * y + (if q then 0 else 1) := by
  cases p <;> cases q <;> simp <;> omega

theorem compileLe_iff (a b : Gate × Nat) : compileLe a b = true ↔ cKey a ≤ cKey b := by
  have := lexLe_iff a.2 b.2 (a.1.op == .and) (b.1.op == .and)
  simp only [beq_iff_eq] at this
  exact this

theorem gmwLe_iff (a b : Gate × Nat) : gmwLe a b = true ↔ gKey a ≤ gKey b := by
  have := lexLe_iff a.2 b.2 (a.1.op != .and) (b.1.op != .and)
  simpa only [gmwLe, gmwLess, gKey, bne_iff_ne, ne_eq, ite_not, Bool.not_not, bne, Bool.not_eq_true',
    beq_eq_false_iff_ne] using this

section Key
variable {α : Type} (key : α → Nat) (le : α → α → Bool) (hle : ∀ a b, le a b = true ↔ key a ≤ key b)
include hle

/-- An order read off a numeric key is a total preorder, which is what `List.mergeSort` asks for. -/
theorem le_trans_of_key (a b c : α) (h1 : le a b = true) (h2 : le b c = true) : le a c = true := by
  rw [hle] at *; omega

theorem le_total_of_key (a b : α) : (le a b || le b a) = true := by
  rw [Bool.or_eq_true, hle, hle]; omega

end Key

theorem pair_sublist_decomp {α : Type} (h a : α) (l : List α) (hs : List.Sublist [h, a] l) :
    ∃ pre post, l = pre ++ a :: post ∧ h ∈ pre := by
  obtain ⟨r₁, r₂, rfl, h1, h2⟩ := List.append_sublist_iff.mp (show List.Sublist ([h] ++ [a]) l from hs)
  obtain ⟨s, t, rfl⟩ := List.append_of_mem (List.singleton_sublist.mp h2)
  exact ⟨r₁ ++ s, t, (List.append_assoc ..).symm, List.mem_append_left _ (List.singleton_sublist.mp h1)⟩

def bump (gmw : Bool) (g : Gate) : Nat := if gmw then (if g.op == .and then 1 else 0) else 1

theorem assignLevelsGo_cons (gmw : Bool) (g : Gate) (gs : List Gate) (lv : Array Nat) (mx : Nat) :
    assignLevelsGo gmw (g :: gs) lv mx =
      let level := if g.op.binary then max (lv.getD g.in0 0) (lv.getD g.in1 0) else lv.getD g.in0 0
      let r := assignLevelsGo gmw gs (lv.setIfInBounds g.out (level + bump gmw g)) (max mx (level + bump gmw g))
      (level :: r.1, r.2) := by
  cases gmw
  · rfl
  · cases h : g.op == .and <;> simp only [assignLevelsGo, bump, h, if_true] <;> rfl

theorem assignLevelsGo_length (gmw : Bool) : ∀ (gs : List Gate) (lv : Array Nat) (mx : Nat),
    (assignLevelsGo gmw gs lv mx).1.length = gs.length := by
  intro gs
  induction gs with
  | nil => intro lv mx; rfl
  | cons g gs ih => intro lv mx; rw [assignLevelsGo_cons]; simp [ih]

/-- `nd w` is the level a reader of wire `w` must reach. -/
def LevelWalk (b : Gate → Nat) : List (Gate × Nat) → Array Nat → Prop
  | [], _ => True
  | a :: rest, nd => (∀ w ∈ a.1.ins, nd.getD w 0 ≤ a.2) ∧ LevelWalk b rest (nd.setIfInBounds a.1.out (a.2 + b a.1))

theorem LevelWalk.ge {b : Gate → Nat} (w : Nat) : ∀ {gl : List (Gate × Nat)} {nd : Array Nat},
    (∀ a ∈ gl, a.1.out ≠ w) → LevelWalk b gl nd → ∀ a ∈ gl, w ∈ a.1.ins → nd.getD w 0 ≤ a.2
  | g :: gl, nd, hne, ht, a, ha, hw => by
    rcases List.mem_cons.mp ha with rfl | ha
    · exact ht.1 w hw
    · have := LevelWalk.ge w (fun a' ha' => hne a' (List.mem_cons_of_mem _ ha')) ht.2 a ha hw
      rwa [getD_set_ne _ _ _ _ _ (hne g List.mem_cons_self)] at this

theorem LevelWalk.mono {b : Gate → Nat} : ∀ {gl : List (Gate × Nat)} {nd : Array Nat},
    (gl.map (·.1.out)).Nodup → (∀ a ∈ gl, a.1.out < nd.size) → LevelWalk b gl nd →
    ∀ pre a post, gl = pre ++ a :: post → ∀ h ∈ pre, h.1.out ∈ a.1.ins → h.2 + b h.1 ≤ a.2
  | [], _, _, _, _, pre, a, post, hl, _, _, _ => by simp at hl
  | _ :: _, _, _, _, _, [], _, _, _, _, hh, _ => by simp at hh
  | g :: gl, nd, hnd, hsz, ht, p :: pre, a, post, hl, h, hh, hw => by
    rw [List.map_cons, List.nodup_cons] at hnd
    simp only [List.cons_append, List.cons.injEq] at hl
    obtain ⟨rfl, hl⟩ := hl
    rcases List.mem_cons.mp hh with rfl | hh
    · have ha : a ∈ gl := by rw [hl]; simp
      have := LevelWalk.ge h.1.out (fun a' ha' e => hnd.1 (List.mem_map.mpr ⟨a', ha', e⟩)) ht.2 a ha hw
      rwa [getD_set_eq _ _ _ _ (hsz h List.mem_cons_self)] at this
    · exact LevelWalk.mono hnd.2 (fun a' ha' => by
        rw [Array.size_setIfInBounds]; exact hsz a' (List.mem_cons_of_mem _ ha')) ht.2 pre a post hl h hh hw

theorem assignLevelsGo_walk (gmw : Bool) : ∀ (gs : List Gate) (lv : Array Nat) (mx : Nat),
    LevelWalk (bump gmw) (gs.zip (assignLevelsGo gmw gs lv mx).1) lv
  | [], _, _ => trivial
  | g :: gs, lv, mx => by
    rw [assignLevelsGo_cons]
    refine ⟨fun w hw => ?_, assignLevelsGo_walk gmw gs _ _⟩
    rw [mem_ins] at hw
    dsimp only at hw ⊢
    rcases hw with rfl | ⟨hb, rfl⟩
    · split <;> omega
    · simp only [hb, if_true]; omega

theorem Circuit.zip_assignLevels_fst (c : Circuit) (gmw : Bool) :
    (c.gates.zip (c.assignLevels gmw).1).map Prod.fst = c.gates :=
  List.map_fst_zip (by simp [Circuit.assignLevels, assignLevelsGo_length])

theorem Circuit.assignLevels_mono (c : Circuit) (gmw : Bool) (hssa : SSA c.numWires c.gates c.inputDefined) :
    ∀ pre a post, c.gates.zip (c.assignLevels gmw).1 = pre ++ a :: post →
    ∀ h ∈ pre, h.1.out ∈ a.1.ins → h.2 + bump gmw h.1 ≤ a.2 := by
  have hmap := c.zip_assignLevels_fst gmw
  refine (assignLevelsGo_walk gmw c.gates _ 0).mono ?_ fun a ha => ?_
  · have := hssa.2.1
    rw [← hmap, List.map_map] at this; exact this
  · rw [Array.size_replicate]
    exact (wf_bounds c.numWires c.gates _ hssa.1 a.1 (hmap ▸ List.mem_map_of_mem ha)).2

theorem cKey_mono (h a : Gate × Nat) (hh : h.2 + bump false h.1 ≤ a.2) : cKey h ≤ cKey a := by
  have hh : h.2 + 1 ≤ a.2 := hh
  have := cKey_bounds h
  have := cKey_bounds a
  omega

theorem gKey_mono (h a : Gate × Nat) (hh : h.2 + bump true h.1 ≤ a.2) : gKey h ≤ gKey a := by
  simp only [gKey, bump, if_true, beq_iff_eq] at hh ⊢
  by_cases h1 : h.1.op = .and <;> by_cases h2 : a.1.op = .and <;> simp only [h1, h2, if_true, if_false] at hh ⊢ <;>
    omega

theorem Circuit.assignLevels_sort_wf (c : Circuit) (gmw : Bool) (le : Gate × Nat → Gate × Nat → Bool)
    (key : Gate × Nat → Nat) (hle : ∀ a b, le a b = true ↔ key a ≤ key b)
    (hkey : ∀ h a : Gate × Nat, h.2 + bump gmw h.1 ≤ a.2 → key h ≤ key a)
    (hssa : SSA c.numWires c.gates c.inputDefined) :
    wfFrom c.numWires (((c.gates.zip (c.assignLevels gmw).1).mergeSort le).map Prod.fst) c.inputDefined = true := by
  refine sort_topological Prod.fst c.numWires le (le_trans_of_key key le hle) (le_total_of_key key le hle) _ _
    (by rw [c.zip_assignLevels_fst gmw]; exact hssa) fun h a hsub hw => ?_
  obtain ⟨pre, post, hl, hh⟩ := pair_sublist_decomp h a _ hsub
  exact (hle h a).mpr (hkey h a (c.assignLevels_mono gmw hssa pre a post hl h hh hw))

end Mpc
