/-
Lemmas for Model/GarbleTape.lean: the garbling of a circuit depends on the
random stream only through its first `1 + nIn` slots, whatever the batch size
of the reads; the slot-based garbling on the constant-stack loop is the model.
-/
import MpcVerif.Model.GarbleTape
import MpcVerif.Proofs.GarbleBig

namespace Mpc
open LabelAlg

variable {L : Type} [LabelAlg L]

theorem garbleSlotsTR_eq (c : Circuit) (H : Hash L) (fixS : L → L) (slot : Nat → L) :
    c.garbleSlotsTR H fixS slot = c.garbleSlots H fixS slot := by
  simp only [Circuit.garbleSlotsTR, Circuit.garbleSlots, garbleTR_eq]

theorem garble_congr (c : Circuit) (H : Hash L) (r : L) (inl inl' : Nat → L)
    (h : ∀ i, i < c.nIn → inl i = inl' i) : c.garble H r inl = c.garble H r inl' := by
  have hf : (fun i => if i < c.nIn then (⟨inl i, inl i ^^^ r⟩ : WireL L) else default) =
      (fun i => if i < c.nIn then (⟨inl' i, inl' i ^^^ r⟩ : WireL L) else default) :=
    funext fun i => ite_congr rfl (fun hi => by rw [h i hi]) fun _ => rfl
  simp only [Circuit.garble]
  rw [hf]

theorem garbleSlots_congr (c : Circuit) (H : Hash L) (fixS : L → L) (s s' : Nat → L)
    (h : ∀ k, k < c.slotsUsed → s k = s' k) : c.garbleSlots H fixS s = c.garbleSlots H fixS s' := by
  simp only [Circuit.garbleSlots]
  rw [h 0 (by simp only [Circuit.slotsUsed]; omega)]
  exact garble_congr c H _ _ _ (fun i hi => h (i + 1) (by simp only [Circuit.slotsUsed]; omega))

theorem drawBatchedF_eq_take {α : Type} (b : Nat) (hb : 0 < b) : ∀ (fuel n : Nat) (tape : List α),
    n ≤ fuel → drawBatchedF b fuel n tape = tape.take n := by
  intro fuel
  induction fuel with
  | zero =>
    intro n tape hn
    obtain rfl := Nat.le_zero.mp hn
    rfl
  | succ fuel ih =>
    intro n tape hn
    rw [drawBatchedF]
    split
    · obtain rfl : n = 0 := by omega
      rfl
    · have hk : min b n ≤ n := Nat.min_le_right b n
      rw [ih _ _ (by omega), ← List.take_add, Nat.add_sub_cancel' hk]

theorem drawBatched_eq_take {α : Type} (b : Nat) (hb : 0 < b) (n : Nat) (tape : List α) :
    drawBatched b n tape = tape.take n :=
  drawBatchedF_eq_take b hb n n tape (Nat.le_refl n)

theorem garbleTape_some (c : Circuit) (H : Hash L) (fixS : L → L) (tape : List L)
    (h : 1 + c.nIn ≤ tape.length) :
    c.garbleTape H fixS tape = some (c.garbleSlots H fixS (fun k => tape.getD k default)) := by
  have hn : ¬ tape.length < c.slotsUsed := by
    show ¬ tape.length < 1 + c.nIn
    omega
  simp only [Circuit.garbleTape, if_neg hn]

theorem garbleTape_none (c : Circuit) (H : Hash L) (fixS : L → L) (tape : List L)
    (h : tape.length < 1 + c.nIn) : c.garbleTape H fixS tape = none := by
  have hn : tape.length < c.slotsUsed := h
  simp only [Circuit.garbleTape, if_pos hn]

end Mpc
