/-
C07 bridge to the plain circuit evaluator of C01 (`Circuit.plainEval`, the model of
`circuit.Circuit.Compute`'s gate loop): on the gate list of a well-formed builder state every wire gets the
value `St.val` that the builder theorems talk about (`plainEval_eq_val`).
-/
import MpcVerif.Proofs.Builders
import MpcVerif.Proofs.CircuitLemmas

namespace Mpc.Bld
open Mpc

/-- The builder state as a `Circuit` (outputs = the last `nOut` wires). -/
def St.toCircuit (s : St) (nOut : Nat) : Circuit :=
  { numWires := s.next, nIn := s.nIn, nOut := nOut, gates := s.gates.toList }

theorem bridge_aux (N : Nat) : ∀ (gs : List Gate) (S : Store Bool) (V : Array Bool),
    S.size = N → (∀ w, S.get w = V.getD w false) →
    (∀ k (h : k < gs.length), (gs[k]).out = V.size + k) → V.size + gs.length ≤ N →
    ∀ w, (evalPlainGates gs S).get w = (evalGates gs V).getD w false
  | [], S, V, _, hinv, _, _ => by
    intro w; simpa [evalPlainGates, evalGates] using hinv w
  | g :: gs, S, V, hS, hinv, hout, hN => by
    intro w
    simp only [evalPlainGates, evalGates, List.foldl_cons]
    have hg : g.out = V.size := by have := hout 0 (by simp); simpa using this
    have hlt : g.out < S.size := by simp only [List.length_cons] at hN; omega
    have := bridge_aux N gs (g.evalPlain S) (step V g) (by rw [Gate.evalPlain_size, hS]) ?_ ?_ ?_ w
    · simpa [evalPlainGates, evalGates] using this
    · intro w'
      simp only [Gate.evalPlain, step]
      rw [Store.get_set _ _ _ _ hlt, hinv g.in0, hinv g.in1]
      by_cases hw : g.out = w'
      · subst hw
        simp [Array.getD, Array.getElem_push, hg]
      · simp only [hw, if_false]
        rw [hinv w']
        simp only [Array.getD, Array.size_push]
        by_cases h1 : w' < V.size
        · simp [h1, Nat.lt_succ_of_lt h1, Array.getElem_push]
        · have : ¬ w' < V.size + 1 := by omega
          simp [h1, this]
    · intro k hk
      have := hout (k + 1) (by simp; omega)
      simp only [List.getElem_cons_succ] at this
      simp only [step, Array.size_push]
      omega
    · simp only [step, Array.size_push, List.length_cons] at hN ⊢
      omega

theorem plainEval_eq_val (s : St) (inp : List Bool) (hwf : WF s inp) (nOut : Nat) (w : Nat) :
    ((s.toCircuit nOut).plainEval inp).get w = s.val inp w := by
  simp only [Circuit.plainEval, St.toCircuit, St.val, St.vals]
  have hl := hwf.len
  apply bridge_aux s.next
  · simp
  · intro w'
    rw [List.take_of_length_le (by omega), getD_toArray]
    by_cases h : w' < s.next
    · exact get_initStore _ _ _ h
    · rw [Store.get_of_size_le _ _ (by simpa using h), getD_of_le _ _ _ (by have := s.nIn_le_next; omega)]
      rfl
  · intro k hk
    have hk' : k < s.gates.size := by simpa using hk
    have := hwf.sl k hk'
    simp only [Array.getElem_toList, List.size_toArray]
    rw [this, hl]
  · simp [St.next, hl]

end Mpc.Bld
