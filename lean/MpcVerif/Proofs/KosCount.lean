/-
Dimension counting for the challenge coefficients of the malicious-mode
consistency check (Model/KosSet.lean).

`dependent_rows_exist`: among ANY 129 labels (128-bit vectors) some non-empty
subset XORs to zero.  Pigeonhole: the 2^129 subsets of 129 rows (encoded as the
bits of a number `< 2^129`) have only 2^128 possible XOR values, so two
distinct subsets have the same XOR; their symmetric difference is non-empty and
XORs to zero (`xorSel_xor`).  `unit_rows_independent`: 128 rows do not suffice
(the unit vectors).  From Mathlib: the pigeonhole principle for finite types
(`Fintype.exists_ne_map_eq_of_card_lt`, `Fintype.card_fin`) and
`List.Nodup.filter` / `List.Nodup.map`.
-/
import Mathlib.Data.Fintype.Pigeonhole
import MpcVerif.Proofs.KosSet

namespace Mpc.Kos
open Mpc.Iknp Mpc.Clmul

/-- The form of the receiver's checksum (`receiveKos_x`). -/
def xorSel (chi : Nat → Label) (s : Nat → Bool) (n : Nat) : Label := lsum n fun r => if s r then chi r else 0#128

theorem xorSel_xor (chi : Nat → Label) (s t : Nat → Bool) (n : Nat) :
    xorSel chi (fun r => s r ^^ t r) n = xorSel chi s n ^^^ xorSel chi t n := by
  unfold xorSel
  rw [← lsum_xor]
  refine lsum_congr _ _ _ fun r _ => ?_
  dsimp only
  by_cases hs : s r = true <;> by_cases ht : t r = true <;> simp [hs, ht]

theorem rowXor_append (chi : Nat → Label) (A B : List Nat) : rowXor chi (A ++ B) = rowXor chi A ^^^ rowXor chi B := by
  induction A with
  | nil => simp [rowXor_nil]
  | cons a A ih => rw [List.cons_append, rowXor_cons, rowXor_cons, ih, xor_swap]

theorem rowXor_filter_range (chi : Nat → Label) (s : Nat → Bool) (n : Nat) :
    rowXor chi ((List.range n).filter s) = xorSel chi s n := by
  induction n with
  | zero => rfl
  | succ k ih =>
    rw [List.range_succ, List.filter_append, rowXor_append, ih]
    cases h : s k <;> simp [xorSel, lsum, h, rowXor_cons, rowXor_nil]

theorem dependent_rows_exist (chi : Nat → Label) :
    ∃ S : List Nat, S ≠ [] ∧ S.Nodup ∧ S.length ≤ 129 ∧ (∀ r, r ∈ S → r < 129) ∧ rowXor chi S = 0#128 := by
  let f : Fin (2 ^ 129) → Fin (2 ^ 128) := fun k => (xorSel chi (fun r => Nat.testBit k.val r) 129).toFin
  obtain ⟨k, k', hne, heq⟩ := Fintype.exists_ne_map_eq_of_card_lt f (by
    rw [Fintype.card_fin, Fintype.card_fin]
    exact Nat.pow_lt_pow_right (by omega) (by omega))
  have heq' : xorSel chi (fun r => Nat.testBit k.val r) 129 = xorSel chi (fun r => Nat.testBit k'.val r) 129 :=
    BitVec.eq_of_toFin_eq heq
  have hv : k.val ≠ k'.val := fun e => hne (Fin.ext e)
  obtain ⟨r0, hr0⟩ := Nat.exists_testBit_ne_of_ne hv
  have hhigh : ∀ m : Fin (2 ^ 129), 129 ≤ r0 → Nat.testBit m.val r0 = false := fun m h => testBit_of_lt_two_pow m.isLt h
  have hlt : r0 < 129 := Nat.lt_of_not_le fun h => hr0 ((hhigh k h).trans (hhigh k' h).symm)
  let u : Nat → Bool := fun r => Nat.testBit k.val r ^^ Nat.testBit k'.val r
  refine ⟨(List.range 129).filter u, ?_, List.nodup_range.filter _, by simpa using List.length_filter_le u (List.range 129),
    fun r hr => List.mem_range.mp (List.mem_filter.mp hr).1, ?_⟩
  · exact List.ne_nil_of_mem (List.mem_filter.mpr ⟨List.mem_range.mpr hlt, by simpa [u] using hr0⟩)
  · rw [rowXor_filter_range, xorSel_xor, heq', BitVec.xor_self]

theorem rowXor_map_add (chi : Nat → Label) (base : Nat) (S : List Nat) :
    rowXor chi (S.map fun a => base + a) = rowXor (fun a => chi (base + a)) S := by
  induction S with
  | nil => rfl
  | cons a S ih => rw [List.map_cons, rowXor_cons, rowXor_cons, ih]

theorem dependent_rows_window (chi : Nat → Label) (base : Nat) :
    ∃ S : List Nat, S ≠ [] ∧ S.Nodup ∧ S.length ≤ 129 ∧ (∀ r, r ∈ S → base ≤ r ∧ r < base + 129) ∧
      rowXor chi S = 0#128 := by
  obtain ⟨S, hne, hnd, hlen, hlt, hx⟩ := dependent_rows_exist fun a => chi (base + a)
  refine ⟨S.map fun a => base + a, ?_, hnd.map fun _ _ e => Nat.add_left_cancel e, by simpa using hlen, ?_, ?_⟩
  · intro h
    exact hne (List.map_eq_nil_iff.mp h)
  · intro r hr
    obtain ⟨a, ha, rfl⟩ := List.mem_map.mp hr
    have := hlt a ha
    omega
  · rw [rowXor_map_add]; exact hx

theorem labelBit_rowXor_unit (S : List Nat) (hnd : S.Nodup) (hS : ∀ r, r ∈ S → r < 128) (j : Nat) (hj : j < 128) :
    labelBit (rowXor bitLabel S) j = decide (j ∈ S) := by
  induction S with
  | nil => simp [rowXor_nil]
  | cons r S ih =>
    have h' := List.nodup_cons.mp hnd
    have hr : r < 128 := hS r (List.mem_cons_self ..)
    rw [rowXor_cons, labelBit_xor, ih h'.2 (fun q hq => hS q (List.mem_cons_of_mem _ hq)), labelBit_bitLabel r j hr hj]
    by_cases e : r = j
    · subst e
      simp [h'.1]
    · have e' : j ≠ r := fun x => e x.symm
      simp [e, e']

theorem unit_rows_independent (S : List Nat) (hne : S ≠ []) (hnd : S.Nodup) (hS : ∀ r, r ∈ S → r < 128) :
    rowXor bitLabel S ≠ 0#128 := by
  intro h
  cases S with
  | nil => exact hne rfl
  | cons r S' =>
    have hr : r < 128 := hS r (List.mem_cons_self ..)
    have := labelBit_rowXor_unit (r :: S') hnd hS r hr
    rw [h, labelBit_zero] at this
    simp at this

end Mpc.Kos
