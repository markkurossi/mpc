/-
Lemmas about the pool protocol under garbage collection (`Model/PoolGC.lean`)
for `Props/C17.lean`: with the code as it is (`fin = false`) every step of a GC
history is a step of the pool model or leaves the pool state alone (`GStep`), so
reachable states and runs project to the pool's and a dropped header stays
dropped; a garbling whose header was dropped keeps its handle record, step by
step (`RInv`).  Core Lean only.
-/
import MpcVerif.Model.PoolGC
import MpcVerif.Proofs.Pool

namespace Mpc.Pool
variable {Mem Job : Type}

/-- The transitions of the GC machine of the code as it is: a step of the pool machine that calls no method
through a dropped header, or a header drop, which leaves the pool state alone. -/
inductive GStep (P : Params Mem Job) (γ : GState Mem Job) (t : Tid) : GAction Job → GState Mem Job → Prop
  | base {b σ'} : step? P true γ.σ t b = some σ' → (∀ h, usesHeader b = some h → γ.retained h = none) →
      GStep P γ t (.base b) { γ with σ := σ' }
  | drop {h H x} : γ.σ.pc t = .idle → γ.σ.handle h = some H → H.user = none → H.pool.isSome = true →
      H.scratch = some x → γ.retained h = none →
      GStep P γ t (.dropHeader h) { γ with retained := upd γ.retained h (some x) }

theorem GStep.of_gstep? {P : Params Mem Job} {γ γ' : GState Mem Job} {t : Tid} {a : GAction Job}
    (h : gstep? P false γ t a = some γ') : GStep P γ t a γ' := by
  cases a with
  | base b =>
    simp only [gstep?] at h
    (repeat' split at h) <;> cases h
    next hu hr _ _ hs => exact .base hs fun hh e => by simpa [Option.some.inj (hu.symm.trans e)] using hr
    next hu _ _ _ hs => exact .base hs fun hh e => by cases hu.symm.trans e
  | dropHeader hh =>
    simp only [gstep?] at h
    (repeat' split at h) <;> cases h
    next H hpc hH hc _ x hx =>
      simp only [Bool.or_eq_true, Bool.not_eq_true', not_or, Bool.not_eq_true,
        Option.isSome_eq_false_iff, Option.isNone_iff_eq_none] at hc
      exact .drop hpc hH hc.1.1 (Option.isSome_iff_ne_none.mpr hc.2) hx hc.1.2
  | finalize hh => simp [gstep?] at h

section
variable (P : Params Mem Job)

/-- The collector has no transition: no finalizer is attached to a `*Garbled`. -/
theorem gstep_false_finalize (γ : GState Mem Job) (t : Tid) (h : HandleId) :
    gstep? P false γ t (.finalize h) = none := by
  simp [gstep?]

theorem greachable_proj (γ : GState Mem Job) (hr : GReachable P false γ) :
    Reachable P true γ.σ := by
  induction hr with
  | init => exact .init
  | step t a _ hs ih =>
    cases GStep.of_gstep? hs with
    | base hb => exact .step t _ ih hb
    | drop => exact ih

theorem gsteps_proj {γ γ' : GState Mem Job} (hs : GSteps P false γ γ') :
    Steps P true γ.σ γ'.σ ∧ ∀ h x, γ.retained h = some x → γ'.retained h = some x := by
  induction hs with
  | refl => exact ⟨.refl _, fun _ _ e => e⟩
  | tail t a _ hstep ih =>
    cases GStep.of_gstep? hstep with
    | base hb => exact ⟨.tail t _ ih.1 hb, ih.2⟩
    | @drop h0 _ _ _ _ _ _ _ hn =>
      refine ⟨ih.1, fun h x e => ?_⟩
      have e' := ih.2 h x e
      have hne : h ≠ h0 := fun eq => by rw [eq, hn] at e'; cases e'
      exact (upd_ne hne).trans e'

theorem greachable_gsteps (fin : Bool) (γ γ' : GState Mem Job)
    (hr : GReachable P fin γ) (hs : GSteps P fin γ γ') : GReachable P fin γ' := by
  induction hs with
  | refl => exact hr
  | tail t a _ h ih => exact .step t a ih h

theorem greachable_grunSched (fin : Bool) (γ γ' : GState Mem Job)
    (l : List (Tid × GAction Job)) (hr : GReachable P fin γ) (h : grunSched P fin γ l = some γ') :
    GReachable P fin γ' := by
  induction l generalizing γ with
  | nil => simp only [grunSched] at h; cases h; exact hr
  | cons ta rest ih =>
    obtain ⟨t, a⟩ := ta
    simp only [grunSched] at h
    split at h
    · rename_i γ1 h1; exact ih γ1 (.step t a hr h1) h
    · contradiction

theorem idle_handle_step (σ σ' : State Mem Job) (hi : Inv P σ)
    (t : Tid) (b : Action Job) (h : HandleId) (H : Handle Mem Job)
    (hs : step? P true σ t b = some σ') (hH : σ.handle h = some H) (hu : H.user = none)
    (hb : usesHeader b ≠ some h) : σ'.handle h = some H := by
  rcases handle_frame_step P true σ σ' t b h hs with e | e | ⟨_, _, _, _, _, e | e | e⟩
  · exact e ▸ hH
  · exact absurd (hi.hLt h H hH) (e ▸ Nat.lt_irrefl _)
  · exact absurd (e ▸ rfl) hb
  · obtain ⟨H1, h1, hu1, _⟩ := hi.rPutOk t h e
    cases h1.symm.trans hH
    cases hu.symm.trans hu1
  · obtain ⟨H1, h1, hu1, _⟩ := hi.rClearOk t h e
    cases h1.symm.trans hH
    cases hu.symm.trans hu1

/-- The invariant that ties the collector's view to the pool state: a garbling
whose header was dropped still owns the scratch its retained slices alias, and
nobody is inside a method of it. -/
def RInv (γ : GState Mem Job) : Prop :=
  ∀ h x, γ.retained h = some x →
    ∃ H, γ.σ.handle h = some H ∧ H.owned = some x ∧ H.user = none

theorem rinv_step (γ γ' : GState Mem Job) (t : Tid) (a : GAction Job)
    (hi : Inv P γ.σ) (hr : RInv γ) (hs : gstep? P false γ t a = some γ') : RInv γ' := by
  intro h y hy
  cases GStep.of_gstep? hs with
  | @base b _ hb hblk =>
    obtain ⟨H, hH, ho, hu⟩ := hr h y hy
    exact ⟨H, idle_handle_step P _ _ hi t b h H hb hH hu (fun e => by rw [hblk h e] at hy; cases hy), ho, hu⟩
  | @drop h0 H x _ hH hu hp hx hn =>
    by_cases e : h = h0
    · subst e
      cases (upd_same γ.retained h (some x)).symm.trans hy
      exact ⟨H, hH, (Handle.owned_of_live hp (hi.noUser h H hH hu)).trans hx, hu⟩
    · exact hr h y ((upd_ne e).symm.trans hy)

theorem rinv_reachable (γ : GState Mem Job) (hr : GReachable P false γ) :
    RInv γ := by
  induction hr with
  | init => intro h x hx; simp [ginit] at hx
  | step t a hr' hs ih =>
    exact rinv_step P _ _ t a (inv_reachable P _ (greachable_proj P _ hr')) ih hs

end

end Mpc.Pool
