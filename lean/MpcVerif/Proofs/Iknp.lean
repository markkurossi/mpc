/-
The IKNP model (Model/Iknp.lean) delivers the correlation.  Per chunk and column the algebra is
`t = chunk xor Delta_i * choices` (`chunk_corr`), which the transpose `createLabels` turns into
`received = sent xor choice * Delta` per row.  The loops of `receive` / `send` are taken in lock step by
induction along the chunks of a call (`chunk_induction`).  In the packed-bit form, for any word-count rule
(`covered`) and either way of storing a bit (`BitStore`, Model/IknpBuf.lean), each loop is one store of a row
pattern (`bits_loops_eq`).  One call and any sequence of calls meet `CallSpec` (`call_ok`, `session_ok`).
Core Lean only.
-/
import MpcVerif.Model.IknpBuf
import MpcVerif.Proofs.Runs
import MpcVerif.Proofs.BitsLemmas
namespace Mpc.Iknp

@[simp] theorem size_mk {α : Type} (n : Nat) (f : Nat → α) : (mk n f).size = n := by simp [mk]

/-- `getD_mk` without its side condition, for the `simp` set of `iknp_eval` (Proofs/IknpBuf.lean). -/
theorem getD_mk_ite {α : Type} (n : Nat) (f : Nat → α) (i : Nat) (d : α) :
    (mk n f).getD i d = if i < n then f i else d :=
  getD_range_map_array n f i d

theorem mk_eq_list {α : Type} (n : Nat) (f : Nat → α) : mk n f = ((List.range n).map f).toArray := by
  apply Array.ext'
  simp [mk]

theorem getD_mk {α : Type} (n : Nat) (f : Nat → α) (i : Nat) (d : α) (h : i < n) : (mk n f).getD i d = f i := by
  rw [getD_mk_ite, if_pos h]

theorem bget_mk (n : Nat) (f : Nat → Byte) (i : Nat) (h : i < n) : bget (mk n f) i = f i := getD_mk n f i _ h

theorem getLsbD_orBits {w : Nat} (p : Nat → Nat) (f : Nat → Bool) (cnt m : Nat) (hm : m < w) :
    (orBits (w := w) p f cnt).getLsbD m = (List.range cnt).any fun j => f j && p j == m := by
  simp [orBits, BitList.foldl_or_getLsbD p f _ _ m hm]

theorem labelPos_lt {j : Nat} (h : j < 128) : labelPos j < 128 := by
  unfold labelPos; split <;> omega

theorem labelPos_inj {i j : Nat} (hi : i < 128) (hj : j < 128) (h : labelPos i = labelPos j) : i = j := by
  unfold labelPos at h; split at h <;> split at h <;> omega

theorem labelPos_invol {j : Nat} (h : j < 128) : labelPos (labelPos j) = j := by
  unfold labelPos; split <;> split <;> omega

theorem getLsbD_orBits_at {w : Nat} (p : Nat → Nat) (f : Nat → Bool) (cnt j : Nat) (hj : j < cnt) (hp : p j < w)
    (hinj : ∀ x, x < cnt → p x = p j → x = j) : (orBits (w := w) p f cnt).getLsbD (p j) = f j := by
  rw [getLsbD_orBits _ _ _ _ hp, Bool.eq_iff_iff]
  simp only [List.any_eq_true, List.mem_range, Bool.and_eq_true, beq_iff_eq]
  constructor
  · rintro ⟨x, hx, hfx, hpx⟩
    rw [← hinj x hx hpx]; exact hfx
  · intro h; exact ⟨j, hj, h, rfl⟩

theorem labelBit_labelOfBits (f : Nat → Bool) (j : Nat) (hj : j < 128) : labelBit (labelOfBits f) j = f j :=
  getLsbD_orBits_at labelPos f 128 j hj (labelPos_lt hj) fun _ hx h => labelPos_inj hx hj h

theorem getLsbD_byteOfBits (f : Nat → Bool) (t : Nat) (ht : t < 8) : (byteOfBits f).getLsbD t = f t :=
  getLsbD_orBits_at id f 8 t ht ht fun _ _ h => h

theorem label_ext (a b : Label) (h : ∀ j, j < 128 → labelBit a j = labelBit b j) : a = b := by
  apply BitVec.eq_of_getLsbD_eq
  intro m hm
  have := h (labelPos m) (labelPos_lt hm)
  simpa [labelBit, labelPos_invol hm] using this

theorem labelBit_xor (a b : Label) (j : Nat) : labelBit (a ^^^ b) j = (labelBit a j ^^ labelBit b j) := by
  simp [labelBit]

@[simp] theorem labelBit_zero (j : Nat) : labelBit 0#128 j = false := by simp [labelBit]

@[simp] theorem size_xorBytes (d s : Bytes) : (xorBytes d s).size = d.size := by simp [xorBytes]
@[simp] theorem size_sliceFrom (b : Bytes) (s : Nat) : (sliceFrom b s).size = b.size - s := by simp [sliceFrom]
@[simp] theorem size_prgRead (S : Nat → Byte) (p l : Nat) : (prgRead S p l).size = l := by simp [prgRead]
@[simp] theorem size_flat (w : Nat) (c : Array Bytes) : (flat w c).size = K * w := by simp [flat]

theorem bget_xorBytes (d s : Bytes) (k : Nat) (hk : k < d.size) :
    bget (xorBytes d s) k = if k < s.size then bget d k ^^^ bget s k else bget d k := by
  simp [xorBytes, bget_mk _ _ _ hk]

theorem bget_sliceFrom (b : Bytes) (s k : Nat) (hk : s + k < b.size) : bget (sliceFrom b s) k = bget b (s + k) := by
  unfold sliceFrom; rw [bget_mk]; omega

theorem bget_prgRead (S : Nat → Byte) (p l k : Nat) (hk : k < l) : bget (prgRead S p l) k = S (p + k) := by
  unfold prgRead; rw [bget_mk _ _ _ hk]

theorem idx_lt {i k w : Nat} (hi : i < K) (hk : k < w) : i * w + k < K * w := by
  have : (i + 1) * w ≤ K * w := Nat.mul_le_mul_right w hi
  rw [Nat.add_mul] at this
  omega

theorem idx_div {i k w : Nat} (hk : k < w) : (i * w + k) / w = i := by
  rw [Nat.mul_comm, Nat.mul_add_div (by omega), Nat.div_eq_of_lt hk]; rfl

theorem idx_mod {i k w : Nat} (hk : k < w) : (i * w + k) % w = k := by
  rw [Nat.mul_comm, Nat.mul_add_mod, Nat.mod_eq_of_lt hk]

theorem bget_flat (w : Nat) (cols : Array Bytes) (i k : Nat) (hi : i < K) (hk : k < w) :
    bget (flat w cols) (i * w + k) = bget (cols.getD i #[]) k := by
  unfold flat
  rw [bget_mk _ _ _ (idx_lt hi hk), idx_div hk, idx_mod hk]

/-- What `chunk_corr` needs of the choice-XOR step `mask` of `recvCols`, the one place where the column loops
of `receive` and `ReceiveBits` differ (`maskOK_labels`, `maskOK_bits`). -/
def MaskOK (mask : Bytes → Bytes) (w : Nat) (cb : Nat → Byte) : Prop :=
  ∀ tmp : Bytes, tmp.size = w → (mask tmp).size = w ∧ ∀ k, k < w → bget (mask tmp) k = bget tmp k ^^^ cb k

theorem size_recvCols_u (R0 R1 : Nat → Nat → Byte) (st : RecvSt) (w : Nat) (mask : Bytes → Bytes) :
    (recvCols R0 R1 st w mask).1.size = K * w := by simp [recvCols]

theorem recvCols_chunk (R0 R1 : Nat → Nat → Byte) (st : RecvSt) (w : Nat) (mask : Bytes → Bytes)
    (i k : Nat) (hi : i < K) (hk : k < w) :
    bget (recvCols R0 R1 st w mask).2 (i * w + k) = R0 i (st.p0 i + k) := by
  simp only [recvCols]
  rw [bget_flat _ _ _ _ hi hk, getD_mk _ _ _ _ hi, bget_prgRead _ _ _ _ hk]

theorem recvCols_u (R0 R1 : Nat → Nat → Byte) (st : RecvSt) (w : Nat) (mask : Bytes → Bytes) (cb : Nat → Byte)
    (hm : MaskOK mask w cb) (i k : Nat) (hi : i < K) (hk : k < w) :
    bget (recvCols R0 R1 st w mask).1 (i * w + k) = R1 i (st.p1 i + k) ^^^ R0 i (st.p0 i + k) ^^^ cb k := by
  simp only [recvCols]
  rw [bget_flat _ _ _ _ hi hk, getD_mk _ _ _ _ hi, getD_mk _ _ _ _ hi]
  have hsz : (xorBytes (prgRead (R1 i) (st.p1 i) w) (prgRead (R0 i) (st.p0 i) w)).size = w := by simp
  rw [(hm _ hsz).2 k hk, bget_xorBytes _ _ _ (by simpa using hk)]
  simp [hk, bget_prgRead _ _ _ _ hk]

theorem sendCols_get (SS : Nat → Nat → Byte) (delta : Label) (ss : SendSt) (u : Bytes) (w : Nat)
    (hu : u.size = K * w) (i k : Nat) (hi : i < K) (hk : k < w) :
    bget (sendCols SS delta ss u w) (i * w + k) =
      if labelBit delta i then SS i (ss.p i + k) ^^^ bget u (i * w + k) else SS i (ss.p i + k) := by
  simp only [sendCols]
  rw [bget_flat _ _ _ _ hi hk, getD_mk _ _ _ _ hi]
  have hlt := idx_lt hi hk
  split
  · rw [bget_xorBytes _ _ _ (by simpa using hk)]
    have : k < (sliceFrom u (i * w)).size := by simp; omega
    simp only [this, if_true]
    rw [bget_prgRead _ _ _ _ hk, bget_sliceFrom _ _ _ (by omega)]
  · rw [bget_prgRead _ _ _ _ hk]

def InStep (rs : RecvSt) (ss : SendSt) : Prop := ∀ i, ss.p i = rs.p0 i ∧ rs.p1 i = rs.p0 i

theorem InStep.adv {rs : RecvSt} {ss : SendSt} (h : InStep rs ss) (d : Nat) : InStep (rs.adv d) (ss.adv d) := by
  intro i; have := h i; simp [RecvSt.adv, SendSt.adv]; omega

theorem InStep.init : InStep RecvSt.init SendSt.init := by intro i; simp [RecvSt.init, SendSt.init]

/-- The base OTs delivered: sender stream `i` is the receiver's stream
selected by `Delta.Bit(i)`. -/
def BaseOK (R0 R1 SS : Nat → Nat → Byte) (delta : Label) : Prop :=
  ∀ i, i < K → ∀ p, SS i p = if labelBit delta i then R1 i p else R0 i p

/-- Chunk algebra: `t = chunk xor (Delta_i ? choice byte : 0)`, column by column. -/
theorem chunk_corr (R0 R1 SS : Nat → Nat → Byte) (delta : Label) (hb : BaseOK R0 R1 SS delta)
    (rs : RecvSt) (ss : SendSt) (hs : InStep rs ss) (w : Nat) (mask : Bytes → Bytes) (cb : Nat → Byte)
    (hm : MaskOK mask w cb) (i k : Nat) (hi : i < K) (hk : k < w) :
    bget (sendCols SS delta ss (recvCols R0 R1 rs w mask).1 w) (i * w + k) =
      bget (recvCols R0 R1 rs w mask).2 (i * w + k) ^^^ (if labelBit delta i then cb k else 0#8) := by
  rw [sendCols_get _ _ _ _ _ (size_recvCols_u ..) _ _ hi hk, recvCols_chunk _ _ _ _ _ _ _ hi hk,
    recvCols_u _ _ _ _ _ _ hm _ _ hi hk, hb i hi]
  have := hs i
  split
  · rw [this.1, this.2]
    generalize R1 i (rs.p0 i + k) = a
    generalize R0 i (rs.p0 i + k) = b
    generalize cb k = c
    rw [← BitVec.xor_assoc, ← BitVec.xor_assoc, BitVec.xor_self, BitVec.zero_xor]
  · rw [this.1]; simp

@[simp] theorem length_createLabels (len : Nat) (buf : Bytes) (w : Nat) :
    (createLabels len buf w).length = min (w * 8) len := by simp [createLabels]

theorem getD_createLabels (len : Nat) (buf : Bytes) (w idx : Nat) (h : idx < min (w * 8) len) :
    (createLabels len buf w).getD idx 0#128 =
      labelOfBits fun j => (bget buf (j * w + idx / 8)).getLsbD (idx % 8) := by
  simp [createLabels, List.getD_eq_getElem?_getD, h]

/-- See `C06_iknp_transpose`. -/
theorem labelBit_createLabels (len : Nat) (buf : Bytes) (w idx j : Nat) (h : idx < min (w * 8) len) (hj : j < 128) :
    labelBit ((createLabels len buf w).getD idx 0#128) j = (bget buf (j * w + idx / 8)).getLsbD (idx % 8) := by
  rw [getD_createLabels _ _ _ _ h, labelBit_labelOfBits _ _ hj]

theorem createLabels_corr (len : Nat) (t c : Bytes) (w : Nat) (delta : Label) (cb : Nat → Byte)
    (h : ∀ j k, j < K → k < w → bget t (j * w + k) = bget c (j * w + k) ^^^ (if labelBit delta j then cb k else 0#8))
    (idx : Nat) (hidx : idx < min (w * 8) len) :
    (createLabels len t w).getD idx 0#128 =
      (createLabels len c w).getD idx 0#128 ^^^ (if (cb (idx / 8)).getLsbD (idx % 8) then delta else 0#128) := by
  apply label_ext
  intro j hj
  have hk : idx / 8 < w := by omega
  rw [labelBit_xor, labelBit_createLabels _ _ _ _ _ hidx hj, labelBit_createLabels _ _ _ _ _ hidx hj, h j _ hj hk]
  by_cases hd : labelBit delta j <;> by_cases hc : (cb (idx / 8)).getLsbD (idx % 8) <;> simp [hd, hc]

@[simp] theorem size_packBools (b : Array Bool) : (packBools b).size = (b.size + 7) / 8 := by simp [packBools]

theorem packBools_bit (b : Array Bool) (k t : Nat) (hk : k < (b.size + 7) / 8) (ht : t < 8) :
    (bget (packBools b) k).getLsbD t = b.getD (8 * k + t) false := by
  unfold packBools
  rw [bget_mk _ _ _ hk, getLsbD_byteOfBits _ _ ht]

theorem maskOK_labels (bbuf : Bytes) (q w : Nat) (h : q + w ≤ bbuf.size) :
    MaskOK (fun tmp => xorBytes tmp (sliceFrom bbuf q)) w (fun k => bget bbuf (q + k)) := by
  intro tmp htmp
  refine ⟨by simp [htmp], ?_⟩
  intro k hk
  rw [bget_xorBytes _ _ _ (by omega)]
  have : k < (sliceFrom bbuf q).size := by simp; omega
  simp only [this, if_true]
  rw [bget_sliceFrom _ _ _ (by omega)]

theorem recvLoop_done (R0 R1 : Nat → Nat → Byte) (bbuf : Bytes) (n fuel ofs : Nat) (rs : RecvSt) (h : n ≤ ofs) :
    recvLoop R0 R1 bbuf n fuel ofs rs = (rs, [], []) := by
  cases fuel with
  | zero => rfl
  | succ f => simp [recvLoop, Nat.not_lt.mpr h]

theorem sendLoop_done (SS : Nat → Nat → Byte) (delta : Label) (n fuel ofs : Nat) (ss : SendSt) (msgs : List Bytes)
    (h : n ≤ ofs) : sendLoop SS delta n fuel ofs ss msgs = some (ss, [], msgs) := by
  cases fuel with
  | zero => simp [sendLoop, Nat.not_lt.mpr h]
  | succ f => simp [sendLoop, Nat.not_lt.mpr h]

/-- The chunk a loop handles at an aligned row `ofs < n` of a call of `n` rows: `rows` rows in `w` byte rows, with
the linear facts the loop proofs use of them (a proof takes the ones it needs, so that `omega` sees no others). -/
structure Chunk (n ofs rows w : Nat) : Prop where
  lt : ofs < n
  aligned : ofs % 512 = 0
  rows_eq : rows = min chunkRows (n - ofs)
  w_eq : w = (rows + 7) / 8
  pos : 0 < rows
  le : ofs + rows ≤ n
  w_le : w ≤ chunkByteRows
  len : min (w * 8) (n - ofs) = rows
  le_bytes : rows ≤ w * 8
  le_chunk : rows ≤ chunkRows
  packed : ofs / 8 + w ≤ (n + 7) / 8
  next : w * 8 = rows ∨ n ≤ ofs + rows

/-- Induction along the chunks of a call of `n` rows.  The motive sees one fuel and the row only: it quantifies
the partner's fuel, the states and the buffers itself. -/
theorem chunk_induction (n : Nat) {P : Nat → Nat → Prop}
    (done : ∀ fuel ofs, n ≤ ofs → P fuel ofs)
    (step : ∀ fuel ofs rows w, Chunk n ofs rows w → P fuel (ofs + rows) → P (fuel + 1) ofs) :
    ∀ fuel ofs, (ofs % 512 = 0 ∨ n ≤ ofs) → n - ofs ≤ fuel → P fuel ofs := by
  intro fuel
  induction fuel with
  | zero => intro ofs _ hf; exact done 0 ofs (by omega)
  | succ f ih =>
    intro ofs ha hf
    by_cases hlt : ofs < n
    · obtain ⟨rows, hr⟩ : ∃ rows, rows = min chunkRows (n - ofs) := ⟨_, rfl⟩
      obtain ⟨w, hw⟩ : ∃ w, w = (rows + 7) / 8 := ⟨_, rfl⟩
      have hcr : chunkRows = 512 := rfl
      have hcb : chunkByteRows = 64 := rfl
      have h : ofs % 512 = 0 ∧ 0 < rows ∧ ofs + rows ≤ n ∧ w ≤ chunkByteRows ∧ min (w * 8) (n - ofs) = rows ∧
          rows ≤ w * 8 ∧ rows ≤ chunkRows ∧ ofs / 8 + w ≤ (n + 7) / 8 ∧ (w * 8 = rows ∨ n ≤ ofs + rows) ∧
          ((ofs + rows) % 512 = 0 ∨ n ≤ ofs + rows) ∧ n - (ofs + rows) ≤ f := by omega
      obtain ⟨a0, a1, a2, a3, a4, a5, a6, a7, a8, a9, a10⟩ := h
      exact step f ofs rows w ⟨hlt, a0, hr, hw, a1, a2, a3, a4, a5, a6, a7, a8⟩ (ih _ a9 a10)
    · exact done _ ofs (by omega)

theorem recvLoop_step (R0 R1 : Nat → Nat → Byte) (bbuf : Bytes) {n ofs rows w : Nat} (hc : Chunk n ofs rows w)
    (f : Nat) (st : RecvSt) :
    recvLoop R0 R1 bbuf n (f + 1) ofs st =
      ((recvLoop R0 R1 bbuf n f (ofs + rows) (st.adv w)).1,
        createLabels (n - ofs) (recvCols R0 R1 st w fun tmp => xorBytes tmp (sliceFrom bbuf (ofs / 8))).2 w ++
          (recvLoop R0 R1 bbuf n f (ofs + rows) (st.adv w)).2.1,
        (recvCols R0 R1 st w fun tmp => xorBytes tmp (sliceFrom bbuf (ofs / 8))).1 ::
          (recvLoop R0 R1 bbuf n f (ofs + rows) (st.adv w)).2.2) := by
  simp only [recvLoop, hc.lt, if_true, ← hc.rows_eq, ← hc.w_eq]

theorem sendLoop_step (SS : Nat → Nat → Byte) (delta : Label) {n ofs rows w : Nat} (hc : Chunk n ofs rows w)
    (f : Nat) (ss : SendSt) (u : Bytes) (msgs : List Bytes) (hu : u.size = K * w) :
    sendLoop SS delta n (f + 1) ofs ss (u :: msgs) =
      (sendLoop SS delta n f (ofs + rows) (ss.adv w) msgs).map fun rest =>
        (rest.1, createLabels (n - ofs) (sendCols SS delta ss u w) w ++ rest.2.1, rest.2.2) := by
  have h1 : u.size % K = 0 := by rw [hu]; exact Nat.mul_mod_right ..
  have h2 : u.size / K = w := by rw [hu]; exact Nat.mul_div_cancel_left _ (by decide)
  -- `send` goes on at row `ofs + w * 8`: that is row `ofs + rows` after a full chunk, and like it past the end after the last
  have h3 : sendLoop SS delta n f (ofs + rows) (ss.adv w) msgs = sendLoop SS delta n f (ofs + w * 8) (ss.adv w) msgs :=
    hc.next.elim (fun e => by rw [e]) fun h => by
      rw [sendLoop_done _ _ _ _ _ _ _ h, sendLoop_done _ _ _ _ _ _ _ (Nat.le_trans h (Nat.add_le_add_left hc.le_bytes _))]
  rw [h3]
  simp only [sendLoop, hc.lt, if_true, h1, h2, ne_eq, not_true_eq_false, if_false, Nat.not_lt.mpr hc.w_le]
  cases sendLoop SS delta n f (ofs + w * 8) (ss.adv w) msgs <;> rfl

theorem chunk_labels_corr (R0 R1 SS : Nat → Nat → Byte) (delta : Label) (hb : BaseOK R0 R1 SS delta)
    (rs : RecvSt) (ss : SendSt) (hs : InStep rs ss) (b : Array Bool) {ofs rows w : Nat} (hc : Chunk b.size ofs rows w)
    (i : Nat) (hi : i < rows) :
    (createLabels (b.size - ofs)
        (recvCols R0 R1 rs w fun tmp => xorBytes tmp (sliceFrom (packBools b) (ofs / 8))).2 w).getD i 0#128 =
      (createLabels (b.size - ofs) (sendCols SS delta ss
        (recvCols R0 R1 rs w fun tmp => xorBytes tmp (sliceFrom (packBools b) (ofs / 8))).1 w) w).getD i 0#128 ^^^
        (if b.getD (ofs + i) false then delta else 0#128) := by
  have hmask := maskOK_labels (packBools b) (ofs / 8) w (by rw [size_packBools]; exact hc.packed)
  have hw := hc.le_bytes
  rw [createLabels_corr _ _ _ w delta _
    (fun j k hj hk => chunk_corr R0 R1 SS delta hb rs ss hs w _ _ hmask j k hj hk) i (by rw [hc.len]; exact hi),
    packBools_bit _ _ _ (by have := hc.packed; omega) (by omega), BitVec.xor_assoc]
  have e : 8 * (ofs / 8 + i / 8) + i % 8 = ofs + i := by have := hc.aligned; omega
  rw [e]
  split <;> simp

theorem length_recvLoop (R0 R1 : Nat → Nat → Byte) (bbuf : Bytes) (n : Nat) :
    ∀ (fuel ofs : Nat), (ofs % 512 = 0 ∨ n ≤ ofs) → n - ofs ≤ fuel → ∀ st : RecvSt,
      (recvLoop R0 R1 bbuf n fuel ofs st).2.1.length = n - ofs := by
  refine chunk_induction n (fun fuel ofs h st => ?_) (fun fuel ofs rows w hc ih st => ?_)
  · rw [recvLoop_done _ _ _ _ _ _ _ h, Nat.sub_eq_zero_of_le h]; rfl
  · rw [recvLoop_step R0 R1 bbuf hc, List.length_append, length_createLabels, hc.len, ih]
    have := hc.le
    omega

theorem length_receive (R0 R1 : Nat → Nat → Byte) (st : RecvSt) (b : Array Bool) :
    (receive R0 R1 st b).2.1.length = b.size := by
  have := length_recvLoop R0 R1 (packBools b) b.size b.size 0 (.inl (Nat.zero_mod _)) (Nat.le_refl _) st
  simpa [receive] using this

theorem loops_corr (R0 R1 SS : Nat → Nat → Byte) (delta : Label) (hb : BaseOK R0 R1 SS delta) (b : Array Bool) :
    ∀ (fuelR ofs : Nat), (ofs % 512 = 0 ∨ b.size ≤ ofs) → b.size - ofs ≤ fuelR →
      ∀ (fuelS : Nat) (rs : RecvSt) (ss : SendSt) (more : List Bytes), InStep rs ss → b.size - ofs ≤ fuelS →
      ∃ ss' sent,
        sendLoop SS delta b.size fuelS ofs ss
            ((recvLoop R0 R1 (packBools b) b.size fuelR ofs rs).2.2 ++ more) = some (ss', sent, more) ∧
        InStep (recvLoop R0 R1 (packBools b) b.size fuelR ofs rs).1 ss' ∧
        sent.length = b.size - ofs ∧
        ∀ i, i < b.size - ofs →
          (recvLoop R0 R1 (packBools b) b.size fuelR ofs rs).2.1.getD i 0#128 =
            sent.getD i 0#128 ^^^ (if b.getD (ofs + i) false then delta else 0#128) := by
  refine chunk_induction b.size (fun fuelR ofs h1 fuelS rs ss more hs _ => ?_)
    (fun fR ofs rows w hc ih fuelS rs ss more hs hfS => ?_)
  · rw [recvLoop_done _ _ _ _ _ _ _ h1, sendLoop_done _ _ _ _ _ _ _ h1]
    exact ⟨ss, [], rfl, hs, by simp; omega, fun i hi => by omega⟩
  · have hle := hc.le
    have hpos := hc.pos
    obtain ⟨fS, rfl⟩ : ∃ fS, fuelS = fS + 1 := ⟨fuelS - 1, by omega⟩
    rw [recvLoop_step R0 R1 _ hc]
    simp only [List.cons_append]
    have hchunk := chunk_labels_corr R0 R1 SS delta hb rs ss hs b hc
    have hlenC : ∀ buf, (createLabels (b.size - ofs) buf w).length = rows := fun buf => by
      rw [length_createLabels, hc.len]
    rw [sendLoop_step _ _ hc _ _ _ _ (size_recvCols_u ..)]
    obtain ⟨ss', sentR, hsend, hstep, hlenS, hcorr⟩ := ih fS (rs.adv w) (ss.adv w) more (hs.adv w) (by omega)
    rw [hsend]
    refine ⟨ss', _, rfl, hstep, ?_, ?_⟩
    · rw [List.length_append, hlenC, hlenS]; omega
    · intro i hi
      by_cases hir : i < rows
      · rw [getD_append_left _ _ _ _ (by rw [hlenC]; exact hir), getD_append_left _ _ _ _ (by rw [hlenC]; exact hir),
          hchunk i hir]
      · rw [getD_append_right _ _ _ _ (by rw [hlenC]; omega), getD_append_right _ _ _ _ (by rw [hlenC]; omega),
          hlenC, hlenC, hcorr (i - rows) (by omega)]
        have e : ofs + rows + (i - rows) = ofs + i := by omega
        rw [e]

@[simp] theorem size_setBit (r : Words) (idx : Nat) : (setBit r idx).size = r.size := by simp [setBit]

@[simp] theorem size_clearBit (r : Words) (idx : Nat) : (clearBit r idx).size = r.size := by simp [clearBit]

theorem bitAt_modify (r : Words) (i j : Nat) (f : BitVec 64 → BitVec 64) (h : i < r.size) :
    bitAt (r.modify i f) j = if j / 64 = i then (f (r.getD i 0#64)).getLsbD (j % 64) else bitAt r j := by
  unfold bitAt
  simp only [Array.getD_eq_getD_getElem?, Array.getElem?_modify]
  by_cases hw : i = j / 64
  · subst hw; simp [h]
  · simp [hw, Ne.symm hw]

theorem getLsbD_mask {idx j : Nat} (hw : j / 64 = idx / 64) :
    (1#64 <<< (idx % 64)).getLsbD (j % 64) = decide (j = idx) := by
  have h64 : j % 64 < 64 := Nat.mod_lt _ (by decide)
  rw [BitVec.getLsbD_shiftLeft, BitVec.getLsbD_one]
  by_cases he : j = idx
  · subst he; simp [h64]
  · have : ¬ (j % 64 = idx % 64) := by omega
    simp [he, h64]; omega

theorem bitAt_setBit (r : Words) (idx j : Nat) (h : idx / 64 < r.size) :
    bitAt (setBit r idx) j = (bitAt r j || decide (j = idx)) := by
  rw [setBit, bitAt_modify _ _ _ _ h]
  by_cases hw : j / 64 = idx / 64
  · rw [if_pos hw, BitVec.getLsbD_or, getLsbD_mask hw, bitAt, hw]
  · have : j ≠ idx := fun e => hw (by rw [e])
    rw [if_neg hw, decide_eq_false this, Bool.or_false]

theorem bitAt_clearBit (r : Words) (idx j : Nat) (h : idx / 64 < r.size) :
    bitAt (clearBit r idx) j = (bitAt r j && !decide (j = idx)) := by
  rw [clearBit, bitAt_modify _ _ _ _ h]
  by_cases hw : j / 64 = idx / 64
  · rw [if_pos hw, BitVec.getLsbD_and, BitVec.getLsbD_not, getLsbD_mask hw, bitAt, hw]
    simp [Nat.mod_lt]
  · have : j ≠ idx := fun e => hw (by rw [e])
    rw [if_neg hw, decide_eq_false this, Bool.not_false, Bool.and_true]
theorem storeRows_orOnly (r : Words) (ofs rows : Nat) (bit : Nat → Bool) :
    storeRows .orOnly r ofs rows bit = orRows r ofs rows bit := rfl

/-- Whether a store leaves a set bit set when the new bit is 0. -/
def BitStore.keeps : BitStore → Bool
  | .write => false
  | .orOnly => true

theorem storeRows_succ (bs : BitStore) (r : Words) (ofs k : Nat) (f : Nat → Bool) :
    storeRows bs r ofs (k + 1) f =
      if f k then setBit (storeRows bs r ofs k f) (ofs + k) else
        match bs with
        | .write => clearBit (storeRows bs r ofs k f) (ofs + k)
        | .orOnly => storeRows bs r ofs k f := by
  unfold storeRows
  rw [List.range_succ, List.foldl_append]
  rfl

theorem storeRows_congr (bs : BitStore) (r : Words) (ofs : Nat) (f g : Nat → Bool) :
    ∀ rows, (∀ k, k < rows → f k = g k) → storeRows bs r ofs rows f = storeRows bs r ofs rows g := by
  intro rows
  induction rows with
  | zero => intro _; rfl
  | succ k ih =>
    intro h
    rw [storeRows_succ, storeRows_succ, ih fun i hi => h i (Nat.lt_succ_of_lt hi), h k (Nat.lt_succ_self k)]

theorem storeRows_add (bs : BitStore) (r : Words) (ofs a : Nat) (f g : Nat → Bool) :
    ∀ b, storeRows bs (storeRows bs r ofs a f) (ofs + a) b g =
      storeRows bs r ofs (a + b) fun k => if k < a then f k else g (k - a) := by
  intro b
  induction b with
  | zero => exact storeRows_congr bs r ofs _ _ a fun k hk => (if_pos hk).symm
  | succ b ih =>
    show _ = storeRows bs r ofs (a + b + 1) _
    rw [storeRows_succ, storeRows_succ, ih, if_neg (Nat.not_lt.mpr (Nat.le_add_right a b)), Nat.add_sub_cancel_left,
      Nat.add_assoc]

theorem storeRows_spec (bs : BitStore) (r : Words) (ofs : Nat) (bit : Nat → Bool) :
    ∀ rows, (ofs + rows + 63) / 64 ≤ r.size →
      (storeRows bs r ofs rows bit).size = r.size ∧
      ∀ j, bitAt (storeRows bs r ofs rows bit) j =
        if ofs ≤ j ∧ j < ofs + rows then (bit (j - ofs) || (bs.keeps && bitAt r j)) else bitAt r j := by
  intro rows
  induction rows with
  | zero => intro _; exact ⟨rfl, fun j => by rw [if_neg (by omega)]; rfl⟩
  | succ k ih =>
    intro h
    obtain ⟨i1, i2⟩ := ih (by omega)
    rw [storeRows_succ]
    generalize storeRows bs r ofs k bit = P at i1 i2 ⊢
    have hk : (ofs + k) / 64 < P.size := by rw [i1]; omega
    constructor
    · cases bs <;> split <;> simp [i1]
    · intro j
      have hP := i2 j
      by_cases hj : j = ofs + k
      · subst hj
        rw [if_neg (by omega)] at hP
        rw [if_pos (show ofs ≤ ofs + k ∧ ofs + k < ofs + (k + 1) by omega), Nat.add_sub_cancel_left]
        cases bs <;> cases hb : bit k <;> simp [bitAt_setBit _ _ _ hk, bitAt_clearBit _ _ _ hk, hP, BitStore.keeps]
      · have hr : (ofs ≤ j ∧ j < ofs + (k + 1)) ↔ (ofs ≤ j ∧ j < ofs + k) := by omega
        simp only [hr]
        rw [← hP]
        cases bs <;> cases hb : bit k <;> simp [bitAt_setBit _ _ _ hk, bitAt_clearBit _ _ _ hk, hj]

theorem orRows_spec (r : Words) (ofs : Nat) (bit : Nat → Bool) (rows : Nat) (h : (ofs + rows + 63) / 64 ≤ r.size) :
    (orRows r ofs rows bit).size = r.size ∧
    ∀ j, bitAt (orRows r ofs rows bit) j =
      if ofs ≤ j ∧ j < ofs + rows then (bit (j - ofs) || bitAt r j) else bitAt r j :=
  storeRows_spec .orOnly r ofs bit rows h


/-- Row `j` of a packed-bit call of `n` rows lies in the part of its chunk
that `ReceiveBits` XORs with the choice words (`words = wf byteRows` whole
64-bit words per chunk). -/
def covered (wf : Nat → Nat) (n j : Nat) : Bool :=
  let c := j / 512 * 512
  let rows := min 512 (n - c)
  decide ((j - c) / 8 < 8 * wf ((rows + 7) / 8))

theorem wordByte_bit (x : BitVec 64) (t s : Nat) (hs : s < 8) : (wordByte x t).getLsbD s = x.getLsbD (8 * t + s) := by
  simp [wordByte, hs]

theorem maskOK_bits (choices : Words) (wo words w : Nat) :
    MaskOK (fun tmp => xorWords tmp choices wo words) w
      (fun k => if k < 8 * words then wordByte (choices.getD (wo + k / 8) 0#64) (k % 8) else 0#8) := by
  intro tmp htmp
  refine ⟨by simp [xorWords, htmp], ?_⟩
  intro k hk
  unfold xorWords
  rw [bget_mk _ _ _ (by omega)]
  by_cases h : k < 8 * words <;> simp [h]

/-- The receiver's packed-bit loop with the word-count rule AND the store as
parameters.  The model has the two in two functions: `recvBitsLoop wf` always
ORs, `recvBitsLoopS bs` always counts words as /repo HEAD does. -/
def recvBitsLoopG (wf : Nat → Nat) (bs : BitStore) (R0 R1 : Nat → Nat → Byte) (choices : Words) (n : Nat) :
    Nat → Nat → RecvSt → Words → RecvSt × Words × List Bytes
  | 0, _, st, res => (st, res, [])
  | fuel + 1, ofs, st, res =>
    if ofs < n then
      let rows := min chunkRows (n - ofs)
      let byteRows := (rows + 7) / 8
      let uc := recvCols R0 R1 st byteRows fun tmp => xorWords tmp choices (ofs / 64) (wf byteRows)
      let res' := storeRows bs res ofs rows fun row =>
        labelBit ((createLabels chunkRows uc.2 byteRows).getD row 0#128) 0
      let rest := recvBitsLoopG wf bs R0 R1 choices n fuel (ofs + rows) (st.adv byteRows) res'
      (rest.1, rest.2.1, uc.1 :: rest.2.2)
    else (st, res, [])

theorem recvBitsLoop_eq (wf : Nat → Nat) (R0 R1 : Nat → Nat → Byte) (ch : Words) (n : Nat) :
    ∀ (fuel ofs : Nat) (st : RecvSt) (res : Words),
      recvBitsLoop wf R0 R1 ch n fuel ofs st res = recvBitsLoopG wf .orOnly R0 R1 ch n fuel ofs st res := by
  intro fuel
  induction fuel with
  | zero => intro ofs st res; rfl
  | succ f ih =>
    intro ofs st res
    simp only [recvBitsLoop, recvBitsLoopG, storeRows_orOnly, ih]

theorem recvBitsLoopS_eq (bs : BitStore) (R0 R1 : Nat → Nat → Byte) (ch : Words) (n : Nat) :
    ∀ (fuel ofs : Nat) (st : RecvSt) (res : Words),
      recvBitsLoopS bs R0 R1 ch n fuel ofs st res = recvBitsLoopG wordsHead bs R0 R1 ch n fuel ofs st res := by
  intro fuel
  induction fuel with
  | zero => intro ofs st res; rfl
  | succ f ih =>
    intro ofs st res
    simp only [recvBitsLoopS, recvBitsLoopG, ih]

theorem sendBitsLoopS_orOnly (SS : Nat → Nat → Byte) (delta : Label) (n : Nat) :
    ∀ (fuel ofs : Nat) (ss : SendSt) (res : Words) (msgs : List Bytes),
      sendBitsLoopS .orOnly SS delta n fuel ofs ss res msgs = sendBitsLoop SS delta n fuel ofs ss res msgs := by
  intro fuel
  induction fuel with
  | zero => intro ofs ss res msgs; rfl
  | succ f ih =>
    intro ofs ss res msgs
    cases msgs with
    | nil => simp only [sendBitsLoopS, sendBitsLoop]
    | cons c more => simp only [sendBitsLoopS, sendBitsLoop, storeRows_orOnly, ih]

theorem recvBitsLoopG_done (wf : Nat → Nat) (bs : BitStore) (R0 R1 : Nat → Nat → Byte) (ch : Words) (n fuel ofs : Nat)
    (rs : RecvSt) (res : Words) (h : n ≤ ofs) : recvBitsLoopG wf bs R0 R1 ch n fuel ofs rs res = (rs, res, []) := by
  cases fuel with
  | zero => rfl
  | succ f => simp [recvBitsLoopG, Nat.not_lt.mpr h]

theorem sendBitsLoopS_done (bs : BitStore) (SS : Nat → Nat → Byte) (delta : Label) (n fuel ofs : Nat) (ss : SendSt)
    (res : Words) (msgs : List Bytes) (h : n ≤ ofs) :
    sendBitsLoopS bs SS delta n fuel ofs ss res msgs = some (ss, res, msgs) := by
  cases fuel with
  | zero => simp [sendBitsLoopS, Nat.not_lt.mpr h]
  | succ f => simp [sendBitsLoopS, Nat.not_lt.mpr h]

theorem recvBitsLoop_done (wf : Nat → Nat) (R0 R1 : Nat → Nat → Byte) (ch : Words) (n fuel ofs : Nat) (rs : RecvSt)
    (res : Words) (h : n ≤ ofs) : recvBitsLoop wf R0 R1 ch n fuel ofs rs res = (rs, res, []) := by
  rw [recvBitsLoop_eq]; exact recvBitsLoopG_done _ _ _ _ _ _ _ _ _ _ h

theorem sendBitsLoop_done (SS : Nat → Nat → Byte) (delta : Label) (n fuel ofs : Nat) (ss : SendSt) (res : Words)
    (msgs : List Bytes) (h : n ≤ ofs) : sendBitsLoop SS delta n fuel ofs ss res msgs = some (ss, res, msgs) := by
  rw [← sendBitsLoopS_orOnly]; exact sendBitsLoopS_done _ _ _ _ _ _ _ _ _ h

theorem sendBitsLoopS_step (bs : BitStore) (SS : Nat → Nat → Byte) (delta : Label) {n ofs rows w : Nat}
    (hc : Chunk n ofs rows w) (f : Nat) (ss : SendSt) (res : Words) (u : Bytes) (msgs : List Bytes) (hu : u.size = K * w) :
    sendBitsLoopS bs SS delta n (f + 1) ofs ss res (u :: msgs) =
      sendBitsLoopS bs SS delta n f (ofs + rows) (ss.adv w)
        (storeRows bs res ofs rows fun row => (bget (sendCols SS delta ss u w) (row / 8)).getLsbD (row % 8)) msgs := by
  have h1 : u.size % K = 0 := by rw [hu]; exact Nat.mul_mod_right ..
  have h2 : u.size / K = w := by rw [hu]; exact Nat.mul_div_cancel_left _ (by decide)
  simp only [sendBitsLoopS, hc.lt, if_true, h1, h2, ne_eq, not_true_eq_false, if_false, Nat.not_lt.mpr hc.w_le, hc.len]

theorem covered_chunk (wf : Nat → Nat) {n ofs rows w : Nat} (hc : Chunk n ofs rows w) (row : Nat) (hrow : row < rows) :
    covered wf n (ofs + row) = decide (row / 8 < 8 * wf w) := by
  have e1 : (ofs + row) / 512 * 512 = ofs := by
    have := hc.aligned; have := hc.le_chunk; unfold chunkRows at this; omega
  have e2 : ofs + row - ofs = row := by omega
  simp only [covered, e1, e2]
  rw [hc.w_eq, hc.rows_eq]
  rfl

/-- Only column 0 takes part: `SendBits` reads the row's bit in `col0` of `t` as it is, `ReceiveBits` reads
`Bit(0)` of the transposed label, which is the row's bit in column 0 of `chunk` (`labelBit_createLabels` at
`j = 0`); so `chunk_corr` is used at `i = 0` only. -/
theorem chunk_bits_corr (wf : Nat → Nat) (R0 R1 SS : Nat → Nat → Byte) (delta : Label) (hb : BaseOK R0 R1 SS delta)
    (rs : RecvSt) (ss : SendSt) (hs : InStep rs ss) (choices : Words) {n ofs rows w : Nat} (hc : Chunk n ofs rows w)
    (row : Nat) (hrow : row < rows) :
    labelBit ((createLabels chunkRows
        (recvCols R0 R1 rs w fun tmp => xorWords tmp choices (ofs / 64) (wf w)).2 w).getD row 0#128) 0 =
      ((bget (sendCols SS delta ss (recvCols R0 R1 rs w fun tmp => xorWords tmp choices (ofs / 64) (wf w)).1 w)
          (row / 8)).getLsbD (row % 8) ^^
        (labelBit delta 0 && (covered wf n (ofs + row) && bitAt choices (ofs + row)))) := by
  rw [covered_chunk wf hc row hrow]
  generalize wf w = words
  have hk : row / 8 < w := by have := hc.le_bytes; omega
  have hcc := chunk_corr R0 R1 SS delta hb rs ss hs w _ _ (maskOK_bits choices (ofs / 64) words w) 0 (row / 8)
    (by decide) hk
  simp only [Nat.zero_mul, Nat.zero_add] at hcc
  rw [labelBit_createLabels _ _ _ _ _ (Nat.lt_of_lt_of_le hrow (Nat.le_min.mpr ⟨hc.le_bytes, hc.le_chunk⟩)) (by decide),
    hcc, Nat.zero_mul, Nat.zero_add]
  have hcb : (if row / 8 < 8 * words then wordByte (choices.getD (ofs / 64 + row / 8 / 8) 0#64) (row / 8 % 8)
      else 0#8).getLsbD (row % 8) = (decide (row / 8 < 8 * words) && bitAt choices (ofs + row)) := by
    by_cases hc' : row / 8 < 8 * words
    · rw [if_pos hc', wordByte_bit _ _ _ (by omega), decide_eq_true hc', Bool.true_and]
      unfold bitAt
      have hofs : ofs % 64 = 0 := by have := hc.aligned; omega
      have e1 : (ofs + row) / 64 = ofs / 64 + row / 8 / 8 := by omega
      have e2 : (ofs + row) % 64 = 8 * (row / 8 % 8) + row % 8 := by omega
      rw [e1, e2]
    · simp [hc']
  rw [← hcb]
  cases labelBit delta 0 <;> simp

/-- What the two packed-bit loops compute, for any word-count rule and either store: each is ONE store of a row
pattern into the buffer it was given, and the two patterns are correlated.  Sizes, the positions outside
`[ofs, n)` and what a store does to a buffer that is not zero are facts about `storeRows` (`storeRows_spec`) and take
no part in the induction. -/
theorem bits_loops_eq (wf : Nat → Nat) (bs : BitStore) (R0 R1 SS : Nat → Nat → Byte) (delta : Label)
    (hb : BaseOK R0 R1 SS delta) (choices : Words) (n : Nat) :
    ∀ (fuelR ofs : Nat), (ofs % 512 = 0 ∨ n ≤ ofs) → n - ofs ≤ fuelR →
      ∀ (fuelS : Nat) (rs : RecvSt) (ss : SendSt) (resR resS : Words) (more : List Bytes),
      InStep rs ss → n - ofs ≤ fuelS →
      ∃ ss' DR DS,
        (recvBitsLoopG wf bs R0 R1 choices n fuelR ofs rs resR).2.1 = storeRows bs resR ofs (n - ofs) DR ∧
        sendBitsLoopS bs SS delta n fuelS ofs ss resS
            ((recvBitsLoopG wf bs R0 R1 choices n fuelR ofs rs resR).2.2 ++ more) =
          some (ss', storeRows bs resS ofs (n - ofs) DS, more) ∧
        InStep (recvBitsLoopG wf bs R0 R1 choices n fuelR ofs rs resR).1 ss' ∧
        ∀ k, k < n - ofs →
          DR k = (DS k ^^ (labelBit delta 0 && (covered wf n (ofs + k) && bitAt choices (ofs + k)))) := by
  refine chunk_induction n (fun fuelR ofs h1 fuelS rs ss resR resS more hs _ => ?_)
    (fun fR ofs rows w hc ih fuelS rs ss resR resS more hs hfS => ?_)
  · rw [recvBitsLoopG_done _ _ _ _ _ _ _ _ _ _ h1, sendBitsLoopS_done _ _ _ _ _ _ _ _ _ h1, Nat.sub_eq_zero_of_le h1]
    exact ⟨ss, fun _ => false, fun _ => false, rfl, rfl, hs, fun k hk => absurd hk (Nat.not_lt_zero _)⟩
  · obtain ⟨fS, rfl⟩ : ∃ fS, fuelS = fS + 1 := ⟨fuelS - 1, by have := hc.lt; omega⟩
    simp only [recvBitsLoopG, hc.lt, if_true, List.cons_append, ← hc.rows_eq, ← hc.w_eq]
    rw [sendBitsLoopS_step _ _ _ hc _ _ _ _ _ (size_recvCols_u ..)]
    have hn : n - ofs = rows + (n - (ofs + rows)) := by
      rw [Nat.sub_add_eq, Nat.add_sub_cancel' (Nat.le_sub_of_add_le' hc.le)]
    generalize hrb : (fun row => labelBit ((createLabels chunkRows
      (recvCols R0 R1 rs w fun tmp => xorWords tmp choices (ofs / 64) (wf w)).2 w).getD row 0#128) 0) = rbit
    generalize hsb : (fun row => (bget (sendCols SS delta ss
      (recvCols R0 R1 rs w fun tmp => xorWords tmp choices (ofs / 64) (wf w)).1 w) (row / 8)).getLsbD (row % 8)) = sbit
    have hbits : ∀ row, row < rows →
        rbit row = (sbit row ^^ (labelBit delta 0 && (covered wf n (ofs + row) && bitAt choices (ofs + row)))) :=
      fun row hrow => by rw [← hrb, ← hsb]; exact chunk_bits_corr wf R0 R1 SS delta hb rs ss hs choices hc row hrow
    obtain ⟨ss', DR, DS, hR, hS, hstep, hD⟩ :=
      ih fS (rs.adv w) (ss.adv w) (storeRows bs resR ofs rows rbit) (storeRows bs resS ofs rows sbit) more
        (hs.adv w) (by have := hc.pos; omega)
    refine ⟨ss', _, _, by rw [hR, storeRows_add, ← hn], by rw [hS, storeRows_add, ← hn], hstep, fun k hk => ?_⟩
    by_cases hkr : k < rows
    · rw [if_pos hkr, if_pos hkr, hbits k hkr]
    · rw [if_neg hkr, if_neg hkr, hD (k - rows) (by omega), Nat.add_assoc, Nat.add_sub_cancel' (Nat.le_of_not_lt hkr)]

theorem bits_run (wf : Nat → Nat) (bs : BitStore) (R0 R1 SS : Nat → Nat → Byte) (delta : Label)
    (hb : BaseOK R0 R1 SS delta) (choices : Words) (n : Nat) (rs : RecvSt) (ss : SendSt) (resR resS : Words)
    (more : List Bytes) (hs : InStep rs ss) (hszR : (n + 63) / 64 ≤ resR.size) (hszS : (n + 63) / 64 ≤ resS.size)
    (hz : bs.keeps = true → ∀ j, bitAt resR j = false ∧ bitAt resS j = false) :
    ∃ ss' outS,
      sendBitsLoopS bs SS delta n (n + 1) 0 ss resS
          ((recvBitsLoopG wf bs R0 R1 choices n n 0 rs resR).2.2 ++ more) = some (ss', outS, more) ∧
      InStep (recvBitsLoopG wf bs R0 R1 choices n n 0 rs resR).1 ss' ∧
      (recvBitsLoopG wf bs R0 R1 choices n n 0 rs resR).2.1.size = resR.size ∧ outS.size = resS.size ∧
      (∀ j, n ≤ j →
        bitAt (recvBitsLoopG wf bs R0 R1 choices n n 0 rs resR).2.1 j = bitAt resR j ∧ bitAt outS j = bitAt resS j) ∧
      (∀ j, j < n →
        bitAt (recvBitsLoopG wf bs R0 R1 choices n n 0 rs resR).2.1 j =
          (bitAt outS j ^^ (labelBit delta 0 && (covered wf n j && bitAt choices j)))) := by
  obtain ⟨ss', DR, DS, hR, hS, hstep, hD⟩ :=
    bits_loops_eq wf bs R0 R1 SS delta hb choices n n 0 (.inl (Nat.zero_mod _)) (Nat.le_refl _) (n + 1) rs ss resR resS more
      hs (Nat.le_succ _)
  obtain ⟨zR, bR⟩ := storeRows_spec bs resR 0 DR n (by omega)
  obtain ⟨zS, bS⟩ := storeRows_spec bs resS 0 DS n (by omega)
  rw [Nat.sub_zero] at hR hS hD
  rw [hR]
  refine ⟨ss', _, hS, hstep, zR, zS, fun j hj => ?_, fun j hj => ?_⟩
  · rw [bR, bS, if_neg (by omega), if_neg (by omega)]
    exact ⟨rfl, rfl⟩
  · have hkz : (bs.keeps && bitAt resR j) = false ∧ (bs.keeps && bitAt resS j) = false := by
      cases hk : bs.keeps
      · exact ⟨rfl, rfl⟩
      · rw [(hz hk j).1, (hz hk j).2]; exact ⟨rfl, rfl⟩
    have := hD j hj
    rw [Nat.zero_add] at this
    rw [bR, bS, if_pos ⟨Nat.zero_le _, by omega⟩, if_pos ⟨Nat.zero_le _, by omega⟩, hkz.1, hkz.2, Bool.or_false,
      Bool.or_false, Nat.sub_zero, this]

theorem covered_head (n j : Nat) (hj : j < n) : covered wordsHead n j = true := by
  unfold covered wordsHead
  simp only [decide_eq_true_eq]
  omega

/-- `57 ≤ n % 64`: then `byteRows = (rows + 7) / 8` of the last chunk is a multiple of 8, so `byteRows / 8`
words cover it. -/
theorem covered_old_of_good (n j : Nat) (hj : j < n) (hn : n % 64 = 0 ∨ 57 ≤ n % 64) :
    covered wordsOld n j = true := by
  unfold covered wordsOld
  simp only [decide_eq_true_eq]
  omega

theorem not_covered_old_last (n : Nat) (h1 : 1 ≤ n % 64) (h2 : n % 64 ≤ 56) :
    covered wordsOld n (n - 1) = false := by
  unfold covered wordsOld
  simp only [decide_eq_false_iff_not]
  omega

/-- See `C06_iknp_label_corr`. -/
theorem label_call (R0 R1 SS : Nat → Nat → Byte) (delta : Label) (hb : BaseOK R0 R1 SS delta)
    (rs : RecvSt) (ss : SendSt) (hs : InStep rs ss) (b : Array Bool) (more : List Bytes) :
    ∃ ss' sent,
      send SS delta ss b.size ((receive R0 R1 rs b).2.2 ++ more) = some (ss', sent, more) ∧
      InStep (receive R0 R1 rs b).1 ss' ∧
      sent.length = b.size ∧ (receive R0 R1 rs b).2.1.length = b.size ∧
      ∀ i, i < b.size →
        (receive R0 R1 rs b).2.1.getD i 0#128 =
          sent.getD i 0#128 ^^^ (if b.getD i false then delta else 0#128) := by
  obtain ⟨ss', sent, h1, h2, h3, h5⟩ :=
    loops_corr R0 R1 SS delta hb b b.size 0 (.inl (Nat.zero_mod _)) (Nat.le_refl _) (b.size + 1) rs ss more hs
      (Nat.le_succ _)
  refine ⟨ss', sent, h1, h2, h3, length_receive R0 R1 rs b, fun i hi => ?_⟩
  have := h5 i hi
  rwa [Nat.zero_add] at this

theorem size_bcvOf (b0 b1 : Label) : (bcvOf b0 b1).size = 256 := by simp [bcvOf]

/-- The components of a triple that is given by an equation.  Used where the
components are terms such as `(receive .. (bcvOf b0 b1)).1`: rewriting with
these equations keeps every step syntactic, whereas a projection of the
explicit triple left to the kernel makes it compare the triple with
`receive .. (bcvOf b0 b1)` first, and for that it runs the 256 rounds of fuel. -/
theorem proj_of_eq {α β γ : Type} {p : α × β × γ} {a : α} {b : β} {c : γ} (h : p = (a, b, c)) :
    p.1 = a ∧ p.2.1 = b ∧ p.2.2 = c := by
  subst h; exact ⟨rfl, rfl, rfl⟩

theorem receiveMal_eq (R0 R1 : Nat → Nat → Byte) (rs : RecvSt) (b : Array Bool) (b0 b1 : Label) :
    receiveMal R0 R1 rs b b0 b1 =
      ((receive R0 R1 (receive R0 R1 rs b).1 (bcvOf b0 b1)).1, (receive R0 R1 rs b).2.1,
        (receive R0 R1 rs b).2.2 ++ (receive R0 R1 (receive R0 R1 rs b).1 (bcvOf b0 b1)).2.2) := rfl

theorem sendMal_eq (SS : Nat → Nat → Byte) (delta : Label) (ss : SendSt) (n : Nat) (msgs : List Bytes)
    {ss1 ss2 : SendSt} {l1 l2 : List Label} {m1 m2 : List Bytes}
    (h1 : send SS delta ss n msgs = some (ss1, l1, m1)) (h2 : send SS delta ss1 256 m1 = some (ss2, l2, m2)) :
    sendMal SS delta ss n msgs = some (ss2, l1, m2) := by
  unfold sendMal
  rw [h1]
  dsimp only
  rw [h2]

/-- See `C06_iknp_label_corr_malicious`. -/
theorem label_call_mal (R0 R1 SS : Nat → Nat → Byte) (delta : Label) (hb : BaseOK R0 R1 SS delta)
    (rs : RecvSt) (ss : SendSt) (hs : InStep rs ss) (b : Array Bool) (b0 b1 : Label) (more : List Bytes) :
    ∃ ss' sent,
      sendMal SS delta ss b.size ((receiveMal R0 R1 rs b b0 b1).2.2 ++ more) = some (ss', sent, more) ∧
      InStep (receiveMal R0 R1 rs b b0 b1).1 ss' ∧
      sent.length = b.size ∧ (receiveMal R0 R1 rs b b0 b1).2.1.length = b.size ∧
      ∀ i, i < b.size →
        (receiveMal R0 R1 rs b b0 b1).2.1.getD i 0#128 =
          sent.getD i 0#128 ^^^ (if b.getD i false then delta else 0#128) := by
  obtain ⟨ss1, sent, h1, hs1, hl1, hl1', hc1⟩ :=
    label_call R0 R1 SS delta hb rs ss hs b ((receive R0 R1 (receive R0 R1 rs b).1 (bcvOf b0 b1)).2.2 ++ more)
  obtain ⟨ss2, _, h2, hs2, _⟩ := label_call R0 R1 SS delta hb (receive R0 R1 rs b).1 ss1 hs1 (bcvOf b0 b1) more
  obtain ⟨e1, e2, e3⟩ := proj_of_eq (receiveMal_eq R0 R1 rs b b0 b1)
  rw [e1, e2, e3, List.append_assoc]
  rw [size_bcvOf] at h2
  exact ⟨ss2, sent, sendMal_eq SS delta ss b.size _ h1 h2, hs2, hl1, hl1', hc1⟩

theorem bitAt_zerosW (m j : Nat) : bitAt (zerosW m) j = false := by
  unfold bitAt zerosW
  by_cases h : j / 64 < m
  · rw [getD_mk _ _ _ _ h]; simp
  · simp [mk, Array.getD, h]

theorem bits_call (wf : Nat → Nat) (R0 R1 SS : Nat → Nat → Byte) (delta : Label) (hb : BaseOK R0 R1 SS delta)
    (rs : RecvSt) (ss : SendSt) (hs : InStep rs ss) (choices : Words) (n : Nat)
    (hch : (n + 63) / 64 ≤ choices.size) (more : List Bytes) :
    ∃ rs' ss' rw sw msgs,
      receiveBitsWith wf R0 R1 rs choices (mk ((n + 63) / 64) fun _ => 0#64) n = some (rs', rw, msgs) ∧
      sendBits SS delta ss n (mk ((n + 63) / 64) fun _ => 0#64) (msgs ++ more) = some (ss', sw, more) ∧
      InStep rs' ss' ∧ rw.size = (n + 63) / 64 ∧ sw.size = (n + 63) / 64 ∧
      (∀ j, j < n → bitAt rw j = (bitAt sw j ^^ (labelBit delta 0 && (covered wf n j && bitAt choices j)))) ∧
      (∀ j, n ≤ j → bitAt rw j = false ∧ bitAt sw j = false) := by
  have hzs : (mk ((n + 63) / 64) fun _ => (0#64 : BitVec 64)).size = (n + 63) / 64 := size_mk ..
  have hz : ∀ j, bitAt (mk ((n + 63) / 64) fun _ => (0#64 : BitVec 64)) j = false := bitAt_zerosW _
  generalize (mk ((n + 63) / 64) fun _ => (0#64 : BitVec 64)) = Z at hzs hz ⊢
  obtain ⟨ss', sw, h1, h2, h3, h4, h5, h6⟩ :=
    bits_run wf .orOnly R0 R1 SS delta hb choices n rs ss Z Z more hs (by omega) (by omega) (fun _ j => ⟨hz j, hz j⟩)
  rw [← recvBitsLoop_eq, sendBitsLoopS_orOnly] at h1
  rw [← recvBitsLoop_eq] at h2 h3 h5 h6
  refine ⟨_, ss', _, sw, (recvBitsLoop wf R0 R1 choices n n 0 rs Z).2.2, ?_, ?_, h2, h3.trans hzs, h4.trans hzs,
    fun j hj => h6 j hj, fun j hj => ?_⟩
  · rw [receiveBitsWith, if_neg (by omega), if_neg (by omega)]
  · rw [sendBits, if_neg (by omega)]
    exact h1
  · rw [(h5 j hj).1, (h5 j hj).2]
    exact ⟨hz j, hz j⟩

/-- What a call must deliver.  Label form: `received_i = sent_i xor choice_i*Delta`.
Packed-bit form: `received_j = sent_j xor (Delta.Bit(0) and choice_j)`, and no
bit set at positions `≥ n`. -/
def CallSpec (delta : Label) : Call → CallOut → Prop
  | .labels _ b _ _, o =>
    o.sentL.length = b.size ∧ o.rcvdL.length = b.size ∧
    ∀ i, i < b.size → o.rcvdL.getD i 0#128 = o.sentL.getD i 0#128 ^^^ (if b.getD i false then delta else 0#128)
  | .bits n ch, o =>
    o.sentW.size = (n + 63) / 64 ∧ o.rcvdW.size = (n + 63) / 64 ∧
    (∀ j, j < n → bitAt o.rcvdW j = (bitAt o.sentW j ^^ (labelBit delta 0 && bitAt ch j))) ∧
    (∀ j, n ≤ j → bitAt o.rcvdW j = false ∧ bitAt o.sentW j = false)

/-- Caller obligations: the choice buffer of a packed-bit call is long enough
(otherwise `ReceiveBits` returns an error). -/
def Call.WF : Call → Prop
  | .labels _ _ _ _ => True
  | .bits n ch => (n + 63) / 64 ≤ ch.size

theorem call_ok (R0 R1 SS : Nat → Nat → Byte) (delta : Label) (hb : BaseOK R0 R1 SS delta)
    (rs : RecvSt) (ss : SendSt) (hs : InStep rs ss) (c : Call) (hc : c.WF) :
    ∃ rs' ss' out u, runCall R0 R1 SS delta rs ss c = some (rs', ss', out, u) ∧ InStep rs' ss' ∧
      CallSpec delta c out := by
  cases c with
  | labels mal b b0 b1 =>
    cases mal with
    | false =>
      obtain ⟨ss', sent, h1, h2, h3, h4, h5⟩ := label_call R0 R1 SS delta hb rs ss hs b []
      rw [List.append_nil] at h1
      refine ⟨(receive R0 R1 rs b).1, ss', { sentL := sent, rcvdL := (receive R0 R1 rs b).2.1 },
        (receive R0 R1 rs b).2.2, ?_, h2, h3, h4, h5⟩
      simp only [runCall, h1]
    | true =>
      obtain ⟨ss', sent, h1, h2, h3, h4, h5⟩ := label_call_mal R0 R1 SS delta hb rs ss hs b b0 b1 []
      rw [List.append_nil] at h1
      refine ⟨(receiveMal R0 R1 rs b b0 b1).1, ss', { sentL := sent, rcvdL := (receiveMal R0 R1 rs b b0 b1).2.1 },
        (receiveMal R0 R1 rs b b0 b1).2.2, ?_, h2, h3, h4, h5⟩
      simp only [runCall, h1]
  | bits n ch =>
    obtain ⟨rs', ss', rw, sw, msgs, h1, h2, h3, h4, h5, h6, h7⟩ :=
      bits_call wordsHead R0 R1 SS delta hb rs ss hs ch n hc []
    rw [List.append_nil] at h2
    refine ⟨rs', ss', { sentW := sw, rcvdW := rw }, msgs, ?_, h3, h5, h4, ?_, h7⟩
    · simp only [runCall, receiveBits, h1, h2]
    · intro j hj
      rw [h6 j hj, covered_head n j hj, Bool.true_and]

/-- See `C06_iknp_session`. -/
theorem session_ok (R0 R1 SS : Nat → Nat → Byte) (delta : Label) (hb : BaseOK R0 R1 SS delta) :
    ∀ (cs : List Call) (rs : RecvSt) (ss : SendSt), InStep rs ss → (∀ c ∈ cs, c.WF) →
      ∃ outs, session R0 R1 SS delta rs ss cs = some outs ∧ outs.length = cs.length ∧
        ∀ k (hk : k < cs.length) (hk' : k < outs.length), CallSpec delta cs[k] outs[k] :=
  fun cs rs ss => Run.session_of_call (σ := RecvSt × SendSt) (run := fun s => session R0 R1 SS delta s.1 s.2)
    (I := fun s => InStep s.1 s.2) (fun _ => rfl)
    (fun s c _ hs hc =>
      let ⟨rs', ss', out, _, h1, h2, h3⟩ := call_ok R0 R1 SS delta hb s.1 s.2 hs c hc
      ⟨(rs', ss'), out, h2, h3, by simp only [session, h1]⟩) cs (rs, ss)

end Mpc.Iknp
