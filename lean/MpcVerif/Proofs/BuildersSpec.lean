/-
The builders of Model/Builders.lean that are one loop or a few gates (C07), between named values (`Holds`, `Bits`,
`PBits`, `Num`).  What several builders share is proved once: a loop given by its two equations over any cell with
its unit (`ripple_bits`, `bitwise_bits`), the prologue of the comparators over any chain (`comparatorWith_bits`).
Last, the harness circuit around one call (`runBuilder_spec`; `evalBuilder_bits`, `evalBuilder_num`: it evaluates
to what the builder's unit says).
-/
import MpcVerif.Proofs.Builders

namespace Mpc.Bld
open Mpc

variable {s : St} {inp : List Bool}

@[simp] theorem eval_xor (a b : Bool) : Op.xor.eval a b = (a != b) := rfl
@[simp] theorem eval_xnor (a b : Bool) : Op.xnor.eval a b = (a == b) := rfl
@[simp] theorem eval_and (a b : Bool) : Op.and.eval a b = (a && b) := rfl

theorem fullAdder_want (hwf : WF s inp) {a b cin : Nat} {av bv cv : Bool} (ha : Holds s inp a av)
    (hb : Holds s inp b bv) (hc : Holds s inp cin cv) (want : Bool) :
    Spec inp s (fullAdder a b cin want) (fun r s' => Holds s' inp r.1 ((av != bv) != cv) ∧
      Holds s' inp r.2 (if want then carry av bv cv else cv)) := by
  unfold fullAdder
  refine Spec.bind (gate_spec .xor hwf hb hc) ?_
  intro w1 s1 e1 h1
  refine Spec.bind (gate_spec .xor e1.wf (ha.mono e1) h1) ?_
  intro sm s2 e2 h2
  rw [eval_xor, eval_xor, ← Bool.bne_assoc] at h2
  have e12 := e1.trans e2
  cases want with
  | false => exact Spec.pure e2.wf ⟨h2, hc.mono e12⟩
  | true =>
    simp only [if_true]
    refine Spec.bind (gate_spec .xor e2.wf (ha.mono e12) (hc.mono e12)) ?_
    intro w2 s3 e3 h3
    refine Spec.bind (gate_spec .and e3.wf ((h1.mono e2).mono e3) h3) ?_
    intro w3 s4 e4 h4
    refine (gate_spec .xor e4.wf (hc.mono ((e12.trans e3).trans e4)) h4).map ?_
    intro co s5 e5 h5
    exact ⟨((h2.mono e3).mono e4).mono e5, by rw [← carry_circuit]; exact h5⟩

theorem fullAdder_h (hwf : WF s inp) {a b c : Nat} {av bv cv : Bool} (ha : Holds s inp a av) (hb : Holds s inp b bv)
    (hc : Holds s inp c cv) :
    Spec inp s (fullAdder' a b c) (fun r s' => Holds s' inp r.1 ((av != bv) != cv) ∧ Holds s' inp r.2 (carry av bv cv)) :=
  fullAdder_want hwf ha hb hc true

theorem halfAdder_h (hwf : WF s inp) {a b : Nat} {av bv : Bool} (ha : Holds s inp a av) (hb : Holds s inp b bv) :
    Spec inp s (halfAdder a b) (fun r s' => Holds s' inp r.1 (av != bv) ∧ Holds s' inp r.2 (av && bv)) := by
  unfold halfAdder
  refine Spec.bind (gate_spec .xor hwf ha hb) ?_
  intro sm s1 e1 hs
  exact (gate_spec .and e1.wf (ha.mono e1) (hb.mono e1)).map fun c s2 e2 hc => ⟨hs.mono e2, hc⟩

/-- `rippleAdd` and `rippleSub` at once: `loop` is given by its two equations, `cell` by its unit with the carry
function `cy`. -/
theorem ripple_bits {cell : Nat → Nat → Nat → Bool → BM (Nat × Nat)}
    {cy : Bool → Bool → Bool → Bool} {loop : List (Nat × Nat) → Nat → Bool → BM (List Nat)}
    (hcell : ∀ {s : St} {a b cin : Nat} {av bv cv : Bool}, WF s inp → Holds s inp a av → Holds s inp b bv →
      Holds s inp cin cv → ∀ want : Bool, Spec inp s (cell a b cin want) (fun r s' =>
        Holds s' inp r.1 ((av != bv) != cv) ∧ Holds s' inp r.2 (if want then cy av bv cv else cv)))
    (hnil : ∀ cin keep, loop [] cin keep = pure (if keep then [cin] else []))
    (hcons : ∀ a b rest cin keep, loop ((a, b) :: rest) cin keep = do
      let r ← cell a b cin (!rest.isEmpty || keep)
      let t ← loop rest r.2 keep
      pure (r.1 :: t)) (l : List (Nat × Nat)) :
    ∀ {s : St} {lv : List (Bool × Bool)} {cin : Nat} {c : Bool} (_ : WF s inp) (keep : Bool), PBits s inp l lv →
    Holds s inp cin c →
    Spec inp s (loop l cin keep) (fun z s' => Bits s' inp z ((chainBits cy lv c).take (lv.length + keep.toNat))) := by
  induction l with
  | nil =>
    intro s lv cin c hwf keep hl hc
    rw [hnil, hl.eq_nil]
    cases keep with
    | false => exact Spec.pure hwf .nil
    | true => exact Spec.pure hwf hc.bits
  | cons p rest ih =>
    intro s lv cin c hwf keep hl hc
    obtain ⟨a, b⟩ := p
    obtain ⟨av, bv, lv', rfl, ha, hb, ht⟩ := hl.uncons
    rw [hcons]
    refine Spec.bind (hcell hwf ha hb hc _) ?_
    intro r s1 e1 ⟨hs, hr2⟩
    refine Spec.bind (ih e1.wf keep (ht.mono e1) hr2) ?_
    intro t s2 e2 ht'
    refine Spec.pure e2.wf ?_
    rw [List.length_cons, Nat.add_right_comm, take_chainBits_cons]
    refine .cons (hs.mono e2) ?_
    -- the carry is wanted unless this is the last position and the carry is dropped
    cases rest with
    | cons _ _ => exact ht'
    | nil => cases keep with
      | true => exact ht'
      | false => rw [ht.eq_nil] at ht' ⊢; exact ht'

theorem rippleAdd_bits (l : List (Nat × Nat)) {s : St} {lv : List (Bool × Bool)} {cin : Nat} {c : Bool} (hwf : WF s inp)
    (keep : Bool) (hl : PBits s inp l lv) (hc : Holds s inp cin c) :
    Spec inp s (rippleAdd l cin keep) (fun z s' => Bits s' inp z ((addBits lv c).take (lv.length + keep.toNat))) :=
  ripple_bits (fun hwf => fullAdder_want hwf) (fun _ _ => rfl) (fun _ _ _ _ _ => rfl) l hwf keep hl hc

theorem take_length_le {α : Type} (l : List α) (n : Nat) (h : l.length ≤ n) : l.take n = l :=
  List.take_of_length_le h

theorem rippleAdderBody_bits (hwf : WF s inp) {a b : Nat} {rest : List (Nat × Nat)} {lv : List (Bool × Bool)}
    (keep : Bool) (hl : PBits s inp ((a, b) :: rest) lv) :
    Spec inp s (rippleAdderBody a b rest keep) (fun z s' => Bits s' inp z
      ((addBits lv false).take (lv.length + keep.toNat))) := by
  unfold rippleAdderBody
  obtain ⟨av, bv, lv', rfl, ha, hb, ht⟩ := hl.uncons
  refine Spec.bind (gate_spec .xor hwf ha hb) ?_
  intro sm s2 e2 hsm
  split
  · next hcond =>
    simp only [Bool.and_eq_true, List.isEmpty_iff, Bool.not_eq_true'] at hcond
    obtain ⟨rfl, rfl⟩ := hcond
    rw [ht.eq_nil]
    exact Spec.pure e2.wf (by simpa [chainBits_cons, chainBits_nil] using hsm.bits)
  · refine Spec.bind (gate_spec .and e2.wf (ha.mono e2) (hb.mono e2)) ?_
    intro c s3 e3 hc
    refine (rippleAdd_bits rest e3.wf keep ((ht.mono e2).mono e3) hc).map ?_
    intro t s4 e4 ht'
    have := Bits.cons ((hsm.mono e3).mono e4) ht'
    simpa [take_chainBits_cons, carry, Nat.add_right_comm] using this

/-- `NewAdder` (Yao target) is exact for every operand and result width. -/
theorem rippleAdder_num (hwf : WF s inp) {x y : List Nat} {nx ny X Y : Nat} (nz : Nat)
    (hx : Num s inp x nx X) (hy : Num s inp y ny Y) (hne : 0 < max nx ny) (hnz : 0 < nz) :
    Spec inp s (rippleAdder x y nz) (fun z s' => Num s' inp z nz ((X + Y) % 2 ^ nz)) := by
  obtain ⟨xv, bx, rfl, rfl⟩ := hx.bits
  obtain ⟨yv, by', rfl, rfl⟩ := hy.bits
  unfold rippleAdder
  refine Spec.bind (zeroPad_bits hwf bx by') ?_
  intro p s1 e1 ⟨h1, h2⟩
  have hxl : xv.length ≤ max xv.length yv.length := Nat.le_max_left ..
  have hyl : yv.length ≤ max xv.length yv.length := Nat.le_max_right ..
  obtain ⟨hw, hwle, hwz⟩ := ripple_width xv.length yv.length nz
  have hL : PBits s1 inp _ (operandBits xv yv (max xv.length yv.length) nz) := .zip (h1.take nz) (h2.take nz)
  have hLlen := operandBits_length hxl hyl nz
  simp only [List.length_take, h1.length, padTo_length, Nat.max_eq_right hxl]
  cases hz : (p.1.take nz).zip (p.2.take nz) with
  | nil =>
    rw [hz] at hL
    exact absurd (hLlen.symm.trans (congrArg List.length hL.eq_nil)) (Nat.ne_of_gt (Nat.lt_min.mpr ⟨hnz, hne⟩))
  | cons ab rest =>
    obtain ⟨a, b⟩ := ab
    rw [hz] at hL
    refine Spec.bind (rippleAdderBody_bits e1.wf _ hL) ?_
    intro bd s3 e3 hbd
    refine Spec.bind (zeros_bits e3.wf _) ?_
    intro zs s4 e4 hzs
    rw [hLlen, hw] at hbd
    have hsum := (hbd.mono e4).append hzs
    rw [hwz] at hsum
    refine Spec.pure e4.wf (hsum.num.cast ?_ (toNat_adderBits hxl hyl nz _ rfl (ksWidth_le ..)))
    rw [List.length_append, List.length_take, chainBits_length, hLlen, List.length_replicate, Nat.min_eq_left hwle]
    exact Nat.add_sub_cancel' (ksWidth_le ..)

theorem fullSub_want (hwf : WF s inp) {x y cin : Nat} {xv yv cv : Bool} (hx : Holds s inp x xv) (hy : Holds s inp y yv)
    (hc : Holds s inp cin cv) (want : Bool) :
    Spec inp s (fullSub x y cin want) (fun r s' => Holds s' inp r.1 ((xv != yv) != cv) ∧
      Holds s' inp r.2 (if want then borrow xv yv cv else cv)) := by
  unfold fullSub
  refine Spec.bind (gate_spec .xnor hwf hx hc) ?_
  intro w1 s1 e1 h1
  refine Spec.bind (gate_spec .xnor e1.wf (hy.mono e1) h1) ?_
  intro d s2 e2 h2
  rw [eval_xnor, eval_xnor, (fullSub_circuit _ _ _).1] at h2
  have e12 := e1.trans e2
  cases want with
  | false => exact Spec.pure e2.wf ⟨h2, hc.mono e12⟩
  | true =>
    simp only [if_true]
    refine Spec.bind (gate_spec .xor e2.wf (hy.mono e12) (hc.mono e12)) ?_
    intro w2 s3 e3 h3
    refine Spec.bind (gate_spec .and e3.wf ((h1.mono e2).mono e3) h3) ?_
    intro w3 s4 e4 h4
    refine (gate_spec .xor e4.wf h4 (hc.mono ((e12.trans e3).trans e4))).map ?_
    intro co s5 e5 h5
    exact ⟨((h2.mono e3).mono e4).mono e5, by rw [← (fullSub_circuit _ _ _).2]; exact h5⟩

theorem rippleSub_bits (l : List (Nat × Nat)) {s : St} {lv : List (Bool × Bool)} {cin : Nat} {c : Bool} (hwf : WF s inp)
    (keep : Bool) (hl : PBits s inp l lv) (hc : Holds s inp cin c) :
    Spec inp s (rippleSub l cin keep) (fun z s' => Bits s' inp z ((subBits lv c).take (lv.length + keep.toNat))) :=
  ripple_bits (fun hwf => fullSub_want hwf) (fun _ _ => rfl) (fun _ _ _ _ _ => rfl) l hwf keep hl hc

/-- `NewSubtractor` (Yao) is exact for every operand and result width:
`z + y ≡ x (mod 2^nz)`. -/
theorem rippleSubtractor_num (hwf : WF s inp) {x y : List Nat} {nx ny X Y : Nat} (nz : Nat)
    (hx : Num s inp x nx X) (hy : Num s inp y ny Y) (hnz : 0 < nz) :
    Spec inp s (rippleSubtractor x y nz) (fun z s' => ∃ Z, Num s' inp z nz Z ∧ (Z + Y) % 2 ^ nz = X % 2 ^ nz) := by
  obtain ⟨xv, bx, rfl, rfl⟩ := hx.bits
  obtain ⟨yv, by', rfl, rfl⟩ := hy.bits
  unfold rippleSubtractor
  refine Spec.bind (zeroPad_bits hwf bx by') ?_
  intro p s1 e1 ⟨h1, h2⟩
  have hxl : xv.length ≤ max xv.length yv.length := Nat.le_max_left ..
  have hyl : yv.length ≤ max xv.length yv.length := Nat.le_max_right ..
  obtain ⟨hw, hwle, hwz⟩ := ripple_width xv.length yv.length nz
  refine Spec.bind (zeroWire_spec e1.wf) ?_
  intro cin s2 e2 hcin
  have hL : PBits s2 inp _ (operandBits xv yv (max xv.length yv.length) nz) := (PBits.zip (h1.take nz) (h2.take nz)).mono e2
  refine (rippleSub_bits _ e2.wf _ hL hcin).map ?_
  intro bd s3 e3 hbd
  have hLlen := operandBits_length hxl hyl nz
  rw [List.length_take, h1.length, padTo_length, Nat.max_eq_right hxl, hLlen, hw] at hbd
  have hbl : bd.length = ksWidth xv.length yv.length nz := by
    rw [hbd.length, List.length_take, chainBits_length, hLlen, Nat.min_eq_left hwle]
  have hne := List.ne_nil_of_length_pos (hbl ▸ ksWidth_pos hnz)
  rw [List.length_take, h1.length, padTo_length, Nat.max_eq_right hxl, hwz]
  have hfill := hbd.append (.replicate (hbd.last hne) (nz - ksWidth xv.length yv.length nz))
  refine ⟨_, hfill.num.cast ?_ rfl, toNat_subtractorBits hxl hyl nz rfl (ksWidth_le ..)
    (Nat.le_trans hwle (Nat.succ_le_succ (Nat.min_le_right ..))) rfl⟩
  rw [← hfill.length, List.length_append, List.length_replicate, hbl]; exact Nat.add_sub_cancel' (ksWidth_le ..)

theorem cmpChain_h (l : List (Nat × Nat)) : ∀ {s : St} {lv : List (Bool × Bool)} {cin : Nat} {c : Bool}, WF s inp →
    PBits s inp l lv → Holds s inp cin c → Spec inp s (cmpChain l cin) (fun r s' => Holds s' inp r (cmpFold lv c)) := by
  induction l with
  | nil =>
    intro s lv cin c hwf hl hc
    rw [hl.eq_nil]
    exact Spec.pure hwf hc
  | cons p rest ih =>
    intro s lv cin c hwf hl hc
    obtain ⟨x, y⟩ := p
    obtain ⟨xv, yv, lv', rfl, hx, hy, ht⟩ := hl.uncons
    simp only [cmpChain, cmpFold]
    refine Spec.bind (gate_spec .xnor hwf hc hy) ?_
    intro w1 s1 e1 h1
    refine Spec.bind (gate_spec .xor e1.wf (hc.mono e1) (hx.mono e1)) ?_
    intro w2 s2 e2 h2
    refine Spec.bind (gate_spec .and e2.wf (h1.mono e2) h2) ?_
    intro w3 s3 e3 h3
    have e13 := (e1.trans e2).trans e3
    refine Spec.bind (gate_spec .xor e3.wf (hc.mono e13) h3) ?_
    intro co s4 e4 h4
    rw [eval_xor, eval_and, eval_xnor, eval_xor, cmp_circuit] at h4
    exact ih e4.wf (ht.mono (e13.trans e4)) h4

theorem uintComparator_bits (hwf : WF s inp) {x y : List Nat} {xv yv : List Bool} {cin : Nat} {c : Bool}
    (hx : Bits s inp x xv) (hy : Bits s inp y yv) (hc : Holds s inp cin c) :
    Spec inp s (uintComparator cin x y) (fun z s' => Bits s' inp z [cmpNat (toNat xv) (toNat yv) c]) := by
  unfold uintComparator
  refine Spec.bind (zeroPad_bits hwf hx hy) ?_
  intro p s1 e1 ⟨h1, h2⟩
  refine (cmpChain_h _ e1.wf (.zip h1 h2) (hc.mono e1)).map ?_
  intro r s2 _ hr
  rw [cmpFold_zip _ _ _ ((padTo_max_left ..).trans (padTo_max_right ..).symm), toNat_padTo, toNat_padTo] at hr
  exact hr.bits

/-- What `intComparatorCore` computes; by `cmpInt_spec` the signed comparison of two equally long two's complement
bit lists. -/
def cmpInt (xs ys : List Bool) (c : Bool) : Bool :=
  if xs.getLastD false != ys.getLastD false then ys.getLastD false
  else cmpNat (toNat xs) (toNat ys) c

theorem intComparatorCore_bits (hwf : WF s inp) {p1 p2 : List Nat} {xs ys : List Bool} {cin : Nat} {c : Bool}
    (h1 : Bits s inp p1 xs) (h2 : Bits s inp p2 ys) (hc : Holds s inp cin c) (hl : xs.length = ys.length)
    (hne : 0 < xs.length) :
    Spec inp s (intComparatorCore cin p1 p2) (fun z s' => Bits s' inp z [cmpInt xs ys c]) := by
  unfold intComparatorCore cmpInt
  have hsx := h1.last (List.ne_nil_of_length_pos (h1.length ▸ hne))
  have hsy := h2.last (List.ne_nil_of_length_pos (h2.length ▸ hl ▸ hne))
  refine Spec.bind (cmpChain_h _ hwf (.zip h1 h2) hc) ?_
  intro cout s2 e2 hco
  rw [cmpFold_zip _ _ _ hl] at hco
  generalize cmpNat _ _ _ = r at hco ⊢
  generalize xs.getLastD false = sx at hsx ⊢
  generalize ys.getLastD false = sy at hsy ⊢
  refine Spec.bind (gate_spec .xor e2.wf (hsx.mono e2) (hsy.mono e2)) ?_
  intro cond s3 e3 hcond
  refine Spec.bind (gate_spec .xor e3.wf (hco.mono e3) ((hsy.mono e2).mono e3)) ?_
  intro w1 s4 e4 hw1
  refine Spec.bind (gate_spec .and e4.wf hw1 (hcond.mono e4)) ?_
  intro w2 s5 e5 hw2
  refine (gate_spec .xor e5.wf hw2 (((hco.mono e3).mono e4).mono e5)).map ?_
  intro o s6 _ ho
  cases sx <;> cases sy <;> cases r <;> exact ho.bits

/-- `intComparator` as in the code: operands ZERO padded. -/
theorem intComparator_bits (hwf : WF s inp) {x y : List Nat} {xv yv : List Bool} {cin : Nat} {c : Bool}
    (hx : Bits s inp x xv) (hy : Bits s inp y yv) (hc : Holds s inp cin c) (hne : 0 < max xv.length yv.length) :
    Spec inp s (intComparator cin x y) (fun z s' => Bits s' inp z
      [cmpInt (padTo xv (max xv.length yv.length)) (padTo yv (max xv.length yv.length)) c]) := by
  unfold intComparator
  refine Spec.bind (zeroPad_bits hwf hx hy) ?_
  intro p s1 e1 ⟨h1, h2⟩
  exact intComparatorCore_bits e1.wf h1 h2 (hc.mono e1) ((padTo_max_left ..).trans (padTo_max_right ..).symm)
    ((padTo_max_left ..).symm ▸ hne)

/-- The PROPOSED REPAIR `intComparatorSignPad` (operands sign extended). -/
theorem intComparatorSignPad_bits (hwf : WF s inp) {x y : List Nat} {xv yv : List Bool} {cin : Nat} {c : Bool}
    (hx : Bits s inp x xv) (hy : Bits s inp y yv) (hc : Holds s inp cin c) (hxne : 0 < xv.length) (hyne : 0 < yv.length) :
    Spec inp s (intComparatorSignPad cin x y) (fun z s' => Bits s' inp z
      [cmpInt (sextTo xv (max xv.length yv.length)) (sextTo yv (max xv.length yv.length)) c]) := by
  unfold intComparatorSignPad signPad
  rw [hx.length, hy.length]
  exact intComparatorCore_bits hwf (hx.signExt (List.ne_nil_of_length_pos (hx.length ▸ hxne)) _)
    (hy.signExt (List.ne_nil_of_length_pos (hy.length ▸ hyne)) _) hc
    (by rw [sextTo_length, sextTo_length, Nat.max_eq_right (Nat.le_max_left ..), Nat.max_eq_right (Nat.le_max_right ..)])
    (by rw [sextTo_length]; exact Nat.lt_of_lt_of_le hxne (Nat.le_max_left ..))

theorem cmpInt_spec (xs ys : List Bool) (c : Bool) (hl : xs.length = ys.length) (hne : 0 < xs.length) :
    cmpInt xs ys c = (decide (toInt ys < toInt xs) || (decide (toInt xs = toInt ys) && c)) := by
  have hx := toNat_getLast xs (List.ne_nil_of_length_pos hne)
  have hy := toNat_getLast ys (List.ne_nil_of_length_pos (hl ▸ hne))
  have hxl := toNat_lt xs.dropLast
  have hyl := toNat_lt ys.dropLast
  simp only [List.length_dropLast] at hxl hyl
  have hp : 2 ^ xs.length = 2 * 2 ^ (xs.length - 1) := by
    rw [← Nat.pow_succ']; congr 1; omega
  rw [← hl] at hy hyl
  simp only [cmpInt, cmpNat, toInt_cast, ← hl]
  generalize xs.getLastD false = sx at *
  generalize ys.getLastD false = sy at *
  generalize toNat xs = X at *
  generalize toNat ys = Y at *
  generalize toNat xs.dropLast = Xl at *
  generalize toNat ys.dropLast = Yl at *
  rw [hp]
  generalize 2 ^ (xs.length - 1) = P at *
  have hcastEq : ((X : Int) = (Y : Int)) ↔ X = Y := by constructor <;> intro h <;> omega
  cases sx <;> cases sy <;> simp at hx hy ⊢
  · simp only [hcastEq]
  · left; omega
  · constructor
    · omega
    · intro h; omega
  · simp only [hcastEq]

def CmpKind.relNat : CmpKind → Nat → Nat → Bool
  | .gt, X, Y => decide (Y < X)
  | .ge, X, Y => decide (Y ≤ X)
  | .lt, X, Y => decide (X < Y)
  | .le, X, Y => decide (X ≤ Y)

def CmpKind.relInt : CmpKind → Int → Int → Bool
  | .gt, X, Y => decide (Y < X)
  | .ge, X, Y => decide (Y ≤ X)
  | .lt, X, Y => decide (X < Y)
  | .le, X, Y => decide (X ≤ Y)

theorem cmpNat_false (X Y : Nat) : cmpNat X Y false = decide (Y < X) := by simp [cmpNat]
theorem cmpNat_true (X Y : Nat) : cmpNat X Y true = decide (Y ≤ X) := by
  simp only [cmpNat, Bool.and_true]
  rw [Bool.eq_iff_iff]; simp only [Bool.or_eq_true, decide_eq_true_eq]; omega

/-- The shape shared by `comparator` and `comparatorSignPad`. -/
def comparatorWith (cmp : Nat → List Nat → List Nat → BM (List Nat)) (k : CmpKind) (x y : List Nat) :
    BM (List Nat) := do
  let cin ← (match k with
    | .gt | .lt => zeroWire
    | .ge | .le => oneWire)
  let (a, b) := (match k with
    | .gt | .ge => (x, y)
    | .lt | .le => (y, x))
  cmp cin a b

/-- What a comparator kind decides when `r x y c` is what the chain decides with carry-in `c`. -/
def CmpKind.pick {α : Type} (r : α → α → Bool → Bool) : CmpKind → α → α → Bool
  | .gt, X, Y => r X Y false
  | .ge, X, Y => r X Y true
  | .lt, X, Y => r Y X false
  | .le, X, Y => r Y X true

theorem comparatorWith_bits {cmp : Nat → List Nat → List Nat → BM (List Nat)}
    {R : List Bool → List Bool → Bool → Bool} {P : List Bool → List Bool → Prop}
    (hcmp : ∀ {s : St} {cin : Nat} {a b : List Nat} {av bv : List Bool} {c : Bool}, WF s inp → Bits s inp a av →
      Bits s inp b bv → Holds s inp cin c → P av bv → Spec inp s (cmp cin a b) (fun z s' => Bits s' inp z [R av bv c]))
    {s : St} (hwf : WF s inp) (k : CmpKind) {x y : List Nat} {xv yv : List Bool} (hx : Bits s inp x xv)
    (hy : Bits s inp y yv) (hxy : P xv yv) (hyx : P yv xv) :
    Spec inp s (comparatorWith cmp k x y) (fun z s' => Bits s' inp z [k.pick R xv yv]) := by
  have key : ∀ {c : Bool} {cinB : BM Nat} {a b : List Nat} {av bv : List Bool},
      Spec inp s cinB (fun o s' => Holds s' inp o c) → Bits s inp a av → Bits s inp b bv → P av bv →
      Spec inp s (cinB >>= fun cin => cmp cin a b) (fun z s' => Bits s' inp z [R av bv c]) :=
    fun hcin ha hb hab => Spec.bind hcin fun cin s1 e1 hc => hcmp e1.wf (ha.mono e1) (hb.mono e1) hc hab
  cases k
  · exact key (zeroWire_spec hwf) hx hy hxy
  · exact key (oneWire_spec hwf) hx hy hxy
  · exact key (zeroWire_spec hwf) hy hx hyx
  · exact key (oneWire_spec hwf) hy hx hyx

theorem pick_eq_relNat (k : CmpKind) (X Y : Nat) : k.pick cmpNat X Y = k.relNat X Y := by
  cases k <;> simp only [CmpKind.pick, CmpKind.relNat, cmpNat_false, cmpNat_true]

/-- `NewUint{Gt,Ge,Lt,Le}Comparator`: the comparison of the unsigned values. -/
theorem ucomparator_bits (hwf : WF s inp) (k : CmpKind) {x y : List Nat} {xv yv : List Bool}
    (hx : Bits s inp x xv) (hy : Bits s inp y yv) :
    Spec inp s (comparator false k x y) (fun z s' => Bits s' inp z [k.relNat (toNat xv) (toNat yv)]) := by
  show Spec inp s (comparatorWith uintComparator k x y) _
  refine (comparatorWith_bits (cmp := uintComparator) (R := fun a b => cmpNat (toNat a) (toNat b)) (P := fun _ _ => True)
    (fun hwf ha hb hc _ => uintComparator_bits hwf ha hb hc) hwf k hx hy trivial trivial).mono fun _ _ _ h => ?_
  rw [← pick_eq_relNat]; cases k <;> exact h

theorem cmpZ_true (X Y : Int) : (decide (Y < X) || (decide (X = Y) && true)) = decide (Y ≤ X) := by
  rw [Bool.and_true, Bool.eq_iff_iff]; simp only [Bool.or_eq_true, decide_eq_true_eq]; omega

/-- `ext` is `padTo` (the code) or `sextTo` (the repair). -/
theorem pick_eq_relInt (ext : List Bool → Nat → List Bool) (hlen : ∀ xs n, (ext xs n).length = max xs.length n)
    (k : CmpKind) (X Y : List Bool) (hne : 0 < max X.length Y.length) :
    k.pick (fun a b c => cmpInt (ext a (max a.length b.length)) (ext b (max a.length b.length)) c) X Y =
      k.relInt (toInt (ext X (max X.length Y.length))) (toInt (ext Y (max X.length Y.length))) := by
  have hl : (ext X (max X.length Y.length)).length = (ext Y (max X.length Y.length)).length := by
    rw [hlen, hlen]; omega
  have hnx : 0 < (ext X (max X.length Y.length)).length := by rw [hlen]; omega
  have hny := hl ▸ hnx
  cases k <;> simp only [CmpKind.pick, CmpKind.relInt, Nat.max_comm Y.length X.length]
  · rw [cmpInt_spec _ _ _ hl hnx, Bool.and_false, Bool.or_false]
  · rw [cmpInt_spec _ _ _ hl hnx, cmpZ_true]
  · rw [cmpInt_spec _ _ _ hl.symm hny, Bool.and_false, Bool.or_false]
  · rw [cmpInt_spec _ _ _ hl.symm hny, cmpZ_true]

/-- `NewInt{Gt,Ge,Lt,Le}Comparator` as in the code: the comparison of the two's
complement values of the ZERO padded operands. -/
theorem icomparator_bits (hwf : WF s inp) (k : CmpKind) {x y : List Nat} {xv yv : List Bool}
    (hx : Bits s inp x xv) (hy : Bits s inp y yv) (hne : 0 < max xv.length yv.length) :
    Spec inp s (comparator true k x y) (fun z s' => Bits s' inp z
      [k.relInt (toInt (padTo xv (max xv.length yv.length))) (toInt (padTo yv (max xv.length yv.length)))]) := by
  rw [← pick_eq_relInt padTo padTo_length k _ _ hne]
  show Spec inp s (comparatorWith intComparator k x y) _
  exact comparatorWith_bits (cmp := intComparator) (P := fun a b => 0 < max a.length b.length)
    (R := fun a b c => cmpInt (padTo a (max a.length b.length)) (padTo b (max a.length b.length)) c)
    (fun hwf ha hb hc hP => intComparator_bits hwf ha hb hc hP) hwf k hx hy hne (by omega)

/-- The PROPOSED REPAIR of `NewInt{Gt,Ge,Lt,Le}Comparator` (operands sign
extended to the common width): the comparison of the two's complement values,
for all widths. -/
theorem icomparatorSignPad_bits (hwf : WF s inp) (k : CmpKind) {x y : List Nat} {xv yv : List Bool}
    (hx : Bits s inp x xv) (hy : Bits s inp y yv) (hxne : 0 < xv.length) (hyne : 0 < yv.length) :
    Spec inp s (comparatorSignPad k x y) (fun z s' => Bits s' inp z [k.relInt (toInt xv) (toInt yv)]) := by
  rw [← toInt_sextTo xv (max xv.length yv.length), ← toInt_sextTo yv (max xv.length yv.length),
    ← pick_eq_relInt sextTo sextTo_length k _ _ (by omega)]
  show Spec inp s (comparatorWith intComparatorSignPad k x y) _
  exact comparatorWith_bits (cmp := intComparatorSignPad) (P := fun a b => 0 < a.length ∧ 0 < b.length)
    (R := fun a b c => cmpInt (sextTo a (max a.length b.length)) (sextTo b (max a.length b.length)) c)
    (fun hwf ha hb hc hP => intComparatorSignPad_bits hwf ha hb hc hP.1 hP.2) hwf k hx hy ⟨hxne, hyne⟩ ⟨hyne, hxne⟩

/-- `bitwise`, `xnorBits`, `muxBits` at once: they differ only in the cell.  The cell has to work only in the states
that extend `s0`, so it may use a fact of `s0` (the condition wire of `muxBits`). -/
theorem bitwise_bits {loop : List (Nat × Nat) → BM (List Nat)} {f : Nat → Nat → BM Nat}
    (hnil : loop [] = pure [])
    (hcons : ∀ a b rest, loop ((a, b) :: rest) = do
      let o ← f a b
      let r ← loop rest
      pure (o :: r))
    (g : Bool → Bool → Bool) {s0 : St}
    (hf : ∀ {s : St} {a b : Nat} {av bv : Bool}, Ext s0 s inp → Holds s inp a av → Holds s inp b bv →
      Spec inp s (f a b) (fun o s' => Holds s' inp o (g av bv)))
    (l : List (Nat × Nat)) :
    ∀ {s : St} {lv : List (Bool × Bool)} (_ : Ext s0 s inp), PBits s inp l lv →
    Spec inp s (loop l) (fun z s' => Bits s' inp z (lv.map fun p => g p.1 p.2)) := by
  induction l with
  | nil => intro s lv e hl; rw [hnil, hl.eq_nil]; exact Spec.pure e.wf .nil
  | cons p rest ih =>
    intro s lv e hl
    obtain ⟨a, b⟩ := p
    obtain ⟨av, bv, lv', rfl, ha, hb, ht⟩ := hl.uncons
    rw [hcons]
    refine Spec.bind (hf e ha hb) ?_
    intro o s1 e1 ho
    refine Spec.bind (ih (e.trans e1) (ht.mono e1)) ?_
    intro r s2 e2 hr
    exact Spec.pure e2.wf (.cons (ho.mono e2) hr)

theorem muxCell_h {cond t f : Nat} {c tv fv : Bool} (hwf : WF s inp) (hc : Holds s inp cond c) (ht : Holds s inp t tv)
    (hf : Holds s inp f fv) :
    Spec inp s (do let w1 ← gate .xor f t; let w2 ← gate .and w1 cond; gate .xor w2 f)
      (fun o s' => Holds s' inp o (if c then tv else fv)) := by
  refine Spec.bind (gate_spec .xor hwf hf ht) ?_
  intro w1 s1 e1 h1
  refine Spec.bind (gate_spec .and e1.wf h1 (hc.mono e1)) ?_
  intro w2 s2 e2 h2
  refine (gate_spec .xor e2.wf h2 (hf.mono (e1.trans e2))).mono ?_
  intro o s3 _ ho
  cases c <;> cases tv <;> cases fv <;> exact ho

theorem muxBus_bits (hwf : WF s inp) {t f : List Nat} {cond : Nat} {tv fv : List Bool} {c : Bool}
    (hc : Holds s inp cond c) (ht : Bits s inp t tv) (hf : Bits s inp f fv) (hl : tv.length = fv.length) :
    Spec inp s (muxBits cond (t.zip f)) (fun z s' => Bits s' inp z (if c then tv else fv)) := by
  refine (bitwise_bits (loop := muxBits cond) rfl (fun _ _ _ => rfl) (fun t f => if c then t else f)
    (fun e ht hf => muxCell_h e.wf (hc.mono e) ht hf) _ (Ext.refl hwf) (.zip ht hf)).mono ?_
  intro r s2 _ hr
  cases c
  · rwa [show (fun p : Bool × Bool => if false = true then p.1 else p.2) = Prod.snd from rfl,
      List.map_snd_zip (Nat.le_of_eq hl.symm)] at hr
  · rwa [show (fun p : Bool × Bool => if true = true then p.1 else p.2) = Prod.fst from rfl,
      List.map_fst_zip (Nat.le_of_eq hl)] at hr

theorem muxBus_num (hwf : WF s inp) {t f : List Nat} {cond n T F : Nat} {c : Bool} (hc : Holds s inp cond c)
    (ht : Num s inp t n T) (hf : Num s inp f n F) :
    Spec inp s (muxBits cond (t.zip f)) (fun z s' => Num s' inp z n (if c then T else F)) := by
  obtain ⟨tv, bt, lt, rfl⟩ := ht.bits
  obtain ⟨fv, bf, lf, rfl⟩ := hf.bits
  refine (muxBus_bits hwf hc bt bf (lt.trans lf.symm)).mono fun z s' _ h => ?_
  cases c
  · exact h.num.cast lf rfl
  · exact h.num.cast lt rfl

/-- `NewBinaryAND/OR/XOR/Clear`.  For `nz` above the operand width the result has the operand width only: the Go
code leaves the wires above unconnected. -/
theorem binaryOp_bits (hwf : WF s inp) (f : Nat → Nat → BM Nat) (g : Bool → Bool → Bool)
    (hf : ∀ {s : St} {a b : Nat} {av bv : Bool}, WF s inp → Holds s inp a av → Holds s inp b bv →
      Spec inp s (f a b) (fun o s' => Holds s' inp o (g av bv)))
    {x y : List Nat} {xv yv : List Bool} (nz : Nat) (hx : Bits s inp x xv) (hy : Bits s inp y yv) :
    Spec inp s (binaryOp f x y nz) (fun z s' => Bits s' inp z
      (List.zipWith g ((padTo xv (max xv.length yv.length)).take nz) ((padTo yv (max xv.length yv.length)).take nz))) := by
  unfold binaryOp
  refine Spec.bind (zeroPad_bits hwf hx hy) ?_
  intro p s1 e1 ⟨h1, h2⟩
  refine (bitwise_bits rfl (fun _ _ _ => rfl) g (fun e => hf e.wf) _ (Ext.refl e1.wf)
    (.zip (h1.take nz) (h2.take nz))).mono ?_
  intro z s2 _ hz
  rwa [show (fun p : Bool × Bool => g p.1 p.2) = Function.uncurry g from rfl, List.map_uncurry_zip_eq_zipWith] at hz

/-- The cell of `NewBinaryClear`. -/
theorem clear_h {a b : Nat} {av bv : Bool} (hwf : WF s inp) (ha : Holds s inp a av) (hb : Holds s inp b bv) :
    Spec inp s (do let w ← inv b; gate .and a w) (fun o s' => Holds s' inp o (av && !bv)) :=
  Spec.bind (inv_spec hwf hb) fun _ _ e1 hw => gate_spec .and e1.wf (ha.mono e1) hw

theorem xnorBits_bits (l : List (Nat × Nat)) {s : St} {lv : List (Bool × Bool)} (hwf : WF s inp)
    (hl : PBits s inp l lv) :
    Spec inp s (xnorBits l) (fun z s' => Bits s' inp z (lv.map fun p => p.1 == p.2)) :=
  bitwise_bits (loop := xnorBits) rfl (fun _ _ _ => rfl) (· == ·) (fun e => gate_spec .xnor e.wf) l (Ext.refl hwf) hl

theorem andPairs_bits : ∀ (l : List Nat) {lv : List Bool} {s : St} (_ : WF s inp), Bits s inp l lv →
    Spec inp s (andPairs l) (fun z s' => ∃ zv, Bits s' inp z zv ∧ zv.length = (lv.length + 1) / 2 ∧
      zv.all id = lv.all id)
  | [], lv, s, hwf, hb => by
    simp only [andPairs]; exact Spec.pure hwf ⟨lv, hb, by rw [← hb.length]; rfl, rfl⟩
  | [a], lv, s, hwf, hb => by
    simp only [andPairs]; exact Spec.pure hwf ⟨lv, hb, by rw [← hb.length]; simp, rfl⟩
  | a :: b :: rest, lv, s, hwf, hb => by
    simp only [andPairs]
    obtain ⟨av, lv1, rfl, ha, hb1⟩ := hb.uncons
    obtain ⟨bv, lv2, rfl, hb', hr⟩ := hb1.uncons
    refine Spec.bind (gate_spec .and hwf ha hb') ?_
    intro f s1 e1 hf
    refine Spec.bind (andPairs_bits rest e1.wf (hr.mono e1)) ?_
    intro r s2 e2 ⟨rv, hrv, hrl, hra⟩
    refine Spec.pure e2.wf ⟨_, .cons (hf.mono e2) hrv, ?_, ?_⟩
    · simp only [List.length_cons, hrl]; omega
    · simp only [List.all_cons, hra, eval_and, id, Bool.and_assoc]

theorem andTree_bits : ∀ (fuel : Nat) (l : List Nat) {lv : List Bool} {s : St} (_ : WF s inp), Bits s inp l lv →
    l.length ≤ fuel + 2 → 2 ≤ l.length →
    Spec inp s (andTree fuel l) (fun z s' => ∃ zv, Bits s' inp z zv ∧ zv.length = 2 ∧ zv.all id = lv.all id)
  | 0, l, lv, s, hwf, hb, h1, h2 => by
    simp only [andTree]; exact Spec.pure hwf ⟨lv, hb, by rw [← hb.length]; omega, rfl⟩
  | fuel + 1, l, lv, s, hwf, hb, h1, h2 => by
    simp only [andTree]
    split
    · next hgt =>
      refine Spec.bind (andPairs_bits l hwf hb) ?_
      intro l' s1 e1 ⟨lv', hb', hl', hv'⟩
      rw [← hb.length] at hl'
      refine (andTree_bits fuel l' e1.wf hb' (by rw [hb'.length]; omega) (by rw [hb'.length]; omega)).mono ?_
      intro z s2 _ ⟨zv, hz, hzl, hzv⟩
      exact ⟨zv, hz, hzl, hzv.trans hv'⟩
    · next hle => exact Spec.pure hwf ⟨lv, hb, by rw [← hb.length]; omega, rfl⟩

theorem all_beq_zip : ∀ (xs ys : List Bool), xs.length = ys.length →
    ((xs.zip ys).map fun p => p.1 == p.2).all id = decide (xs = ys)
  | [], [], _ => by simp
  | [], _ :: _, h => by simp at h
  | _ :: _, [], h => by simp at h
  | x :: xs, y :: ys, h => by
    simp only [List.length_cons, Nat.add_right_cancel_iff] at h
    simp only [List.zip_cons_cons, List.map_cons, List.all_cons, id, all_beq_zip xs ys h, List.cons.injEq]
    cases x <;> cases y <;> simp

theorem eqComparator_bits (hwf : WF s inp) {x y : List Nat} {xv yv : List Bool} (hx : Bits s inp x xv)
    (hy : Bits s inp y yv) (hne : 0 < max xv.length yv.length) :
    Spec inp s (eqComparator x y) (fun z s' => Bits s' inp z [decide (toNat xv = toNat yv)]) := by
  unfold eqComparator
  refine Spec.bind (zeroPad_bits hwf hx hy) ?_
  intro p s1 e1 ⟨h1, h2⟩
  have hl : (padTo xv (max xv.length yv.length)).length = (padTo yv (max xv.length yv.length)).length :=
    (padTo_max_left ..).trans (padTo_max_right ..).symm
  have hL := PBits.zip h1 h2
  have hfin := all_beq_zip _ _ hl
  simp only [padTo_eq_iff xv yv _ (Nat.le_max_left ..) (Nat.le_max_right ..)] at hfin
  have hLlen : ((padTo xv (max xv.length yv.length)).zip (padTo yv (max xv.length yv.length))).length =
      max xv.length yv.length := by
    rw [List.length_zip, ← hl, Nat.min_self, padTo_max_left]
  generalize (padTo xv (max xv.length yv.length)).zip (padTo yv (max xv.length yv.length)) = L at hL hfin hLlen
  split
  · next a b heq =>
    rw [heq] at hL
    obtain ⟨av, bv, L', rfl, ha, hb, ht⟩ := hL.uncons
    obtain rfl := ht.eq_nil
    refine (gate_spec .xnor e1.wf ha hb).map fun r s2 _ hr => ?_
    rw [← hfin]; simpa using hr.bits
  · next hne1 =>
    have hl2 : 2 ≤ (p.1.zip p.2).length := by
      rcases hc : p.1.zip p.2 with _ | ⟨q, _ | ⟨q', r⟩⟩
      · rw [hc] at hL; rw [← hL.length] at hLlen; simp at hLlen; omega
      · exact absurd hc (by obtain ⟨a, b⟩ := q; exact hne1 a b)
      · simp
    refine Spec.bind (xnorBits_bits _ e1.wf hL) ?_
    intro flags s2 e2 hfl
    have hfll : flags.length = (p.1.zip p.2).length := by rw [hfl.length, List.length_map, hL.length]
    refine Spec.bind (andTree_bits flags.length flags e2.wf hfl (by omega) (by omega)) ?_
    intro fl s3 e3 ⟨fv, hfv, hfvl, hfva⟩
    obtain ⟨v0, v1, rfl⟩ : ∃ v0 v1, fv = [v0, v1] := by
      rcases fv with _ | ⟨v0, _ | ⟨v1, _ | _⟩⟩ <;> simp at hfvl
      exact ⟨v0, v1, rfl⟩
    obtain ⟨f0, f1, rfl⟩ : ∃ f0 f1, fl = [f0, f1] := by
      have := hfv.length
      rcases fl with _ | ⟨f0, _ | ⟨f1, _ | _⟩⟩ <;> simp at this
      exact ⟨f0, f1, rfl⟩
    obtain ⟨_, _, hc, h0, ht⟩ := hfv.uncons
    obtain ⟨_, _, hc', h1', _⟩ := ht.uncons
    cases hc; cases hc'
    refine (gate_spec .and e3.wf h0 h1').map fun r s4 _ hr => ?_
    rw [← hfin, ← hfva]; simpa using hr.bits

theorem neqComparator_bits (hwf : WF s inp) {x y : List Nat} {xv yv : List Bool} (hx : Bits s inp x xv)
    (hy : Bits s inp y yv) (hne : 0 < max xv.length yv.length) :
    Spec inp s (neqComparator x y) (fun z s' => Bits s' inp z [decide (toNat xv ≠ toNat yv)]) := by
  unfold neqComparator
  refine Spec.bind (eqComparator_bits hwf hx hy hne) ?_
  intro e s1 e1 he
  obtain ⟨e0, rfl⟩ : ∃ e0, e = [e0] := by
    have := he.length
    rcases e with _ | ⟨e0, _ | _⟩ <;> simp at this
    exact ⟨e0, rfl⟩
  obtain ⟨_, _, hc, h0, _⟩ := he.uncons
  cases hc
  refine (inv_spec e1.wf h0).map fun r s2 _ hr => ?_
  simpa using hr.bits

theorem logicalAnd_bits (hwf : WF s inp) {x y : List Nat} {xv yv : List Bool} (hx : Bits s inp x xv)
    (hy : Bits s inp y yv) (hlx : 0 < xv.length) (hly : 0 < yv.length) :
    Spec inp s (logicalAnd x y) (fun z s' => Bits s' inp z [xv.getD 0 false && yv.getD 0 false]) :=
  (gate_spec .and hwf (hx.getD 0 (hx.length ▸ hlx)) (hy.getD 0 (hy.length ▸ hly))).map fun _ _ _ hr => hr.bits

theorem logicalOr_bits (hwf : WF s inp) {x y : List Nat} {xv yv : List Bool} (hx : Bits s inp x xv)
    (hy : Bits s inp y yv) (hlx : 0 < xv.length) (hly : 0 < yv.length) :
    Spec inp s (logicalOr x y) (fun z s' => Bits s' inp z [xv.getD 0 false || yv.getD 0 false]) :=
  (or_spec hwf (hx.getD 0 (hx.length ▸ hlx)) (hy.getD 0 (hy.length ▸ hly))).map fun _ _ _ hr => hr.bits

/-- The shape shared by `bitSetTest` and `bitClrTest`; `cB` requests the constant. -/
theorem bitTest_bits {cB : BM Nat} {c : Bool}
    (hc : Spec inp s cB (fun o s' => Holds s' inp o c)) {x : List Nat} {xv : List Bool} (index : Nat)
    (hx : Bits s inp x xv) :
    Spec inp s (do
        let w ← cB
        if index < x.length then
          let r ← gate .xor (x.getD index 0) w
          pure [r]
        else pure [w])
      (fun z s' => Bits s' inp z [xv.getD index false != c]) := by
  refine Spec.bind hc ?_
  intro w s1 e1 hw
  split
  · next hlt => exact (gate_spec .xor e1.wf ((hx.getD index hlt).mono e1) hw).map fun r s2 _ hr => hr.bits
  · next hge =>
    rw [getD_of_le _ _ _ (by rw [← hx.length]; omega), Bool.false_bne]
    exact Spec.pure e1.wf hw.bits

theorem bitSetTest_bits (hwf : WF s inp) {x : List Nat} {xv : List Bool} (index : Nat) (hx : Bits s inp x xv) :
    Spec inp s (bitSetTest x index) (fun z s' => Bits s' inp z [xv.getD index false]) := by
  unfold bitSetTest
  simpa only [Bool.bne_false] using bitTest_bits (zeroWire_spec hwf) index hx

theorem bitClrTest_bits (hwf : WF s inp) {x : List Nat} {xv : List Bool} (index : Nat) (hx : Bits s inp x xv) :
    Spec inp s (bitClrTest x index) (fun z s' => Bits s' inp z [!xv.getD index false]) := by
  unfold bitClrTest
  simpa only [Bool.bne_true] using bitTest_bits (oneWire_spec hwf) index hx

theorem shiftLeft_num (hwf : WF s inp) {x : List Nat} {nx X : Nat} (size count : Nat) (hx : Num s inp x nx X)
    (hc : count ≤ size) :
    Spec inp s (shiftLeft x size count) (fun z s' => Num s' inp z size ((X * 2 ^ count) % 2 ^ size)) := by
  unfold shiftLeft
  refine Spec.bind (zeros_num hwf count) ?_
  intro lo s1 e1 hlo
  refine Spec.bind (zeros_num e1.wf _) ?_
  intro hi s2 e2 hhi
  have hmid : (if count < size then x.take (size - count) else []) = x.take (size - count) := by
    split
    · rfl
    · rw [Nat.sub_eq_zero_of_le (by omega), List.take_zero]
  rw [hmid]
  have h := ((hlo.mono e2).append ((hx.take (size - count)).mono (e1.trans e2))).append hhi
  have hlen : count + min (size - count) nx + (size - (count + x.length)) = size := by rw [hx.len]; omega
  rw [List.take_of_length_le (Nat.le_of_eq (h.len.trans hlen))]
  refine Spec.pure e2.wf (h.cast hlen ?_)
  have hs : size = count + (size - count) := by omega
  conv => rhs; rw [hs, Nat.pow_add, Nat.mul_comm X, Nat.mul_mod_mul_left]
  omega

theorem newMUX_bits (hwf : WF s inp) {t f : List Nat} {cond : Nat} {tv fv : List Bool} {c : Bool}
    (ht : Bits s inp t tv) (hf : Bits s inp f fv) (hc : Holds s inp cond c) :
    Spec inp s (newMUX cond t f (max t.length f.length)) (fun z s' => ∃ r, z = some r ∧ Bits s' inp r
      (if c then padTo tv (max tv.length fv.length) else padTo fv (max tv.length fv.length))) := by
  unfold newMUX
  refine Spec.bind (zeroPad_bits hwf ht hf) ?_
  intro p s1 e1 ⟨h1, h2⟩
  simp only [h1.length, padTo_max_left, ht.length, hf.length, ne_eq, not_true_eq_false, if_false]
  exact (muxBus_bits e1.wf (hc.mono e1) h1 h2 ((padTo_max_left ..).trans (padTo_max_right ..).symm)).map
    fun r s2 _ hr => ⟨r, rfl, hr⟩

def popDiff (l : List (Bool × Bool)) : Nat := (l.map fun p => (p.1 != p.2).toNat).sum

theorem getD_ite {α : Type} (l : List α) (i : Nat) (d : α) : (if l.length > i then l.getD i d else d) = l.getD i d := by
  split
  · rfl
  · exact (getD_of_le l i d (by omega)).symm

theorem take_ite {α : Type} (l : List α) (n : Nat) : (if l.length > n then l.take n else l) = l.take n := by
  split
  · rfl
  · exact (List.take_of_length_le (by omega)).symm

theorem getD_index_succ {α : Type} (E : List α) (Z : α) (iv : List Bool) (k : Nat) (hk : k < iv.length) :
    (if iv.getD k false then E.getD (2 ^ k + toNat (iv.take k)) Z else E.getD (toNat (iv.take k)) Z) =
      E.getD (toNat (iv.take (k + 1))) Z := by
  rw [toNat_take_succ iv k hk]
  cases iv.getD k false <;> simp [Nat.add_comm]

theorem getD_length {ev : List (List Bool)} {size : Nat} (h : ∀ e ∈ ev, e.length = size) (i : Nat) :
    (ev.getD i (List.replicate size false)).length = size := by
  by_cases hi : i < ev.length
  · rw [getD_of_lt _ _ _ hi]; exact h _ (List.getElem_mem hi)
  · rw [getD_of_le _ _ _ (by omega), List.length_replicate]

theorem newIndexRec_bits (index dflt : List Nat) (size : Nat) {iv : List Bool} :
    ∀ (bit length : Nat) (els : List (List Nat)) {ev : List (List Bool)} {s : St} (_ : WF s inp),
    Bits s inp index iv → 0 < iv.length → Bits s inp dflt (List.replicate size false) → Cols s inp els ev →
    (∀ e ∈ ev, e.length = size) → length = 2 ^ (bit + 1) →
    Spec inp s (newIndexRec index dflt bit length els) (fun z s' =>
      Bits s' inp z (ev.getD (toNat (iv.take (bit + 1))) (List.replicate size false))) := by
  intro bit
  induction bit with
  | zero =>
    intro length els ev s hwf hi hil hd hg hsz _
    simp only [newIndexRec]
    rw [getD_ite]
    refine (muxBus_bits hwf (hi.getD 0 (hi.length ▸ hil)) (hg.getD hd 1) (hg.getD hd 0)
      ((getD_length hsz 1).trans (getD_length hsz 0).symm)).mono ?_
    intro z s1 _ hz
    rwa [← getD_index_succ _ _ _ 0 hil]
  | succ bit ih =>
    intro length els ev s hwf hi hil hd hg hsz h3
    simp only [newIndexRec]
    rw [show length / 2 = 2 ^ (bit + 1) by rw [h3, Nat.pow_succ, Nat.mul_div_cancel _ Nat.zero_lt_two], take_ite, hi.length]
    have hlow : toNat (iv.take (bit + 1)) < 2 ^ (bit + 1) :=
      Nat.lt_of_lt_of_le (toNat_lt _) (Nat.pow_le_pow_right Nat.zero_lt_two (List.length_take_le ..))
    have low := ih (2 ^ (bit + 1)) _ hwf hi hil hd (hg.take (2 ^ (bit + 1)))
      (fun e he => hsz e (List.mem_of_mem_take he)) rfl
    rw [getD_take_lt _ _ _ _ hlow] at low
    split
    · next hshort =>
      -- no index bit left: the lower half
      rw [List.take_of_length_le (Nat.le_succ_of_le hshort), ← List.take_of_length_le hshort]
      exact low
    · next hlong =>
      have hbl : bit + 1 < iv.length := by omega
      refine Spec.bind low ?_
      intro fVal s1 e1 hf
      have upper : Spec inp s1
          (if els.length > 2 ^ (bit + 1) then newIndexRec index dflt bit (2 ^ (bit + 1)) (els.drop (2 ^ (bit + 1)))
            else pure dflt)
          (fun z s' => Bits s' inp z (ev.getD (2 ^ (bit + 1) + toNat (iv.take (bit + 1))) (List.replicate size false))) := by
        split
        · have := ih (2 ^ (bit + 1)) _ e1.wf (hi.mono e1) hil (hd.mono e1) ((hg.drop (2 ^ (bit + 1))).mono e1)
            (fun e he => hsz e (List.mem_of_mem_drop he)) rfl
          rwa [getD_drop] at this
        · refine Spec.pure e1.wf ?_
          rw [getD_of_le _ _ _ (by rw [hg.length]; omega)]; exact hd.mono e1
      refine Spec.bind upper ?_
      intro tVal s2 e2 ht
      refine (muxBus_bits e2.wf ((hi.getD (bit + 1) (hi.length ▸ hbl)).mono (e1.trans e2)) ht (hf.mono e2)
        ((getD_length hsz _).trans (getD_length hsz _).symm)).mono ?_
      intro z s3 _ hz
      rwa [getD_index_succ _ _ _ (bit + 1) hbl] at hz

theorem indexBits_spec : ∀ (fuel n b l : Nat), l = 2 ^ b → n ≤ fuel + l → 1 ≤ l →
    (indexBits fuel n b l).2 = 2 ^ (indexBits fuel n b l).1 ∧ n ≤ (indexBits fuel n b l).2 ∧
      b ≤ (indexBits fuel n b l).1
  | 0, n, b, l, hl, hn, _ => by
    simp only [indexBits]; exact ⟨hl, by omega, Nat.le_refl _⟩
  | fuel + 1, n, b, l, hl, hn, h1 => by
    simp only [indexBits]
    split
    · have := indexBits_spec fuel n (b + 1) (l * 2) (by rw [hl, Nat.pow_succ]) (by omega) (by omega)
      exact ⟨this.1, this.2.1, by omega⟩
    · exact ⟨hl, by omega, Nat.le_refl _⟩

theorem chunks_length {α : Type} (size : Nat) : ∀ (k : Nat) (l : List α), l.length = k * size →
    (chunks size k l).length = k ∧ ∀ e ∈ chunks size k l, e.length = size
  | 0, _, _ => ⟨rfl, nofun⟩
  | k + 1, l, hl => by
    have hsz : size ≤ l.length := by rw [hl, Nat.succ_mul]; omega
    have ih := chunks_length size k (l.drop size) (by rw [List.length_drop, hl, Nat.succ_mul]; omega)
    simp only [chunks]
    refine ⟨by simp [ih.1], fun e he => ?_⟩
    rcases List.mem_cons.mp he with rfl | he
    · simp; omega
    · exact ih.2 e he

theorem chunks_map {α β : Type} (f : α → β) (size : Nat) : ∀ (k : Nat) (l : List α),
    (chunks size k l).map (List.map f) = chunks size k (l.map f)
  | 0, _ => rfl
  | k + 1, l => by
    simp only [chunks, List.map_cons, List.map_take, List.map_drop, chunks_map f size k]

theorem Cols.chunks {l : List Nat} {lv : List Bool} (h : Bits s inp l lv) (size k : Nat) :
    Cols s inp (chunks size k l) (chunks size k lv) := by
  refine ⟨?_, by rw [← h.val]; exact chunks_map (s.val inp) size k l⟩
  induction k generalizing l lv with
  | zero => exact nofun
  | succ k ih =>
    intro e he
    rcases List.mem_cons.mp he with rfl | he
    · exact h.bnd.take size
    · exact ih (l := l.drop size) ⟨h.bnd.drop size, rfl⟩ e he

/-- `NewIndex`: for an array of `n ≥ 1` elements of `size ≥ 1` bits and a
non-empty index the result is element `index mod 2^bits` (`bits` = the number of
index bits the builder uses, `2^bits ≥ n`), and 0 when that is outside the array. -/
theorem newIndex_bits (hwf : WF s inp) (size : Nat) {array index : List Nat} {av iv : List Bool}
    (n : Nat) (ha : Bits s inp array av) (hi : Bits s inp index iv) (hal : av.length = n * size) (hsz : 0 < size)
    (hn : 0 < n) (hil : 0 < iv.length) :
    Spec inp s (newIndex size array index) (fun z s' => Bits s' inp z
      ((chunks size n av).getD (toNat (iv.take (indexBits n n 1 2).1)) (List.replicate size false))) := by
  unfold newIndex
  have hdiv : array.length / size = n := by rw [ha.length, hal, Nat.mul_div_cancel _ hsz]
  simp only [hdiv]
  rw [if_neg (by omega)]
  have hbits := indexBits_spec n n 1 2 rfl (by omega) (by omega)
  refine Spec.bind (zeroWire_spec hwf) ?_
  intro z s1 e1 hz
  have hb1 : (indexBits n n 1 2).1 - 1 + 1 = (indexBits n n 1 2).1 := by omega
  have := newIndexRec_bits index (List.replicate size z) size ((indexBits n n 1 2).1 - 1) (indexBits n n 1 2).2
    (chunks size n array) e1.wf (hi.mono e1) hil (.replicate hz size) ((Cols.chunks ha size n).mono e1)
    (chunks_length size n av hal).2 (by rw [hb1]; exact hbits.1)
  rwa [hb1] at this

theorem emptySt_wf {nIn : Nat} {inp : List Bool} (hl : inp.length = nIn) (hp : 0 < nIn) :
    WF ({ nIn := nIn } : St) inp :=
  { len := hl, pos := hp,
    inv0 := fun _ h => by simp at h,
    zero := fun _ h => by simp at h,
    one := fun _ h => by simp at h,
    sl := fun k h => by simp at h }

theorem initSt_ext {nIn : Nat} {inp : List Bool} (hl : inp.length = nIn) (hp : 0 < nIn) (pro : Bool) :
    Ext ({ nIn := nIn } : St) (initSt nIn pro) inp := by
  have h0 := emptySt_wf hl hp
  cases pro with
  | false => exact Ext.refl h0
  | true =>
    have e1 := (zeroWire_spec h0).ext
    have e2 := (oneWire_spec e1.wf).ext
    exact e1.trans e2

theorem inputWires_bnd {s0 s : St} {inp : List Bool} (e : Ext s0 s inp) (ofs n : Nat)
    (h : ofs + n ≤ s0.nIn) : Bnd s (inputWires ofs n) := by
  intro w hw
  simp only [inputWires, List.mem_map, List.mem_range] at hw
  obtain ⟨i, hi, rfl⟩ := hw
  have := e.next
  have := s0.nIn_le_next
  omega

theorem inputWires_val (s : St) (inp : List Bool) (ofs n : Nat) (h : ofs + n ≤ inp.length) :
    busVal s inp (inputWires ofs n) = (inp.drop ofs).take n := by
  apply List.ext_getElem
  · simp [inputWires]; omega
  · intro i h1 h2
    simp only [busVal, inputWires, List.getElem_map, List.getElem_range]
    rw [val_input s inp (i + ofs) (by simp [inputWires] at h1; omega)]
    simp only [List.getElem_take, List.getElem_drop]
    rw [List.getD_eq_getElem?_getD, List.getElem?_eq_getElem (by simp [inputWires] at h1; omega)]
    simp [Nat.add_comm]

theorem retWires_bits (ws : List Nat) : ∀ {s : St} {bs : List Bool}, WF s inp → Bits s inp ws bs →
    Spec inp s (retWires ws) (fun o s' => Bits s' inp o bs) := by
  induction ws with
  | nil => intro s bs hwf h; rw [← h.val]; exact Spec.pure hwf .nil
  | cons w ws ih =>
    intro s bs hwf h
    obtain ⟨b, bs', rfl, hw, ht⟩ := h.uncons
    simp only [retWires]
    refine Spec.bind (idGate_spec hwf hw) ?_
    intro o s1 e1 ho
    exact (ih e1.wf (ht.mono e1)).map fun r s2 e2 hr => .cons (ho.mono e2) hr

/-- The harness circuit (`runBuilder`) around a two-operand builder: the ID gates of `ret` hand the values of the
builder's result on to the outputs. -/
theorem runBuilder_spec {b : List Nat → List Nat → BM (List Nat)} {x y : List Bool}
    {R : List Bool → Prop}
    (hb : ∀ {s : St} {inp : List Bool} {xw yw : List Nat}, WF s inp → Bits s inp xw x → Bits s inp yw y →
      Spec inp s (b xw yw) (fun z s' => Bnd s' z ∧ R (busVal s' inp z)))
    (pro : Bool) (hpos : 0 < x.length + y.length) :
    WF (runBuilder b pro x.length y.length).1 (x ++ y) ∧ R (evalBuilder b pro x y) := by
  have hl : (x ++ y).length = x.length + y.length := List.length_append
  have e0 := initSt_ext hl hpos pro
  obtain ⟨e1, hz, hR⟩ := hb e0.wf
    ⟨inputWires_bnd e0 0 x.length (by simp), by rw [inputWires_val _ _ _ _ (by simp)]; simp⟩
    ⟨inputWires_bnd e0 x.length y.length (Nat.le_refl _), by rw [inputWires_val _ _ _ _ (by simp)]; simp⟩
  obtain ⟨e2, ho⟩ := retWires_bits _ e1.wf (.of hz)
  refine ⟨e2.wf, ?_⟩
  simp only [evalBuilder, runBuilder]
  show R (busVal _ _ _)
  rw [ho.val]; exact hR

theorem evalBuilder_spec {b : List Nat → List Nat → BM (List Nat)} {x y : List Bool}
    {R : List Bool → Prop}
    (hb : ∀ {s : St} {inp : List Bool} {xw yw : List Nat}, WF s inp → Bits s inp xw x → Bits s inp yw y →
      Spec inp s (b xw yw) (fun z s' => Bnd s' z ∧ R (busVal s' inp z)))
    (pro : Bool) (hpos : 0 < x.length + y.length) : R (evalBuilder b pro x y) :=
  (runBuilder_spec hb pro hpos).2

/-- What `plainEval_eq_val` asks of the harness circuit. -/
theorem runBuilder_wf {b : List Nat → List Nat → BM (List Nat)} {x y : List Bool}
    (hb : ∀ {s : St} {inp : List Bool} {xw yw : List Nat}, WF s inp → Bits s inp xw x → Bits s inp yw y →
      Spec inp s (b xw yw) (fun z s' => Bnd s' z))
    (pro : Bool) (hpos : 0 < x.length + y.length) :
    WF (runBuilder b pro x.length y.length).1 (x ++ y) :=
  (runBuilder_spec (R := fun _ => True) (fun hwf hx hy => (hb hwf hx hy).mono fun _ _ _ h => ⟨h, trivial⟩) pro hpos).1

theorem evalBuilder_bits {b : List Nat → List Nat → BM (List Nat)} {x y zv : List Bool}
    (hb : ∀ {s : St} {inp : List Bool} {xw yw : List Nat}, WF s inp → Bits s inp xw x → Bits s inp yw y →
      Spec inp s (b xw yw) (fun z s' => Bits s' inp z zv))
    (pro : Bool) (hpos : 0 < x.length + y.length) : evalBuilder b pro x y = zv :=
  evalBuilder_spec (R := (· = zv)) (fun hwf hx hy => (hb hwf hx hy).mono fun _ _ _ h => ⟨h.bnd, h.val⟩) pro hpos

theorem evalBuilder_numP {b : List Nat → List Nat → BM (List Nat)} {x y : List Bool} {n : Nat} {P : Nat → Prop}
    (hb : ∀ {s : St} {inp : List Bool} {xw yw : List Nat}, WF s inp → Bits s inp xw x → Bits s inp yw y →
      Spec inp s (b xw yw) (fun z s' => ∃ Z, Num s' inp z n Z ∧ P Z))
    (pro : Bool) (hpos : 0 < x.length + y.length) :
    (evalBuilder b pro x y).length = n ∧ P (toNat (evalBuilder b pro x y)) :=
  evalBuilder_spec (R := fun z => z.length = n ∧ P (toNat z)) (fun hwf hx hy =>
    (hb hwf hx hy).mono fun _ _ _ ⟨_, h, hP⟩ => ⟨h.bnd, by rw [busVal_length, h.len], h.val ▸ hP⟩) pro hpos

theorem evalBuilder_num {b : List Nat → List Nat → BM (List Nat)} {x y : List Bool} {n V : Nat}
    (hb : ∀ {s : St} {inp : List Bool} {xw yw : List Nat}, WF s inp → Bits s inp xw x → Bits s inp yw y →
      Spec inp s (b xw yw) (fun z s' => Num s' inp z n V))
    (pro : Bool) (hpos : 0 < x.length + y.length) :
    (evalBuilder b pro x y).length = n ∧ toNat (evalBuilder b pro x y) = V :=
  evalBuilder_numP (P := (· = V)) (fun hwf hx hy => (hb hwf hx hy).mono fun _ _ _ h => ⟨_, h, rfl⟩) pro hpos

/-- A result known through its integer value (the signed quotient). -/
theorem evalBuilder_int {b : List Nat → List Nat → BM (List Nat)} {x y : List Bool} {n : Nat} {V : Int}
    (hb : ∀ {s : St} {inp : List Bool} {xw yw : List Nat}, WF s inp → Bits s inp xw x → Bits s inp yw y →
      Spec inp s (b xw yw) (fun z s' => ∃ Z, Num s' inp z n Z ∧ (Z : Int) = V))
    (pro : Bool) (hpos : 0 < x.length + y.length) :
    (evalBuilder b pro x y).length = n ∧ (toNat (evalBuilder b pro x y) : Int) = V :=
  evalBuilder_numP (P := fun Z => (Z : Int) = V) hb pro hpos

theorem evalBuilder3_spec {b : List Nat → List Nat → List Nat → BM (List Nat)} {x y w : List Bool}
    {R : List Bool → Prop}
    (hb : ∀ {s : St} {inp : List Bool} {xw yw ww : List Nat}, WF s inp → Bits s inp xw x → Bits s inp yw y →
      Bits s inp ww w → Spec inp s (b xw yw ww) (fun z s' => Bnd s' z ∧ R (busVal s' inp z)))
    (pro : Bool) (hpos : 0 < x.length + y.length + w.length) : R (evalBuilder3 b pro x y w) := by
  have hl : (x ++ y ++ w).length = x.length + y.length + w.length := by simp <;> omega
  have e0 := initSt_ext hl hpos pro
  obtain ⟨e1, hz, hR⟩ := hb e0.wf
    ⟨inputWires_bnd e0 0 x.length (by simp <;> omega), by rw [inputWires_val _ _ _ _ (by simp <;> omega)]; simp⟩
    ⟨inputWires_bnd e0 x.length y.length (by simp <;> omega),
      by rw [inputWires_val _ _ _ _ (by simp <;> omega)]; simp [List.append_assoc]⟩
    ⟨inputWires_bnd e0 (x.length + y.length) w.length (by simp <;> omega),
      by rw [inputWires_val _ _ _ _ (by simp <;> omega), ← List.length_append, List.drop_left, List.take_length]⟩
  obtain ⟨e2, ho⟩ := retWires_bits _ e1.wf (.of hz)
  simp only [evalBuilder3]
  show R (busVal _ _ _)
  rw [ho.val]; exact hR

theorem evalBuilder3_bits {b : List Nat → List Nat → List Nat → BM (List Nat)} {x y w zv : List Bool}
    (hb : ∀ {s : St} {inp : List Bool} {xw yw ww : List Nat}, WF s inp → Bits s inp xw x → Bits s inp yw y →
      Bits s inp ww w → Spec inp s (b xw yw ww) (fun z s' => Bits s' inp z zv))
    (pro : Bool) (hpos : 0 < x.length + y.length + w.length) : evalBuilder3 b pro x y w = zv :=
  evalBuilder3_spec (R := (· = zv)) (fun hwf hx hy hw => (hb hwf hx hy hw).mono fun _ _ _ h => ⟨h.bnd, h.val⟩) pro hpos

theorem sub_mod_int (z x y M : Nat) (hz : z < M) (h : (z + y) % M = x % M) :
    (z : Int) = ((x : Int) - (y : Int)) % (M : Int) := by
  have hM : (0 : Int) < M := by omega
  have h1 : ((z : Int) + y) % M = (x : Int) % M := by
    have := congrArg (fun n : Nat => (n : Int)) h
    simpa [Int.natCast_add] using this
  have h2 : ((x : Int) - y) % M = (((z : Int) + y) - y) % M := by
    rw [Int.sub_emod, ← h1, ← Int.sub_emod]
  rw [h2]
  have : (z : Int) + y - y = z := by omega
  rw [this, Int.emod_eq_of_lt (by omega) (by omega)]

/-- A subtractor's result `z + y ≡ x (mod 2^n)` read as `(x - y) mod 2^n`. -/
theorem evalBuilder_diff {b : List Nat → List Nat → BM (List Nat)} {x y : List Bool} {n : Nat}
    (hb : ∀ {s : St} {inp : List Bool} {xw yw : List Nat}, WF s inp → Bits s inp xw x → Bits s inp yw y →
      Spec inp s (b xw yw) (fun z s' => ∃ Z, Num s' inp z n Z ∧ (Z + toNat y) % 2 ^ n = toNat x % 2 ^ n))
    (pro : Bool) (hpos : 0 < x.length + y.length) :
    (evalBuilder b pro x y).length = n ∧
      (toNat (evalBuilder b pro x y) : Int) = ((toNat x : Int) - (toNat y : Int)) % ((2 ^ n : Nat) : Int) :=
  evalBuilder_int (fun hwf hx hy => (hb hwf hx hy).mono fun _ _ _ ⟨Z, h, hv⟩ => ⟨Z, h, sub_mod_int _ _ _ _ h.lt hv⟩)
    pro hpos

end Mpc.Bld
