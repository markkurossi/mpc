/-
What `evalPlainGates` computes.  A list is ordered relative to a set `A` of wires (`Topo A`) when every gate
reads only `A` and outputs of earlier gates; two stores that satisfy its gate equations (`Sem`) and agree on `A`
then agree on everything it writes (`Topo.agree`).  `wfFrom` is the order relative to the wires defined at the
start, `weakTopo` the one relative to the wires nothing writes; in-order evaluation of a `weakTopo` list
with distinct outputs satisfies its gate equations (`evalPlainGates_sem`).
-/
import MpcVerif.Model.Levels
import MpcVerif.Proofs.CircuitLemmas

namespace Mpc

theorem mem_ins (g : Gate) (w : Nat) :
    w ∈ g.ins ↔ w = g.in0 ∨ (g.op.binary = true ∧ w = g.in1) := by
  unfold Gate.ins
  cases g.op.binary <;> simp

theorem Gate.eval_congr (g : Gate) (f f' : Nat → Bool) (h : ∀ w ∈ g.ins, f w = f' w) :
    g.op.eval (f g.in0) (f g.in1) = g.op.eval (f' g.in0) (f' g.in1) := by
  rw [h _ ((mem_ins g _).mpr (Or.inl rfl))]
  cases hb : g.op.binary
  · exact Op.eval_unary _ hb _ _ _
  · rw [h _ ((mem_ins g _).mpr (Or.inr ⟨hb, rfl⟩))]

def Sem (s : Store Bool) (gs : List Gate) : Prop :=
  ∀ g ∈ gs, s.get g.out = g.op.eval (s.get g.in0) (s.get g.in1)

def Topo (A : Nat → Prop) : List Gate → Prop
  | [] => True
  | g :: gs => (∀ w ∈ g.ins, A w) ∧ Topo (fun w => w = g.out ∨ A w) gs

theorem Topo.mono {A B : Nat → Prop} : ∀ {gs : List Gate}, (∀ w, A w → B w) → Topo A gs → Topo B gs
  | [], _, _ => trivial
  | _ :: _, h, ht => ⟨fun w hw => h w (ht.1 w hw), Topo.mono (fun w => Or.imp_right (h w)) ht.2⟩

theorem Topo.agree {s1 s2 : Store Bool} : ∀ {gs : List Gate} {A : Nat → Prop}, Topo A gs → Sem s1 gs → Sem s2 gs →
    (∀ w, A w → s1.get w = s2.get w) → ∀ w, (A w ∨ ∃ g ∈ gs, g.out = w) → s1.get w = s2.get w
  | [], _, _, _, _, hA, w, hw => hA w (hw.resolve_right (by simp))
  | g :: gs, A, ht, h1, h2, hA, w, hw => by
    refine Topo.agree ht.2 (fun g' hg' => h1 g' (List.mem_cons_of_mem _ hg'))
      (fun g' hg' => h2 g' (List.mem_cons_of_mem _ hg')) ?_ w ?_
    · rintro w' (rfl | hw')
      · rw [h1 g List.mem_cons_self, h2 g List.mem_cons_self]
        exact g.eval_congr _ _ fun w hw => hA w (ht.1 w hw)
      · exact hA w' hw'
    · rcases hw with hw | ⟨g', hg', rfl⟩
      · exact Or.inl (Or.inr hw)
      · rcases List.mem_cons.mp hg' with rfl | hg'
        · exact Or.inl (Or.inl rfl)
        · exact Or.inr ⟨g', hg', rfl⟩

theorem topo_iff_pre {α : Type} (gate : α → Gate) : ∀ (l : List α) (A : Nat → Prop), Topo A (l.map gate) ↔
    ∀ pre a post, l = pre ++ a :: post → ∀ w ∈ (gate a).ins, A w ∨ ∃ h ∈ pre, (gate h).out = w
  | [], _ => by simp [Topo]
  | x :: l, A => by
    rw [List.map_cons, Topo, topo_iff_pre gate l]
    constructor
    · rintro ⟨hx, ht⟩ pre a post hl w hw
      cases pre with
      | nil => obtain ⟨rfl, -⟩ := List.cons.inj hl; exact Or.inl (hx w hw)
      | cons p pre =>
        obtain ⟨rfl, hl'⟩ := List.cons.inj hl
        rcases ht pre a post hl' w hw with (rfl | h) | ⟨h, hh, e⟩
        · exact Or.inr ⟨_, List.mem_cons_self, rfl⟩
        · exact Or.inl h
        · exact Or.inr ⟨h, List.mem_cons_of_mem _ hh, e⟩
    · intro hp
      refine ⟨fun w hw => (hp [] x l rfl w hw).resolve_right (by simp), fun pre a post hl w hw => ?_⟩
      rcases hp (x :: pre) a post (by rw [hl]; rfl) w hw with h | ⟨h, hh, e⟩
      · exact Or.inl (Or.inr h)
      · rcases List.mem_cons.mp hh with rfl | hh
        · exact Or.inl (Or.inl e.symm)
        · exact Or.inr ⟨h, hh, e⟩

theorem wfFrom_cons_iff (n : Nat) (g : Gate) (gs : List Gate) (d : Nat → Bool) :
    wfFrom n (g :: gs) d = true ↔
      (∀ w ∈ g.ins, d w = true ∧ w < n) ∧ g.out < n ∧ wfFrom n gs (fun w => w == g.out || d w) = true := by
  rw [wfFrom_cons_parts, Gate.ins]
  cases g.op.binary <;> simp [and_assoc, and_left_comm]

theorem wfFrom_iff_topo (n : Nat) : ∀ (gs : List Gate) (d : Nat → Bool), wfFrom n gs d = true ↔
    Topo (fun w => d w = true) gs ∧ ∀ g ∈ gs, (∀ w ∈ g.ins, w < n) ∧ g.out < n
  | [], _ => by simp [wfFrom, Topo]
  | g :: gs, d => by
    have e : (fun w => (w == g.out || d w) = true) = fun w => w = g.out ∨ d w = true := by
      funext w; simp
    rw [wfFrom_cons_iff, wfFrom_iff_topo n gs, e, Topo, List.forall_mem_cons]
    constructor
    · rintro ⟨hin, ho, ht, hb⟩
      exact ⟨⟨fun w hw => (hin w hw).1, ht⟩, ⟨fun w hw => (hin w hw).2, ho⟩, hb⟩
    · rintro ⟨⟨hin, ht⟩, ⟨hlt, ho⟩, hb⟩
      exact ⟨fun w hw => ⟨hin w hw, hlt w hw⟩, ho, ht, hb⟩

theorem wf_bounds (n : Nat) (gs : List Gate) (d : Nat → Bool) (h : wfFrom n gs d = true) :
    ∀ g ∈ gs, (∀ w ∈ g.ins, w < n) ∧ g.out < n :=
  ((wfFrom_iff_topo n gs d).mp h).2

theorem wf_pre {α : Type} (gate : α → Gate) (n : Nat) (pre : List α) (a : α) (post : List α) (d : Nat → Bool)
    (h : wfFrom n ((pre ++ a :: post).map gate) d = true) :
    ∀ w ∈ (gate a).ins, d w = true ∨ ∃ h ∈ pre, (gate h).out = w :=
  (topo_iff_pre gate _ _).mp ((wfFrom_iff_topo n _ d).mp h).1 pre a post rfl

theorem sem_agree (n : Nat) (s1 s2 : Store Bool) (gs : List Gate) (d : Nat → Bool)
    (hwf : wfFrom n gs d = true) (h1 : Sem s1 gs) (h2 : Sem s2 gs) (hd : ∀ w, d w = true → s1.get w = s2.get w)
    (w : Nat) (hw : definedAfter gs d w = true) : s1.get w = s2.get w :=
  ((wfFrom_iff_topo n gs d).mp hwf).1.agree h1 h2 hd w ((definedAfter_iff gs d w).mp hw)

def weakTopo : List Gate → Prop
  | [] => True
  | g :: gs => (∀ w ∈ g.ins, ∀ g' ∈ g :: gs, g'.out ≠ w) ∧ weakTopo gs

theorem weakTopo.topo : ∀ {gs : List Gate}, weakTopo gs → Topo (fun w => ∀ g ∈ gs, g.out ≠ w) gs
  | [], _ => trivial
  | g :: gs, h => ⟨h.1, (weakTopo.topo h.2).mono fun w hw => by
      by_cases e : w = g.out
      · exact Or.inl e
      · exact Or.inr (List.forall_mem_cons.mpr ⟨fun e' => e e'.symm, hw⟩)⟩

theorem weakTopo.unique {gs : List Gate} {s1 s2 : Store Bool} (ht : weakTopo gs) (h1 : Sem s1 gs) (h2 : Sem s2 gs)
    (hA : ∀ w, (∀ g ∈ gs, g.out ≠ w) → s1.get w = s2.get w) (w : Nat) : s1.get w = s2.get w := by
  refine ht.topo.agree h1 h2 hA w ?_
  by_cases h : ∃ g ∈ gs, g.out = w
  · exact Or.inr h
  · exact Or.inl fun g hg e => h ⟨g, hg, e⟩

theorem evalPlainGates_sem (n : Nat) : ∀ (gs : List Gate) (s : Store Bool), s.size = n →
    (gs.map (·.out)).Nodup → (∀ g ∈ gs, g.out < n) → weakTopo gs → Sem (evalPlainGates gs s) gs
  | [], _, _, _, _, _ => nofun
  | g :: gs, s, hs, hnd, hb, ht => by
    rw [List.map_cons, List.nodup_cons] at hnd
    intro g' hg'
    rw [evalPlainGates_cons]
    rcases List.mem_cons.mp hg' with rfl | hg'
    · -- the head gate: nothing later writes its output or its inputs
      have hfo : ∀ g'' ∈ gs, g''.out ≠ g'.out := fun g'' h'' e => hnd.1 (List.mem_map.mpr ⟨g'', h'', e⟩)
      rw [evalPlainGates_frame gs _ _ hfo]
      refine (Store.get_set_eq _ _ _ (hs ▸ hb g' List.mem_cons_self)).trans
        (g'.eval_congr _ _ fun w hw => ?_).symm
      exact (evalPlainGates_frame gs w _ fun g'' h'' => ht.1 w hw g'' (List.mem_cons_of_mem _ h'')).trans
        (Store.get_set_ne _ _ _ _ (ht.1 w hw g' List.mem_cons_self))
    · exact evalPlainGates_sem n gs _ (by rw [Gate.evalPlain_size, hs]) hnd.2
        (fun g'' h'' => hb g'' (List.mem_cons_of_mem _ h'')) ht.2 g' hg'

def SSA (n : Nat) (gs : List Gate) (d : Nat → Bool) : Prop :=
  wfFrom n gs d = true ∧ (gs.map (·.out)).Nodup ∧ ∀ g ∈ gs, d g.out = false

/-- The inputs of a gate are defined when it runs, the outputs of it and of the later gates are not. -/
theorem SSA.weakTopo {n : Nat} : ∀ {gs : List Gate} {d : Nat → Bool}, SSA n gs d → weakTopo gs
  | [], _, _ => trivial
  | g :: gs, d, ⟨hwf, hnd, hout⟩ => by
    obtain ⟨hin, _, hwf'⟩ := (wfFrom_cons_iff _ _ _ _).mp hwf
    rw [List.map_cons, List.nodup_cons] at hnd
    refine ⟨fun w hw g' hg' e => ?_, SSA.weakTopo ⟨hwf', hnd.2, fun g' hg' => ?_⟩⟩
    · have := hout g' hg'
      rw [e, (hin w hw).1] at this
      cases this
    · have hne : g'.out ≠ g.out := fun e => hnd.1 (List.mem_map.mpr ⟨g', hg', e⟩)
      simp [hne, hout g' (List.mem_cons_of_mem _ hg')]

theorem ssa_sem (n : Nat) : ∀ (gs : List Gate) (d : Nat → Bool) (s : Store Bool), s.size = n →
    SSA n gs d →
    (∀ w, d w = true → (evalPlainGates gs s).get w = s.get w) ∧
    (∀ g ∈ gs, (evalPlainGates gs s).get g.out =
      g.op.eval ((evalPlainGates gs s).get g.in0) ((evalPlainGates gs s).get g.in1)) := by
  intro gs d s hs hssa
  refine ⟨fun w hw => evalPlainGates_frame gs w s fun g hg e => ?_,
    evalPlainGates_sem n gs s hs hssa.2.1 (fun g hg => (wf_bounds n gs d hssa.1 g hg).2) hssa.weakTopo⟩
  have := hssa.2.2 g hg
  rw [e, hw] at this
  cases this

/-- Of the three parts of `SSA` only the order depends on the arrangement of the gates. -/
theorem SSA.perm {n : Nat} {gs gs' : List Gate} {d : Nat → Bool} (h : SSA n gs d) (hp : gs'.Perm gs)
    (hwf' : wfFrom n gs' d = true) : SSA n gs' d :=
  ⟨hwf', ((hp.map _).nodup_iff).mpr h.2.1, fun g hg => h.2.2 g (hp.mem_iff.mp hg)⟩

theorem perm_eval (n : Nat) (gs gs' : List Gate) (d : Nat → Bool) (s : Store Bool)
    (hs : s.size = n) (h1 : SSA n gs d) (hp : gs'.Perm gs) (hwf' : wfFrom n gs' d = true) :
    ∀ w, (evalPlainGates gs' s).get w = (evalPlainGates gs s).get w := by
  have h2 := h1.perm hp hwf'
  -- both stores satisfy `gs`; off the wires it writes both are the start store
  refine h1.weakTopo.unique (fun g hg => (ssa_sem n gs' d s hs h2).2 g (hp.mem_iff.mpr hg))
    (ssa_sem n gs d s hs h1).2 fun w hw => ?_
  rw [evalPlainGates_frame gs w s hw, evalPlainGates_frame gs' w s fun g hg => hw g (hp.mem_iff.mp hg)]

structure ListWF (n nIn : Nat) (gs : List Gate) : Prop where
  nin   : nIn ≤ n
  nodup : (gs.map (·.out)).Nodup
  notIn : ∀ g ∈ gs, nIn ≤ g.out
  bound : ∀ g ∈ gs, g.out < n
  topo  : weakTopo gs

structure Sol (n nIn : Nat) (gs : List Gate) (x : List Bool) (s : Store Bool) : Prop where
  size  : s.size = n
  inp   : ∀ w, w < nIn → s.get w = (x.take nIn).getD w false
  sem   : Sem s gs
  undef : ∀ w, nIn ≤ w → (∀ g ∈ gs, g.out ≠ w) → s.get w = false

theorem ListWF.tail {n nIn : Nat} {g : Gate} {gs : List Gate} (h : ListWF n nIn (g :: gs)) :
    ListWF n nIn gs :=
  ⟨h.nin, (List.nodup_cons.mp (by simpa using h.nodup)).2, fun g' hg' => h.notIn g' (List.mem_cons_of_mem _ hg'),
    fun g' hg' => h.bound g' (List.mem_cons_of_mem _ hg'), h.topo.2⟩

theorem ListWF.cons {n nIn : Nat} {g : Gate} {gs : List Gate} (h : ListWF n nIn gs)
    (h1 : nIn ≤ g.out) (h2 : g.out < n) (hout : ∀ g' ∈ gs, g'.out ≠ g.out)
    (hin : ∀ w ∈ g.ins, ∀ g' ∈ g :: gs, g'.out ≠ w) : ListWF n nIn (g :: gs) :=
  ⟨h.nin, List.nodup_cons.mpr ⟨fun hm => by
      obtain ⟨g', hg', e⟩ := List.mem_map.mp hm
      exact hout g' hg' e, h.nodup⟩,
    List.forall_mem_cons.mpr ⟨h1, h.notIn⟩, List.forall_mem_cons.mpr ⟨h2, h.bound⟩, hin, h.topo⟩

theorem SSA.listWF {n nIn : Nat} {gs : List Gate} (hn : nIn ≤ n) (h : SSA n gs fun w => decide (w < nIn)) :
    ListWF n nIn gs :=
  ⟨hn, h.2.1, fun g hg => by simpa using h.2.2 g hg, fun g hg => (wf_bounds n gs _ h.1 g hg).2, h.weakTopo⟩

theorem eval_sol (n nIn : Nat) (gs : List Gate) (x : List Bool) (hwf : ListWF n nIn gs) :
    Sol n nIn gs x (evalPlainGates gs (initStore n false (x.take nIn))) := by
  have hsz : (initStore n false (x.take nIn)).size = n := initStore_size _ _ _
  refine ⟨by rw [evalPlainGates_size, hsz], fun w hw => ?_, evalPlainGates_sem n gs _ hsz hwf.nodup hwf.bound hwf.topo, fun w hw hno => ?_⟩
  · rw [evalPlainGates_frame gs w _ (fun g hg h => by have := hwf.notIn g hg; omega)]
    exact get_initStore _ _ _ (by have := hwf.nin; omega)
  · rw [evalPlainGates_frame gs w _ hno]
    exact get_initStore_ge _ _ _ (by rw [List.length_take]; omega)

theorem Circuit.wf_of_ssa (c : Circuit) (hn : c.nIn ≤ c.numWires) (ho : c.nOut ≤ c.numWires)
    (h : SSA c.numWires c.gates c.inputDefined) : c.WF = true :=
  c.WF_iff.mpr ⟨hn, ho, h.1, fun g hg => (c.inputDefined_eq_false _).mp (h.2.2 g hg)⟩

theorem Circuit.sol (c : Circuit) (hn : c.nIn ≤ c.numWires) (h : SSA c.numWires c.gates c.inputDefined)
    (x : List Bool) : Sol c.numWires c.nIn c.gates x (c.plainEval x) :=
  eval_sol _ _ _ x (SSA.listWF hn h)

theorem sol_unique (n nIn : Nat) (gs : List Gate) (x : List Bool) (s1 s2 : Store Bool)
    (hwf : ListWF n nIn gs) (h1 : Sol n nIn gs x s1) (h2 : Sol n nIn gs x s2) :
    ∀ w, s1.get w = s2.get w :=
  hwf.topo.unique h1.sem h2.sem fun w hw => by
    by_cases hin : w < nIn
    · rw [h1.inp w hin, h2.inp w hin]
    · rw [h1.undef w (by omega) hw, h2.undef w (by omega) hw]

end Mpc
