/-
The number a big-endian byte string stands for, and the `k` big-endian bytes of a number.  The models
define the value on lists of bytes (`Sha2pc.beNat`, `Conn.decodeList`, `Mpc.bytesToNatBE`, `Stream.beVal`,
`RsaOt.fromBytes`) and the fixed-width encoder (`Sha2pc.beBytes`, `Conn.beList`, `Stream.beBytes`) once
per model, over bytes that are `UInt8` or `Nat`; `ByteList.val` / `ByteList.digits` are those functions
once, over any carrier with its `toNat`, and each proof file joins its model's copy to them by a bridge
lemma (`beNat_eq`, `decodeList_eq`, ..).  `BitList.val` (Proofs/BitsLemmas.lean) is the same sum at
base 2, least significant digit first; its lemmas are read off `Nat.testBit`, which base 256 does not
have, so the two share statements in shape only.  Core Lean only.
-/

namespace Mpc.ByteList
variable {α : Type}

theorem snoc_induction {P : List α → Prop} (nil : P []) (snoc : ∀ l x, P l → P (l ++ [x])) (l : List α) : P l := by
  rw [← List.reverse_reverse l]
  induction l.reverse with
  | nil => exact nil
  | cons x t ih => rw [List.reverse_cons]; exact snoc _ x ih

def val (f : α → Nat) (l : List α) : Nat := l.foldl (fun a x => a * 256 + f x) 0

def digits (g : Nat → α) : Nat → Nat → List α
  | 0, _ => []
  | k + 1, n => digits g k (n / 256) ++ [g (n % 256)]

@[simp] theorem val_nil (f : α → Nat) : val f [] = 0 := rfl

theorem val_concat (f : α → Nat) (l : List α) (x : α) : val f (l ++ [x]) = val f l * 256 + f x := by
  rw [val, List.foldl_append]; rfl

theorem val_append (f : α → Nat) (a : List α) : ∀ b : List α, val f (a ++ b) = val f a * 256 ^ b.length + val f b := by
  intro b
  induction b using snoc_induction with
  | nil => simp
  | snoc b x ih =>
    rw [← List.append_assoc, val_concat, ih, val_concat, List.length_append, List.length_singleton, Nat.pow_succ,
      Nat.add_mul, Nat.mul_assoc, Nat.add_assoc]

theorem val_cons (f : α → Nat) (x : α) (l : List α) : val f (x :: l) = f x * 256 ^ l.length + val f l := by
  rw [← List.singleton_append, val_append]; simp [val]

theorem val_lt (f : α → Nat) (hf : ∀ x, f x < 256) (l : List α) : val f l < 256 ^ l.length := by
  induction l using snoc_induction with
  | nil => exact Nat.one_pos
  | snoc l x ih =>
    have := hf x
    rw [val_concat, List.length_append, List.length_singleton, Nat.pow_succ]
    omega

theorem val_zeros_append (f : α → Nat) (z : α) (hz : f z = 0) (n : Nat) (l : List α) :
    val f (List.replicate n z ++ l) = val f l := by
  induction n with
  | zero => rfl
  | succ n ih => rw [List.replicate_succ, List.cons_append, val_cons, hz, Nat.zero_mul, Nat.zero_add, ih]

@[simp] theorem length_digits (g : Nat → α) (k n : Nat) : (digits g k n).length = k := by
  induction k generalizing n with
  | zero => rfl
  | succ k ih => simp [digits, ih]

theorem val_digits (f : α → Nat) (g : Nat → α) (hfg : ∀ x, x < 256 → f (g x) = x) (k n : Nat) :
    val f (digits g k n) = n % 256 ^ k := by
  induction k generalizing n with
  | zero => rw [Nat.pow_zero, Nat.mod_one]; rfl
  | succ k ih =>
    rw [digits, val_concat, ih, hfg _ (Nat.mod_lt _ (by decide)), Nat.pow_succ, Nat.mul_comm (256 ^ k) 256, Nat.mod_mul,
      Nat.mul_comm, Nat.add_comm]

theorem digits_val (f : α → Nat) (g : Nat → α) (hf : ∀ x, f x < 256) (hgf : ∀ x, g (f x) = x) (l : List α) :
    digits g l.length (val f l) = l := by
  induction l using snoc_induction with
  | nil => rfl
  | snoc l x ih =>
    have hx := hf x
    rw [List.length_append, List.length_singleton, val_concat, digits, Nat.mul_comm, Nat.mul_add_div (by decide),
      Nat.div_eq_of_lt hx, Nat.add_zero, Nat.mul_add_mod, Nat.mod_eq_of_lt hx, ih, hgf]

end Mpc.ByteList
