/-
Symbolic (free-hash) label algebra for C04 and the linear functional that
kills the evaluator's view.  Proof-only (nothing here is executed), core Lean.

A symbolic label is a formal GF(2)-combination of atoms (as its indicator
function) together with its select bit:
  atoms:  R | inp i | h1 t c | h2 t c1 c2
where `c = code x` is a code of the hash argument.  Equal queries give equal
atoms (that is what makes tweak reuse visible); the theorems hold for EVERY
code function that separates `x` from `x ⊕ R` (`Separates`), i.e. for every
hash model in this family, from the coarsest (code = "contains R") to
arbitrarily fine ones.
-/
import MpcVerif.Proofs.Garble

namespace Mpc
open LabelAlg
variable {L : Type} [LabelAlg L]

theorem WireL.labelFor_xor (w : WireL L) {r : L} (h : w.l1 = w.l0 ^^^ r) {u v : Bool} (huv : u ≠ v) :
    w.labelFor u ^^^ w.labelFor v = r := by
  rw [Bool.eq_not_of_ne huv, WireL.labelFor_not h, xor_comm', xor_xor_cancel_left]

end Mpc

namespace Mpc.Sym
open Mpc LabelAlg

inductive Atom (Code : Type) where
  | R
  | inp (i : Nat)
  | h1 (t : Nat) (c : Code)
  | h2 (t : Nat) (c1 c2 : Code)

structure SymL (Code : Type) where
  f : Atom Code → Bool
  s : Bool

variable {Code : Type}

@[ext] theorem SymL.ext' {x y : SymL Code} (hf : ∀ a, x.f a = y.f a) (hs : x.s = y.s) : x = y := by
  cases x; cases y
  simp only [SymL.mk.injEq]
  exact ⟨funext hf, hs⟩

instance : LabelAlg (SymL Code) where
  default := ⟨fun _ => false, false⟩
  xor a b := ⟨fun x => a.f x != b.f x, a.s != b.s⟩
  zero := ⟨fun _ => false, false⟩
  sbit a := a.s
  xor_assoc := by
    intro a b c
    apply SymL.ext' <;> intros <;> simp only <;>
      (first | (cases a.f _ <;> cases b.f _ <;> cases c.f _ <;> rfl)
             | (cases a.s <;> cases b.s <;> cases c.s <;> rfl))
  xor_comm := by
    intro a b
    apply SymL.ext' <;> intros <;> simp only <;>
      (first | (cases a.f _ <;> cases b.f _ <;> rfl) | (cases a.s <;> cases b.s <;> rfl))
  xor_self := by
    intro a
    apply SymL.ext' <;> intros <;> simp
  xor_zero := by
    intro a
    apply SymL.ext' <;> intros <;> simp
  sbit_xor := by intro a b; rfl
  default_eq := rfl

theorem xor_f (x y : SymL Code) (a : Atom Code) : (x ^^^ y).f a = (x.f a != y.f a) := rfl
theorem zero_f (a : Atom Code) : (LabelAlg.zero : SymL Code).f a = false := rfl

open Classical in
noncomputable def atom (σ : Atom Code → Bool) (a : Atom Code) : SymL Code :=
  ⟨fun b => decide (b = a), σ a⟩

open Classical in
theorem atom_f (σ : Atom Code → Bool) (a b : Atom Code) : (atom σ a).f b = decide (b = a) := rfl

noncomputable def symHash (σ : Atom Code → Bool) (code : SymL Code → Code) : Hash (SymL Code) where
  h1 x t := atom σ (.h1 t (code x))
  h2 a b t := atom σ (.h2 t (code a) (code b))

noncomputable def symR (σ : Atom Code → Bool) : SymL Code := atom σ .R

def Separates (σ : Atom Code → Bool) (code : SymL Code → Code) : Prop :=
  ∀ x, code x ≠ code (x ^^^ symR σ)

/-- Parity of the number of atoms of `S` (with multiplicity) occurring in `x`. -/
def phi (S : List (Atom Code)) (x : SymL Code) : Bool :=
  S.foldr (fun a acc => x.f a != acc) false

@[simp] theorem phi_nil (x : SymL Code) : phi [] x = false := rfl
@[simp] theorem phi_cons (a : Atom Code) (S : List (Atom Code)) (x : SymL Code) :
    phi (a :: S) x = (x.f a != phi S x) := rfl

theorem phi_append (S T : List (Atom Code)) (x : SymL Code) :
    phi (S ++ T) x = (phi S x != phi T x) := by
  induction S with
  | nil => simp
  | cons a S ih =>
    rw [List.cons_append, phi_cons, phi_cons, ih, Bool.bne_assoc]

theorem phi_xor (S : List (Atom Code)) (x y : SymL Code) :
    phi S (x ^^^ y) = (phi S x != phi S y) := by
  induction S with
  | nil => simp
  | cons a S ih =>
    rw [phi_cons, phi_cons, phi_cons, ih, xor_f]
    cases x.f a <;> cases y.f a <;> cases phi S x <;> cases phi S y <;> rfl

theorem phi_eq_false (S : List (Atom Code)) (x : SymL Code) (h : ∀ a ∈ S, x.f a = false) :
    phi S x = false := by
  induction S with
  | nil => rfl
  | cons a S ih =>
    rw [phi_cons, h a List.mem_cons_self, ih fun b hb => h b (List.mem_cons_of_mem _ hb)]
    rfl

@[simp] theorem phi_zero (S : List (Atom Code)) : phi S (LabelAlg.zero : SymL Code) = false :=
  phi_eq_false S _ fun _ _ => rfl

theorem phi_congr (S : List (Atom Code)) (x y : SymL Code) (h : ∀ a, x.f a = y.f a) :
    phi S x = phi S y := by
  induction S with
  | nil => rfl
  | cons a S ih => simp only [phi_cons, ih, h a]

open Classical in
theorem phi_atom_notin (S : List (Atom Code)) (σ : Atom Code → Bool) (a : Atom Code) (h : a ∉ S) :
    phi S (atom σ a) = false :=
  phi_eq_false S _ fun _ hb => decide_eq_false fun hba => h (hba ▸ hb)

theorem phi_labelFor (S : List (Atom Code)) (w : WireL (SymL Code)) {r : SymL Code}
    (h : w.l1 = w.l0 ^^^ r) (hR : phi S r = true) (v : Bool) :
    phi S (w.labelFor v) = (phi S w.l0 != v) := by
  cases v
  · exact (Bool.bne_false _).symm
  · rw [show w.labelFor true = w.l1 from rfl, h, phi_xor, hR]

inductive InSpan (T : SymL Code → Prop) : SymL Code → Prop where
  | zero : InSpan T LabelAlg.zero
  | mem {x} : T x → InSpan T x
  | xor {x y} : InSpan T x → InSpan T y → InSpan T (x ^^^ y)

theorem phi_span (S : List (Atom Code)) (T : SymL Code → Prop) (hT : ∀ x, T x → phi S x = false)
    (x : SymL Code) (hx : InSpan T x) : phi S x = false := by
  induction hx with
  | zero => simp
  | mem h => exact hT _ h
  | xor _ _ ih1 ih2 => rw [phi_xor, ih1, ih2]; rfl

def Atom.tweak : Atom Code → Option Nat
  | .R => none
  | .inp _ => none
  | .h1 t _ => some t
  | .h2 t _ _ => some t

def Below (n : Nat) (x : SymL Code) : Prop :=
  ∀ a t, a.tweak = some t → n ≤ t → x.f a = false

theorem Below.xor {n : Nat} {x y : SymL Code} (hx : Below n x) (hy : Below n y) :
    Below n (x ^^^ y) := by
  intro a t ha ht
  rw [xor_f, hx a t ha ht, hy a t ha ht]; rfl

theorem Below.mono {n m : Nat} {x : SymL Code} (h : Below n x) (hnm : n ≤ m) : Below m x :=
  fun a t ha ht => h a t ha (by omega)

theorem Below.zero (n : Nat) : Below n (LabelAlg.zero : SymL Code) := fun _ _ _ _ => rfl

open Classical in
theorem Below.atom (σ : Atom Code → Bool) (a : Atom Code) (n : Nat)
    (h : ∀ t, a.tweak = some t → t < n) : Below n (atom σ a) := by
  intro b t hb ht
  rw [atom_f, decide_eq_false]
  rintro rfl
  exact Nat.lt_irrefl t (Nat.lt_of_lt_of_le (h t hb) ht)

def AllAbove (n : Nat) (N : List (Atom Code)) : Prop :=
  ∀ a ∈ N, ∃ t, a.tweak = some t ∧ n ≤ t

theorem phi_append_below (S N : List (Atom Code)) (n : Nat) (x : SymL Code)
    (hN : AllAbove n N) (hx : Below n x) : phi (S ++ N) x = phi S x := by
  rw [phi_append, phi_eq_false N x fun a ha => (hN a ha).elim fun t ht => hx a t ht.1 ht.2,
    Bool.bne_false]

def FinSupp (x : SymL Code) : Prop := ∃ l : List (Atom Code), ∀ a, x.f a = true → a ∈ l

theorem FinSupp.zero : FinSupp (LabelAlg.zero : SymL Code) := ⟨[], fun a h => by simp [zero_f] at h⟩

theorem FinSupp.xor {x y : SymL Code} (hx : FinSupp x) (hy : FinSupp y) : FinSupp (x ^^^ y) := by
  obtain ⟨l, hl⟩ := hx
  obtain ⟨m, hm⟩ := hy
  refine ⟨l ++ m, fun a h => List.mem_append.2 ?_⟩
  rw [xor_f] at h
  cases hxa : x.f a
  · exact Or.inr (hm a (by rwa [hxa, Bool.false_bne] at h))
  · exact Or.inl (hl a hxa)

open Classical in
theorem FinSupp.atom (σ : Atom Code → Bool) (a : Atom Code) : FinSupp (atom σ a) :=
  ⟨[a], fun b h => by rw [atom_f] at h; simpa using h⟩

theorem FinSupp.symR (σ : Atom Code → Bool) : FinSupp (symR σ) := FinSupp.atom σ .R

end Mpc.Sym
