/-
Helper lemmas for C20, the block-wise writer (Model/VoleWire.lean).  `Sent cap c A`: the writing half is within
its buffer and has accepted exactly the bytes `A`; every operation maps `Sent cap c A` to `Sent cap (c.X ..) (A ++ what it
sends)` (the notion Proofs/ConnSend uses for the value-level model of the same code).  Hence the byte stream of
`SendData; Flush` is independent of the write-buffer size, every block fits the buffer, and a framed message that does
not fit into `k` buffers takes more than `k` blocks.
-/
import MpcVerif.Model.VoleWire

namespace Mpc.Vole

theorem be32_length (n : Nat) : (be32 n).length = 4 := rfl

structure Sent (cap : Nat) (c : WConn) (A : List UInt8) : Prop where
  wf : c.WF cap
  acc : c.stream = A

section sent
variable {cap : Nat} {c : WConn} {A : List UInt8}

theorem flush_spec (h : Sent cap c A) : Sent cap c.flush A ∧ c.flush.pending = [] := by
  unfold WConn.flush
  split
  · next he => exact ⟨h, List.isEmpty_iff.mp he⟩
  · exact ⟨⟨⟨List.forall_mem_append.mpr ⟨h.wf.1, List.forall_mem_singleton.mpr h.wf.2⟩, Nat.zero_le _⟩,
      by rw [← h.acc]; simp [WConn.stream]⟩, rfl⟩

/-- copy into `WriteBuf[WritePos:]` -/
theorem put_spec (b : List UInt8) (h : Sent cap c A) (hb : c.pending.length + b.length ≤ cap) :
    Sent cap ⟨c.written, c.pending ++ b⟩ (A ++ b) :=
  ⟨⟨h.wf.1, by rw [List.length_append]; exact hb⟩, by rw [← h.acc, WConn.stream, WConn.stream, List.append_assoc]⟩

theorem sendUint32_spec (hcap : 4 ≤ cap) (n : Nat) (h : Sent cap c A) : Sent cap (c.sendUint32 cap n) (A ++ be32 n) := by
  unfold WConn.sendUint32
  split
  · have ⟨h1, h2⟩ := flush_spec h
    exact put_spec _ h1 (by rw [h2]; exact hcap)
  · next hlt => exact put_spec _ h (Nat.le_of_not_lt hlt)

theorem sendLoop_spec (hcap : 1 ≤ cap) (fuel : Nat) : ∀ (c : WConn) (A val : List UInt8), val.length ≤ fuel →
    Sent cap c A → Sent cap (sendLoop cap fuel c val) (A ++ val) := by
  induction fuel with
  | zero =>
    intro c A val hl h
    rw [List.eq_nil_of_length_eq_zero (Nat.le_zero.mp hl), List.append_nil]; exact h
  | succ fuel ih =>
    intro c A val hl h
    rw [sendLoop]
    split
    · next hv => rw [List.isEmpty_iff.mp hv, List.append_nil]; exact h
    · -- after a full buffer has been flushed there is room for at least one byte
      obtain ⟨c', hc', h', hlt⟩ : ∃ c', (if c.pending.length ≥ cap then c.flush else c) = c' ∧ Sent cap c' A ∧
          c'.pending.length < cap := by
        refine ⟨_, rfl, ?_⟩
        split
        · have ⟨h1, h2⟩ := flush_spec h
          exact ⟨h1, by rw [h2]; exact hcap⟩
        · next hlt => exact ⟨h, Nat.lt_of_not_le hlt⟩
      simp only [hc']
      have := ih _ _ (val.drop (cap - c'.pending.length))
        (by rw [List.length_drop]
            exact Nat.sub_le_iff_le_add.mpr (Nat.le_trans hl (Nat.add_le_add_left (Nat.sub_pos_of_lt hlt) fuel)))
        (put_spec (val.take (cap - c'.pending.length)) h' (by
          rw [List.length_take]
          exact Nat.le_trans (Nat.add_le_add_left (Nat.min_le_left _ _) _)
            (Nat.le_of_eq (Nat.add_sub_of_le (Nat.le_of_lt hlt)))))
      rwa [List.append_assoc, List.take_append_drop] at this

theorem sendData_spec (hcap : 4 ≤ cap) (val : List UInt8) (h : Sent cap c A) :
    Sent cap (c.sendData cap val) (A ++ be32 val.length ++ val) :=
  sendLoop_spec (Nat.le_trans (by decide) hcap) _ _ _ val (Nat.le_refl _) (sendUint32_spec hcap _ h)

end sent

theorem sendMsg_spec (cap : Nat) (hcap : 4 ≤ cap) (c : WConn) (msg : List UInt8) (h : c.WF cap) :
    (c.sendMsg cap msg).written.flatten = c.stream ++ be32 msg.length ++ msg ∧
    (c.sendMsg cap msg).pending = [] ∧ (c.sendMsg cap msg).WF cap := by
  have ⟨h1, h2⟩ := flush_spec (sendData_spec hcap msg ⟨h, rfl⟩)
  exact ⟨by rw [← h1.acc, WConn.stream, h2, List.append_nil]; rfl, h2, h1.wf⟩

theorem empty_wf (cap : Nat) : (⟨[], []⟩ : WConn).WF cap := ⟨by simp, by simp⟩

theorem frame_eq (cap : Nat) (hcap : 4 ≤ cap) (msg : List UInt8) :
    frame cap msg = be32 msg.length ++ msg := by
  have := (sendMsg_spec cap hcap ⟨[], []⟩ msg (empty_wf cap)).1
  simpa [frame, wireBlocks, WConn.stream] using this

theorem wireOf_eq (cap : Nat) (hcap : 4 ≤ cap) (m : Nat) {msg : List UInt8} {n : Nat} (hl : msg.length = n) :
    wireOf cap m msg = if m = 0 then [] else be32 n ++ msg := by
  rw [wireOf, frame_eq cap hcap, hl]

theorem wireBlocks_le (cap : Nat) (hcap : 4 ≤ cap) (msg : List UInt8) :
    ∀ b ∈ wireBlocks cap msg, b.length ≤ cap :=
  (sendMsg_spec cap hcap ⟨[], []⟩ msg (empty_wf cap)).2.2.1

theorem flatten_length_le (cap : Nat) (bs : List (List UInt8)) (h : ∀ b ∈ bs, b.length ≤ cap) :
    bs.flatten.length ≤ bs.length * cap := by
  induction bs with
  | nil => exact Nat.zero_le _
  | cons b bs ih =>
    have ⟨h1, h2⟩ := List.forall_mem_cons.mp h
    rw [List.flatten_cons, List.length_append, List.length_cons, Nat.succ_mul, Nat.add_comm b.length]
    exact Nat.add_le_add (ih h2) h1

theorem wireBlocks_count (cap : Nat) (hcap : 4 ≤ cap) (msg : List UInt8) (k : Nat)
    (hbig : k * cap < 4 + msg.length) : k < (wireBlocks cap msg).length := by
  have h : (frame cap msg).length = 4 + msg.length := by rw [frame_eq cap hcap, List.length_append, be32_length]
  exact Nat.lt_of_mul_lt_mul_right
    (Nat.lt_of_lt_of_le hbig (h ▸ flatten_length_le cap _ (wireBlocks_le cap hcap msg)))

end Mpc.Vole
