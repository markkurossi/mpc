/-
C12  Constant folding equals circuit evaluation.

FULL STATEMENT (without hypotheses NOT provable for the code as it is — see the witnesses):

    for every operator in {+,-,*,/,%,&,|,^,&^,<<,>>,<,<=,>,>=,==,!=,unary -,!},
    signedness, width N in 1..130 and operand values a, b representable in
    intN / uintN, written as typed constants:
      the bits the consumer sees of fold(op, a, b)
        = circuitOp op (enc a) (enc b)       (the run-time instruction)
    and folding never crashes the compiler.

The operator theorems are about `Model/Fold.lean` + `Model/Mpa.lean`, the later parts about `Model/FoldTable.lean`,
`Model/FoldUses.lean` and `Model/MpaHist.lean`; the check ties each of them to the real compiler line by line on every
run.  `C12_fold_eq_circuit` is the statement over the whole integer operator set, both signednesses and
EVERY width, under hypotheses that are exactly the open value-level root causes of known_findings.json
(`C12_fold_eq_circuit_partial`: the same over the decidable `hyps` that the check evaluates for every generated case,
so an oracle failure inside the region `hyps = []` cannot be a known finding).  For `h_divmod`, `h_shr` and `h_cmp` a
witness (closed computation on the model, replayed on the Go code by
`c12 one -extra "<op> <s|u> <n> <a> <b> <aform> <bform>"`) shows that the full statement fails without it; `h_image`
has no witness here.  After the operators: several constants in one program (the table
`gen.constants` keyed by the Name), and folding leaves its operands alone (a constant bound to a name is ONE
`*mpa.Int` object that several folds and, at circuit generation, `DefineConstants` read).

Not covered by theorems: consumers other than `return` and `^ x`, `+ x`, `x -` at `x = 0` (oracle only; the
witnesses `C12_result_type_widened_witness`, `C12_result_minbits_witness` and
`C12_refold_shr_witness` show how a consumer sees more than the low N bits) and
an end-to-end text-level statement for negative operand forms / N > 64.
-/
import MpcVerif.Proofs.Fold
import MpcVerif.Proofs.FoldTable
import MpcVerif.Proofs.FoldUses
import MpcVerif.Proofs.MpaHist

namespace Mpc
open Mpc.Mpa Mpc.Fold

theorem smallOperand_spec {n : Nat} {c : CV} (h : smallOperand n c = true) :
    ∃ t v, c = .int t v ∧ 0 < v.bits ∧ v.bits ≤ 64 ∧ n ≤ t.bits ∧ t.bits ≤ 64 := by
  cases c with
  | bool b => simp [smallOperand] at h
  | int t v =>
    simp only [smallOperand, decide_eq_true_eq] at h
    exact ⟨t, v, rfl, h.1, h.2.1, h.2.2.1, h.2.2.2⟩

theorem sameKind_spec {lt rt : TInfo} {lv rv : MInt} (h : sameKind (.int lt lv) (.int rt rv) = true) :
    lt.kind = rt.kind := by
  simpa [sameKind] using h

theorem cleanNonneg_iff {signed : Bool} {n : Nat} {t : TInfo} {v : MInt} :
    cleanNonneg signed n (.int t v) = true ↔
      (v.small = (seenBV n (.int t v)).setWidth 64 ∧ v.small.msb = false) ∧
        (signed = false ∨ (seenBV n (.int t v)).msb = false) := by
  simp only [cleanNonneg, Bool.and_eq_true, beq_iff_eq, Bool.not_eq_true', Bool.or_eq_true]

/-- Unary minus goes through `Unary.Eval` (`negate`), every binary operator through `Binary.evalConst`. -/
def foldOp (op : Op) (l r : CV) : Res CV := if op = .neg then negate l else evalBin op l r

/-- `+ - * & | ^ &^` (`Op.isWrap`): for every width `0 < n ≤ 64`, every pair of integer constants of the same kind whose
`mpa` values are small and whose types have between `n` and 64 bits: folding succeeds and the low `n` wires of the folded
constant are exactly the run-time instruction on the operands' low `n` wires (arithmetic mod 2^n).  The
result is again a small constant (`v.bits ≤ 64`); assignability is `C12_fold_wrap_assignable`. -/
theorem C12_fold_wrap_ops (op : Op) (hop : op.isWrap = true) (signed : Bool) (n cnt : Nat) (l r : CV)
    (hn0 : 0 < n) (hl : smallOperand n l = true) (hr : smallOperand n r = true) (hk : sameKind l r = true) :
    ∃ t v, evalBin op l r = .ok (.int t v) ∧ v.bits ≤ 64 ∧
      seenBV n (.int t v) = circuitOp op signed (seenBV n l) (seenBV n r) cnt := by
  obtain ⟨lt, lv, rfl, _, hlv, hnl, hl64⟩ := smallOperand_spec hl
  obtain ⟨rt, rv, rfl, _, hrv, hnr, _⟩ := smallOperand_spec hr
  obtain ⟨t, v, h1, _, _, _, h5, h6⟩ :=
    fold_wrap op hop signed n cnt lt rt lv rv (sameKind_spec hk) (by omega) hl64 hnl hnr hlv hrv
  exact ⟨t, v, h1, h5, h6⟩

/-- … and the result is assignable to a declared type of `Bits(left type)` bits (`MinBits ≤ Bits`). -/
theorem C12_fold_wrap_assignable (op : Op) (hop : op.isWrap = true) (lt rt : TInfo) (lv rv : MInt)
    (hk : lt.kind = rt.kind) (h0 : 0 < lt.bits) (h64 : lt.bits ≤ 64) (hlv : lv.bits ≤ 64) (hrv : rv.bits ≤ 64) :
    ∃ t v, evalBin op (.int lt lv) (.int rt rv) = .ok (.int t v) ∧ t.minBits ≤ lt.bits := by
  obtain ⟨t, v, h1, _, _, h4, _, _⟩ :=
    fold_wrap op hop true 0 0 lt rt lv rv hk h0 h64 (by omega) (by omega) hlv hrv
  exact ⟨t, v, h1, h4⟩

-- non-vacuity: int8(-43) - int8(4), uint64(2^64-1) * uint64(3), int33(-5) &^ int33(9) (written -int33(5))
example : caseHyps .sub .int 8 (-43) 4 .cast .pos = [] := by decide +kernel
example : caseHyps .mul .uint 64 18446744073709551615 3 .pos .pos = [] := by decide +kernel
example : caseHyps .bclr .int 33 (-5) 9 .neg .pos = [] := by decide +kernel

/-- `+` (since repo de91761 `mpa.Int.Add` keeps the receiver's width): the statement of `C12_fold_wrap_ops`
without any extra hypothesis. -/
theorem C12_fold_add (signed : Bool) (n cnt : Nat) (l r : CV) (hn0 : 0 < n)
    (hl : smallOperand n l = true) (hr : smallOperand n r = true) (hk : sameKind l r = true) :
    ∃ t v, evalBin .add l r = .ok (.int t v) ∧ v.bits ≤ 64 ∧
      seenBV n (.int t v) = circuitOp .add signed (seenBV n l) (seenBV n r) cnt :=
  C12_fold_wrap_ops .add rfl signed n cnt l r hn0 hl hr hk

/-- `Add` as it was before de91761: the sum masked to `max(x.bits, y.bits)`, the operands' `mpa` sizes. -/
def addOld (z x y : MInt) : Option MInt :=
  if z.isSmall then setSmall (max x.bits y.bits) (x.small + y.small) else Mpa.add z x y

/-- Witness about the OLD definition (why the fix was needed): for `uint40(4294967295) + uint40(1)` both
operands are sized 32 bits and the carry into bit 32 was masked away (result 0); the current `Add` gives 2^32
like the run-time adder. -/
theorem C12_add_carry_lost_old_witness :
    addOld { bits := 40 } { bits := 32, i64 := 4294967295#64 } { bits := 32, i64 := 1#64 } =
      some { bits := 32, i64 := 0#64 } ∧
    (foldExpr .add .uint 40 4294967295 1 .pos .pos >>= retSeen .uint 40) = .ok 4294967296 ∧
    circuitOpNat .add .uint 40 4294967295 1 = 4294967296 ∧
    caseHyps .add .uint 40 4294967295 1 .pos .pos = [] := by
  decide +kernel

example : caseHyps .add .uint 40 1099511627775 1 .pos .pos = [] := by decide +kernel

/-- Left shift by a constant count: low `n` wires of the folded constant = `x <<< count`. -/
theorem C12_fold_shl (signed : Bool) (n : Nat) (l : CV) (rt : TInfo) (rv : MInt) (c : BitVec 64) (hn0 : 0 < n)
    (hl : smallOperand n l = true) (hc : rv.int64 = some c) :
    ∃ t v, evalBin .shl l (.int rt rv) = .ok (.int t v) ∧ v.bits ≤ 64 ∧
      seenBV n (.int t v) = circuitOp .shl signed (seenBV n l) (seenBV n (.int rt rv)) c.toNat := by
  obtain ⟨lt, lv, rfl, _, hlv, hnl, hl64⟩ := smallOperand_spec hl
  obtain ⟨t, v, h1, _, _, _, h5, h8⟩ := fold_small .shl n lt rt lv rv c (.inr ⟨rfl, hc⟩) (by omega) hl64 hnl
  refine ⟨t, v, h1, h5, ?_⟩
  rw [h8, seenBV_small n lt lv hlv hnl]
  exact BitVec.setWidth_shiftLeft_of_le (by omega)

example : caseHyps .shl .int 8 (-128) 9 .cast .pos = [] := by decide +kernel

/-- `Rsh` shifts the `int64` arithmetically.  It agrees with `srshift` (signed) / `rshift` (unsigned) when
the `int64` is the sign resp. zero extension of the `n` seen bits (`extended`). -/
theorem C12_fold_shr_partial (signed : Bool) (n : Nat) (l : CV) (rt : TInfo) (rv : MInt) (c : BitVec 64)
    (hn0 : 0 < n) (hn64 : n ≤ 64) (hl : smallOperand n l = true) (hc : rv.int64 = some c)
    (hext : extended signed n l = true) :
    ∃ t v, evalBin .shr l (.int rt rv) = .ok (.int t v) ∧ v.bits ≤ 64 ∧
      seenBV n (.int t v) = circuitOp .shr signed (seenBV n l) (seenBV n (.int rt rv)) c.toNat := by
  obtain ⟨lt, lv, rfl, _, _, hnl, hl64⟩ := smallOperand_spec hl
  obtain ⟨t, v, h1, _, _, _, h5, h8⟩ := fold_small .shr n lt rt lv rv c (.inr ⟨rfl, hc⟩) (by omega) hl64 hnl
  refine ⟨t, v, h1, h5, ?_⟩
  rw [h8]
  simp only [circuitOp, op64]
  cases signed
  · simp only [extended, Bool.false_eq_true, if_false, Bool.and_eq_true, beq_iff_eq, Bool.not_eq_true'] at hext
    obtain ⟨he, hm⟩ := hext
    rw [BitVec.sshiftRight_eq_of_msb_false hm, he]
    exact setWidth_ushiftRight_zeroExtend n c.toNat _ hn64
  · simp only [extended, if_true, beq_iff_eq] at hext
    rw [hext]
    exact setWidth_sshiftRight_signExtend n c.toNat _ hn64

/-- Witnesses: an unsigned 64-bit value with bit 63 set is a negative `int64` (arithmetic instead of logical
shift); a negative `int8` written `-int8(2)` is held masked to 8 bits, so its `>>` is logical. -/
theorem C12_shr_witness :
    (foldExpr .shr .uint 64 18446744073709551615 32 .pos .pos >>= retSeen .uint 64) = .ok 18446744073709551615 ∧
    circuitOpNat .shr .uint 64 18446744073709551615 32 = 4294967295 ∧
    caseHyps .shr .uint 64 18446744073709551615 32 .pos .pos = ["extended"] ∧
    (foldExpr .shr .int 8 (-2) 1 .neg .pos >>= retSeen .int 8) = .ok 127 ∧
    circuitOpNat .shr .int 8 (-2) 1 = 255 := by
  decide +kernel

example : caseHyps .shr .int 64 (-128) 3 .neg .pos = [] := by decide +kernel
example : caseHyps .shr .uint 64 9223372036854775807 70 .pos .pos = [] := by decide +kernel

/-- `Div` / `Mod` divide the `int64`s (Go: quotient truncated, remainder with the sign of the dividend).
They agree with the run-time dividers (`udiv/umod`, and `idiv/imod` = truncated quotient and |a| mod |b|)
when both operands are held exactly as non-negative `int64`s — including a zero divisor, where both sides
give all ones resp. the dividend. -/
theorem C12_fold_div_mod_partial (op : Op) (hop : op = .div ∨ op = .mod) (signed : Bool) (n cnt : Nat) (l r : CV)
    (hn0 : 0 < n) (hn64 : n ≤ 64) (hl : smallOperand n l = true) (hr : smallOperand n r = true)
    (hk : sameKind l r = true) (hcl : cleanNonneg signed n l = true) (hcr : cleanNonneg signed n r = true) :
    ∃ t v, evalBin op l r = .ok (.int t v) ∧ v.bits ≤ 64 ∧
      seenBV n (.int t v) = circuitOp op signed (seenBV n l) (seenBV n r) cnt := by
  obtain ⟨lt, lv, rfl, _, _, hnl, hl64⟩ := smallOperand_spec hl
  obtain ⟨rt, rv, rfl, _⟩ := smallOperand_spec hr
  obtain ⟨⟨hle, hlm⟩, hls⟩ := cleanNonneg_iff.1 hcl
  obtain ⟨⟨hre, hrm⟩, hrs⟩ := cleanNonneg_iff.1 hcr
  obtain ⟨hcd, hcm⟩ := circuit_div_nonneg signed _ _ hls hrs cnt
  have hcore := div_core (seenBV n (CV.int lt lv)) (seenBV n (CV.int rt rv)) 0 hn64 (hle ▸ hlm) (hre ▸ hrm)
  rw [← hle, ← hre] at hcore
  have ha : op.isArith = true := by rcases hop with rfl | rfl <;> rfl
  obtain ⟨t, v, h1, _, _, _, h5, h8⟩ :=
    fold_small op n lt rt lv rv 0#64 (.inl ⟨ha, sameKind_spec hk⟩) (by omega) hl64 hnl
  refine ⟨t, v, h1, h5, ?_⟩
  rw [h8]
  rcases hop with rfl | rfl
  · exact hcore.1.trans hcd.symm
  · exact hcore.2.trans hcm.symm

/-- Witnesses:
`int32(-43)/int32(4)` folds to 1073741813, the run-time `idiv` gives -10; `int8(-43)%int8(4)` folds to 1, the
run-time `imod` gives 3 — the small path divides the MASKED (zero-extended) operands.  Also an unsigned 64-bit
operand with bit 63 set is divided as a negative `int64`. -/
theorem C12_div_mod_masked_operands_witness :
    (foldExpr .div .int 32 (-43) 4 .cast .pos >>= retSeen .int 32) = .ok 1073741813 ∧
    circuitOpNat .div .int 32 (-43) 4 = 4294967286 ∧
    caseHyps .div .int 32 (-43) 4 .cast .pos = ["nonneg-exact"] ∧
    (foldExpr .mod .int 8 (-43) 4 .cast .pos >>= retSeen .int 8) = .ok 1 ∧
    circuitOpNat .mod .int 8 (-43) 4 = 3 ∧
    (foldExpr .div .uint 64 9223372036854775808 2 .pos .pos >>= retSeen .uint 64) = .ok 13835058055282163712 ∧
    circuitOpNat .div .uint 64 9223372036854775808 2 = 4611686018427387904 := by
  decide +kernel

example : caseHyps .div .int 32 43 4 .pos .pos = [] := by decide +kernel
example : caseHyps .mod .uint 8 255 0 .pos .pos = [] := by decide +kernel

theorem cmpAgrees_small {signed : Bool} {n n' : Nat} {l r : CV} (hl : smallOperand n' l = true)
    (hr : smallOperand n' r = true) :
    cmpAgrees signed n l r = (int64Agrees signed n l && int64Agrees signed n r) := by
  obtain ⟨lt, lv, rfl, _, hlv, _, _⟩ := smallOperand_spec hl
  obtain ⟨rt, rv, rfl, _, hrv, _, _⟩ := smallOperand_spec hr
  simp only [cmpAgrees, mpaOf, isSmall_of_le hlv, isSmall_of_le hrv, Bool.and_self, if_true]

/-- `Cmp` compares `Int64()`, whose sign comes from the `mpa` size (32/64), not from the type.  When
`Int64()` of both operands is the typed value the folded boolean is the run-time comparator's output. -/
theorem C12_fold_cmp_partial (op : Op) (hop : op.isCmp = true) (signed : Bool) (n : Nat) (l r : CV)
    (hl : smallOperand n l = true) (hr : smallOperand n r = true)
    (hil : int64Agrees signed n l = true) (hir : int64Agrees signed n r = true) :
    evalBin op l r = .ok (.bool (circuitCmp op signed (seenBV n l) (seenBV n r))) := by
  have hc : cmpAgrees signed n l r = true := by rw [cmpAgrees_small hl hr, hil, hir]; rfl
  obtain ⟨lt, lv, rfl, _⟩ := smallOperand_spec hl
  obtain ⟨rt, rv, rfl, _⟩ := smallOperand_spec hr
  exact fold_cmp_all op hop signed n lt rt lv rv hc

/-- Witnesses: `uint64(3000000000) < uint64(5)` folds to true (3000000000 is sized 32 bits and read as a
negative number), `(-int8(2)) >= int8(2)` folds to true (0xFE sized 32 bits is 254). -/
theorem C12_cmp_sign_from_size_witness :
    (foldExpr .lt .uint 64 3000000000 5 .pos .pos >>= retSeen .bool 1) = .ok 1 ∧
    circuitOpNat .lt .uint 64 3000000000 5 = 0 ∧
    caseHyps .lt .uint 64 3000000000 5 .pos .pos = ["int64"] ∧
    (foldExpr .ge .int 8 (-2) 2 .neg .pos >>= retSeen .bool 1) = .ok 1 ∧
    circuitOpNat .ge .int 8 (-2) 2 = 0 := by
  decide +kernel

example : caseHyps .lt .int 8 (-2) 2 .cast .pos = [] := by decide +kernel
example : caseHyps .ne .uint 64 9223372036854775807 0 .pos .pos = [] := by decide +kernel

/-- `-c` for a typed integer constant: low `n` wires = `0 - x` (the `isub $0 x` the compiler emits). -/
theorem C12_fold_neg (signed : Bool) (n cnt : Nat) (l : CV) (hn0 : 0 < n) (hl : smallOperand n l = true) :
    ∃ t v, negate l = .ok (.int t v) ∧ v.bits ≤ 64 ∧
      seenBV n (.int t v) = circuitOp .neg signed (seenBV n l) (seenBV n l) cnt := by
  obtain ⟨lt, lv, rfl, _, hlv, hnl, hl64⟩ := smallOperand_spec hl
  rw [negate_eq_sub lt lv (by omega)]
  obtain ⟨t, v, h1, _, _, _, h5, h6⟩ :=
    fold_wrap .sub rfl signed n cnt lt lt { bits := lt.bits } lv rfl (by omega) hl64 hnl hnl hl64 hlv
  exact ⟨t, v, h1, h5, by rw [h6, seenBV_zero]; rfl⟩

example : caseHyps .neg .int 8 (-128) 0 .cast .pos = [] := by decide +kernel

/-- `== != && || !` on boolean constants equal the 1-bit instructions, for all values. -/
theorem C12_fold_bool_ops (a b : Bool) :
    evalBin .eq (.bool a) (.bool b) = .ok (.bool (circuitBool .eq a b)) ∧
    evalBin .ne (.bool a) (.bool b) = .ok (.bool (circuitBool .ne a b)) ∧
    evalBin .land (.bool a) (.bool b) = .ok (.bool (circuitBool .land a b)) ∧
    evalBin .lor (.bool a) (.bool b) = .ok (.bool (circuitBool .lor a b)) ∧
    evalNot (.bool a) = .ok (.bool (circuitBool .lnot a b)) := by
  cases a <;> cases b <;> decide

/-- An entry of `hyps` / `hypsWide` is absent iff its test passed. -/
theorem ite_nil {name : String} {ok : Bool} : (if ok = true then ([] : List String) else [name]) = [] ↔ ok = true := by
  cases ok <;> simp

theorem append_ite_nil {name : String} {ok : Bool} {rest : List String} (h : ok = true) (hr : rest = []) :
    (if ok = true then ([] : List String) else [name]) ++ rest = [] := by
  rw [if_pos h, hr]; rfl

theorem typesWide_spec {op : Op} {n : Nat} {l r : CV} (h : typesWide op n l r = true) :
    ∃ lt lv rt rv, l = .int lt lv ∧ r = .int rt rv ∧ 64 < lt.bits ∧ n ≤ lt.bits ∧
      (op.isShift = false → op ≠ .neg → n ≤ rt.bits) := by
  cases l with
  | bool b => simp [typesWide] at h
  | int lt lv =>
    cases r with
    | bool b => simp [typesWide] at h
    | int rt rv =>
      simp only [typesWide, decide_eq_true_eq] at h
      exact ⟨lt, lv, rt, rv, rfl, rfl, h.1, h.2.1, fun hs hn => (h.2.2.resolve_left (by simp [hs])).resolve_left hn⟩

/-- The two-part claim of the summary theorems for an operator with an integer result, from the branch `foldOp op`
takes (`he`) and an operator theorem about that branch (`h`) whose conclusion `Q` ends in the equation of the seen
wires (`hq`) … -/
theorem foldOp_int {op : Op} {signed : Bool} {n cnt : Nat} {l r : CV} {e : Res CV} {Q : TInfo → MInt → Prop}
    (hc : op.isCmp = false) (he : foldOp op l r = e) (h : ∃ t v, e = .ok (.int t v) ∧ Q t v)
    (hq : ∀ t v, Q t v → seenBV n (.int t v) = circuitOp op signed (seenBV n l) (seenBV n r) cnt) :
    (op.isCmp = true → foldOp op l r = .ok (.bool (circuitCmp op signed (seenBV n l) (seenBV n r)))) ∧
    (op.isCmp = false → ∃ t v, foldOp op l r = .ok (.int t v) ∧
        seenBV n (.int t v) = circuitOp op signed (seenBV n l) (seenBV n r) cnt) := by
  obtain ⟨t, v, h1, h2⟩ := h
  exact ⟨fun h' => (by rw [hc] at h'; cases h'), fun _ => ⟨t, v, he.trans h1, hq t v h2⟩⟩

/-- … and for a comparison. -/
theorem foldOp_cmp {op : Op} {signed : Bool} {n cnt : Nat} {l r : CV} (hc : op.isCmp = true)
    (h : evalBin op l r = .ok (.bool (circuitCmp op signed (seenBV n l) (seenBV n r)))) :
    (op.isCmp = true → foldOp op l r = .ok (.bool (circuitCmp op signed (seenBV n l) (seenBV n r)))) ∧
    (op.isCmp = false → ∃ t v, foldOp op l r = .ok (.int t v) ∧
        seenBV n (.int t v) = circuitOp op signed (seenBV n l) (seenBV n r) cnt) :=
  ⟨fun _ => (if_neg (by rintro rfl; cases hc)).trans h, fun h' => (by rw [hc] at h'; cases h')⟩

/-- The large-path half of `C12_fold_eq_circuit_partial`. -/
theorem C12_fold_eq_circuit_wide (op : Op) (signed : Bool) (n : Nat) (l r : CV) (cnt : BitVec 64)
    (hcov : hypsWide op signed n l r = [])
    (hcnt : op.isShift = true → (mpaOf r).int64 = some cnt) :
    (op.isCmp = true → foldOp op l r = .ok (.bool (circuitCmp op signed (seenBV n l) (seenBV n r)))) ∧
    (op.isCmp = false → ∃ t v, foldOp op l r = .ok (.int t v) ∧
        seenBV n (.int t v) = circuitOp op signed (seenBV n l) (seenBV n r) cnt.toNat) := by
  unfold hypsWide at hcov
  obtain ⟨hty, hrest⟩ := List.append_eq_nil_iff.1 hcov
  obtain ⟨lt, lv, rt, rv, rfl, rfl, hL, hnl, hnr⟩ := typesWide_spec (ite_nil.1 hty)
  cases op with
  | add | sub | mul | band | bor | bxor | bclr =>
    obtain ⟨hi, hk⟩ := List.append_eq_nil_iff.1 hrest
    obtain ⟨hil, hir⟩ := Bool.and_eq_true_iff.1 (ite_nil.1 hi)
    exact foldOp_int rfl (if_neg (by decide))
      (fold_wrap_wide _ rfl signed n cnt.toNat lt rt lv rv (sameKind_spec (ite_nil.1 hk)) hL hnl (hnr rfl (by decide)) hil hir)
      (fun _ _ h => h.2.2.2)
  | div | mod =>
    obtain ⟨hd, hk⟩ := List.append_eq_nil_iff.1 hrest
    exact foldOp_int rfl (if_neg (by decide))
      (fold_div_mod_wide _ (by decide) signed n cnt.toNat lt rt lv rv (sameKind_spec (ite_nil.1 hk)) hL hnl
        (hnr rfl (by decide)) (ite_nil.1 hd))
      (fun _ _ h => h.2)
  | shl =>
    exact foldOp_int rfl (if_neg (by decide))
      (fold_shl_wide signed n lt rt lv rv cnt (hcnt rfl) hL hnl (ite_nil.1 hrest)) (fun _ _ h => h.2.2.2)
  | shr =>
    exact foldOp_int rfl (if_neg (by decide))
      (fold_shr_wide signed n lt rt lv rv cnt (hcnt rfl) hL hnl (ite_nil.1 hrest)) (fun _ _ h => h.2)
  | lt | le | gt | ge | eq | ne =>
    exact foldOp_cmp rfl (fold_cmp_all _ rfl signed n lt rt lv rv (ite_nil.1 hrest))
  | neg =>
    exact foldOp_int rfl (if_pos rfl) (fold_neg_wide signed n cnt.toNat lt lv hL hnl (ite_nil.1 hrest))
      (fun _ _ h => h.2.2.2)
  | lnot | land | lor => cases hrest

/-- Whenever the decidable predicate `hyps` (evaluated by the check for every
generated case on the constants the MODEL builds, the model being compared with the real compiler line by
line) reports no violated hypothesis, the integer operator `op` folds without error and the low `n` wires of
the result equal the run-time instruction on the low `n` wires of the operands; comparisons fold to the
comparator's output — for EVERY width `n` (small path `n ≤ 64`, large path `n > 64`).  Missing for the full
statement: exactly the regions named by `hyps` (see `C12_fold_eq_circuit` for them as explicit hypotheses). -/
theorem C12_fold_eq_circuit_partial (op : Op) (signed : Bool) (n : Nat) (l r : CV) (cnt : BitVec 64) (hn0 : 0 < n)
    (hcov : hyps op signed n l r = [])
    (hcnt : op.isShift = true → (mpaOf r).int64 = some cnt) :
    (op.isCmp = true → foldOp op l r = .ok (.bool (circuitCmp op signed (seenBV n l) (seenBV n r)))) ∧
    (op.isCmp = false → ∃ t v, foldOp op l r = .ok (.int t v) ∧
        seenBV n (.int t v) = circuitOp op signed (seenBV n l) (seenBV n r) cnt.toNat) := by
  unfold hyps at hcov
  by_cases hw : n > 64
  · rw [if_pos hw] at hcov
    exact C12_fold_eq_circuit_wide op signed n l r cnt hcov hcnt
  rw [if_neg hw] at hcov
  have hn64 : n ≤ 64 := by omega
  obtain ⟨hso, hrest⟩ := List.append_eq_nil_iff.1 hcov
  -- `hr` becomes `smallOperand _ r = true` by computation once `op` is a constructor other than `neg`
  obtain ⟨hl, hr⟩ := Bool.and_eq_true_iff.1 (ite_nil.1 hso)
  cases op with
  | add | sub | mul | band | bor | bxor | bclr =>
    exact foldOp_int rfl (if_neg (by decide))
      (C12_fold_wrap_ops _ rfl signed n cnt.toNat l r hn0 hl hr (ite_nil.1 hrest)) (fun _ _ h => h.2)
  | div | mod =>
    obtain ⟨hc, hk⟩ := List.append_eq_nil_iff.1 hrest
    obtain ⟨hcl, hcr⟩ := Bool.and_eq_true_iff.1 (ite_nil.1 hc)
    exact foldOp_int rfl (if_neg (by decide))
      (C12_fold_div_mod_partial _ (by decide) signed n cnt.toNat l r hn0 hn64 hl hr (ite_nil.1 hk) hcl hcr)
      (fun _ _ h => h.2)
  | shl =>
    obtain ⟨rt, rv, rfl, _⟩ := smallOperand_spec hr
    exact foldOp_int rfl (if_neg (by decide)) (C12_fold_shl signed n l rt rv cnt hn0 hl (hcnt rfl)) (fun _ _ h => h.2)
  | shr =>
    obtain ⟨rt, rv, rfl, _⟩ := smallOperand_spec hr
    exact foldOp_int rfl (if_neg (by decide))
      (C12_fold_shr_partial signed n l rt rv cnt hn0 hn64 hl (hcnt rfl) (ite_nil.1 hrest)) (fun _ _ h => h.2)
  | lt | le | gt | ge | eq | ne =>
    obtain ⟨hil, hir⟩ := Bool.and_eq_true_iff.1 (ite_nil.1 hrest)
    exact foldOp_cmp rfl (C12_fold_cmp_partial _ rfl signed n l r hl hr hil hir)
  | neg => exact foldOp_int rfl (if_pos rfl) (C12_fold_neg signed n cnt.toNat l hn0 hl) (fun _ _ h => h.2)
  | lnot | land | lor => cases hrest

/-- Typing invariants of the operand constants (true of every constant the compiler builds for a representable
value; no finding lives here): small path — `mpa` and type sizes in 1..64, types at least `n` bits; large path —
left type wider than 64 bits, types at least `n` bits. -/
def wellTyped (op : Op) (n : Nat) (l r : CV) : Bool :=
  if n ≤ 64 then smallOperand n l && (op == .neg || smallOperand (if op.isShift then 0 else n) r)
  else typesWide op n l r

/-- The summary theorem: every integer operator of the property
(`+ - * / % & | ^ &^ << >> < <= > >= == !=`, unary `-`; the boolean ones are `C12_fold_bool_ops`), every
signedness, EVERY width `n ≥ 1` (no upper bound), all operand constants: folding succeeds and the low `n` wires of
the folded constant are the run-time instruction on the operands' low `n` wires (comparisons: the folded boolean
is the comparator's output).

The first five hypotheses are typing facts about constants (`hn0 h_op h_typed h_kind h_count`; no finding lives
there: they hold for every constant the compiler builds from a representable value).  The other four are
exactly the OPEN ROOT CAUSES of known_findings.json — each but `h_image` is false on the witness named next to it:

* `h_image`  (large path only) the operand's big image is the number its wires show —
  C12-typed-negative-constant-not-extended (`C12_operand_cast_witness` shows the root cause at 64 bits, where `h_image`
  asks nothing: on the small path it only affects what the operand's wires ARE, not the operator);
* `h_divmod` operands held as exact non-negative numbers (small: `cleanNonneg`; large: `divWide`, which also asks
  them to be below half the divider size and the divisor not to be zero) —
  C12-div-mod-masked-operands (`C12_div_mod_masked_operands_witness`), C12-wide-div-mod (`C12_wide_witnesses`);
* `h_shr`    the shifted operand is held sign/zero-extended (small: `extended`; large: `extendedWide`) —
  C12-rsh-on-masked-operand, C12-refold-rsh (`C12_shr_witness`, `C12_refold_shr_witness`), C12-wide-rsh
  (`C12_wide_witnesses`);
* `h_cmp`    `Cmp` sees the typed values (`cmpAgrees`: `Int64()` resp. `signed(bits-1)` of both operands) —
  C12-cmp-sign-from-mpa-size (`C12_cmp_sign_from_size_witness`), C12-wide-cmp (`C12_wide_witnesses`).

The remaining open findings are not about the low `n` wires of the result but about its TYPE, hence outside
this statement: C12-result-typed-by-size / C12-result-not-wrapped-rejected (`Generator.Constant` widens the result
type: `C12_result_type_widened_witness`, `C12_result_minbits_witness`) and
C12-rewidened-constant-sign-from-mpa-size (`C12_rewiden_witness`). -/
theorem C12_fold_eq_circuit (op : Op) (signed : Bool) (n : Nat) (l r : CV) (cnt : BitVec 64)
    (hn0 : 0 < n)
    (h_op : op ≠ .lnot ∧ op ≠ .land ∧ op ≠ .lor)
    (h_typed : wellTyped op n l r = true)
    (h_kind : op.isArith = true → sameKind l r = true)
    (h_count : op.isShift = true → (mpaOf r).int64 = some cnt)
    (h_image : 64 < n → (op.isWrap = true ∨ op = .shl ∨ op = .neg) →
      imageExact l = true ∧ (op.isWrap = true → imageExact r = true))
    (h_divmod : (op = .div ∨ op = .mod) →
      if n ≤ 64 then (cleanNonneg signed n l && cleanNonneg signed n r) = true else divWide signed n l r = true)
    (h_shr : op = .shr → if n ≤ 64 then extended signed n l = true else extendedWide signed n l = true)
    (h_cmp : op.isCmp = true → cmpAgrees signed n l r = true) :
    (op.isCmp = true → foldOp op l r = .ok (.bool (circuitCmp op signed (seenBV n l) (seenBV n r)))) ∧
    (op.isCmp = false → ∃ t v, foldOp op l r = .ok (.int t v) ∧
        seenBV n (.int t v) = circuitOp op signed (seenBV n l) (seenBV n r) cnt.toNat) := by
  apply C12_fold_eq_circuit_partial op signed n l r cnt hn0 _ h_count
  unfold hyps
  by_cases hw : n > 64
  · have hnle : ¬ n ≤ 64 := by omega
    rw [wellTyped, if_neg hnle] at h_typed
    simp only [if_neg hnle] at h_divmod h_shr
    rw [if_pos hw]
    unfold hypsWide
    refine append_ite_nil h_typed ?_
    cases op with
    | add | sub | mul | band | bor | bxor | bclr =>
      obtain ⟨hil, hir⟩ := h_image hw (Or.inl rfl)
      exact append_ite_nil (Bool.and_eq_true_iff.2 ⟨hil, hir rfl⟩) (ite_nil.2 (h_kind rfl))
    | div | mod => exact append_ite_nil (h_divmod (by decide)) (ite_nil.2 (h_kind rfl))
    | shl | neg => exact ite_nil.2 (h_image hw (by decide)).1
    | shr => exact ite_nil.2 (h_shr rfl)
    | lt | le | gt | ge | eq | ne => exact ite_nil.2 (h_cmp rfl)
    | lnot | land | lor => simp at h_op
  · have hnle : n ≤ 64 := by omega
    rw [wellTyped, if_pos hnle] at h_typed
    simp only [if_pos hnle] at h_divmod h_shr
    rw [if_neg hw]
    obtain ⟨hl, hr⟩ := Bool.and_eq_true_iff.1 h_typed
    refine append_ite_nil h_typed ?_
    cases op with
    | add | sub | mul | band | bor | bxor | bclr => exact ite_nil.2 (h_kind rfl)
    | div | mod => exact append_ite_nil (h_divmod (by decide)) (ite_nil.2 (h_kind rfl))
    | shl | neg => rfl
    | shr => exact ite_nil.2 (h_shr rfl)
    | lt | le | gt | ge | eq | ne => exact ite_nil.2 (cmpAgrees_small hl hr ▸ h_cmp rfl)
    | lnot | land | lor => simp at h_op

/-- `+ - * & | ^ &^` for EVERY width (no `n ≤ 64`): corollary of the summary theorem; on the large path the only
hypothesis beyond typing is that both operands have exact images. -/
theorem C12_fold_wrap_every_width (op : Op) (hop : op.isWrap = true) (signed : Bool) (n : Nat) (l r : CV) (hn0 : 0 < n)
    (h_typed : wellTyped op n l r = true) (h_kind : sameKind l r = true)
    (h_image : 64 < n → imageExact l = true ∧ imageExact r = true) :
    ∃ t v, evalBin op l r = .ok (.int t v) ∧
      seenBV n (.int t v) = circuitOp op signed (seenBV n l) (seenBV n r) 0 := by
  obtain ⟨_, hc, hs, hne⟩ := Op.isWrap_spec hop
  have h := (C12_fold_eq_circuit op signed n l r 0#64 hn0
    ⟨Op.ne_of_isWrap hop rfl, Op.ne_of_isWrap hop rfl, Op.ne_of_isWrap hop rfl⟩ h_typed (fun _ => h_kind)
    (fun h => absurd (hs ▸ h) (by decide))
    (fun hw _ => ⟨(h_image hw).1, fun _ => (h_image hw).2⟩)
    (fun h => absurd h (not_or.2 ⟨Op.ne_of_isWrap hop rfl, Op.ne_of_isWrap hop rfl⟩))
    (fun h => absurd h (Op.ne_of_isWrap hop rfl))
    (fun h => absurd (hc ▸ h) (by decide))).2 hc
  rwa [foldOp, if_neg hne] at h

theorem C12_fold_add_every_width (signed : Bool) (n : Nat) (l r : CV) (hn0 : 0 < n)
    (h_typed : wellTyped .add n l r = true) (h_kind : sameKind l r = true)
    (h_image : 64 < n → imageExact l = true ∧ imageExact r = true) :
    ∃ t v, evalBin .add l r = .ok (.int t v) ∧
      seenBV n (.int t v) = circuitOp .add signed (seenBV n l) (seenBV n r) 0 :=
  C12_fold_wrap_every_width .add rfl signed n l r hn0 h_typed h_kind h_image
theorem C12_fold_sub_every_width (signed : Bool) (n : Nat) (l r : CV) (hn0 : 0 < n)
    (h_typed : wellTyped .sub n l r = true) (h_kind : sameKind l r = true)
    (h_image : 64 < n → imageExact l = true ∧ imageExact r = true) :
    ∃ t v, evalBin .sub l r = .ok (.int t v) ∧
      seenBV n (.int t v) = circuitOp .sub signed (seenBV n l) (seenBV n r) 0 :=
  C12_fold_wrap_every_width .sub rfl signed n l r hn0 h_typed h_kind h_image
theorem C12_fold_mul_every_width (signed : Bool) (n : Nat) (l r : CV) (hn0 : 0 < n)
    (h_typed : wellTyped .mul n l r = true) (h_kind : sameKind l r = true)
    (h_image : 64 < n → imageExact l = true ∧ imageExact r = true) :
    ∃ t v, evalBin .mul l r = .ok (.int t v) ∧
      seenBV n (.int t v) = circuitOp .mul signed (seenBV n l) (seenBV n r) 0 :=
  C12_fold_wrap_every_width .mul rfl signed n l r hn0 h_typed h_kind h_image
theorem C12_fold_and_every_width (signed : Bool) (n : Nat) (l r : CV) (hn0 : 0 < n)
    (h_typed : wellTyped .band n l r = true) (h_kind : sameKind l r = true)
    (h_image : 64 < n → imageExact l = true ∧ imageExact r = true) :
    ∃ t v, evalBin .band l r = .ok (.int t v) ∧
      seenBV n (.int t v) = circuitOp .band signed (seenBV n l) (seenBV n r) 0 :=
  C12_fold_wrap_every_width .band rfl signed n l r hn0 h_typed h_kind h_image
theorem C12_fold_or_every_width (signed : Bool) (n : Nat) (l r : CV) (hn0 : 0 < n)
    (h_typed : wellTyped .bor n l r = true) (h_kind : sameKind l r = true)
    (h_image : 64 < n → imageExact l = true ∧ imageExact r = true) :
    ∃ t v, evalBin .bor l r = .ok (.int t v) ∧
      seenBV n (.int t v) = circuitOp .bor signed (seenBV n l) (seenBV n r) 0 :=
  C12_fold_wrap_every_width .bor rfl signed n l r hn0 h_typed h_kind h_image
theorem C12_fold_xor_every_width (signed : Bool) (n : Nat) (l r : CV) (hn0 : 0 < n)
    (h_typed : wellTyped .bxor n l r = true) (h_kind : sameKind l r = true)
    (h_image : 64 < n → imageExact l = true ∧ imageExact r = true) :
    ∃ t v, evalBin .bxor l r = .ok (.int t v) ∧
      seenBV n (.int t v) = circuitOp .bxor signed (seenBV n l) (seenBV n r) 0 :=
  C12_fold_wrap_every_width .bxor rfl signed n l r hn0 h_typed h_kind h_image
theorem C12_fold_andnot_every_width (signed : Bool) (n : Nat) (l r : CV) (hn0 : 0 < n)
    (h_typed : wellTyped .bclr n l r = true) (h_kind : sameKind l r = true)
    (h_image : 64 < n → imageExact l = true ∧ imageExact r = true) :
    ∃ t v, evalBin .bclr l r = .ok (.int t v) ∧
      seenBV n (.int t v) = circuitOp .bclr signed (seenBV n l) (seenBV n r) 0 :=
  C12_fold_wrap_every_width .bclr rfl signed n l r hn0 h_typed h_kind h_image

theorem C12_fold_shl_every_width (signed : Bool) (n : Nat) (l r : CV) (cnt : BitVec 64) (hn0 : 0 < n)
    (h_typed : wellTyped .shl n l r = true) (h_count : (mpaOf r).int64 = some cnt)
    (h_image : 64 < n → imageExact l = true) :
    ∃ t v, evalBin .shl l r = .ok (.int t v) ∧
      seenBV n (.int t v) = circuitOp .shl signed (seenBV n l) (seenBV n r) cnt.toNat := by
  exact (C12_fold_eq_circuit .shl signed n l r cnt hn0 (by decide) h_typed nofun (fun _ => h_count)
    (fun hw _ => ⟨h_image hw, nofun⟩) (fun h => absurd h (by decide)) nofun nofun).2 rfl

/-! ### Non-vacuity: every hypothesis of `C12_fold_eq_circuit` is satisfiable below and above 64 bits
(`caseHyps … = []` says that ALL hypotheses hold for the constants the model builds for that program text) -/

-- h_typed / h_kind / h_image (wrap operators, `<<`, unary minus)
example : caseHyps .add .uint 8 200 100 .pos .pos = [] ∧ caseHyps .add .uint 128 (2 ^ 128 - 1) 1 .pos .pos = [] := by
  decide +kernel
example : caseHyps .mul .int 33 (-5) 9 .neg .pos = [] ∧ caseHyps .mul .int 100 (-5) (2 ^ 70 + 1) .neg .pos = [] := by
  decide +kernel
example : caseHyps .bclr .int 64 (-5) 9 .neg .pos = [] ∧ caseHyps .bxor .int 65 (-(2 ^ 64)) (2 ^ 64 - 1) .neg .pos = [] := by
  decide +kernel
example : caseHyps .shl .uint 32 1 31 .pos .pos = [] ∧ caseHyps .shl .uint 130 (2 ^ 65 + 1) 64 .pos .pos = [] := by
  decide +kernel
example : caseHyps .neg .int 8 (-128) 0 .cast .pos = [] ∧ caseHyps .neg .int 127 (2 ^ 100) 0 .pos .pos = [] := by
  decide +kernel
-- h_divmod
example : caseHyps .div .int 32 43 4 .pos .pos = [] ∧ caseHyps .mod .uint 128 (2 ^ 62 + 5) 7 .pos .pos = [] := by
  decide +kernel
-- h_shr
example : caseHyps .shr .int 64 (-128) 3 .neg .pos = [] ∧ caseHyps .shr .uint 128 (2 ^ 127 + 1) 65 .pos .pos = [] := by
  decide +kernel
-- h_cmp
example : caseHyps .lt .int 8 (-2) 2 .cast .pos = [] ∧ caseHyps .ge .uint 100 (2 ^ 40) 7 .pos .pos = [] := by
  decide +kernel
-- the hypotheses themselves, on explicit constants (uint128(5) + uint128(7))
example :
    wellTyped .add 128 (.int ⟨.uint, 128, 3⟩ { bits := 32, i64 := 5#64 }) (.int ⟨.uint, 128, 3⟩ { bits := 32, i64 := 7#64 }) = true ∧
    imageExact (.int ⟨.uint, 128, 3⟩ { bits := 32, i64 := 5#64 }) = true := by
  decide +kernel

-- non-vacuity: two more cases the generator produces (extreme operands)
example : caseHyps .bxor .int 64 (-9223372036854775808) 9223372036854775807 .neg .pos = [] := by decide +kernel
example : caseHyps .ge .int 16 (-32768) 32767 .cast .pos = [] := by decide +kernel

theorem foldExpr_binary {op : Op} {k : Kind} (hk : k ≠ .bool) (hneg : op ≠ .neg) (hsh : op.isShift = false)
    (n : Nat) (a b : Int) (af bf : Form) :
    foldExpr op k n a b af bf = (typedConst k n a af >>= fun l => typedConst k n b bf >>= fun r => evalBin op l r) := by
  simp only [foldExpr, beq_iff_eq, hk, hneg, hsh, if_false, Bool.false_eq_true]

/-- End to end on the program text: `T(a) op T(b)` for op in `+ - * & | ^ &^`, every `intN/uintN`, `N ≤ 64`, and ALL
non-negative representable `a`, `b`: the expression folds, the constant is assignable to `T`, and its low `N`
wires are the run-time instruction on the encodings of `a` and `b`. -/
theorem C12_text_wrap_nonneg (op : Op) (hop : op.isWrap = true) (k : Kind) (hk : k ≠ .bool) (n a b : Nat)
    (hn0 : 0 < n) (hn : n ≤ 64) (ha : a < 2 ^ n) (hb : b < 2 ^ n) :
    ∃ t v, foldExpr op k n a b .pos .pos = .ok (.int t v) ∧ t.minBits ≤ n ∧
      seenBV n (.int t v) = circuitOp op (k == .int) (BitVec.ofNat n a) (BitVec.ofNat n b) 0 := by
  obtain ⟨lt, lv, el, hlk, hlb, _, hlv, _, hls⟩ := typedConst_pos k n a hn ha
  obtain ⟨rt, rv, er, hrk, hrb, _, hrv, _, hrs⟩ := typedConst_pos k n b hn hb
  obtain ⟨t, v, h1, _, _, h4, _, h6⟩ :=
    fold_wrap op hop (k == .int) n 0 lt rt lv rv (by rw [hlk, hrk]) (by omega) (by omega) (by omega) (by omega) hlv hrv
  obtain ⟨_, _, hsh, hneg⟩ := Op.isWrap_spec hop
  refine ⟨t, v, ?_, by omega, by rw [h6, hls, hrs]⟩
  rw [foldExpr_binary hk hneg hsh, el, er]
  exact h1

example : (2 : Nat) < 2 ^ 8 ∧ (0 : Nat) < 8 ∧ 8 ≤ 64 := by decide

theorem msb_ofNat_false (n a : Nat) (ha : a < 2 ^ (n - 1)) : (BitVec.ofNat n a).msb = false := by
  rw [BitVec.msb_eq_decide]
  simp only [BitVec.toNat_ofNat, decide_eq_false_iff_not, Nat.not_le]
  exact Nat.lt_of_le_of_lt (Nat.mod_le _ _) ha

theorem cleanNonneg_of_exact (signed : Bool) (n : Nat) (t : TInfo) (v : MInt) (c : Nat) (hn : n ≤ 64)
    (hc : c < 2 ^ n) (hc63 : c < 2 ^ 63) (hcs : signed = true → c < 2 ^ (n - 1)) (hsm : v.small.toNat = c)
    (hseen : seenBV n (.int t v) = BitVec.ofNat n c) : cleanNonneg signed n (.int t v) = true := by
  refine cleanNonneg_iff.2 ⟨⟨?_, ?_⟩, ?_⟩
  · rw [hseen]
    apply BitVec.eq_of_toNat_eq
    rw [hsm, BitVec.toNat_setWidth, BitVec.toNat_ofNat, Nat.mod_eq_of_lt hc]
    exact (Nat.mod_eq_of_lt (lt_two_pow_of_le hc hn)).symm
  · rw [BitVec.msb_eq_decide]
    simp only [decide_eq_false_iff_not, Nat.not_le]
    rw [hsm]; exact hc63
  · cases signed with
    | false => exact Or.inl rfl
    | true => right; rw [hseen]; exact msb_ofNat_false n c (hcs rfl)

/-- End to end on the program text: `T(a) / T(b)`, `T(a) % T(b)` for non-negative representable operands below
2^63 (for `intN`: below 2^(N-1), i.e. representable), zero divisor included. -/
theorem C12_text_div_mod_nonneg (op : Op) (hop : op = .div ∨ op = .mod) (k : Kind) (hk : k ≠ .bool) (n a b : Nat)
    (hn0 : 0 < n) (hn : n ≤ 64) (ha : a < 2 ^ n) (hb : b < 2 ^ n) (ha63 : a < 2 ^ 63) (hb63 : b < 2 ^ 63)
    (hsa : k = .int → a < 2 ^ (n - 1)) (hsb : k = .int → b < 2 ^ (n - 1)) :
    ∃ t v, foldExpr op k n a b .pos .pos = .ok (.int t v) ∧
      seenBV n (.int t v) = circuitOp op (k == .int) (BitVec.ofNat n a) (BitVec.ofNat n b) 0 := by
  obtain ⟨lt, lv, el, hlk, hlb, hlv0, hlv, hlsm, hls⟩ := typedConst_pos k n a hn ha
  obtain ⟨rt, rv, er, hrk, hrb, hrv0, hrv, hrsm, hrs⟩ := typedConst_pos k n b hn hb
  have hl : smallOperand n (.int lt lv) = true :=
    decide_eq_true ⟨hlv0, hlv, Nat.le_of_eq hlb.symm, Nat.le_trans (Nat.le_of_eq hlb) hn⟩
  have hr : smallOperand n (.int rt rv) = true :=
    decide_eq_true ⟨hrv0, hrv, Nat.le_of_eq hrb.symm, Nat.le_trans (Nat.le_of_eq hrb) hn⟩
  have hkk : sameKind (.int lt lv) (.int rt rv) = true := by simp [sameKind, hlk, hrk]
  obtain ⟨t, v, h1, _, h3⟩ := C12_fold_div_mod_partial op hop (k == .int) n 0 _ _ hn0 hn hl hr hkk
    (cleanNonneg_of_exact _ n lt lv a hn ha ha63 (fun h => hsa (beq_iff_eq.1 h)) hlsm hls)
    (cleanNonneg_of_exact _ n rt rv b hn hb hb63 (fun h => hsb (beq_iff_eq.1 h)) hrsm hrs)
  refine ⟨t, v, ?_, by rw [h3, hls, hrs]⟩
  rw [foldExpr_binary hk (by rcases hop with rfl | rfl <;> decide) (by rcases hop with rfl | rfl <;> rfl), el, er]
  exact h1

/-- A typed negative constant written `T(-v)` is the 32/64-bit folded untyped `-v` with only its type
changed: `int64(-43)` is seen by every consumer as 4294967253 (so is every operator applied to it), while
`-int64(43)` is held correctly. -/
theorem C12_operand_cast_witness :
    (typedConst .int 64 (-43) .cast >>= retSeen .int 64) = .ok 4294967253 ∧
    (typedConst .int 64 (-43) .neg >>= retSeen .int 64) = .ok 18446744073709551573 ∧
    caseHyps .sub .int 64 (-43) 0 .cast .pos = ["operand-value"] := by
  decide +kernel

/-- The folded result carries `Generator.Constant`'s 32/64-bit type, not the declared one:
`int8(100)+int8(100)` is the `int32` constant 200.  `return` truncates it to -56 like the run-time adder, a
width-sensitive consumer (`/ x`, `< x`, `>> 1`) sees +200. -/
theorem C12_result_type_widened_witness :
    foldExpr .add .int 8 100 100 .pos .pos =
      .ok (.int ⟨.int, 32, 8⟩ { bits := 32, i64 := 200#64, big := none }) ∧
    circuitOpNat .add .int 8 100 100 = 200 ∧ (BitVec.ofNat 8 200).toInt = -56 := by
  decide +kernel

/-- … and a result computed with a LEFT operand of the form `-T(v)` (itself a folded result, hence typed 32
bits) is masked at 32 bits, not at the declared width: `(-int3(1)) + int3(1)` is the `int32` constant 8 with
`MinBits = 4 > 3`, rejected when returned as `int3` ("invalid value int32 for return value int3"); the run-time
adder gives 0.  (`uint7(1)+uint7(127)`, rejected before de91761, now folds to 0.) -/
theorem C12_result_minbits_witness :
    (foldExpr .add .int 3 (-1) 1 .neg .pos >>= retSeen .int 3) = .error .compileError ∧
    circuitOpNat .add .int 3 (-1) 1 = 0 ∧ caseHyps .add .int 3 (-1) 1 .neg .pos = [] ∧
    (foldExpr .add .uint 7 1 127 .pos .pos >>= retSeen .uint 7) = .ok 0 := by
  decide +kernel

/-- Re-folding: the folded `int32` result -1 is held as 0xFFFFFFFF (masked, not sign-extended), so
`(int32(2147483646) - int32(2147483647)) >> 1` folds to 0x7FFFFFFF instead of -1. -/
theorem C12_refold_shr_witness :
    (do let c ← foldExpr .sub .int 32 2147483646 2147483647 .pos .pos
        let one ← literal 1
        evalBin .shr c one >>= retSeen .int 32) = .ok 2147483647 := by
  decide +kernel

theorem int64_some (v : MInt) (h0 : 0 < v.bits) : ∃ a, v.int64 = some a := by
  unfold MInt.int64
  split
  · rw [if_neg (by omega)]
    simp only []
    split <;> exact ⟨_, rfl⟩
  · exact ⟨_, rfl⟩

theorem cmp_some (x y : MInt) (hx : 0 < x.bits) (hy : 0 < y.bits) : ∃ c, Mpa.cmp x y = some c := by
  obtain ⟨a, ha⟩ := int64_some x hx
  obtain ⟨b, hb⟩ := int64_some y hy
  unfold Mpa.cmp
  split
  · exact ⟨cmpInt a.toInt b.toInt, by simp [ha, hb]⟩
  · exact ⟨_, rfl⟩

theorem constantMpa_ne_panic (val : MInt) (t : TInfo) : constantMpa val (some t) ≠ .error .panic := by
  rw [constantMpa_ok]; nofun

/-- A comparison returns; a shift, or an arithmetic operator on one kind, is `Generator.Constant` of what the method
returns; everything else is a compile error. -/
theorem evalBin_int_ne_panic (op : Op) (lt rt : TInfo) (lv rv : MInt) (hl0 : 0 < lt.bits) (hlv : 0 < lv.bits)
    (hrv : 0 < rv.bits) : evalBin op (.int lt lv) (.int rt rv) ≠ .error .panic := by
  have h0 : lt.bits ≠ 0 := Nat.ne_of_gt hl0
  by_cases hc : op.isCmp = true
  · obtain ⟨c, hc'⟩ := cmp_some lv rv hlv hrv
    rw [evalBin_int, if_pos hc, hc']
    exact nofun
  by_cases hs : op.isShift = true
  · obtain ⟨cnt, hcnt⟩ := int64_some rv hrv
    obtain ⟨m, hm⟩ := mpaShift_some op { bits := lt.bits } lv cnt.toNat
    exact fun h => constantMpa_ne_panic m lt ((evalBin_shift op lt rt lv rv m cnt hs hcnt h0 hm).symm.trans h)
  by_cases ha : op.isArith = true
  · by_cases hk : lt.kind = rt.kind
    · obtain ⟨m, hm⟩ := mpaArith_some op ha { bits := lt.bits } lv rv
      exact fun h => constantMpa_ne_panic m lt ((evalBin_arith op lt rt lv rv m ha hk h0 hm).symm.trans h)
    · rw [evalBin_int, if_neg hc, if_neg hs, if_pos ha, if_pos hk]
      exact nofun
  · rw [evalBin_int, if_neg hc, if_neg hs, if_neg ha]
    exact nofun

/-- Type and `mpa` sizes of an integer constant are positive (true of every constant the compiler builds:
`New(0)` panics, `Generator.Constant` sizes at least 32). -/
def sizesPositive : CV → Prop
  | .int t v => 0 < t.bits ∧ 0 < v.bits
  | .bool _ => True

/-- "Folding never crashes the compiler", for EVERY width (since repo d31d09e also above 64 bits): no operator
on any two constants with positive sizes reaches a panic branch of the model (`New(0)`, `setSmall bits > 64`,
`Int64` with size 0, `Constant MinBits > Bits`; the large-path circuits no longer provoke `Compile`'s
"Output already assigned").  Errors that remain possible are compile errors (kind mismatch, operator not
defined). -/
theorem C12_no_crash (op : Op) (l r : CV) (hl : sizesPositive l) (hr : sizesPositive r) :
    foldOp op l r ≠ .error .panic := by
  unfold foldOp
  cases l with
  | bool a =>
    split
    · exact nofun
    · cases r with
      | bool b => cases op <;> exact nofun
      | int t v => exact nofun
  | int lt lv =>
    split
    · rw [negate_eq_sub lt lv (by have := hl.1; omega)]
      exact evalBin_int_ne_panic .sub lt lt _ lv hl.1 hl.1 hl.2
    · cases r with
      | bool b => exact nofun
      | int rt rv => exact evalBin_int_ne_panic op lt rt lv rv hl.1 hl.2 hr.2

-- non-vacuity: every constant the generator writes has positive sizes, e.g. uint128(5) and int8(-43)
example : typedConst .uint 128 5 .pos = .ok (.int ⟨.uint, 128, 3⟩ { bits := 32, i64 := 5#64 }) ∧
    sizesPositive (.int ⟨.uint, 128, 3⟩ { bits := 32, i64 := 5#64 }) := by
  refine ⟨by decide +kernel, ?_⟩; simp [sizesPositive]

/-- The large-path adder / subtractor as it was before repo d31d09e: operands at their own widths; result
wires above `max(x.bits, y.bits) + 1` were replaced by the zero wire although they are declared outputs, and
`circuits.Compiler.Compile` panicked "Output already assigned". -/
def largeAddOld (xb yb zb : Nat) (x y : Int) : Option MInt :=
  let nz := max (max xb yb) zb
  let m := max xb yb
  if nz > m + 1 then none
  else some { bits := nz, i64 := 0#64, big := some (((wires x xb + wires y yb) % 2 ^ nz : Nat) : Int) }

/-- Witness about the OLD definition: `uint128(5) + uint128(7)` (operands sized 32 bits, result 128 bits)
crashed the compiler; with the current definition it folds to 12 like the run-time adder, and so does `-`. -/
theorem C12_crash_wide_old_witness :
    largeAddOld 32 32 128 5 7 = none ∧
    (foldExpr .add .uint 128 5 7 .pos .pos >>= retSeen .uint 128) = .ok 12 ∧
    (foldExpr .sub .uint 128 5 7 .pos .pos >>= retSeen .uint 128) = .ok (2 ^ 128 - 2) ∧
    circuitOpNat .add .uint 128 5 7 = 12 ∧ circuitOpNat .sub .uint 128 5 7 = 2 ^ 128 - 2 := by
  decide +kernel

/-- Large path, further witnesses: the divider is SIGNED and as wide as the operands' own sizes
(`uint128(0x1ffffffffffffffff) / uint128(3)` = 0: the 65-bit dividend is read as -1; `uint128(5)/uint128(0)`
is 32 ones, not 128); `Cmp` takes the sign from the operand size (`uint100(63) <= uint100(2^81)` is false);
`Rsh` is logical (`int65(-2^64) >> 1`). -/
theorem C12_wide_witnesses :
    (foldExpr .div .uint 128 0x1ffffffffffffffff 3 .pos .pos >>= retSeen .uint 128) = .ok 0 ∧
    circuitOpNat .div .uint 128 0x1ffffffffffffffff 3 = 0xaaaaaaaaaaaaaaaa ∧
    (foldExpr .div .uint 128 5 0 .pos .pos >>= retSeen .uint 128) = .ok 4294967295 ∧
    circuitOpNat .div .uint 128 5 0 = 2 ^ 128 - 1 ∧
    (foldExpr .le .uint 100 63 (2 ^ 81) .pos .pos >>= retSeen .bool 1) = .ok 0 ∧
    circuitOpNat .le .uint 100 63 (2 ^ 81) = 1 ∧
    (foldExpr .shr .int 65 (-(2 ^ 64)) 1 .neg .pos >>= retSeen .int 65) = .ok (2 ^ 63) ∧
    circuitOpNat .shr .int 65 (-(2 ^ 64)) 1 = 2 ^ 64 + 2 ^ 63 := by
  decide +kernel

/-- Re-widening of a constant used at a second width (`Program.Circuit` after repo commit 3c18dfa, model
`rewiden`, tied by the `alias` correspondence lines).  The earlier defect is gone: after `uint8(200)`, the
constant `int32(200)` is 200 (it was sign-extended from the 8 wires of the first instance to -56).  What
remains: the sign is taken from the constant's own `mpa` size, so a NON-NEGATIVE value whose bit 31 (or 63)
is set is read as negative when re-widened as a `TInt`: after `uint32(4294967295)`, `int33(4294967295)` is
0x1ffffffff = -1.  (`int33(-1)` is the same `ssa.Value` — finding C12-typed-negative-constant-not-extended —
so no re-widening rule can be right for both.) -/
theorem C12_rewiden_witness :
    aliasOutputs .uint 8 .int 32 200 200 = .ok (200, 200) ∧
    aliasOutputs .int 7 .uint 32 (-4) 4294967292 = .ok (124, 4294967292) ∧
    aliasOutputs .uint 32 .int 33 4294967295 4294967295 = .ok (4294967295, 8589934591) := by
  decide +kernel

/-! ## Several constants in one program: "the folded result as seen by the rest of the program"

A constant has no storage of its own; its identity is its Name (`Generator.Constant`), the key of
`gen.constants`, of `Value.Equal` and of the wire allocator (Model/FoldTable.lean).  The operator theorems
above say what ONE folded expression is worth; the theorems below say when that value survives the company
of the other constants of a program — for every program (list of registrations) and every constant in it. -/

/-- **The constant table is exact iff the naming is injective.**  For any kind of constant `α` with a
registered width `bits` and wires `wires`, and any naming `nm`: in EVERY program every registered constant
that is used at its registered width is given its own wires, if and only if two constants of one width and
one name always have the same wires.  (The "only if" direction is the two-constant program `[d, c]`: `c`
gets `d`'s wires — the role of `C08_defineConstants_needs_distinct_names` for determinism, here for the
value; fixed finding C12-constant-wires-shared-by-value-name was the same defect across widths.) -/
theorem C12_const_table_exact_iff {α : Type} (nm : α → String) (bits wires : α → Nat) :
    (∀ (regs : List α) (c : α), c ∈ regs →
        seenWires nm bits wires (table nm regs) c (bits c) (wires c) = wires c)
    ↔ (∀ c d : α, nm c = nm d → bits c = bits d → wires c = wires d) :=
  const_table_exact_iff nm bits wires

-- non-vacuity: constants = (width, value) named in decimal; the right-hand side holds, so a concrete
-- three-constant program (the second and third share a width) materialises each with its own value
example : seenWires (fun c : Nat × Nat => decName c.2) (·.1) (·.2)
    (table (fun c : Nat × Nat => decName c.2) [(100, 2 ^ 64), (100, 10 ^ 16), (8, 5)]) (100, 10 ^ 16) 100 (10 ^ 16) = 10 ^ 16 :=
  (C12_const_table_exact_iff (fun c : Nat × Nat => decName c.2) (·.1) (·.2)).mpr
    (fun _ _ hn _ => decName_injective hn) _ _ (by simp)

/-- The naming of the code as it is — the decimal text of the value, for every value — is injective: on
non-negative values (`decName`) and on the integer constants of the model (`cvName`, any sign). -/
theorem C12_decimal_naming_injective :
    (∀ a b : Nat, decName a = decName b → a = b) ∧
    (∀ (t t' : TInfo) (v v' : MInt), cvName (.int t v) = cvName (.int t' v') → v.value = v'.value) :=
  ⟨fun _ _ h => decName_injective h, fun _ _ _ _ h => cvName_int_injective h⟩

example : decName 18446744073709551616 ≠ decName 10000000000000000 :=
  fun h => absurd (C12_decimal_naming_injective.1 _ _ h) (by decide)

/-- A naming that spells SOME values in another base is not injective: decimal below 2^64 and hexadecimal
from there on gives 2^64 = 0x10000000000000000 and 10^16 one name — so by `C12_const_table_exact_iff` some
program sees the one as the other. -/
theorem C12_mixed_naming_not_injective :
    ∃ a b : Nat, mixedName a = mixedName b ∧ a ≠ b ∧
      ¬ (∀ (regs : List (Nat × Nat)) (c : Nat × Nat), c ∈ regs →
          seenWires (fun c : Nat × Nat => mixedName c.2) (·.1) (·.2)
            (table (fun c : Nat × Nat => mixedName c.2) regs) c c.1 c.2 = c.2) := by
  refine ⟨2 ^ 64, 10 ^ 16, mixedName_collision.1, mixedName_collision.2, fun h => ?_⟩
  have := (C12_const_table_exact_iff (fun c : Nat × Nat => mixedName c.2) (·.1) (·.2)).mp h
    (100, 2 ^ 64) (100, 10 ^ 16) mixedName_collision.1 rfl
  exact absurd this (by decide)

/-- An integer constant whose wires are the two's complement image of its printed value at its type's
width (every constant that is right on its own). -/
def faithfulConst : CV → Bool
  | .int t v => constWires t v == wires v.value t.bits
  | .bool _ => false

/-- **The compiler's table, decimal names.**  In every program whose integer constants are each right on
their own (`faithfulConst`), a constant whose name is registered at one width only is read by its consumer
with exactly its own wires — whatever other constants, folded or written, the program holds.  (A name
registered at two widths goes through `rewiden`: `C12_rewiden_witness`.) -/
theorem C12_constants_see_own_bits (regs : List CV) (hf : ∀ c ∈ regs, faithfulConst c = true)
    (c : CV) (hc : c ∈ regs) (hw : ∀ d ∈ regs, cvName d = cvName c → cvBits d = cvBits c) (k : Kind) :
    cvSeen cvName (table cvName regs) k (cvBits c) c = cvWires c % 2 ^ cvBits c := by
  obtain ⟨e, hl, hn, he⟩ := lookup_table cvName regs c hc
  have hbits := hw e he hn
  have hfe := hf e he
  have hfc := hf c hc
  unfold cvSeen seenWires
  rw [hl]
  simp only [if_pos hbits]
  cases c with
  | bool b => simp [faithfulConst] at hfc
  | int t v =>
    cases e with
    | bool b => simp [faithfulConst] at hfe
    | int t' v' =>
      simp only [faithfulConst, beq_iff_eq] at hfe hfc
      simp only [cvBits] at hbits
      have hv := cvName_int_injective hn
      simp only [cvWires, cvBits]
      rw [hfe, hfc, hv, hbits]

-- non-vacuity: the constants of `C12_mixed_naming_witness` (folded 2^64 and written 10^16 at uint100), next to a uint8
example :
    let c1 : CV := .int ⟨.uint, 100, 65⟩ ⟨65, 0#64, some (2 ^ 64)⟩
    let c2 : CV := .int ⟨.uint, 100, 54⟩ ⟨64, BitVec.ofNat 64 (10 ^ 16), none⟩
    let c3 : CV := .int ⟨.uint, 8, 3⟩ ⟨32, 5#64, none⟩
    cvSeen cvName (table cvName [c1, c2, c3]) .uint 100 c2 = 10 ^ 16 := by
  intro c1 c2 c3
  have := C12_constants_see_own_bits [c1, c2, c3] (by decide) c2 (by simp) (by decide) .uint
  simpa [c2, cvBits, cvWires] using this.trans (by decide)

/-- **Company does not matter.**  For EVERY `multi` program (any number of items, any operators, widths, values,
both program shapes) whose registered constants are each right on their own: an item whose constant's name is
registered at the item's width only returns, at `x = 0`, exactly what its own wires give — independently of
all other folded or written constants of the program.  (`multiOutputs` maps `Item.output` over the items; the
`multi` correspondence lines tie it to the real compiler.) -/
theorem C12_multi_item_unaffected_by_company (vars : Bool) (items : List Item) (regs : List CV)
    (hr : registrations vars items = .ok regs) (hf : ∀ c ∈ regs, faithfulConst c = true)
    (it : Item) (hit : it ∈ items) (s : CV) (hs : it.result = .ok s)
    (hw : ∀ d ∈ regs, cvName d = cvName s → cvBits d = it.n) :
    it.output cvName (table cvName regs) = .ok (consumeAt0 it.cons it.n (cvWires s % 2 ^ it.n)) := by
  have hmem := result_mem_registrations vars items regs hr it s hit hs
  have hn : cvBits s = it.n := hw s hmem rfl
  have hw' : ∀ d ∈ regs, cvName d = cvName s → cvBits d = cvBits s := fun d hd h => (hw d hd h).trans hn.symm
  have := C12_constants_see_own_bits regs hf s hmem hw' it.k
  rw [hn] at this
  unfold Item.output
  rw [hs]
  simp only [bind, Except.bind, pure, Except.pure, this]

-- non-vacuity: the program of `C12_mixed_naming_witness` satisfies every hypothesis (for its second item)
example : ∃ (items : List Item) (regs : List CV) (it : Item) (s : CV),
    registrations true items = .ok regs ∧ (∀ c ∈ regs, faithfulConst c = true) ∧ it ∈ items ∧ it.result = .ok s ∧
    (∀ d ∈ regs, cvName d = cvName s → cvBits d = it.n) ∧
    it.output cvName (table cvName regs) = .ok (10 ^ 16) := by
  let c0 : CV := .int ⟨.uint, 100, 64⟩ ⟨64, 0#64, some (2 ^ 63)⟩
  let c1 : CV := .int ⟨.uint, 100, 65⟩ ⟨65, 0#64, some (2 ^ 64)⟩
  let c2 : CV := .int ⟨.uint, 100, 54⟩ ⟨64, BitVec.ofNat 64 (10 ^ 16), none⟩
  let it : Item := ⟨none, .uint, 100, 10 ^ 16, 0, .pos, .pos, .add⟩
  have h1 : registrations true [⟨some .add, .uint, 100, 2 ^ 63, 2 ^ 63, .pos, .pos, .xor⟩, it] = .ok [c0, c0, c1, c2] := by
    decide +kernel
  have h2 : ∀ c ∈ [c0, c0, c1, c2], faithfulConst c = true := by decide +kernel
  have h4 : it.result = .ok c2 := by decide +kernel
  have h5 : ∀ d ∈ [c0, c0, c1, c2], cvName d = cvName c2 → cvBits d = it.n := by decide +kernel
  -- the output is what the theorem gives from the five hypotheses
  exact ⟨_, _, it, c2, h1, h2, by simp, h4, h5,
    (C12_multi_item_unaffected_by_company true _ _ h1 h2 it (by simp) c2 h4 h5).trans (by decide +kernel)⟩

/-- Program-level witness on the model of the compiler (`multiOutputs`, tied to the real compiler by the
`multi` correspondence lines): `r0 := (uint100(2^63) + uint100(2^63)) ^ x0; r1 := uint100(10^16) + x1`.
With the decimal naming both outputs are what the run-time circuit computes; had `Generator.Constant` named
wide values in hexadecimal (`cvNameMixed`), the written constant 10^16 would be read as the folded sum 2^64. -/
theorem C12_mixed_naming_witness :
    let prog : List Item :=
      [⟨some .add, .uint, 100, 2 ^ 63, 2 ^ 63, .pos, .pos, .xor⟩, ⟨none, .uint, 100, 10 ^ 16, 0, .pos, .pos, .add⟩]
    multiOutputs cvName false prog = .ok (prog.map Item.runtime) ∧
    multiOutputs cvName true prog = .ok (prog.map Item.runtime) ∧
    prog.map Item.runtime = [2 ^ 64, 10 ^ 16] ∧
    multiOutputs cvNameMixed false prog = .ok [2 ^ 64, 2 ^ 64] ∧
    multiCause cvNameMixed false prog 1 = .ok "shares-wires-of-another-constant" := by
  decide +kernel

/-- The remaining way company changes a constant (finding C12-rewidened-constant-sign-from-mpa-size, here
for values wider than 64 bits, whose own size is their bit length): after `uint100(2^65)`, `int101(2^65)` is
re-built from its own 66-bit value and sign-extended from bit 65. -/
theorem C12_multi_rewiden_witness :
    let prog : List Item :=
      [⟨none, .uint, 100, 2 ^ 65, 0, .pos, .pos, .xor⟩, ⟨none, .int, 101, 2 ^ 65, 0, .pos, .pos, .add⟩]
    multiOutputs cvName false prog = .ok [2 ^ 65, 2 ^ 101 - 2 ^ 65] ∧
    prog.map Item.runtime = [2 ^ 65, 2 ^ 65] ∧
    multiCause cvName false prog 1 = .ok "rewidened-sign-from-own-size" := by
  decide +kernel

/-- **One call writes its receiver only.**  For every method of `mpa.Int`, both paths, every receiver (a fresh
`mpa.New(bits)` or an existing object — also the object of `x`, of `y`, of both) and every operand choice
(also `x` and `y` one object): an object that is not the receiver holds after the call what it held before,
operand or not.  (`MpaHist.step` is the model the `mpah` correspondence lines tie to the real `mpa` package:
the harness observes every object after every real call.) -/
theorem C12_mpa_call_writes_receiver_only (regs regs' : List MInt) (s : MpaHist.Step)
    (h : MpaHist.step regs s = some regs') (j : Nat) (hj : j < regs.length) (hw : s.writes j = false) :
    regs'[j]? = regs[j]? :=
  MpaHist.step_frame h j hj hw

-- non-vacuity: `New(100).AndNot(x, y)` on two 100-bit operands; both operands are registers 0 and 1
example :
    let x : MInt := ⟨100, 0#64, some 0x70f0f0f0f0f0f0f0f0f0f0f0f⟩
    let y : MInt := ⟨100, 0#64, some 0x0ff00ff00ff00ff00ff00ff00⟩
    let s : MpaHist.Step := ⟨.andNot, 0, .fresh 100, 0, 1⟩
    MpaHist.step [x, y] s = some [x, y, ⟨100, 0#64, some 0x7000f000f000f000f000f000f⟩] ∧
    s.writes 0 = false ∧ s.writes 1 = false := by
  decide +kernel

/-- **Histories.**  Over any history of calls sharing their operands, an object that is never a receiver
holds at the end what it held at the start — however many calls used it as `x`, as `y` or as both. -/
theorem C12_mpa_history_operands_unchanged (regs regs' : List MInt) (ss : List MpaHist.Step)
    (h : MpaHist.run regs ss = some regs') (j : Nat) (hj : j < regs.length)
    (hw : ∀ s ∈ ss, s.writes j = false) : regs'[j]? = regs[j]? :=
  MpaHist.run_frame h j hj hw

-- non-vacuity: x &^ y, then x + y, then the first result shifted in place: x and y are never written
example :
    let x : MInt := ⟨100, 0#64, some 0x70f0f0f0f0f0f0f0f0f0f0f0f⟩
    let y : MInt := ⟨100, 0#64, some 0x0ff00ff00ff00ff00ff00ff00⟩
    let ss : List MpaHist.Step := [⟨.andNot, 0, .fresh 100, 0, 1⟩, ⟨.add, 0, .fresh 100, 0, 1⟩, ⟨.lsh, 4, .reg 2, 2, 2⟩]
    (∃ regs', MpaHist.run [x, y] ss = some regs' ∧ regs'.length = 4 ∧ regs'[0]? = some x ∧ regs'[1]? = some y) ∧
    (∀ s ∈ ss, s.writes 0 = false) ∧ (∀ s ∈ ss, s.writes 1 = false) := by
  decide +kernel

/-- **A constant's value is independent of the folds that use it.**  For every naming, all declarations and
EVERY sequence of folds (any operators, any choice of operand variables — declarations or earlier results, on
either side, also `v op v`): under pure folding (`pureFold`, the contract `C12_mpa_call_writes_receiver_only`
lifted to `Binary.evalConst` / `Unary.Eval`)

  * the bindings at the end are the declarations followed by the fold results, and each result is `Use.eval`
    on the declarations and the EARLIER RESULTS only (`foldResults`) — not on what earlier folds did;
  * every declared variable is bound at the end to the constant it was declared with, so the wires
    `DefineConstants` makes for it (`cvWires`) are a function of its declaration only;
  * two programs with the same declarations and different folds agree on every declared constant.

(`usesOutputs cvName pureFold` is the model the `uses` correspondence lines tie to the real compiler.) -/
theorem C12_constant_value_independent_of_uses (nm : CV → String) (env : List Bound) (us : List Use) :
    runUses nm pureFold env us = (foldResults nm env us).map (env ++ ·) ∧
    (∀ final, runUses nm pureFold env us = .ok final →
      ∀ i, i < env.length → final[i]? = env[i]? ∧
        (final[i]?).map (fun b => cvWires b.2) = (env[i]?).map (fun b => cvWires b.2)) ∧
    (∀ us' f f', runUses nm pureFold env us = .ok f → runUses nm pureFold env us' = .ok f' →
      ∀ i, i < env.length → f[i]? = f'[i]?) := by
  refine ⟨runUses_pure nm us env, ?_, ?_⟩
  · intro final h i hi
    have := runUses_pure_decls nm us env final h i hi
    exact ⟨this, by rw [this]⟩
  · intro us' f f' h h' i hi
    rw [runUses_pure_decls nm us env f h i hi, runUses_pure_decls nm us' env f' h' i hi]

/-- `v0 := uint100(x); v1 := uint100(y); v2 := v0 &^ v1; v3 := v0 + v1`, every variable used with a run-time input:
the program of `C12_in_place_fold_witness`. -/
def usesDemo : UsesProg :=
  ⟨.uint, 100, [(0x70f0f0f0f0f0f0f0f0f0f0f0f, .pos), (0x0ff00ff00ff00ff00ff00ff00, .pos)],
   [⟨.bclr, 0, 1⟩, ⟨.add, 0, 1⟩], [.xor, .add, .xor, .add]⟩

-- non-vacuity: `usesDemo` runs under pure folding, and its outputs are those of the run-time circuit
example :
    usesOutputs cvName pureFold usesDemo =
      .ok [0x70f0f0f0f0f0f0f0f0f0f0f0f, 0x0ff00ff00ff00ff00ff00ff00, 0x7000f000f000f000f000f000f,
           0x80e100e100e100e100e100e0f] ∧
    usesDemo.runtimeDecl 0 = some 0x70f0f0f0f0f0f0f0f0f0f0f0f ∧
    circuitOpNat .bclr .uint 100 0x70f0f0f0f0f0f0f0f0f0f0f0f 0x0ff00ff00ff00ff00ff00ff00 = 0x7000f000f000f000f000f000f ∧
    circuitOpNat .add .uint 100 0x70f0f0f0f0f0f0f0f0f0f0f0f 0x0ff00ff00ff00ff00ff00ff00 = 0x80e100e100e100e100e100e0f := by
  decide +kernel

/-- **Witness: a fold that computes into its left operand.**  With a large-path `&^` that stores its result in
the big value of `x` (`inPlaceLeft`) the fold `v0 &^ v1` itself is still right, but `v0` — declared
0x70f0…f0f — is then seen by the rest of the program as `v0 &^ v1`: by its run-time use (output 0) and by
the next fold `v0 + v1` (output 3); the wires made for `v0` are no longer those of its declaration (last two
conjuncts).  So the statement above is a property of the folder, not of the shape of the model: it fails for
this write-back policy, and a check of one operator per program cannot see it (second conjunct: the fold
alone is right for every consumer of the folded value).  Replay on the Go code:
`c12 uses -extra "var u 100 559257617747748265366192590607:pos,78919881726271091143763623680:pos &^:0:1,+:0:1 xor,add,xor,add"`. -/
theorem C12_in_place_fold_witness :
    usesOutputs cvName inPlaceLeft usesDemo =
      .ok [0x7000f000f000f000f000f000f, 0x0ff00ff00ff00ff00ff00ff00, 0x7000f000f000f000f000f000f,
           0x7ff0fff0fff0fff0fff0fff0f] ∧
    usesOutputs cvName inPlaceLeft { usesDemo with uses := [⟨.bclr, 0, 1⟩], cons := [.xor, .add, .xor] } =
      .ok [0x7000f000f000f000f000f000f, 0x0ff00ff00ff00ff00ff00ff00, 0x7000f000f000f000f000f000f] ∧
    (usesDemo.declared cvName).toOption.map (fun env => (env[0]?).map (fun b => cvWires b.2)) =
      some (some 0x70f0f0f0f0f0f0f0f0f0f0f0f) ∧
    (usesDemo.declared cvName >>= fun env => runUses cvName inPlaceLeft env usesDemo.uses).toOption.map
        (fun final => (final[0]?).map (fun b => cvWires b.2)) = some (some 0x7000f000f000f000f000f000f) := by
  decide +kernel

end Mpc
