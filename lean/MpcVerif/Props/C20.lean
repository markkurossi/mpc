/-
C20  OT-based multiplication gadgets return shares of the product.

Quantification.
* vector-OLE: every PRG `prg` (AES-CTR under the label is one function),
  every list of labels returned to the sender by the correlated-OT extension
  (so: every base OT, every delta, every column stream, every chunking —
  `Sender.Mul` sees the extension only through that list; that the list has
  `m` entries for every `m`, across chunk boundaries, is C06), every vector
  length `m ≥ 1`, every modulus `0 < p ≤ 2^256` (the statement asks for
  `1 < p < 2^256`), every `x` (unbounded) and every `y < 2^256`.
* Fx / Fxk: every OT satisfying `OtSpec` (C06 proves it per implementation),
  every random label drawn by `NewLabel`, every `a`, `b` (the general
  statements) resp. `a, b ∈ {0,1}` (the property's statement), every string
  `s` of the gadget's length (`k = 32` bits).
* transport: "every vector length" includes the lengths whose packed vector
  (`4 + 32·m` bytes) does not fit into one write buffer of the connection
  (`m ≥ 2048` for the 64 KiB buffer), into two, into the 1 MiB read buffer.
  The size of the write buffer is a parameter `cap` of the wire model
  (Model/VoleWire.lean); the theorems hold for every `cap ≥ 4`, i.e. the
  bytes on the wire and the share relation are the same however `SendData`
  splits the message into blocks.
-/
import MpcVerif.Proofs.Vole
import MpcVerif.Proofs.VoleWire
import MpcVerif.Proofs.Fx

namespace Mpc
open Vole Fx

/-- Main statement for `vole.Sender.Mul` / `vole.Receiver.Mul`.  Under the
stated hypotheses a session takes no error branch (no length error, no
`bytes32` panic), both output vectors have the input length, and at every
index `r_i, u_i < p` and `u_i − r_i ≡ x_i·y_i (mod p)` — as a congruence of
integers (what `big.Int.Sub` / `Mod` compute) and on naturals. -/
theorem C20_vole_relation (prg : BitVec 128 → Nat) (labels : List (BitVec 128)) (xs ys : List Nat)
    (p : Nat) (hp0 : 0 < p) (hp : p ≤ 2 ^ 256) (hm : 1 ≤ xs.length) (hly : ys.length = xs.length)
    (hll : labels.length = xs.length) (hy : ∀ y ∈ ys, y < 2 ^ 256) :
    ∃ s, session prg labels xs ys p = .ok s ∧
      s.rs.length = xs.length ∧ s.us.length = xs.length ∧
      ∀ i, i < xs.length → ∃ r u x y,
        s.rs[i]? = some r ∧ s.us[i]? = some u ∧ xs[i]? = some x ∧ ys[i]? = some y ∧
        r < p ∧ u < p ∧
        ((u : Int) - (r : Int)) % (p : Int) = ((x : Int) * (y : Int)) % (p : Int) ∧
        (u + p - r) % p = (x * y) % p := by
  obtain ⟨s, hs, _, hrel, _⟩ := session_spec prg labels ⟨xs, ys, p⟩ ⟨hp0, hp, hly, hy⟩ hll
  exact ⟨s, hs, hrel⟩

/-- The theorem applies to the executed instance (the function the driver runs
and that is compared byte for byte with the Go code): AES-128-CTR PRG. -/
theorem C20_vole_concrete (labels : List (BitVec 128)) (xs ys : List Nat)
    (p : Nat) (hp0 : 0 < p) (hp : p ≤ 2 ^ 256) (hm : 1 ≤ xs.length) (hly : ys.length = xs.length)
    (hll : labels.length = xs.length) (hy : ∀ y ∈ ys, y < 2 ^ 256) :
    ∃ s, session prgAes labels xs ys p = .ok s ∧
      s.rs.length = xs.length ∧ s.us.length = xs.length ∧
      ∀ i, i < xs.length → ∃ r u x y,
        s.rs[i]? = some r ∧ s.us[i]? = some u ∧ xs[i]? = some x ∧ ys[i]? = some y ∧
        r < p ∧ u < p ∧
        ((u : Int) - (r : Int)) % (p : Int) = ((x : Int) * (y : Int)) % (p : Int) ∧
        (u + p - r) % p = (x * y) % p :=
  C20_vole_relation prgAes labels xs ys p hp0 hp hm hly hll hy

/-- The two messages of the session are the packed vectors: the y-message is
`bytes32(y_0) ‖ … ‖ bytes32(y_{m-1})` and the u-message the same of `u`; both
are `32·m` bytes (the length checks of both `Mul`s pass). -/
theorem C20_vole_messages (prg : BitVec 128 → Nat) (labels : List (BitVec 128)) (xs ys : List Nat)
    (p : Nat) (hp0 : 0 < p) (hp : p ≤ 2 ^ 256) (hm : 1 ≤ xs.length) (hly : ys.length = xs.length)
    (hll : labels.length = xs.length) (hy : ∀ y ∈ ys, y < 2 ^ 256) :
    ∃ s, session prg labels xs ys p = .ok s ∧
      pack32 ys = some s.ymsg ∧ pack32 s.us = some s.umsg ∧
      s.ymsg.length = 32 * xs.length ∧ s.umsg.length = 32 * xs.length ∧
      s.rs = labels.map (fun l => prg l % p) := by
  obtain ⟨s, hs, hrs, _, h1, h2, h3, h4⟩ := session_spec prg labels ⟨xs, ys, p⟩ ⟨hp0, hp, hly, hy⟩ hll
  exact ⟨s, hs, h1, h2, h3, h4, hrs⟩

/-- `bytes32` round trip: for `v < 2^256` it yields exactly 32 bytes and
`SetBytes` reads `v` back. -/
theorem C20_bytes32_roundtrip (v : Nat) (hv : v < 2 ^ 256) :
    ∃ b, bytes32 v = some b ∧ b.length = 32 ∧ bytesToNatBE b = v :=
  bytes32_roundtrip v hv

/-- The hypothesis `y < 2^256` of `C20_vole_relation` is exactly the set of
values the real code accepts: beyond it `bytes32` panics (slice bounds). -/
theorem C20_bytes32_panics_beyond (v : Nat) (hv : 2 ^ 256 ≤ v) : bytes32 v = none :=
  if_neg fun hl => Nat.not_lt.mpr hv ((natToBytesBE_length_le_iff 32 v).mp hl)

/-- The packed-vector encoding round-trips for every vector (the loop that
parses the y-vector in `Sender.Mul` and the u-vector in `Receiver.Mul`). -/
theorem C20_pack32_roundtrip (p : Nat) (vs : List Nat) (hv : ∀ v ∈ vs, v < 2 ^ 256) :
    ∃ msg, pack32 vs = some msg ∧ msg.length = vs.length * 32 ∧
      unpack32 p vs.length msg = vs.map (· % p) :=
  pack32_unpack32 p vs hv

/-- Empty vectors: both sides return without communicating. -/
theorem C20_vole_empty (prg : BitVec 128 → Nat) (labels : List (BitVec 128)) (p : Nat) :
    session prg labels [] [] p = .ok ⟨[], [], [], []⟩ := rfl

/-- One call in any state: an admissible call (empty vectors included)
succeeds whatever the position, satisfies the share relation, and moves the
position by its length rounded up to a multiple of 8. -/
theorem C20_vole_step (prg : BitVec 128 → Nat) (cot : Nat → BitVec 128) (st : St) (c : Call)
    (h : c.Ok) :
    ∃ s, mulStep prg cot st c = .ok (⟨st.pos + roundUp8 c.xs.length⟩, s) ∧ ShareRel c s := by
  obtain ⟨s, hs, hrel, _⟩ := mulStep_spec prg cot st c h
  exact ⟨s, hs, hrel⟩

/-- Histories.  For every PRG, every row stream of the extension, every
starting position and every list of admissible `Mul` calls on ONE
Sender/Receiver pair (any lengths in any order — shorter after longer —, any
moduli in any order, any elements): no call takes an error branch, EVERY call
of the history satisfies the share relation, and the state after the history
is the start position plus the rounded-up lengths.  The state type `St` holds
the position and nothing else: a call's outcome cannot depend on the inputs
or outputs of earlier calls. -/
theorem C20_vole_session (prg : BitVec 128 → Nat) (cot : Nat → BitVec 128) (st : St)
    (calls : List Call) (h : ∀ c ∈ calls, c.Ok) :
    ∃ ss, runCalls prg cot st calls =
        .ok (⟨st.pos + (calls.map fun c => roundUp8 c.xs.length).sum⟩, ss) ∧
      Forall2 ShareRel calls ss :=
  runCalls_of_step prg cot ShareRel (fun st c hc => C20_vole_step prg cot st c hc) calls st h

/-- The same, call by call: the `k`-th result of the history belongs to the
`k`-th call and satisfies its share relation. -/
theorem C20_vole_session_every_call (prg : BitVec 128 → Nat) (cot : Nat → BitVec 128) (st : St)
    (calls : List Call) (h : ∀ c ∈ calls, c.Ok) :
    ∃ st' ss, runCalls prg cot st calls = .ok (st', ss) ∧ ss.length = calls.length ∧
      ∀ (k : Nat) (c : Call) (s : Session), calls[k]? = some c → ss[k]? = some s → ShareRel c s := by
  obtain ⟨ss, hs, hr⟩ := C20_vole_session prg cot st calls h
  exact ⟨_, ss, hs, hr.length_eq.symm, hr.get⟩

/-- The messages of every call of a history are the packed vectors of THAT
call only (`pack32` of its `ys` resp. of its `us`): nothing of an earlier call
is in them. -/
theorem C20_vole_session_messages (prg : BitVec 128 → Nat) (cot : Nat → BitVec 128) (st : St)
    (calls : List Call) (h : ∀ c ∈ calls, c.Ok) :
    ∃ st' ss, runCalls prg cot st calls = .ok (st', ss) ∧
      Forall2 (fun c s => pack32 c.ys = some s.ymsg ∧ pack32 s.us = some s.umsg) calls ss := by
  obtain ⟨ss, hs, hr⟩ := runCalls_of_step prg cot
    (fun c s => pack32 c.ys = some s.ymsg ∧ pack32 s.us = some s.umsg) (fun st c hc =>
      let ⟨s, hs, _, h1, h2, _⟩ := mulStep_spec prg cot st c hc
      ⟨s, hs, h1, h2⟩) calls st h
  exact ⟨_, ss, hs, hr⟩

/-! Non-vacuity: hypotheses are satisfiable, and the model computes a concrete
session (p = 7, one element crossing the modulus, one zero). -/
example : ∃ (labels : List (BitVec 128)) (xs ys : List Nat) (p : Nat),
    0 < p ∧ p ≤ 2 ^ 256 ∧ 1 ≤ xs.length ∧ ys.length = xs.length ∧ labels.length = xs.length ∧
    ∀ y ∈ ys, y < 2 ^ 256 :=
  ⟨[5#128, 9#128], [3, 6], [4, 0], 7, by decide, by decide, by decide, rfl, rfl, by decide⟩

example : (session (fun l => l.toNat) [5#128, 9#128] [3, 6] [4, 0] 7).toOption.map (fun s => (s.rs, s.us)) =
    some ([5, 2], [3, 2]) := by decide +kernel

/-- A history: a 2-element call modulo 2^256-189 with elements of that size, followed by a
shorter call modulo 3 with elements 0/1 (the shape on which a buffer reused
between calls would leak bytes of the first call into the second). -/
example : (runCalls (fun l => l.toNat) (fun i => BitVec.ofNat 128 (1000003 * (i + 1))) ⟨0⟩
    [⟨[2 ^ 255 + 5, 7], [2 ^ 256 - 1, 2 ^ 200], 2 ^ 256 - 189⟩, ⟨[2], [1], 3⟩]).toOption.map
      (fun r => (r.1.pos, r.2.map (fun s => (s.us.length, s.umsg.length)))) =
    some (16, [(2, 64), (1, 32)]) := by decide +kernel

example : (⟨[2], [1], 3⟩ : Call).Ok := ⟨by decide, by decide, rfl, by decide⟩

/-- `SendData(msg); Flush()` on a connection in ANY state with write buffers
of ANY size `cap ≥ 4`: the blocks handed to the writer concatenate to what was
pending, the 4-byte length and the message — whatever the number of blocks —,
nothing stays pending, and no block exceeds the buffer. -/
theorem C20_wire_frame (cap : Nat) (hcap : 4 ≤ cap) (c : WConn) (h : c.WF cap) (msg : List UInt8) :
    (c.sendMsg cap msg).written.flatten = c.stream ++ be32 msg.length ++ msg ∧
    (c.sendMsg cap msg).pending = [] ∧
    ∀ b ∈ (c.sendMsg cap msg).written, b.length ≤ cap := by
  obtain ⟨h1, h2, h3⟩ := sendMsg_spec cap hcap c msg h
  exact ⟨h1, h2, h3.1⟩

/-- The bytes on the wire do not depend on the size of the write buffer. -/
theorem C20_wire_buffer_independent (cap₁ cap₂ : Nat) (h1 : 4 ≤ cap₁) (h2 : 4 ≤ cap₂) (msg : List UInt8) :
    frame cap₁ msg = frame cap₂ msg := by
  rw [frame_eq cap₁ h1, frame_eq cap₂ h2]

/-- The wire bytes of one call through write buffers of size `cap`: for a
non-empty vector the length prefix `32·m` and `pack32` of the call's own `ys`
(receiver to sender) resp. of the `us` the receiver decodes (sender to
receiver); nothing for the empty vector. -/
def WireRel (cap : Nat) (c : Vole.Call) (s : Session) : Prop :=
  ∃ ym um, pack32 c.ys = some ym ∧ pack32 s.us = some um ∧
    wireOf cap c.ys.length s.ymsg = (if c.ys.length = 0 then [] else be32 (32 * c.ys.length) ++ ym) ∧
    wireOf cap c.xs.length s.umsg = (if c.xs.length = 0 then [] else be32 (32 * c.xs.length) ++ um)

/-- One call of any length in any state, through write buffers of any size
`cap ≥ 4`: the share relation holds at EVERY index and the wire bytes are the
framed packed vectors. -/
theorem C20_vole_step_wire (prg : BitVec 128 → Nat) (cot : Nat → BitVec 128) (st : St) (c : Vole.Call)
    (h : c.Ok) (cap : Nat) (hcap : 4 ≤ cap) :
    ∃ s, mulStep prg cot st c = .ok (⟨st.pos + roundUp8 c.xs.length⟩, s) ∧ ShareRel c s ∧ WireRel cap c s ∧
      s.ymsg.length = 32 * c.xs.length ∧ s.umsg.length = 32 * c.xs.length := by
  obtain ⟨s, hs, hrel, h1, h2, h3, h4⟩ := mulStep_spec prg cot st c h
  exact ⟨s, hs, hrel, ⟨s.ymsg, s.umsg, h1, h2, wireOf_eq cap hcap _ (h.2.2.1 ▸ h3), wireOf_eq cap hcap _ h4⟩, h3, h4⟩

/-- Histories on the wire.  For every write-buffer size `cap ≥ 4`, every
history of admissible calls of ANY lengths on one pair (a vector of several
buffer blocks after a short one and vice versa): every call satisfies the
share relation at every index, and its wire bytes are the length prefix and
the packed vector of that call — the same bytes for every `cap`. -/
theorem C20_vole_session_wire (prg : BitVec 128 → Nat) (cot : Nat → BitVec 128) (st : St)
    (calls : List Vole.Call) (h : ∀ c ∈ calls, c.Ok) (cap : Nat) (hcap : 4 ≤ cap) :
    ∃ st' ss, runCalls prg cot st calls = .ok (st', ss) ∧
      Forall2 (fun c s => ShareRel c s ∧ WireRel cap c s) calls ss := by
  obtain ⟨ss, hs, hr⟩ := runCalls_of_step prg cot (fun c s => ShareRel c s ∧ WireRel cap c s)
    (fun st c hc => by
      obtain ⟨s, h1, h2, h3, _⟩ := C20_vole_step_wire prg cot st c hc cap hcap
      exact ⟨s, h1, h2, h3⟩) calls st h
  exact ⟨_, ss, hs, hr⟩

/-- Beyond one transport block.  A call whose framed vector does not fit into
`k` write buffers (`k·cap < 4 + 32·m`) leaves in more than `k` blocks in both
directions, and still the share relation holds at every index — in particular
at the indices whose bytes travel in the second and later blocks — and the
wire bytes are the framed packed vectors. -/
theorem C20_vole_beyond_blocks (prg : BitVec 128 → Nat) (cot : Nat → BitVec 128) (st : St) (c : Vole.Call)
    (h : c.Ok) (cap : Nat) (hcap : 4 ≤ cap) (k : Nat) (hbig : k * cap < 4 + 32 * c.xs.length) :
    ∃ s, mulStep prg cot st c = .ok (⟨st.pos + roundUp8 c.xs.length⟩, s) ∧ ShareRel c s ∧ WireRel cap c s ∧
      k < (wireBlocks cap s.ymsg).length ∧ k < (wireBlocks cap s.umsg).length := by
  obtain ⟨s, h1, h2, h3, h4, h5⟩ := C20_vole_step_wire prg cot st c h cap hcap
  exact ⟨s, h1, h2, h3, wireBlocks_count cap hcap _ k (h4 ▸ hbig), wireBlocks_count cap hcap _ k (h5 ▸ hbig)⟩

/-- The instance of the code's constants: with the 64 KiB write buffer every
vector of at least 2048 elements takes at least two blocks, and the relation
holds at every index `i < m`, the indices `i ≥ 2047` of the later blocks
included. -/
theorem C20_vole_beyond_64k (prg : BitVec 128 → Nat) (cot : Nat → BitVec 128) (st : St) (c : Vole.Call)
    (h : c.Ok) (hm : 2048 ≤ c.xs.length) :
    ∃ s, mulStep prg cot st c = .ok (⟨st.pos + roundUp8 c.xs.length⟩, s) ∧
      2 ≤ (wireBlocks 65536 s.ymsg).length ∧ 2 ≤ (wireBlocks 65536 s.umsg).length ∧ WireRel 65536 c s ∧
      ∀ i, 2047 ≤ i → i < c.xs.length → ∃ r u x y,
        s.rs[i]? = some r ∧ s.us[i]? = some u ∧ c.xs[i]? = some x ∧ c.ys[i]? = some y ∧
        (u + c.p - r) % c.p = (x * y) % c.p := by
  obtain ⟨s, h1, h2, h3, h4, h5⟩ := C20_vole_beyond_blocks prg cot st c h 65536 (by decide) 1
    (Nat.lt_of_lt_of_le (by decide : 1 * 65536 < 4 + 32 * 2048) (Nat.add_le_add_left (Nat.mul_le_mul_left 32 hm) 4))
  refine ⟨s, h1, h4, h5, h3, ?_⟩
  intro i _ hi
  obtain ⟨r, u, x, y, a1, a2, a3, a4, _, _, _, a8⟩ := h2.2.2 i hi
  exact ⟨r, u, x, y, a1, a2, a3, a4, a8⟩

/-- A connection state with pending data satisfies the buffer invariant, and
the writer really splits: 70 bytes through a 36-byte buffer behind 3 pending
bytes leave as 36 + 36 + 5 bytes. -/
example : (⟨[], [1, 2, 3]⟩ : WConn).WF 36 := ⟨by simp, by decide⟩

example : (((⟨[], [1, 2, 3]⟩ : WConn).sendMsg 36 (List.replicate 70 7)).written.map List.length) = [36, 36, 5] := by
  decide +kernel

/-- The same message through buffers of 36, 40 and 65536 bytes: 2, 2 and 1
blocks, one byte stream. -/
example : ((wireBlocks 36 (List.replicate 64 9)).length, (wireBlocks 40 (List.replicate 64 9)).length,
    (wireBlocks 65536 (List.replicate 64 9)).length) = (2, 2, 1) ∧
    frame 36 (List.replicate 64 9) = frame 65536 (List.replicate 64 9) := by decide +kernel

/-- A history whose second call is longer than one block of a 36-byte buffer
(3 elements = 100 framed bytes = 3 blocks) after a one-element call: shares
and wire bytes as the theorem says. -/
example : (runCalls (fun l => l.toNat) (fun i => BitVec.ofNat 128 (1000003 * (i + 1))) ⟨0⟩
    [⟨[2], [1], 3⟩, ⟨[5, 6, 250], [250, 0, 250], 251⟩]).toOption.map
      (fun r => r.2.map (fun s => (s.us, (wireBlocks 36 s.ymsg).map List.length, (frame 36 s.ymsg).take 5))) =
    some [([0], [36], [0, 0, 0, 32, 0]), ([166, 190, 210], [36, 36, 28], [0, 0, 0, 96, 0])] := by decide +kernel

/-- Hypotheses of `C20_vole_beyond_64k` / `C20_vole_beyond_blocks` are
satisfiable: a 2048-element call does not fit one 64 KiB buffer. -/
example : ∃ c : Vole.Call, c.Ok ∧ 2048 ≤ c.xs.length ∧ 1 * 65536 < 4 + 32 * c.xs.length :=
  ⟨⟨List.replicate 2048 1, List.replicate 2048 1, 7⟩,
    ⟨by decide, by decide, by simp only [List.length_replicate],
      fun y hy => by have := List.eq_of_mem_replicate hy; omega⟩,
    by dsimp only; rw [List.length_replicate]; omega, by dsimp only; rw [List.length_replicate]; omega⟩

/-- `Label.FromOT(Label.ToOT(l)) = l` for every 32-bit label. -/
theorem C20_toOT_fromOT (l : BLabel) : fromOT (toOT l) = l := fromOT_toOT l

/-- Bit multiplication: for `a, b ∈ {0,1}`, every random label and every OT
satisfying `OtSpec`, the two returned bits XOR to `a·b`, and both are bits. -/
theorem C20_fx_shares (ot : OtFun (BitVec 128)) (h : OtSpec ot) (rl : BLabel) (a b : Nat)
    (ha : a ≤ 1) (hb : b ≤ 1) :
    (fx ot rl a b).r ^^^ (fx ot rl a b).xb = a * b ∧ (fx ot rl a b).r ≤ 1 ∧ (fx ot rl a b).xb ≤ 1 := by
  refine ⟨?_, Bool.toNat_le _, Bool.toNat_le _⟩
  rw [fx_general ot h]
  rcases Nat.le_one_iff_eq_zero_or_eq_one.mp ha with rfl | rfl <;>
    rcases Nat.le_one_iff_eq_zero_or_eq_one.mp hb with rfl | rfl <;> rfl

/-- The same for arbitrary `uint` operands, as the code behaves: the shares
recombine to `(a mod 2)·[b = 1]`. -/
theorem C20_fx_general (ot : OtFun (BitVec 128)) (h : OtSpec ot) (rl : BLabel) (a b : Nat) :
    (fx ot rl a b).r ^^^ (fx ot rl a b).xb = (a % 2) * (if b = 1 then 1 else 0) :=
  fx_general ot h rl a b

/-- Bit-times-string: for every string `s`, every random label `r` and every
OT satisfying `OtSpec`, the two returned labels XOR to `s` if `b = 1` and to
zero otherwise (in particular for `b = 0`). -/
theorem C20_fxk_shares (ot : OtFun (BitVec 128)) (h : OtSpec ot) (r s : BLabel) (b : Nat) :
    (fxk ot r s b).r ^^^ (fxk ot r s b).xb = if b = 1 then s else 0#32 := by
  simp only [fxk, fxkRecvOut, otSpec_single h, fxkWire]
  by_cases hb : b = 1
  · simp [hb, fromOT_toOT, lxor, ← BitVec.xor_assoc]
  · simp [hb, fromOT_toOT]

/-- Histories of gadget calls over ONE OT instance (as `bmr` runs them over a
peer's `otSender` / `otReceiver`): every call of every history of in-domain
calls returns XOR shares of its own product. -/
theorem C20_fx_session (ot : OtFun (BitVec 128)) (h : OtSpec ot) (cs : List GCall)
    (hd : ∀ c ∈ cs, c.Ok) : Forall2 GShares cs (runGadgets ot cs) := by
  induction cs with
  | nil => exact .nil
  | cons c cs ih =>
    refine .cons ?_ (ih fun d hd' => hd d (by simp [hd']))
    have hc := hd c (by simp)
    cases c with
    | fx rl a b => exact C20_fx_shares ot h rl a b hc.1 hc.2
    | fxk r s b => exact C20_fxk_shares ot h r s b

/-- The OT specification is satisfiable (ideal OT), so the Fx theorems are not
vacuous; concrete runs. -/
theorem C20_idealOt_spec : OtSpec idealOt := fun _ _ _ => rfl

example : ((fx idealOt 0x01ab00ff#32 1 1).r, (fx idealOt 0x01ab00ff#32 1 1).xb) = (1, 0) := by decide
example : ((fxk idealOt 0xdeadbeef#32 0x12345678#32 1).xb) = 0xdeadbeef#32 ^^^ 0x12345678#32 := by decide

end Mpc
