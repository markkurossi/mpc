/-
C16  Garbler never reports a wrong result under message corruption — the
authenticity half, in the symbolic (free-hash, Dolev-Yao) model of C04.

FULL PROPERTY (C16).  An honest garbler runs a session of the two-party
protocol on a well-formed circuit.  Whatever happens to the transcript — any
corruption of any message in either direction, any behaviour of the party that
plays the evaluator — the garbler either reports an error or returns exactly
the plain evaluation of the circuit on (its input, the evaluator's OT choices).

`Props/C16.lean` reduces this, for ARBITRARY received labels and in every label
algebra, to one statement: a wrong value implies that some received output label
equals `honestLabel ⊕ r`, the OTHER label of that output wire
(`C16_wrong_imp_offset`).  What remained — "nobody but the garbler can produce
the other label of an output wire" — is the authenticity of the garbling scheme.
This file proves it SYMBOLICALLY and composes: `Derivable` (Proofs/SymAuth.lean)
is the knowledge of a Dolev-Yao adversary that holds the evaluator's whole view,
for ANY choice bits `y`; on every defined wire the other label is not derivable
(`C16_symbolic_authenticity`), so a result loop fed derivable labels reports an
error or returns exactly `p.c.compute (x ++ y)` (`C16_symbolic_no_wrong_result`).

WHAT THE SYMBOLIC MODEL IDEALISES (and what therefore is NOT proved here).
  * Labels are formal GF(2)-combinations of atoms `R | inp i | h1 t c | h2 t c c'`
    with a separate select bit; the hash is a FREE function: a query returns the
    atom named by the tweak and the CODE of the argument(s); the coding is
    faithful on finitely supported labels (`CodeFaithful`: equal codes only for
    equal combinations) and separates `x` from `x ⊕ R` (`Separates`, the C04
    hypothesis).  A total injective coding cannot exist (`SymL Code` has at least
    `2^Code` elements), which is why faithfulness is asked on finitely supported
    labels only; every label of a garbling and every derivable label is finitely
    supported (`session`, `Derivable.killed`).  `termCode` is a coding with both
    properties.
  * The adversary is limited to XOR, select-bit setting, fresh atoms and hashing.
    No bit-level operation on labels, no inverting of the hash, no use of its internal
    structure, no GUESSING of a 127-bit value: in the symbolic model the other label
    is underivable with certainty, in reality it is unguessable except with
    probability about 2^-127 per attempt and only if AES-based `H` behaves like
    a correlation-robust hash.
  * The OT is ideal (delivers exactly the chosen label; C06).
  The computational statement (authenticity with overwhelming probability over
  `r` for the concrete AES-based hash) stays OUTSIDE Lean; on the real code it is
  covered by the fault enumeration of checks/C16.py.
-/
import MpcVerif.Proofs.SymAuth
import MpcVerif.Props.C16
import MpcVerif.Props.C02

namespace Mpc.Sym
open Mpc LabelAlg
variable {Code : Type}

structure SymModel (σ : Atom Code → Bool) (code : SymL Code → Code) : Prop where
  /-- `Garble` forces the select bit of the offset (`SetS(true)`) -/
  selR : σ .R = true
  sep : Separates σ code
  faithful : CodeFaithful code

noncomputable abbrev symGarbling (σ : Atom Code → Bool) (code : SymL Code → Code) (p : Circuit2) :
    Garbled (SymL Code) :=
  p.c.garble (symHash σ code) (symR σ) (symInl σ)

def AdvKnows (σ : Atom Code → Bool) (code : SymL Code → Code) (p : Circuit2) (key : List UInt8)
    (x y : List Bool) : SymL Code → Prop :=
  Derivable σ code p.c.nIn (evaluatorView p key (symGarbling σ code p) x y)

noncomputable def honestLabel (σ : Atom Code → Bool) (code : SymL Code → Code) (p : Circuit2)
    (x y : List Bool) (w : Nat) : SymL Code :=
  ((symGarbling σ code p).wires.get w).labelFor ((p.c.plainEval (x ++ y)).get w)

/-- **C16, authenticity (symbolic).**  For every well-formed two-party circuit,
all inputs, every symbolic garbling randomness (`σ`: any valuation of the select
bits) and every hash model of the family: on every defined wire — in particular
on every output wire — the OTHER label of the wire, `honestLabel ⊕ R`, is not
derivable from the evaluator's view.  (Both forms: `⊕ R` and "label of the
complemented value".) -/
theorem C16_symbolic_authenticity (σ : Atom Code → Bool) (code : SymL Code → Code)
    (hm : SymModel σ code) (p : Circuit2) (hwf : p.WF = true) (key : List UInt8)
    (x y : List Bool) (hx : x.length = p.n0) (w : Nat) (hw : p.c.defined w = true) :
    ¬ AdvKnows σ code p key x y (honestLabel σ code p x y w ^^^ symR σ) ∧
    ¬ AdvKnows σ code p key x y
        (((symGarbling σ code p).wires.get w).labelFor (!(p.c.plainEval (x ++ y)).get w)) := by
  obtain ⟨S, hR, hW, hD⟩ := derivable_phi σ hm.selR code hm.sep hm.faithful p hwf key x y hx
  obtain ⟨h1, hp⟩ := hW w hw
  have hother : phi S (honestLabel σ code p x y w ^^^ symR σ) = true := by
    rw [phi_xor, honestLabel, phi_labelFor S _ h1 hR, hp, hR, bne_self_eq_false]
    rfl
  refine ⟨fun hk => ?_, fun hk => ?_⟩
  · cases hother.symm.trans (hD _ hk)
  · rw [WireL.labelFor_not h1] at hk
    cases hother.symm.trans (hD _ hk)

theorem output_defined (p : Circuit2) (hwf : p.WF = true) (i : Nat) (hi : i < p.c.nOut) :
    p.c.defined (p.c.numWires - p.c.nOut + i) = true := by
  simp only [Circuit2.WF, Bool.and_eq_true, decide_eq_true_eq] at hwf
  obtain ⟨_, hod⟩ := hwf
  simp only [Circuit.outputsDefined, List.all_eq_true, List.mem_range] at hod
  exact hod i hi

/-- The offset itself is not derivable (C04's "R is not in the span of the view"
extended from XOR to the full closure with hashing). -/
theorem C16_symbolic_offset_not_derivable (σ : Atom Code → Bool) (code : SymL Code → Code)
    (hm : SymModel σ code) (p : Circuit2) (hwf : p.WF = true) (key : List UInt8)
    (x y : List Bool) (hx : x.length = p.n0) :
    ¬ AdvKnows σ code p key x y (symR σ) := by
  obtain ⟨S, hR, _, hD⟩ := derivable_phi σ hm.selR code hm.sep hm.faithful p hwf key x y hx
  exact fun hk => by cases hR.symm.trans (hD _ hk)

theorem accepted_labels {L : Type} [LabelAlg L] [DecidableEq L] (p : Circuit2) (G : Garbled L)
    (ls : List L) (bs : List Bool) (h : garblerDecode p G 0 ls = .ok bs) :
    bs.length = ls.length ∧ ∀ i (hi : i < ls.length) (hb : i < bs.length),
      ls[i] = (G.wires.get (p.c.numWires - p.c.nOut + i)).labelFor bs[i] := by
  have hd : decodeLabels ((List.range' 0 ls.length).map fun j =>
      G.wires.get (p.c.numWires - p.c.nOut + j)) ls = .ok bs := by
    have : some bs = _ := h ▸ C16_garblerDecode_eq p G ls 0
    split at this
    · next hd => rw [hd, Option.some.inj this]
    · cases this
  obtain ⟨hbl, hall⟩ := C16_ok_imp_known_labels _ ls bs (by simp) hd
  refine ⟨hbl, fun i hi hb => ?_⟩
  have := hall i hi (by simpa using hi) hb
  simp only [List.getElem_map, List.getElem_range', Nat.zero_add, Nat.one_mul] at this
  rcases this with ⟨hl, hb⟩ | ⟨hl, hb⟩ <;> rw [hl, hb] <;> rfl

/-- **C16 (symbolic): no wrong result.**  Honest garbler, well-formed circuit,
any inputs, any symbolic randomness, any hash model of the family.  Let `ls` be
the `nOut` labels the garbler receives for the outputs.  If each of them is
derivable from the evaluator's view — i.e. was produced by ANY Dolev-Yao
adversary sitting on the channel and/or playing the evaluator, whatever it did
to the messages of either direction — then the garbler's result loop either
reports an error or returns exactly the plain evaluation of the circuit. -/
theorem C16_symbolic_no_wrong_result [DecidableEq (SymL Code)] (σ : Atom Code → Bool)
    (code : SymL Code → Code) (hm : SymModel σ code) (p : Circuit2) (hwf : p.WF = true)
    (key : List UInt8) (x y : List Bool) (hx : x.length = p.n0) (ls : List (SymL Code))
    (hlen : ls.length = p.c.nOut) (hadv : ∀ l ∈ ls, AdvKnows σ code p key x y l) :
    (∃ e, garblerDecode p (symGarbling σ code p) 0 ls = .error e) ∨
    garblerDecode p (symGarbling σ code p) 0 ls = .ok (p.c.compute (x ++ y)) := by
  cases hgd : garblerDecode p (symGarbling σ code p) 0 ls with
  | error e => exact Or.inl ⟨e, rfl⟩
  | ok bs =>
    right
    congr 1
    obtain ⟨hbl, hall⟩ := accepted_labels p _ ls bs hgd
    refine List.ext_getElem (by simp [hbl, hlen]) fun i hb _ => ?_
    have hi : i < ls.length := hbl ▸ hb
    have hci : (p.c.compute (x ++ y))[i] = (p.c.plainEval (x ++ y)).get (p.c.numWires - p.c.nOut + i) := by
      simp [Circuit.compute_eq]
    rw [hci]
    -- a returned bit other than the plain one was decoded from the other label of the wire
    refine Classical.byContradiction fun hne => ?_
    have hk := hadv _ (List.getElem_mem hi)
    rw [hall i hi hb, Bool.eq_not_of_ne hne] at hk
    exact (C16_symbolic_authenticity σ code hm p hwf key x y hx _
      (output_defined p hwf i (by omega))).2 hk

/-- **The honest run satisfies the hypothesis and lands in the `.ok` branch.**
For every well-formed circuit and all inputs: the labels the honest evaluator
returns (its `Circuit.Eval` on the tables, the garbler's input labels and the OT
results it received) are `nOut` derivable labels, and the garbler decodes them to
the plain evaluation of the circuit. -/
theorem C16_symbolic_honest_run [DecidableEq (SymL Code)] (σ : Atom Code → Bool) (hσ : σ .R = true)
    (code : SymL Code → Code) (p : Circuit2) (hwf : p.WF = true) (key : List UInt8)
    (x y : List Bool) (hx : x.length = p.n0) :
    ∃ ls, evaluatorEval p (symHash σ code) (symGarbling σ code p).rows
        (garblerInputLabels p (symGarbling σ code p) x) (otLabels p (symGarbling σ code p).wires y) = .ok ls ∧
      ls.length = p.c.nOut ∧ (∀ l ∈ ls, AdvKnows σ code p key x y l) ∧
      garblerDecode p (symGarbling σ code p) 0 ls = .ok (p.c.compute (x ++ y)) := by
  obtain ⟨hE, hD⟩ := honest_session p hwf (symHash σ code) (symR σ) (symR_sbit σ hσ) (symInl σ) x y hx
    (otLabels p (symGarbling σ code p).wires y) (zipWith_labelFor ..)
  exact ⟨_, hE, length_resultLabels ..,
    Derivable.evaluatorEval p _ _ _ _ (fun _ hrow _ hr => .view (mem_view_of_row p key _ x y hrow hr))
      (fun _ hl => .view (mem_view_of_input p key _ x y hl)) hE, hD⟩

theorem xor_left_cancel' {L : Type} [LabelAlg L] (a b c : L) (h : a ^^^ b = a ^^^ c) : b = c := by
  have : a ^^^ (a ^^^ b) = a ^^^ (a ^^^ c) := by rw [h]
  simpa using this

/-- **A corrupted but derivable label takes the error branch.**  Whatever the
other received labels are: if the label received for output `i` is the honest
label XOR any non-zero derivable value (a table row, a fresh label, a hash of
anything the adversary holds, the difference caused by evaluating on a modified
table, ...), the result loop reports an error. -/
theorem C16_symbolic_perturbed_is_error [DecidableEq (SymL Code)] (σ : Atom Code → Bool)
    (code : SymL Code → Code) (hm : SymModel σ code) (p : Circuit2) (hwf : p.WF = true)
    (key : List UInt8) (x y : List Bool) (hx : x.length = p.n0) (ls : List (SymL Code))
    (hlen : ls.length = p.c.nOut) (i : Nat) (hi : i < ls.length) (δ : SymL Code)
    (hδ : AdvKnows σ code p key x y δ) (hne : δ ≠ LabelAlg.zero)
    (hls : ls[i] = honestLabel σ code p x y (p.c.numWires - p.c.nOut + i) ^^^ δ) :
    ∃ e, garblerDecode p (symGarbling σ code p) 0 ls = .error e := by
  cases hgd : garblerDecode p (symGarbling σ code p) 0 ls with
  | error e => exact ⟨e, rfl⟩
  | ok bs =>
    exfalso
    obtain ⟨hbl, hall⟩ := accepted_labels p _ ls bs hgd
    have hacc := hall i hi (hbl ▸ hi)
    obtain ⟨_, _, hW, _⟩ := derivable_phi σ hm.selR code hm.sep hm.faithful p hwf key x y hx
    have h1 := (hW _ (output_defined p hwf i (by omega))).1
    rw [hls, honestLabel] at hacc
    -- the accepted label is the honest one (`δ = 0`) or the other one (`δ` is the offset)
    by_cases hb : bs[i]'(hbl ▸ hi) = (p.c.plainEval (x ++ y)).get (p.c.numWires - p.c.nOut + i)
    · rw [hb] at hacc
      exact hne (xor_left_cancel' _ _ _ (hacc.trans (xor_zero' _).symm))
    · rw [Bool.eq_not_of_ne hb, WireL.labelFor_not h1] at hacc
      exact C16_symbolic_offset_not_derivable σ code hm p hwf key x y hx (xor_left_cancel' _ _ _ hacc ▸ hδ)

def σ1 : Atom TCode → Bool := fun _ => true

/-- The hypotheses on the model are satisfiable. -/
theorem model1 : SymModel σ1 termCode := ⟨rfl, termCode_separates σ1 rfl, termCode_faithful⟩

example : procExample.WF = true := by decide

/-- The view of the example session is not empty: two table rows, one garbler
input label, one OT result. -/
example : (evaluatorView procExample [] (symGarbling σ1 termCode procExample) [false] [true]).length = 4 := by
  rw [evaluatorView_eq]
  rfl

open Classical in
/-- All hypotheses of `C16_symbolic_no_wrong_result` hold simultaneously on the
example (inputs 1 AND 1), with the honest evaluator's labels, and the theorem's
conclusion is its `.ok` branch with the correct value `[true]`. -/
example : ∃ ls : List (SymL TCode), ls.length = procExample.c.nOut ∧
    (∀ l ∈ ls, AdvKnows σ1 termCode procExample [] [true] [true] l) ∧
    garblerDecode procExample (symGarbling σ1 termCode procExample) 0 ls = .ok [true] := by
  obtain ⟨ls, _, h1, h2, h3⟩ := C16_symbolic_honest_run σ1 rfl termCode procExample (by decide) []
    [true] [true] rfl
  refine ⟨ls, h1, h2, ?_⟩
  rw [h3]
  have : procExample.c.compute ([true] ++ [true]) = [true] := by decide +kernel
  rw [this]

theorem sbit_atom (σ : Atom Code → Bool) (a : Atom Code) : sbit (atom σ a) = σ a := rfl

open Classical in
theorem atom_ne_zero (σ : Atom Code → Bool) (a : Atom Code) : atom σ a ≠ (LabelAlg.zero : SymL Code) := by
  intro h
  have : (atom σ a).f a = (LabelAlg.zero : SymL Code).f a := by rw [h]
  rw [atom_f, zero_f] at this
  simp at this

/-- Evaluating the example's AND gate (inputs 0 AND 0, so both active labels
have select bit 1 and both table rows are used) with the SECOND TABLE ROW
CORRUPTED by `δ` yields the honest output label XOR `δ`. -/
theorem corrupted_row_eval (δ : SymL TCode) :
    ∃ tg te out, (symGarbling σ1 termCode procExample).rows = [[tg, te]] ∧
      evaluatorEval procExample (symHash σ1 termCode) [[tg, te ^^^ δ]]
        (garblerInputLabels procExample (symGarbling σ1 termCode procExample) [false])
        (otLabels procExample (symGarbling σ1 termCode procExample).wires [false]) = .ok [out] ∧
      out = honestLabel σ1 termCode procExample [false] [false] 2 ^^^ δ := by
  refine ⟨_, _, _, rfl, rfl, ?_⟩
  -- the reordering, on variables: the labels it is used for are large terms
  have hac : ∀ x y t a : SymL TCode, x ^^^ (y ^^^ (t ^^^ δ) ^^^ a) = x ^^^ (y ^^^ t ^^^ a) ^^^ δ :=
    fun x y t a => by simp only [xor_assoc', xor_comm' a δ]
  simp [honestLabel, symGarbling, Circuit.garble, garbleGates, garbleGate, garbleCore, procExample,
    initStore, garblerInputLabels, otLabels, Store.get, Store.set, Circuit.plainEval, evalPlainGates,
    Gate.evalPlain, WireL.labelFor, symHash, symInl, sbit_atom, σ1, Op.eval]
  exact hac _ _ _ _

open Classical in
/-- **Corrupting a table row: derivable, unknown, error.**  On the example
session (0 AND 0) the channel adversary adds a fresh label of its own to the
second row of the garbled table; the evaluator evaluates honestly on what it
received and returns `out`.  `out` is derivable (so the hypothesis of
`C16_symbolic_no_wrong_result` holds for `[out]`), it is neither of the output
wire's two labels, and the garbler's result loop reports an error. -/
theorem C16_symbolic_corrupted_row_is_error :
    ∃ tg te out, (symGarbling σ1 termCode procExample).rows = [[tg, te]] ∧
      evaluatorEval procExample (symHash σ1 termCode) [[tg, te ^^^ atom σ1 (.inp 7)]]
        (garblerInputLabels procExample (symGarbling σ1 termCode procExample) [false])
        (otLabels procExample (symGarbling σ1 termCode procExample).wires [false]) = .ok [out] ∧
      AdvKnows σ1 termCode procExample [] [false] [false] out ∧
      ∃ e, garblerDecode procExample (symGarbling σ1 termCode procExample) 0 [out] = .error e := by
  obtain ⟨tg, te, out, hrows, hev, hout⟩ := corrupted_row_eval (atom σ1 (.inp 7))
  have hδ : AdvKnows σ1 termCode procExample [] [false] [false] (atom σ1 (.inp 7)) :=
    Derivable.fresh 7 (by decide)
  have hview : ∀ r ∈ [tg, te], AdvKnows σ1 termCode procExample [] [false] [false] r :=
    fun r hr => .view (mem_view_of_row _ _ _ _ _ (hrows ▸ List.mem_singleton_self _) hr)
  refine ⟨tg, te, out, hrows, hev, ?_, ?_⟩
  · refine Derivable.evaluatorEval procExample _ _ _ _ ?_ (fun _ hl => .view (mem_view_of_input _ _ _ _ _ hl))
      hev out (List.mem_singleton_self _)
    intro row hrow r hr
    cases List.mem_singleton.1 hrow
    rcases List.mem_cons.1 hr with rfl | hr
    · exact hview _ List.mem_cons_self
    · cases List.mem_singleton.1 hr
      exact (hview _ (List.mem_cons_of_mem _ List.mem_cons_self)).xor hδ
  · exact C16_symbolic_perturbed_is_error σ1 termCode model1 procExample (by decide) [] [false] [false]
      rfl [out] rfl 0 (by simp) (atom σ1 (.inp 7)) hδ (atom_ne_zero _ _) hout

end Mpc.Sym
