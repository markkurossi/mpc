/-
C09  Compiler options and targets never change a program's meaning.

FULL STATEMENT (not a Lean theorem: `compile` is the real Go compiler):
    ∀ program p, ∀ configurations k₁ k₂ ∈ {prune on/off} × {multiplier
    threshold} × {Yao, GMW}, ∀ input x,
      (compile p k₁).compute x = (compile p k₂).compute x.
Read literally it is false on the current tree: the two targets differ on a
division by ZERO (`C09_target_equivalence_fails`), which is outside the defined
meaning of a program.

What is proved (level: translation validation):
* the executable checker `checkRefines` is sound (`C09_checker_sound`); the check script feeds it the
  real compiler's output before and after ConstPropagate / ShortCircuitXORZero / Prune / renumbering
  for every generated program;
* a topological reordering of a single-assignment circuit leaves the value of every wire unchanged
  (`C09_perm_eval`), and `Compile`'s stable sort by (breadth-first level, AND first), the stable sort
  by `AssignLevels` levels and the GMW evaluator's schedule are such reorderings (`C09_levels`,
  `C09_levels_yao`, `C09_gmw_schedule`) - with levels in `Nat`; with the level in a `k`-bit field only
  while no level reaches `2^k` (`C09_levels_bounded`, `C09_wrapped_levels_not_topological`,
  `C09_wrapped_levels_wrong_output`);
* direct models (`Model/Passes.lean`) of the four passes over the builder-level gate/wire graph
  preserve the graph's input-to-output function (`C09_constPropagate_preserves` ..
  `C09_pipeline_preserves`), under hypotheses that proved executable checkers establish
  (`C09_wf_checkers_sound`).  Every model is tied to the real pass on every run (same post-pass graph,
  wire for wire).  Only `Compile`'s breadth-first numbering is validated per run instead of proved in
  general.
Multiplier thresholds and targets: at operator level in Props/C09Builders.lean, for whole SSA programs in
Props/C09Programs.lean; for compiled circuits the check compares the configurations by simulation.
-/
import MpcVerif.Proofs.PassCompile
import MpcVerif.Proofs.PassWF
import MpcVerif.Proofs.LevelsWrap

namespace Mpc

/-- Soundness of the translation-validation checker: an accepted pair of
circuits computes the same output bits on every input.  `witC`, `witC'` are
the untrusted witnesses (any arrays). -/
theorem C09_checker_sound (C C' : Circuit) (witC witC' : Array Nat)
    (h : checkRefines C C' witC witC' = true) : ∀ x, C'.compute x = C.compute x :=
  checkRefines_sound C C' witC witC' h

/-- An accepted pair consists of two well-formed circuits (the guard `WF` of
the garbling theorems of C01), so the all-input equivalence transfers to
garbled evaluation. -/
theorem C09_checker_wf (C C' : Circuit) (witC witC' : Array Nat)
    (h : checkRefines C C' witC witC' = true) : C.WF = true ∧ C'.WF = true := by
  obtain ⟨_, _, hn, hn', ho, ho', _, _, _, _, hrun, hrun', _⟩ := checkRefines_runs C C' witC witC' h
  exact ⟨C.wf_of_ssa hn ho (C.pass_ssa hn hrun).1, C'.wf_of_ssa hn' ho' (C'.pass_ssa hn' hrun').1⟩

/-- The part of the full statement carried by a theorem: for every pair of
circuits the checker accepts (run on every raw / prune-off / prune-on pair of
every generated program), all inputs give equal outputs. -/
theorem C09_options_preserve_meaning_partial (C C' : Circuit) (witC witC' : Array Nat)
    (h : checkRefines C C' witC witC' = true) :
    (∀ x, C'.compute x = C.compute x) ∧ C.WF = true ∧ C'.WF = true :=
  ⟨C09_checker_sound C C' witC witC' h, C09_checker_wf C C' witC witC' h⟩

/-- A successful abstract-interpretation pass certifies single assignment
and topological order (the hypothesis `SSA` of the theorems below is
decidable by running `absRun`). -/
theorem C09_absRun_ssa (c : Circuit) (wit : Array Nat) (hn : c.nIn ≤ c.numWires)
    (h : (c.absRun wit).isSome = true) : SSA c.numWires c.gates c.inputDefined :=
  absRun_ssa c wit hn h

/-- Reordering: two single-assignment arrangements of the same gates, both
topologically ordered, give every wire the same value on every input. -/
theorem C09_perm_eval (c : Circuit) (gs' : List Gate)
    (hssa : SSA c.numWires c.gates c.inputDefined) (hp : gs'.Perm c.gates)
    (hwf' : wfFrom c.numWires gs' c.inputDefined = true) (x : List Bool) :
    (∀ w, (({ c with gates := gs' } : Circuit).plainEval x).get w = (c.plainEval x).get w) ∧
    ({ c with gates := gs' } : Circuit).compute x = c.compute x := by
  have hw : ∀ w, (({ c with gates := gs' } : Circuit).plainEval x).get w = (c.plainEval x).get w := by
    intro w
    simp only [Circuit.plainEval]
    exact perm_eval c.numWires c.gates gs' c.inputDefined _ (initStore_size _ _ _) hssa hp hwf' w
  exact ⟨hw, compute_congr c _ x rfl rfl hw⟩

/-- What every reordering theorem below concludes: a topologically ordered rearrangement of a
single-assignment circuit is single-assignment again and has the same value on every wire. -/
theorem Circuit.reorder (c : Circuit) (gs' : List Gate)
    (hssa : SSA c.numWires c.gates c.inputDefined) (hp : gs'.Perm c.gates)
    (hwf' : wfFrom c.numWires gs' c.inputDefined = true) (x : List Bool) :
    let c' : Circuit := { c with gates := gs' }
    SSA c'.numWires c'.gates c'.inputDefined ∧
    (∀ w, (c'.plainEval x).get w = (c.plainEval x).get w) ∧ c'.compute x = c.compute x :=
  ⟨hssa.perm hp hwf', C09_perm_eval c gs' hssa hp hwf' x⟩

/-- Sorting theorem at circuit level: stable merge sort of the gates (with
attached levels) by any total preorder under which every producer is below
its consumers yields a single-assignment, topologically ordered circuit with
the same value on every wire. -/
theorem C09_sort_topological (c : Circuit) (l : List (Gate × Nat)) (le : Gate × Nat → Gate × Nat → Bool)
    (trans : ∀ a b c, le a b → le b c → le a c) (total : ∀ a b, le a b || le b a)
    (hmap : l.map Prod.fst = c.gates) (hssa : SSA c.numWires c.gates c.inputDefined)
    (hdep : ∀ h a, List.Sublist [h, a] l → h.1.out ∈ a.1.ins → le h a = true) (x : List Bool) :
    let c' : Circuit := { c with gates := (l.mergeSort le).map Prod.fst }
    SSA c'.numWires c'.gates c'.inputDefined ∧
    (∀ w, (c'.plainEval x).get w = (c.plainEval x).get w) ∧ c'.compute x = c.compute x := by
  intro c'
  have hssa' : SSA c.numWires (l.map Prod.fst) c.inputDefined := by rw [hmap]; exact hssa
  have hwf' := sort_topological Prod.fst c.numWires le trans total l c.inputDefined hssa' hdep
  exact c.reorder _ hssa (hmap ▸ (List.mergeSort_perm l le).map _) hwf' x

/-- `Compiler.Compile` (GMW target) sorts the assigned gates stably by
(Level, AND first).  If the levels are strict (every gate input is a circuit
input or produced by a gate of strictly smaller level – what `Gate.Visit` /
`Gate.Assign` guarantee and the harness re-checks on every compiled circuit)
the sorted circuit is single-assignment, topologically ordered and computes
the same value on every wire. -/
theorem C09_levels (c : Circuit) (lv : List Nat) (hssa : SSA c.numWires c.gates c.inputDefined)
    (hlen : c.gates.length ≤ lv.length) (hstrict : strictLevels c.nIn (c.gates.zip lv) = true)
    (x : List Bool) :
    let c' : Circuit := { c with gates := (compileSort (c.gates.zip lv)).map Prod.fst }
    SSA c'.numWires c'.gates c'.inputDefined ∧
    (∀ w, (c'.plainEval x).get w = (c.plainEval x).get w) ∧ c'.compute x = c.compute x := by
  have hmap : (c.gates.zip lv).map Prod.fst = c.gates := List.map_fst_zip hlen
  refine C09_sort_topological c (c.gates.zip lv) compileLe (le_trans_of_key cKey _ compileLe_iff)
    (le_total_of_key cKey _ compileLe_iff) hmap hssa ?_ x
  intro h a hsub hw
  have ha : a ∈ c.gates.zip lv := hsub.subset (by simp)
  have hh : h ∈ c.gates.zip lv := hsub.subset (by simp)
  simp only [strictLevels, List.all_eq_true, Bool.or_eq_true, decide_eq_true_eq, List.any_eq_true,
    Bool.and_eq_true, beq_iff_eq] at hstrict
  have hhg : h.1 ∈ c.gates := by rw [← hmap]; exact List.mem_map_of_mem hh
  rcases hstrict a ha _ hw with hin | ⟨h', hh', hout, hlt⟩
  · exact absurd hin (Nat.not_lt.mpr ((c.inputDefined_eq_false _).mp (hssa.2.2 h.1 hhg)))
  · have hnd : ((c.gates.zip lv).map (fun p => p.1.out)).Nodup := by
      have := hssa.2.1
      rw [← hmap, List.map_map] at this
      exact this
    have : h' = h := eq_of_nodup_map _ _ hnd h' hh' h hh hout
    subst this
    exact (compileLe_iff h' a).mpr (cKey_mono h' a hlt)

/-! `C09_levels` is about levels in `Nat`; `circuits.Gate.Level` is a fixed-width
Go integer that `Gate.Visit` fills with `level` (truncated to the field's
width if the field is narrower than `int`).  `compileSortW k` is the sort
with a `k`-bit field.  The side condition under which the theorem transfers
to the code is that no level reaches `2^k`; beyond it the statement is false
for every `k`.  The harness measures the largest level of every compiled
circuit (`max_compile_level_*`), generates programs whose circuits are deeper
than `2^16` / `2^17` levels (extreme-shape class), and re-checks strictness
and topological order on the real compiled circuit of each (`topo` ops, the
proved checker `absRun`). -/

/-- **No-overflow side condition.**  While every level fits the `k`-bit
field, `Compile`'s sort on the stored levels is the sort of `C09_levels`:
topological, same value on every wire. -/
theorem C09_levels_bounded (k : Nat) (c : Circuit) (lv : List Nat)
    (hssa : SSA c.numWires c.gates c.inputDefined) (hlen : c.gates.length ≤ lv.length)
    (hstrict : strictLevels c.nIn (c.gates.zip lv) = true) (hb : ∀ l ∈ lv, l < 2 ^ k) (x : List Bool) :
    let c' : Circuit := { c with gates := (compileSortW k (c.gates.zip lv)).map Prod.fst }
    SSA c'.numWires c'.gates c'.inputDefined ∧
    (∀ w, (c'.plainEval x).get w = (c.plainEval x).get w) ∧ c'.compute x = c.compute x := by
  have hid : wrapLv k (c.gates.zip lv) = c.gates.zip lv :=
    wrapLv_id k _ (fun p hp => hb p.2 (List.of_mem_zip (a := p.1) (b := p.2) hp).2)
  simp only [compileSortW, hid]
  exact C09_levels c lv hssa hlen hstrict x

/-- **Beyond the bound the sort is not topological** (a family of witnesses,
one for every field width `k ≥ 1`).  The chain of `2^k + 1` dependent gates
satisfies every hypothesis of `C09_levels` – single assignment, topological
order, strict levels `0 … 2^k` – but after `Compile`'s stable sort by the
levels a `k`-bit field stores, the gate of true level `2^k` (stored level 0)
stands before the gate that drives it: the sorted list is rejected by
`wfFrom` and by the checker `absRun`, i.e. the sequential evaluators
(`Circuit.Compute`, the GMW evaluator) read a wire that has not been
computed yet. -/
theorem C09_wrapped_levels_not_topological (k : Nat) (hk : 0 < k) :
    let c := invChain (2 ^ k + 1)
    let lv := List.range (2 ^ k + 1)
    let c' : Circuit := { c with gates := (compileSortW k (c.gates.zip lv)).map Prod.fst }
    SSA c.numWires c.gates c.inputDefined ∧ c.gates.length ≤ lv.length ∧
    strictLevels c.nIn (c.gates.zip lv) = true ∧
    wfFrom c'.numWires c'.gates c'.inputDefined = false ∧ (c'.absRun #[]).isSome = false := by
  intro c lv c'
  have hnwf := wrapped_sort_not_wf k hk
  refine ⟨invChain_ssa _, by simp [c, lv, invChainGates_length], invChain_strict _, hnwf, ?_⟩
  refine Bool.eq_false_iff.mpr fun h => ?_
  exact absurd ((C09_absRun_ssa c' #[] (by simp [c', c]) h).1.symm.trans hnwf) (by decide)

/-- … **and the value is wrong**: on that chain the sorted gate list makes the
sequential evaluator output `true` for both inputs, while the circuit
computes `¬ x` (an odd number of negations).  So for every field width
`k ≥ 1` there is a circuit and an input (`x = true`) on which `Compile`'s
sort with a `k`-bit level field changes the result – the GMW target, the only
one that sorts, would differ from the Yao target. -/
theorem C09_wrapped_levels_wrong_output (k : Nat) (hk : 0 < k) :
    let c := invChain (2 ^ k + 1)
    let c' : Circuit := { c with gates := (compileSortW k (c.gates.zip (List.range (2 ^ k + 1)))).map Prod.fst }
    c'.compute [true] = [true] ∧ c.compute [true] = [false] ∧ c'.compute [true] ≠ c.compute [true] := by
  intro c c'
  obtain ⟨h1, h2⟩ := wrapped_sort_wrong_output k hk true
  exact ⟨h1, h2, fun e => absurd (h1.symm.trans (e.trans h2)) (by decide)⟩

/-- The driver evaluates circuits through an array-built initial store
(linear in the number of input bits); it is `Circuit.compute`. -/
theorem C09_computeArr_eq (c : Circuit) (x : List Bool) : c.computeArr x = c.compute x :=
  computeArr_eq c x

/-- Position form of the level property of `AssignLevels`: a consumer's level
is at least its producer's level plus 1 (Yao) resp. plus 1 for AND producers
(GMW, AND depth). -/
theorem C09_assignLevels_mono (c : Circuit) (gmw : Bool)
    (hssa : SSA c.numWires c.gates c.inputDefined) :
    ∀ pre a post, c.gates.zip (c.assignLevels gmw).1 = pre ++ a :: post →
    ∀ h ∈ pre, h.1.out ∈ a.1.ins → h.2 + bump gmw h.1 ≤ a.2 :=
  c.assignLevels_mono gmw hssa

/-- Sorting a single-assignment circuit stably by its `AssignLevels` levels,
under an order given by a numeric key that does not decrease from a producer
to its consumers, is a topological reordering. -/
theorem assignLevels_sort (c : Circuit) (gmw : Bool) (le : Gate × Nat → Gate × Nat → Bool)
    (key : Gate × Nat → Nat) (hle : ∀ a b, le a b = true ↔ key a ≤ key b)
    (hkey : ∀ h a : Gate × Nat, h.2 + bump gmw h.1 ≤ a.2 → key h ≤ key a)
    (hssa : SSA c.numWires c.gates c.inputDefined) (x : List Bool) :
    let c' : Circuit := { c with gates := ((c.gates.zip (c.assignLevels gmw).1).mergeSort le).map Prod.fst }
    SSA c'.numWires c'.gates c'.inputDefined ∧
    (∀ w, (c'.plainEval x).get w = (c.plainEval x).get w) ∧ c'.compute x = c.compute x :=
  c.reorder _ hssa (((List.mergeSort_perm _ le).map _).trans (.of_eq (c.zip_assignLevels_fst gmw)))
    (c.assignLevels_sort_wf gmw le key hle hkey hssa) x

/-- Sorting a single-assignment circuit stably by (`AssignLevels` Yao level,
AND first) is a topological reordering. -/
theorem C09_levels_yao (c : Circuit) (hssa : SSA c.numWires c.gates c.inputDefined) (x : List Bool) :
    let c' : Circuit :=
      { c with gates := (compileSort (c.gates.zip (c.assignLevels false).1)).map Prod.fst }
    SSA c'.numWires c'.gates c'.inputDefined ∧
    (∀ w, (c'.plainEval x).get w = (c.plainEval x).get w) ∧ c'.compute x = c.compute x :=
  assignLevels_sort c false compileLe cKey compileLe_iff cKey_mono hssa x

/-- The GMW evaluator (`gmw.Network.Run`) processes the gates level by level
of `AssignLevels(TargetGMW)` (AND depth), on each level first the non-AND
gates in circuit order and then the AND batch.  This schedule is a
topological reordering: every wire gets the value of in-order evaluation. -/
theorem C09_gmw_schedule (c : Circuit) (hssa : SSA c.numWires c.gates c.inputDefined) (x : List Bool) :
    let c' : Circuit :=
      { c with gates := (gmwSchedule (c.gates.zip (c.assignLevels true).1)).map Prod.fst }
    SSA c'.numWires c'.gates c'.inputDefined ∧
    (∀ w, (c'.plainEval x).get w = (c.plainEval x).get w) ∧ c'.compute x = c.compute x :=
  assignLevels_sort c true gmwLe gKey gmwLe_iff
    gKey_mono hssa x

/-! `Graph` (`Model/Passes.lean`) is the builder-level gate/wire graph of `circuits.Compiler` between
the passes; `Graph.compute` is its input-to-output function (values of
`cc.OutputWires`).  The pass models are tied to the real passes on every run:
the Lean pass applied to the dumped pre-pass graph must reproduce the dumped
post-pass graph gate for gate and wire for wire (values, fan-out counters,
output lists), see `pass` ops of the driver. -/

/-- `Compiler.ConstPropagate` (all rules: SetValue for decided gates,
ShortCircuit aliasing for XOR/OR with Zero and AND with One, replacement of
constant inputs by the zero/one wire) preserves the function of every
well-formed graph, for every input; the result is well-formed again. -/
theorem C09_constPropagate_preserves (G G' : Graph) (h : G.WFcp) (hr : G.constPropagate = some G') :
    G'.GWF ∧ ∀ x, G'.compute x = G.compute x :=
  Graph.constPropagate_preserves G G' h hr

/-- `Compiler.Prune` (dead-gate removal driven by the fan-out counters,
cascading from the last gate to the first) preserves the function of every
well-formed graph whose counters are not below the real fan-out and whose
output wires are flagged; the invariant holds again afterwards. -/
theorem C09_prune_preserves (G G' : Graph) (h : G.PInv) (hr : G.prune = some G') :
    G'.PInv ∧ ∀ x, G'.compute x = G.compute x := by
  obtain ⟨hp, _, hc⟩ := Graph.PInv.pruneLoop _ G G' (fun i hi => by simpa using hi) h hr
  exact ⟨hp, hc⟩

/-- `Compiler.ShortCircuitXORZero` (a producer whose only user is an XOR
with a Zero wire writes the XOR's output wire directly; the XOR gets a fresh,
unused output wire; the fan-out guard `NumOutputs() == 1` and the stale
`Input()` pointers are modelled) preserves the function of every well-formed
graph, for every input. -/
theorem C09_shortCircuit_preserves (G : Graph) (h : G.SCInv 0) :
    G.shortCircuitXORZero.SCBase ∧ ∀ x, G.shortCircuitXORZero.compute x = G.compute x := by
  unfold Graph.shortCircuitXORZero
  rw [List.range_eq_range']
  obtain ⟨hr, hb⟩ := Graph.scLoop_spec G.gates.size 0 G h (by omega)
  exact ⟨hb, hr.comp⟩

/-- `Compiler.Compile` (breadth-first wire numbering from the inputs through
the wires' output lists, `Gate.Visit/Assign`, output wires numbered last, GMW
target: stable sort by (Level, AND first)).

FULL STATEMENT (not proved): `G.GWF → G.compile gmw = some C → ∀ x,
C.compute x = G.compute x`, which needs that the breadth-first numbering is
injective, reaches every gate with defined inputs, and emits producers before
consumers.  PROVED: the same conclusion for `compileChecked`, i.e. `compile`
followed by the executable validation `compileChecks` of exactly these facts
on the run at hand (ids inverted by `mkInv`, every emitted gate live with
numbered wires, compiled circuit single-assignment and topological by
`absRun`, outputs numbered last and driven).  The tie runs `compileChecked`
on every dumped graph and compares with the real compiled circuit, so a run
on which the validation failed would show up as a broken tie. -/
theorem C09_compile_preserves_partial (G : Graph) (gmw : Bool) (C : Circuit) (hwf : G.GWF)
    (hc : G.compileChecked gmw = some C) : ∀ x, C.compute x = G.compute x :=
  Graph.compileChecked_preserves G gmw C hwf hc

/-- The hypotheses of the four pass theorems are decided by the executable,
linear-time checkers of `Model/PassesWF.lean` (proved sound in
`Proofs/PassWF.lean`); the driver runs them on every dumped builder graph of
every program, so the theorems apply to the real pass inputs. -/
theorem C09_wf_checkers_sound (G : Graph) :
    (G.gwfCheck = true → G.GWF) ∧ (G.wfCPCheck = true → G.WFcp) ∧
    (G.wfSCCheck = true → G.SCInv 0) ∧ (G.wfPruneCheck = true → G.PInv) :=
  ⟨Graph.gwfCheck_sound G, Graph.wfCPCheck_sound G, Graph.wfSCCheck_sound G, Graph.wfPruneCheck_sound G⟩

/-- The whole pipeline of `ssa.Program.CompileCircuit` after circuit
construction: ConstPropagate → ShortCircuitXORZero → (Prune) → Compile.  If
the executable well-formedness checks pass at each stage (they are run per
program by the tie, together with the comparison of every stage with the real
code), the compiled circuit computes the function of the raw builder graph on
every input – with and without pruning, for both targets. -/
theorem C09_pipeline_preserves (G G1 G3 : Graph) (gmw : Bool) (Coff Con : Circuit)
    (h0 : G.wfCPCheck = true) (h1 : G.constPropagate = some G1)
    (h2 : G1.wfSCCheck = true)
    (h3 : G1.shortCircuitXORZero.wfPruneCheck = true)
    (hoff : G1.shortCircuitXORZero.compileChecked gmw = some Coff)
    (h4 : G1.shortCircuitXORZero.prune = some G3)
    (hon : G3.compileChecked gmw = some Con) :
    (∀ x, Coff.compute x = G.compute x) ∧ (∀ x, Con.compute x = G.compute x) ∧
    (∀ x, Con.compute x = Coff.compute x) := by
  obtain ⟨_, c1⟩ := C09_constPropagate_preserves G G1 (Graph.wfCPCheck_sound G h0) h1
  obtain ⟨b2, c2⟩ := C09_shortCircuit_preserves G1 (Graph.wfSCCheck_sound G1 h2)
  obtain ⟨p3, c3⟩ := C09_prune_preserves _ G3 (Graph.wfPruneCheck_sound _ h3) h4
  have coff := C09_compile_preserves_partial _ gmw Coff b2.wf hoff
  have con := C09_compile_preserves_partial G3 gmw Con p3.wf hon
  have e1 : ∀ x, Coff.compute x = G.compute x := fun x => by rw [coff x, c2 x, c1 x]
  have e2 : ∀ x, Con.compute x = G.compute x := fun x => by rw [con x, c3 x, c2 x, c1 x]
  exact ⟨e1, e2, fun x => by rw [e1 x, e2 x]⟩

/-- `func main(a, b uint2) uint2 { return a / b }` compiled by the real compiler (/repo commit f07ee15) for the
Yao target, pruning on (restoring long divider).  `checks/C09.py` extracts the dump below and that of
`witnessGmw` from these docstrings and compares them with what the compiler produces on the run.
line format: `25 4 2 i0.0.4;a0.4.5;x0.4.6;n1.5.7;n0.5.8;n2.7.9;a7.2.10;a8.2.11;x9.1.12;n5.10.13;x3.10.14;x3.11.15;a13.14.16;x16.10.17;a12.17.18;x17.6.24;x18.9.19;n19.11.20;a20.15.21;x21.11.22;x22.6.23` -/
def witnessYao : Circuit :=
  { numWires := 25, nIn := 4, nOut := 2,
    gates := [
      ⟨.inv, 0, 0, 4⟩, ⟨.and, 0, 4, 5⟩, ⟨.xor, 0, 4, 6⟩, ⟨.xnor, 1, 5, 7⟩, ⟨.xnor, 0, 5, 8⟩,
      ⟨.xnor, 2, 7, 9⟩, ⟨.and, 7, 2, 10⟩, ⟨.and, 8, 2, 11⟩, ⟨.xor, 9, 1, 12⟩, ⟨.xnor, 5, 10, 13⟩,
      ⟨.xor, 3, 10, 14⟩, ⟨.xor, 3, 11, 15⟩, ⟨.and, 13, 14, 16⟩, ⟨.xor, 16, 10, 17⟩, ⟨.and, 12, 17, 18⟩,
      ⟨.xor, 17, 6, 24⟩, ⟨.xor, 18, 9, 19⟩, ⟨.xnor, 19, 11, 20⟩, ⟨.and, 20, 15, 21⟩, ⟨.xor, 21, 11, 22⟩,
      ⟨.xor, 22, 6, 23⟩] }

/-- The same program compiled for the GMW target, pruning on (Goldschmidt divider).
line format: `118 4 2 i0.0.4;x1.0.5;x3.2.6;x0.4.7;x3.7.8;x2.7.9;x3.7.10;a2.8.11;a2.11.12;a6.11.13;a0.11.14;a5.11.15;a1.11.16;x12.2.17;x13.3.18;x14.0.19;x15.1.20;x17.7.21;x18.7.22;x21.7.23;x22.21.24;a18.23.25;a20.23.26;a16.23.27;a17.24.28;a18.24.29;a19.24.30;a20.24.31;a16.24.32;a28.25.34;a30.26.36;a32.32.38;x28.25.33;x30.26.35;x31.27.37;a37.27.41;a36.37.43;x33.7.39;x34.29.40;x36.37.42;x32.38.44;x39.7.45;x40.7.46;x27.41.47;a42.45.48;a32.47.51;x46.39.49;x47.32.50;a35.49.52;a42.49.53;a43.50.55;x43.50.54;x51.44.56;a52.48.57;a54.45.58;a54.49.59;x55.56.60;a60.45.62;x53.58.61;a61.58.63;a57.61.65;x57.61.64;x59.62.66;a64.2.68;a64.3.69;x58.63.67;x64.7.70;x64.7.71;x67.66.72;x68.7.73;x64.70.74;a0.73.77;x65.72.75;x0.73.76;a75.2.78;a75.3.79;x75.7.80;x75.64.81;x76.7.82;x77.76.83;a69.78.85;a82.9.89;x69.78.84;x80.64.86;x75.81.87;x82.9.88;x84.7.90;x85.79.91;x89.88.92;a1.90.94;x1.90.93;x91.7.95;a95.94.97;a95.93.98;x93.83.96;a96.10.100;a98.83.101;x96.10.99;a99.92.102;x97.101.103;x100.102.104;x7.103.105;x7.104.106;x106.7.107;a74.107.108;a87.107.109;x108.64.110;x109.75.111;x110.71.112;x111.86.113;a112.105.114;a113.105.115;x114.110.116;x115.111.117` -/
def witnessGmw : Circuit :=
  { numWires := 118, nIn := 4, nOut := 2,
    gates := [
      ⟨.inv, 0, 0, 4⟩, ⟨.xor, 1, 0, 5⟩, ⟨.xor, 3, 2, 6⟩, ⟨.xor, 0, 4, 7⟩, ⟨.xor, 3, 7, 8⟩,
      ⟨.xor, 2, 7, 9⟩, ⟨.xor, 3, 7, 10⟩, ⟨.and, 2, 8, 11⟩, ⟨.and, 2, 11, 12⟩, ⟨.and, 6, 11, 13⟩,
      ⟨.and, 0, 11, 14⟩, ⟨.and, 5, 11, 15⟩, ⟨.and, 1, 11, 16⟩, ⟨.xor, 12, 2, 17⟩, ⟨.xor, 13, 3, 18⟩,
      ⟨.xor, 14, 0, 19⟩, ⟨.xor, 15, 1, 20⟩, ⟨.xor, 17, 7, 21⟩, ⟨.xor, 18, 7, 22⟩, ⟨.xor, 21, 7, 23⟩,
      ⟨.xor, 22, 21, 24⟩, ⟨.and, 18, 23, 25⟩, ⟨.and, 20, 23, 26⟩, ⟨.and, 16, 23, 27⟩, ⟨.and, 17, 24, 28⟩,
      ⟨.and, 18, 24, 29⟩, ⟨.and, 19, 24, 30⟩, ⟨.and, 20, 24, 31⟩, ⟨.and, 16, 24, 32⟩, ⟨.and, 28, 25, 34⟩,
      ⟨.and, 30, 26, 36⟩, ⟨.and, 32, 32, 38⟩, ⟨.xor, 28, 25, 33⟩, ⟨.xor, 30, 26, 35⟩, ⟨.xor, 31, 27, 37⟩,
      ⟨.and, 37, 27, 41⟩, ⟨.and, 36, 37, 43⟩, ⟨.xor, 33, 7, 39⟩, ⟨.xor, 34, 29, 40⟩, ⟨.xor, 36, 37, 42⟩,
      ⟨.xor, 32, 38, 44⟩, ⟨.xor, 39, 7, 45⟩, ⟨.xor, 40, 7, 46⟩, ⟨.xor, 27, 41, 47⟩, ⟨.and, 42, 45, 48⟩,
      ⟨.and, 32, 47, 51⟩, ⟨.xor, 46, 39, 49⟩, ⟨.xor, 47, 32, 50⟩, ⟨.and, 35, 49, 52⟩, ⟨.and, 42, 49, 53⟩,
      ⟨.and, 43, 50, 55⟩, ⟨.xor, 43, 50, 54⟩, ⟨.xor, 51, 44, 56⟩, ⟨.and, 52, 48, 57⟩, ⟨.and, 54, 45, 58⟩,
      ⟨.and, 54, 49, 59⟩, ⟨.xor, 55, 56, 60⟩, ⟨.and, 60, 45, 62⟩, ⟨.xor, 53, 58, 61⟩, ⟨.and, 61, 58, 63⟩,
      ⟨.and, 57, 61, 65⟩, ⟨.xor, 57, 61, 64⟩, ⟨.xor, 59, 62, 66⟩, ⟨.and, 64, 2, 68⟩, ⟨.and, 64, 3, 69⟩,
      ⟨.xor, 58, 63, 67⟩, ⟨.xor, 64, 7, 70⟩, ⟨.xor, 64, 7, 71⟩, ⟨.xor, 67, 66, 72⟩, ⟨.xor, 68, 7, 73⟩,
      ⟨.xor, 64, 70, 74⟩, ⟨.and, 0, 73, 77⟩, ⟨.xor, 65, 72, 75⟩, ⟨.xor, 0, 73, 76⟩, ⟨.and, 75, 2, 78⟩,
      ⟨.and, 75, 3, 79⟩, ⟨.xor, 75, 7, 80⟩, ⟨.xor, 75, 64, 81⟩, ⟨.xor, 76, 7, 82⟩, ⟨.xor, 77, 76, 83⟩,
      ⟨.and, 69, 78, 85⟩, ⟨.and, 82, 9, 89⟩, ⟨.xor, 69, 78, 84⟩, ⟨.xor, 80, 64, 86⟩, ⟨.xor, 75, 81, 87⟩,
      ⟨.xor, 82, 9, 88⟩, ⟨.xor, 84, 7, 90⟩, ⟨.xor, 85, 79, 91⟩, ⟨.xor, 89, 88, 92⟩, ⟨.and, 1, 90, 94⟩,
      ⟨.xor, 1, 90, 93⟩, ⟨.xor, 91, 7, 95⟩, ⟨.and, 95, 94, 97⟩, ⟨.and, 95, 93, 98⟩, ⟨.xor, 93, 83, 96⟩,
      ⟨.and, 96, 10, 100⟩, ⟨.and, 98, 83, 101⟩, ⟨.xor, 96, 10, 99⟩, ⟨.and, 99, 92, 102⟩, ⟨.xor, 97, 101, 103⟩,
      ⟨.xor, 100, 102, 104⟩, ⟨.xor, 7, 103, 105⟩, ⟨.xor, 7, 104, 106⟩, ⟨.xor, 106, 7, 107⟩, ⟨.and, 74, 107, 108⟩,
      ⟨.and, 87, 107, 109⟩, ⟨.xor, 108, 64, 110⟩, ⟨.xor, 109, 75, 111⟩, ⟨.xor, 110, 71, 112⟩, ⟨.xor, 111, 86, 113⟩,
      ⟨.and, 112, 105, 114⟩, ⟨.and, 113, 105, 115⟩, ⟨.xor, 114, 110, 116⟩, ⟨.xor, 115, 111, 117⟩] }

/-- **Division by zero is the one remaining difference between the targets.**
The two circuits above, both produced by the real compiler from
`func main(a, b uint2) uint2 { return a / b }`, differ on a = 0, b = 0 (Yao
long divider: all ones = 3, GMW Goldschmidt divider: 1).  The statement of C09
quantifies over every input of the compiled circuit, so read literally this is
a counterexample; but `a / 0` has no defined meaning in MPCL (Go panics), so
no *meaning* of a program changes.  It is kept as a narrow known finding
(`C09-division-by-zero-differs-across-targets`, matched only when the
harness's divisor probe shows a zero divisor on every differing input).  The
harness re-derives both circuits on every run (fixed corpus program `udiv2`)
and replays the input on `circuit.Circuit.Compute`. -/
theorem C09_target_equivalence_fails :
    witnessYao.compute [false, false, false, false] ≠ witnessGmw.compute [false, false, false, false] := by
  rw [compute_eq_mask _ _ (by decide), compute_eq_mask _ _ (by decide)]
  decide +kernel

/-- A raw circuit in the style of `Compiler.ZeroWire/OneWire/ID`: wire 3 is
`x0 ∧ ¬x0 = 0`, wire 4 is `x0 ⊕ ¬x0 = 1`, a dead gate (wire 7), a duplicate
AND (wires 5, 6), an XOR with zero (wire 8) and an AND with one (wire 9). -/
def exRaw : Circuit :=
  { numWires := 11, nIn := 2, nOut := 1,
    gates := [⟨.inv, 0, 0, 2⟩, ⟨.and, 0, 2, 3⟩, ⟨.xor, 0, 2, 4⟩, ⟨.and, 0, 1, 5⟩, ⟨.and, 1, 0, 6⟩,
              ⟨.or, 5, 1, 7⟩, ⟨.xor, 6, 3, 8⟩, ⟨.and, 8, 4, 9⟩, ⟨.xor, 9, 3, 10⟩] }

/-- The same function after constant propagation, short-circuiting, pruning
and renumbering: a single AND (plus the ID gate of the output). -/
def exOpt : Circuit :=
  { numWires := 6, nIn := 2, nOut := 1,
    gates := [⟨.inv, 0, 0, 2⟩, ⟨.and, 0, 2, 3⟩, ⟨.and, 0, 1, 4⟩, ⟨.xor, 4, 3, 5⟩] }

theorem exOpt_refines : checkRefines exRaw exOpt #[0, 0, 0, 0, 4, 0, 0, 0, 0] #[0, 0, 4, 0] = true := by
  decide +kernel

example : checkRefines exRaw exOpt #[0, 0, 0, 0, 4, 0, 0, 0, 0] #[0, 0, 4, 0] = true := exOpt_refines
example : exOpt.compute [true, true] = exRaw.compute [true, true] :=
  C09_checker_sound exRaw exOpt #[0, 0, 0, 0, 4, 0, 0, 0, 0] #[0, 0, 4, 0] exOpt_refines _
example : exRaw.compute [true, true] = [true] := by decide +kernel
/-- the checker is not vacuous in the other direction: it rejects a wrong
"optimisation" (AND replaced by OR). -/
example : checkRefines exRaw { exOpt with gates := [⟨.inv, 0, 0, 2⟩, ⟨.and, 0, 2, 3⟩, ⟨.or, 0, 1, 4⟩,
    ⟨.xor, 4, 3, 5⟩] } #[0, 0, 0, 0, 4, 0, 0, 0, 0] #[0, 0, 4, 0] = false := by decide +kernel
theorem exRaw_absRun : (exRaw.absRun #[]).isSome = true := by decide +kernel

theorem exRaw_ssa : SSA exRaw.numWires exRaw.gates exRaw.inputDefined :=
  C09_absRun_ssa exRaw #[] (by decide) exRaw_absRun

example : (exRaw.absRun #[]).isSome = true := exRaw_absRun
example : SSA exRaw.numWires exRaw.gates exRaw.inputDefined := exRaw_ssa

/-- A raw builder graph as `CompileCircuit` produces it for
`func main(a, b uint1) uint1 { return (b ^ 0) & 1 ^ 0 }`-like code: the three
constant gates, `v = XOR(b, zero)` (an ID gate), `u = AND(v, one)`,
`out = XOR(u, zero)` (the `Ret` ID gate), with the bookkeeping of the Go
allocator (fan-out counters, output lists, input gates, value annotations). -/
def exGraph : Graph :=
  { nIn := 2, zero := 3, one := 4, outputs := [7],
    wires := #[
      { numOut := 3, outs := #[0, 1, 2] },
      { numOut := 1, outs := #[3] },
      { numOut := 2, input := some 0, outs := #[1, 2] },
      { value := .zero, numOut := 2, input := some 1, outs := #[3, 5] },
      { value := .one, numOut := 1, input := some 2, outs := #[4] },
      { numOut := 1, input := some 3, outs := #[4] },
      { numOut := 1, input := some 4, outs := #[5] },
      { isOut := true, input := some 5 }],
    gates := #[⟨.inv, 0, 0, 2, false⟩, ⟨.and, 0, 2, 3, false⟩, ⟨.xor, 0, 2, 4, false⟩,
               ⟨.xor, 1, 3, 5, false⟩, ⟨.and, 5, 4, 6, false⟩, ⟨.xor, 6, 3, 7, false⟩] }

def exPipelineOk : Bool :=
  exGraph.wfCPCheck &&
  match exGraph.constPropagate with
  | none => false
  | some G1 =>
    G1.wfSCCheck && G1.shortCircuitXORZero.wfPruneCheck &&
    (G1.shortCircuitXORZero.compileChecked false).isSome &&
    match G1.shortCircuitXORZero.prune with
    | none => false
    | some G3 => G3.gwfCheck && (G3.compileChecked false).isSome &&
        -- the passes did something: `ConstPropagate` aliases `v` and `u` to `b`, `Prune` kills their gates
        -- and the producer of `one`
        decide (((G3.gates.toList.filter fun g => !g.dead).length) < exGraph.gates.size)

example : exPipelineOk = true := by decide +kernel
example : exGraph.compute [false, true] = [true] := by decide +kernel

/-- levels as `Gate.Visit` would assign them (breadth first) -/
def exLevels : List Nat := [0, 1, 1, 0, 0, 1, 2, 3, 4]
example : strictLevels exRaw.nIn (exRaw.gates.zip exLevels) = true := by decide +kernel
example : exRaw.gates.length ≤ exLevels.length := by decide
example : (exRaw.assignLevels true).1 = [0, 0, 0, 0, 0, 1, 1, 1, 2] := by decide +kernel
example : (exRaw.assignLevels false).1 = [0, 1, 1, 0, 0, 1, 2, 3, 4] := by decide +kernel
/-- (that the two sorts really permute this circuit – under `compileSort` with `exLevels` the two AND
gates of level 0 move ahead of the INV, under `gmwSchedule` the three AND gates of AND depth 0 move
behind the INV and the XOR – is seen with `#eval`, not stated as an `example`: `List.mergeSort` is defined
by well-founded recursion and does not reduce in the kernel) -/
example : compileLe (⟨.and, 0, 1, 5⟩, 0) (⟨.inv, 0, 0, 2⟩, 0) = true ∧
    gmwLe (⟨.and, 0, 1, 5⟩, 0) (⟨.inv, 0, 0, 2⟩, 0) = false := by decide
example : witnessYao.WF = true ∧ witnessGmw.WF = true := by decide +kernel

/-- `C09_levels_bounded` is not vacuous: `exRaw` with `exLevels` (all below `2^3`). -/
example : ∀ l ∈ exLevels, l < 2 ^ 3 := by decide
example (x : List Bool) :=
  C09_levels_bounded 3 exRaw exLevels exRaw_ssa (by decide) (by decide +kernel) (by decide) x
/-- `C09_wrapped_levels_not_topological` at `k = 1`: the chain of 3 gates, levels 0, 1, 2 stored as
0, 1, 0 in a 1-bit field (the hypothesis `0 < k` is needed: with `k = 0` all stored levels are equal and
the stable sort keeps the order). -/
example := C09_wrapped_levels_not_topological 1 (by decide)
example := C09_wrapped_levels_wrong_output 16 (by decide)
example : (invChain 3).compute [true] = [false] := by decide +kernel
example : (invChain 3).gates.zip (List.range 3) =
    [(⟨.inv, 0, 0, 1⟩, 0), (⟨.inv, 1, 1, 2⟩, 1), (⟨.inv, 2, 2, 3⟩, 2)] := by decide
/-- the order the 1-bit field produces (gate 2 ahead of gate 1) gives the wrong value `true` (`¬¬¬true = false`) -/
example : ({ invChain 3 with gates := [⟨.inv, 0, 0, 1⟩, ⟨.inv, 2, 2, 3⟩, ⟨.inv, 1, 1, 2⟩] } : Circuit).compute [true]
    = [true] := by decide +kernel
example : (invChain 5).computeArr [true] = (invChain 5).compute [true] := C09_computeArr_eq _ _

end Mpc
