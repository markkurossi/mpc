/-
C03, back end: SSA -> gates.  Property theorems only; the model is
Model/SsaCircuit.lean (`ssaCompile`, mirror of `ssa.Program.Circuit`), the
proofs are in Proofs/SsaCircuit.lean.

FULL STATEMENT (what C03 asks of the back end): for every SSA step list that
`ssa.Program.Circuit` accepts, every compilation target and every input, the
circuit it generates computes the SSA semantics `ssaEval` of the step list.

PROVED HERE (`C03_backend_correct`): exactly that, for every step list, both
targets and every input, under the hypothesis `Supported gmw ins steps`
(Model/SsaCircuit.lean, decidable, evaluated by the driver on every program of
the tie; tag `S` in the check's coverage):
  * every step satisfies the instruction-set predicate `instrOK gmw`:
      INCLUDED  add sub mul (Yao: ripple adder/subtractor, Karatsuba + array
                multiplier; GMW: Kogge-Stone, Wallace), udiv umod idiv imod on the
                Yao target (long divider), band bor bxor bclr, ilt ile igt ige ult
                ule ugt uge at all operand widths (operands zero padded to the
                common width, which is what the code does and what `evalOp`
                specifies), eq neq, land lor lnot, phi (MUX), index with an index
                operand of at most max 1 ceil(log2 n) wires, the re-wiring instructions
                mov smov lshift rshift srshift slice concat amov, ret; variables,
                integer constants (incl. the re-sizing / sign extension of shared
                `$n` constants) and bit patterns as operands;
      EXCLUDED  udiv umod idiv imod on the GMW target (Goldschmidt divider: no
                exactness theorem in C07); idiv with a result wider than its
                operands; index with a wider index operand, an empty array or an
                empty index (NewIndex reads only ceil(log2 n) index bits, `evalOp`
                yields 0 for every out-of-range index); adders, subtractors,
                multipliers, dividers, signed comparators, eq, neq with both operands
                of zero width; adders, subtractors, multipliers with a zero-width
                result.  Opcodes the dump does not carry at all (bts, btc, circ,
                builtin) make the harness skip the program (counted);
  * the model applies (`ssaCompile ≠ none`): steps in definition-before-use
    order, integer constants registered in `prog.Constants`, a value is used at
    the width it was defined with, operand shapes that the Go code accepts
    (e.g. result width 1 for comparisons, `len x + len y = len out` for concat,
    result width ≤ operand width for the bitwise builders), `ret` is the last
    step, at least one input wire.
The circuit is the gate list `cc.Gates` that `Program.Circuit` emits, i.e. the
circuit BEFORE the optimisation passes (ConstPropagate, ShortCircuitXORZero,
Prune) and before `cc.Compile`'s renumbering; `C09_pipeline_preserves`
(Props/C09.lean) carries the result across those passes.  Evaluation is the
`evalGates` of C07 (`St.val`), bridged to `Circuit.plainEval` (the model of
`circuit.Circuit.Compute`, C01) by `C03_backend_plainEval`.

`ssaEval` is undefined (`none`) on a division by zero; nothing is claimed for
such inputs (MPCL gives them no meaning).

Tie to /repo: on every C03 run, for generated programs, grid programs and the
shipped programs, on both targets, the REAL `cc.Gates` for the dumped step
list equals `ssaCompile steps` gate for gate under first-occurrence numbering
(harness/cmd/c03/backend.go, lean/Driver/C03Backend.lean).
-/
import MpcVerif.Proofs.SsaCircuit
import MpcVerif.Proofs.BuildersBridge

namespace Mpc
open Mpc.Bld Mpc.Mpcl Mpc.Mpcl.Ssa Mpc.SsaC

/-- **Back-end correctness.**  For every step list in the supported set, both
targets and every argument tuple on which the SSA semantics is defined, the
generated gate list evaluates to exactly `ssaEval ins steps args` (a list of
(wire pattern, width) per `ret` operand). -/
theorem C03_backend_correct (gmw : Bool) (ins : List (Nat × Nat)) (steps : List SInstr)
    (hsup : Supported gmw ins steps = true) (args : List Nat) (r : List (Nat × Nat))
    (hr : ssaEval (Nat → Nat) ins steps args = some r) :
    ssaCircuitEval gmw ins steps args = some r := by
  obtain ⟨hall, ⟨s, outs⟩, hc⟩ := supported_iff.mp hsup
  have := (ssaCompile_sound gmw ins steps hall s outs hc args r hr).2
  simp only [ssaCircuitEval, hc, Option.map_some, Option.some.injEq]
  rw [← this]
  rfl

/-- The same on the C01 evaluator: `Circuit.plainEval` (the model of
`circuit.Circuit.Compute`'s gate loop) on the generated gate list delivers
`ssaEval`'s result on the output buses. -/
theorem C03_backend_plainEval (gmw : Bool) (ins : List (Nat × Nat)) (steps : List SInstr)
    (hsup : Supported gmw ins steps = true) (args : List Nat) (r : List (Nat × Nat))
    (hr : ssaEval (Nat → Nat) ins steps args = some r) :
    ∃ s outs, ssaCompile gmw ins steps = some (s, outs) ∧
      outs.map (fun ws => (toNat (ws.map ((s.toCircuit outs.flatten.length).plainEval (inputBits ins args)).get),
        ws.length)) = r := by
  obtain ⟨hall, ⟨s, outs⟩, hc⟩ := supported_iff.mp hsup
  obtain ⟨hwf, hv⟩ := ssaCompile_sound gmw ins steps hall s outs hc args r hr
  refine ⟨s, outs, hc, ?_⟩
  rw [← hv]
  apply List.map_congr_left
  intro ws _
  congr 2
  apply List.map_congr_left
  intro w _
  exact plainEval_eq_val s _ hwf _ w

/-! Non-vacuity: concrete programs in the supported set.  `Supported` and `ssaEval`
are evaluated by the kernel; what the generated circuit computes is then an
instance of `C03_backend_correct`. -/

/-- `func main(a, b uint4) (uint4, uint6) { c := a + b; d := c - a; e := (c & b) | (d ^ a); return e, uint6(c) }`
as the compiler's SSA step list (8 steps). -/
def exProg : List SInstr :=
  [⟨.add, [.var 0 4, .var 1 4], some (2, 4)⟩,
   ⟨.sub, [.var 2 4, .var 0 4], some (3, 4)⟩,
   ⟨.band, [.var 2 4, .var 1 4], some (4, 4)⟩,
   ⟨.bxor, [.var 3 4, .var 0 4], some (5, 4)⟩,
   ⟨.bor, [.var 4 4, .var 5 4], some (6, 4)⟩,
   ⟨.mov, [.var 2 4], some (7, 6)⟩,
   ⟨.mov, [.var 6 4], some (8, 4)⟩,
   ⟨.ret, [.var 8 4, .var 7 6], none⟩]

def exIns : List (Nat × Nat) := [(0, 4), (1, 4)]

example : Supported false exIns exProg = true := by decide +kernel
example : Supported true exIns exProg = true := by decide +kernel
-- a = 11, b = 9: c = 4, d = 9, e = (4 & 9) | (9 ^ 11) = 2
example : ssaEval (Nat → Nat) exIns exProg [11, 9] = some [(2, 4), (4, 6)] := by decide +kernel
example : ssaCircuitEval false exIns exProg [11, 9] = some [(2, 4), (4, 6)] :=
  C03_backend_correct _ _ _ (by decide +kernel) _ _ (by decide +kernel)
example : ssaCircuitEval true exIns exProg [11, 9] = some [(2, 4), (4, 6)] :=
  C03_backend_correct _ _ _ (by decide +kernel) _ _ (by decide +kernel)
example : ((ssaCompile false exIns exProg).map fun r => r.1.gates.size) = some 64 := by decide +kernel

/-- A second program (12 steps, 158 gates on the Yao target): multiplier, long
divider with a constant divisor, signed comparison with a re-sized shared
constant, unsigned comparison, MUX, slice, shifts, sign extension, concat, amov. -/
def exProg2 : List SInstr :=
  [⟨.mul, [.var 0 3, .var 1 3], some (3, 3)⟩,
   ⟨.udiv, [.var 0 3, .const 3 32 32 false 3], some (4, 3)⟩,
   ⟨.ilt, [.var 2 3, .const 1 32 32 true 3], some (5, 1)⟩,
   ⟨.ult, [.var 0 3, .var 1 3], some (6, 1)⟩,
   ⟨.phi, [.var 5 1, .var 3 3, .var 4 3], some (7, 3)⟩,
   ⟨.slice, [.var 7 3, .k 1, .k 3], some (8, 2)⟩,
   ⟨.lshift, [.var 1 3, .k 2], some (9, 3)⟩,
   ⟨.srshift, [.var 2 3, .k 1], some (10, 3)⟩,
   ⟨.smov, [.var 2 3], some (11, 5)⟩,
   ⟨.concat, [.var 8 2, .var 9 3], some (12, 5)⟩,
   ⟨.amov, [.var 8 2, .var 3 3, .k 1, .k 3], some (13, 3)⟩,
   ⟨.ret, [.var 12 5, .var 10 3, .var 11 5, .var 6 1, .var 13 3], none⟩]

def exIns2 : List (Nat × Nat) := [(0, 3), (1, 3), (2, 3)]

example : Supported false exIns2 exProg2 = true := by decide +kernel
-- the divider is outside the theorem on the GMW target
example : Supported true exIns2 exProg2 = false := by decide +kernel
-- a = 5, b = 6, c = -3
example : ssaEval (Nat → Nat) exIns2 exProg2 [5, 6, 5] = some [(3, 5), (6, 3), (29, 5), (1, 1), (6, 3)] := by
  decide +kernel
example : ssaCircuitEval false exIns2 exProg2 [5, 6, 5] = some [(3, 5), (6, 3), (29, 5), (1, 1), (6, 3)] :=
  C03_backend_correct _ _ _ (by decide +kernel) _ _ (by decide +kernel)
example : ((ssaCompile false exIns2 exProg2).map fun r => r.1.gates.size) = some 158 := by decide +kernel

/-- Signed long division (`int2 a / b`, `a % b`): defined exactly for `b ≠ 0`. -/
def exProg3 : List SInstr :=
  [⟨.idiv, [.var 0 2, .var 1 2], some (2, 2)⟩,
   ⟨.imod, [.var 0 2, .var 1 2], some (3, 2)⟩,
   ⟨.ret, [.var 2 2, .var 3 2], none⟩]

def exIns3 : List (Nat × Nat) := [(0, 2), (1, 2)]

example : Supported false exIns3 exProg3 = true := by decide +kernel
-- -2 / -1 = 2 (wraps to -2 = 0b10), |-2| mod |-1| = 0
example : ssaEval (Nat → Nat) exIns3 exProg3 [2, 3] = some [(2, 2), (0, 2)] := by decide +kernel
example : ssaCircuitEval false exIns3 exProg3 [2, 3] = some [(2, 2), (0, 2)] :=
  C03_backend_correct _ _ _ (by decide +kernel) _ _ (by decide +kernel)
-- division by zero: the SSA semantics is undefined, the theorem claims nothing (the circuit yields some value)
example : ssaEval (Nat → Nat) exIns3 exProg3 [2, 0] = none := by decide +kernel

/-- Remainder, array element by a variable index, and-not, not, `!=`, `||`. -/
def exProg4 : List SInstr :=
  [⟨.umod, [.var 0 3, .const 3 32 32 false 3], some (6, 3)⟩,
   ⟨.index, [.var 2 4, .k 0, .var 3 1, .k 2], some (7, 2)⟩,
   ⟨.bclr, [.var 0 3, .var 1 3], some (8, 3)⟩,
   ⟨.lnot, [.var 8 3], some (9, 3)⟩,
   ⟨.neq, [.var 1 3, .var 6 3], some (10, 1)⟩,
   ⟨.lor, [.var 10 1, .var 3 1], some (11, 1)⟩,
   ⟨.ret, [.var 7 2, .var 9 3, .var 11 1], none⟩]

def exIns4 : List (Nat × Nat) := [(0, 3), (1, 3), (2, 4), (3, 1)]

example : Supported false exIns4 exProg4 = true := by decide +kernel
example : ssaEval (Nat → Nat) exIns4 exProg4 [6, 5, 9, 1] = some [(2, 2), (5, 3), (1, 1)] := by decide +kernel
example : ssaCircuitEval false exIns4 exProg4 [6, 5, 9, 1] = some [(2, 2), (5, 3), (1, 1)] :=
  C03_backend_correct _ _ _ (by decide +kernel) _ _ (by decide +kernel)

/-- The two width exclusions of the instruction-set predicate are necessary:
outside them the generated circuit and `evalOp` (Model/MpclSsa.lean) disagree.
(1) `index` into a 2-element array with a 2-wire index operand, index 2 (out
of range, undefined in MPCL): `NewIndex` reads one index bit and delivers
element 0, `evalOp` says 0.  (2) `idiv` with a 4-bit result from 2-bit
operands, `-1 / 1`: `NewIDivider` negates at the result width (`-1` = 15),
`evalOp` reduces the 2-bit quotient (3).  Neither shape is emitted by the
compiler for the programs of the tie (tags `U:index`, `U:idiv` count them). -/
theorem C03_backend_exclusions_necessary :
    (Supported false [(0, 4), (1, 2)]
        [⟨.index, [.var 0 4, .k 0, .var 1 2, .k 2], some (2, 2)⟩, ⟨.ret, [.var 2 2], none⟩] = false ∧
      ssaCircuitEval false [(0, 4), (1, 2)]
        [⟨.index, [.var 0 4, .k 0, .var 1 2, .k 2], some (2, 2)⟩, ⟨.ret, [.var 2 2], none⟩] [9, 2] = some [(1, 2)] ∧
      ssaEval (Nat → Nat) [(0, 4), (1, 2)]
        [⟨.index, [.var 0 4, .k 0, .var 1 2, .k 2], some (2, 2)⟩, ⟨.ret, [.var 2 2], none⟩] [9, 2] = some [(0, 2)]) ∧
    (Supported false [(0, 2), (1, 2)]
        [⟨.idiv, [.var 0 2, .var 1 2], some (2, 4)⟩, ⟨.ret, [.var 2 4], none⟩] = false ∧
      ssaCircuitEval false [(0, 2), (1, 2)]
        [⟨.idiv, [.var 0 2, .var 1 2], some (2, 4)⟩, ⟨.ret, [.var 2 4], none⟩] [3, 1] = some [(15, 4)] ∧
      ssaEval (Nat → Nat) [(0, 2), (1, 2)]
        [⟨.idiv, [.var 0 2, .var 1 2], some (2, 4)⟩, ⟨.ret, [.var 2 4], none⟩] [3, 1] = some [(3, 4)]) := by
  simp only [ssaCircuitEval_bits]
  decide +kernel

end Mpc
