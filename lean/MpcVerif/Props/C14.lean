/-
C14  Circuit files round-trip; parsers reject malformed files gracefully.

The model is Model/Format.lean; `drv_c14` executes it and the check compares
it with the Go code on every run.  The predicates of the statements are defined
in the Proofs files, not in the model: `Info.inGrammar`, `Info.norm` (FormatText),
`PCircuit.Valid`, `norm`, `FullOracle` (FormatRT), `BValid`, `bnorm`
(FormatBristol), `resClass`, `normG` (Format).

Statement (properties.jsonl), split into the parts proved below:

 (A) "Given arbitrary bytes whose declared sizes are at most a million, each
     parser returns either a circuit in which every gate input is defined
     before use and every wire is assigned, or an error" —
       `C14_parse_ok_imp_WF_mpclc`, `C14_parse_ok_imp_WF_bristol`:
     for EVERY byte string, every reader behaviour (buffer size, read-size
     oracle) and both code variants.  Full strength.
 (B) "it never crashes or hangs" —
       hang: both model parsers are total Lean functions (structural
       recursion), and the recursion bounds of the argument tree and the gate
       loop are never the reason for stopping: `C14_mpclc_fuel_adequate` (the
       Bristol model has no bound: it recurses on the list of lines);
       crash: `C14_bristol_never_panics`, `C14_mpclc_never_panics`: every
       indexing in either parser is in range for every input.  Full strength.
 (C) "Writing any circuit in either supported file format and parsing it back
     yields a circuit with the same gates, wire and gate counts and
     input/output signature …, hence the same function, and writing it again
     gives the same bytes" —
       type text: `C14_type_roundtrip` (full strength on the I/O type grammar);
       Bristol: `C14_bristol_roundtrip` (full strength for every circuit the
       format can carry: sizes only, at least one input bit);
       native: `C14_mpclc_roundtrip` (full strength: every valid circuit, every
       reader behaviour, every file size).

The code in /repo is the variant `Fix.both` (Model/Format.lean; commits 7309cfb
and a93bbfc of /repo); the check requires that of the source (text fact +
behavioural probe).  `Fix.none` is the Go code before those commits; it violates
(B) and (C).  The `C14_old_…` theorems at the end of this file are about that
variant (negation witnesses, and what did hold) and say nothing about the code
as it is.
-/
import MpcVerif.Proofs.FormatRT
import MpcVerif.Proofs.FormatBristol

namespace Mpc
open Fmt

/-- `ParseMPCLC`: whatever the bytes, the reader stack and the code variant,
a returned circuit has as many gates as declared, its input bits fit the wires,
every gate input is an input wire or the output of an earlier gate with all
indices below `numWires` (`wfFrom`, the third conjunct of `Circuit.WF`, the
hypothesis of C01; `C14_parsed_WF` names the two conjuncts no parser checks),
and every wire is assigned. -/
theorem C14_parse_ok_imp_WF_mpclc (cfg : RdCfg) (fx : Fix) (bytes : Bytes) (c : PCircuit)
    (h : parseMPCLC cfg fx bytes = .ok c) :
    c.gates.length = c.numGates ∧ c.toCircuit.nIn ≤ c.numWires ∧
    wfFrom c.numWires c.gates c.toCircuit.inputDefined = true ∧
    ∀ w, w < c.numWires → c.toCircuit.defined w = true :=
  parseMPCLC_accepted cfg fx bytes c h

/-- `ParseBristol`: the same. -/
theorem C14_parse_ok_imp_WF_bristol (bytes : Bytes) (c : PCircuit)
    (h : parseBristol bytes = .ok c) :
    c.gates.length = c.numGates ∧ c.toCircuit.nIn ≤ c.numWires ∧
    wfFrom c.numWires c.gates c.toCircuit.inputDefined = true ∧
    ∀ w, w < c.numWires → c.toCircuit.defined w = true :=
  parseBristol_accepted bytes c h

/-- The two conditions of `Circuit.WF` (Model/Circuit.lean, hypothesis of C01)
that NEITHER parser checks: the output bits fit the wires, and no gate writes
an input wire.  With them a parsed circuit is `WF`. -/
theorem C14_parsed_WF (cfg : RdCfg) (fx : Fix) (bytes : Bytes) (c : PCircuit)
    (h : parseMPCLC cfg fx bytes = .ok c)
    (hout : c.toCircuit.nOut ≤ c.numWires)
    (hnoin : c.gates.all (fun g => decide (c.toCircuit.nIn ≤ g.out)) = true) :
    c.toCircuit.WF = true := by
  obtain ⟨_, h2, h3, _⟩ := parseMPCLC_accepted cfg fx bytes c h
  exact c.toCircuit.WF_iff.mpr ⟨h2, hout, h3, fun g hg => of_decide_eq_true (List.all_eq_true.mp hnoin g hg)⟩

/-- `ParseBristol` performs no out-of-range access, whatever the input. -/
theorem C14_bristol_never_panics (bytes : Bytes) : parseBristol bytes ≠ .error .panic :=
  parseBristol_no_panic bytes

/-- `ParseMPCLC` (the code as it is: `gate >= len(gates)` is tested before the
record is read and stored) performs no out-of-range access, whatever the input
and the reader behaviour. -/
theorem C14_mpclc_never_panics (cfg : RdCfg) (bytes : Bytes) :
    parseMPCLC cfg Fix.both bytes ≠ .error .panic :=
  parseMPCLC_guard_no_panic cfg Fix.both rfl bytes

/-- A valid 41-byte file (no gates, one wire, one 1-bit input `uint1`) … -/
def c14PanicBase : PCircuit := ⟨0, 1, [.mk [] (.base .uint true 1) []], [], []⟩

/-- … extended by one gate record `INV 0 -> 0`: more records than declared. -/
def c14PanicWitness : Bytes := marshal c14PanicBase ++ [4, 0, 0, 0, 0, 0, 0, 0, 0]

/-- The file of `C14_old_mpclc_panic_witness` is refused with an error. -/
example : parseMPCLC RdCfg.std Fix.both c14PanicWitness = .error .error :=
  resClass_err _ _ (by decide +kernel)

/-- Totality ("never hangs") of the model of `ParseMPCLC`: it is a Lean
function, so it terminates on every input; its three recursion bounds (stream
length + 1 for the argument tree and for the gate loop) are never what stops
it, for any bytes, reader behaviour and variant.  The two bounds that end in an
`error` return instead of `fuel` are not covered here: `Rd.readFullAux`
(adequate by `readFullAux_spec`) and `typeParseAux` (adequate because the
element text is strictly shorter; proved for grammar texts,
`typeParseAux_typeString`). -/
theorem C14_mpclc_fuel_adequate (cfg : RdCfg) (fx : Fix) (bytes : Bytes) :
    parseMPCLC cfg fx bytes ≠ .error .fuel := fun h => by
  rcases parseMPCLC_err _ _ _ _ h with h | h | ⟨h, _⟩ <;> cases h

/-- Every outcome of `ParseMPCLC`, in either variant, is one of: a circuit,
`error`, `panic` (excluded for the code as it is by `C14_mpclc_never_panics`),
or `oversize` (a declared size above 10^6 was read, outside the property).
`ParseBristol` is not covered by this statement. -/
theorem C14_parse_total (cfg : RdCfg) (fx : Fix) (bytes : Bytes) :
    (∃ c, parseMPCLC cfg fx bytes = .ok c) ∨ parseMPCLC cfg fx bytes = .error .error ∨
    parseMPCLC cfg fx bytes = .error .panic ∨ parseMPCLC cfg fx bytes = .error .oversize := by
  cases h : parseMPCLC cfg fx bytes with
  | ok c => exact Or.inl ⟨c, rfl⟩
  | error e => rcases parseMPCLC_err _ _ _ _ h with rfl | rfl | ⟨rfl, _⟩ <;> simp

/-- Type text.  `types.Parse (t.String())` succeeds for every type `t` of the
I/O grammar (sized bool/int/uint/string/struct, unsized int/uint/string, arrays
and slices of those, sizes below 2^31), returns `t` up to the fields the text
does not carry (`Info.norm`), and the result prints as the same text.
Outside the grammar the statement is false (e.g. `float32`, `*uint8`, unsized
`bool`, which parses to `bool1`); such types do not occur in compiled circuits. -/
theorem C14_type_roundtrip (t : Info) (h : t.inGrammar = true) :
    typeParse (typeString t) = some t.norm ∧ typeString t.norm = typeString t :=
  ⟨typeParse_typeString t h, typeString_norm t⟩

example : (Info.arr false 3 24 (.arr true 5 40 (.base .struct true 8))).inGrammar = true := by decide
example : typeParse (typeString (.base .float true 32)) = none := by decide +kernel
example : typeParse (typeString (.base .bool false 0)) = some (.base .bool true 1) := by decide +kernel

/-- Native round trip, full strength, for the code as it is: for every valid
circuit `c` (`PCircuit.Valid`: counts/lengths/sizes within the property's cap,
I/O types in the grammar, and the parser's own acceptance conditions), every
bufio buffer size and every read-size behaviour of the underlying `io.Reader`,
`ParseMPCLC (Marshal c)` returns `c.norm`, writing that again gives the same
bytes, and it computes the same function.  `c.norm` differs from `c` only in
what the format does not carry: `Input1` of INV gates is 0, types are as
`types.Parse` reads their text (`Info.norm`). -/
theorem C14_mpclc_roundtrip (cfg : RdCfg) (c : PCircuit) (hv : c.Valid) :
    parseMPCLC cfg Fix.both (marshal c) = .ok c.norm ∧ marshal c.norm = marshal c ∧
    ∀ x, c.norm.toCircuit.compute x = c.toCircuit.compute x :=
  ⟨parseMPCLC_marshal cfg Fix.both c hv (Or.inl rfl), marshal_norm c, compute_norm c⟩

example : FullOracle RdCfg.std := fun _ _ => Nat.le_refl _

/-- Non-vacuity: a valid circuit with a struct argument (two compound
members, one an array), an empty name, an INV and an AND gate. -/
def c14Example : PCircuit :=
  { numGates := 2, numWires := 5,
    inputs := [.mk [115] (.base .struct true 2)
                 [.mk [] (.base .bool true 1) [], .mk [121] (.arr false 1 1 (.base .uint true 1)) []],
               .mk [98] (.base .int true 1) []],
    outputs := [.mk [114] (.base .uint true 2) []],
    gates := [⟨.inv, 0, 7, 3⟩, ⟨.and, 3, 2, 4⟩] }

theorem c14Example_valid : c14Example.Valid where
  ngates := by decide
  ng_cap := by decide
  nw_cap := by decide
  ni_cap := by decide
  no_cap := by decide
  ins := by decide +kernel
  outs := by decide +kernel
  fits := by decide
  wf := by decide
  assigned := by decide +kernel

example : parseMPCLC RdCfg.std Fix.both (marshal c14Example) = .ok c14Example.norm :=
  (C14_mpclc_roundtrip RdCfg.std c14Example c14Example_valid).1

/-- … also through a reader that delivers one byte per `Read`. -/
example : parseMPCLC ⟨4096, fun _ _ => 1⟩ Fix.both (marshal c14Example) = .ok c14Example.norm :=
  (C14_mpclc_roundtrip _ c14Example c14Example_valid).1

/-- Bristol round trip, full strength for the circuits the format can carry
(`BValid`: sizes in `[0, 2^31)`, at least one input bit — `ParseBristol`
refuses a circuit without input bits, "no inputs defined" — and the parser's
acceptance conditions): `ParseBristol (MarshalBristol c)` returns the same
gates (INV `Input1` = 0), counts and argument sizes, under the made-up names
`NI1…`/`NO1…` as `uint`; writing it again gives the same text; same function.
The Bristol parser reads whole lines, so reader behaviour plays no role. -/
theorem C14_bristol_roundtrip (c : PCircuit) (hv : c.BValid) :
    parseBristol (marshalBristol c) = .ok c.bnorm ∧ marshalBristol c.bnorm = marshalBristol c ∧
    ∀ x, c.bnorm.toCircuit.compute x = c.toCircuit.compute x :=
  ⟨parseBristol_marshal c hv, marshalBristol_bnorm c, compute_bnorm c⟩

theorem c14Example_bvalid : c14Example.BValid where
  ngates := by decide
  ng_cap := by decide
  nw_cap := by decide
  ni_cap := by decide
  no_cap := by decide
  bitsI := by decide
  bitsO := by decide
  nonzero := by decide
  fits := by decide
  wf := by decide
  assigned := c14Example_valid.assigned

example : parseBristol (marshalBristol c14Example) = .ok c14Example.bnorm :=
  (C14_bristol_roundtrip c14Example c14Example_bvalid).1

/-- Without input bits the Bristol text does not parse back (scope of
`BValid.nonzero`). -/
example : resClass (parseBristol (marshalBristol ⟨0, 0, [], [], []⟩)) = some .error := by
  decide +kernel

/-- A struct argument with `n` members `member_1000`, `member_1001`, … -/
def c14BigArg (n : Nat) : IOArg :=
  .mk [115] (.base .struct true 2) ((List.range n).map fun i =>
    .mk ([109, 101, 109, 98, 101, 114, 95] ++ dec (1000 + i)) (.base .uint true (if i < 2 then 1 else 0)) [])

/-- One AND gate, inputs: that struct (`c14Big 200`: 6479 bytes). -/
def c14Big (n : Nat) : PCircuit :=
  ⟨1, 3, [c14BigArg n], [.mk [114] (.base .uint true 1) []], [⟨.and, 0, 1, 2⟩]⟩

theorem c14Big_valid : (c14Big 200).Valid where
  ngates := rfl
  ng_cap := by decide
  nw_cap := by decide
  ni_cap := by decide
  no_cap := by decide
  ins := by decide +kernel
  outs := by decide
  fits := by decide
  wf := by decide
  assigned := by decide +kernel

/-- The file is longer than one buffer, and the OLD code (`Fix.none`, see the end of this file)
loses its place in it.  One evaluation for both facts: the 6479 bytes are computed once. -/
theorem c14Big_old : 4096 < (marshal (c14Big 200)).length ∧
    resClass (parseMPCLC RdCfg.std Fix.none (marshal (c14Big 200))) = some .oversize := by
  decide +kernel

/-- Non-vacuity beyond one buffer: the 6479-byte file parses (code as it is,
`bytes.Reader` behind the 4096-byte `bufio.Reader`). -/
example : 4096 < (marshal (c14Big 200)).length ∧
    resClass (parseMPCLC RdCfg.std Fix.both (marshal (c14Big 200))) = none :=
  ⟨c14Big_old.1, by rw [(C14_mpclc_roundtrip RdCfg.std _ c14Big_valid).1]; rfl⟩

/-! ## The OLD variant `Fix.none` (before 7309cfb / a93bbfc)

The two defects the check found.  corpus/C14 holds files of the same kinds (one
gate record too many; strings across byte 4096; readers with short reads), which
the harness replays on the Go code as ordinary cases. -/

/-- OLD code: negation of "never crashes".  The store `gates[gate]` with
`gate = 0 = len(gates)`; declared sizes 0, 1, 1, 0, 0, 5, 1, 0. -/
theorem C14_old_mpclc_panic_witness :
    parseMPCLC RdCfg.std Fix.none c14PanicWitness = .error .panic :=
  resClass_err _ _ (by decide +kernel)

/-- OLD code: negation of the native round trip.  The name that straddles byte
4096 was cut short by `r.Read(buf)`, the stream was misaligned and the next
length field read was above 10^6. -/
theorem C14_old_mpclc_roundtrip_short_read_witness :
    4096 < (marshal (c14Big 200)).length ∧
    parseMPCLC RdCfg.std Fix.none (marshal (c14Big 200)) = .error .oversize :=
  ⟨c14Big_old.1, resClass_err _ _ c14Big_old.2⟩

/-- OLD code: the same defect with a small file and a reader that delivers 3
bytes per `Read`: the file of `c14PanicBase` with the name "hello". -/
theorem C14_old_mpclc_roundtrip_short_reader_witness :
    resClass (parseMPCLC ⟨4096, fun _ _ => 3⟩ Fix.none
      (marshal ⟨0, 1, [.mk [104, 101, 108, 108, 111] (.base .uint true 1) []], [], []⟩)) = some .oversize :=
  by decide +kernel

/-- OLD code: what did hold — the round trip for files of at most one buffer
read from a reader that delivers what is asked. -/
theorem C14_old_mpclc_roundtrip_one_buffer (cfg : RdCfg) (c : PCircuit) (hv : c.Valid)
    (hfull : FullOracle cfg) (hfit : (marshal c).length ≤ cfg.bufSize) (hbs : 20 < cfg.bufSize) :
    parseMPCLC cfg Fix.none (marshal c) = .ok c.norm :=
  parseMPCLC_marshal cfg Fix.none c hv (Or.inr ⟨hfull, hfit, hbs⟩)

/-- Each repair alone removes its defect (any variant with the guard never
panics; any variant with `io.ReadFull` round-trips). -/
theorem C14_each_repair_suffices (cfg : RdCfg) (fx : Fix) :
    (fx.guardGates = true → ∀ bytes, parseMPCLC cfg fx bytes ≠ .error .panic) ∧
    (fx.readFullStrings = true → ∀ c : PCircuit, c.Valid → parseMPCLC cfg fx (marshal c) = .ok c.norm) :=
  ⟨fun h bytes => parseMPCLC_guard_no_panic cfg fx h bytes,
   fun h c hv => parseMPCLC_marshal cfg fx c hv (Or.inl h)⟩

end Mpc
