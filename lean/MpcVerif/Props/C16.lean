/-
C16  Garbler never reports a wrong result under message corruption.

What Lean carries (DESIGN.md, C16): the garbler is honest, the labels it
receives for the outputs are ARBITRARY (this covers any corruption of any
message in either direction and any evaluator behaviour, because the only path
from received bytes to result bits is the label comparison).  If the garbler
returns a value, every received label is one of that wire's two labels and the
value is their decoding; hence a WRONG value implies that some received label
equals the honest label xor the secret offset r.

Streaming sessions: the result loop reads exactly `Outputs.Size()` labels
(`C16_stream_result_count`, Model/StreamResult.lean).  Outside the reduction: a
corrupted argument description makes the honest evaluator ask the OT for other
input bits; witnesses and the per-node check `Desc.ok` of `receiveArgument`
(`C16_desc_ok_iff_every_node`).

Full statement (not a Lean theorem, stated for the record): "no corruption of
the transcript makes the evaluator return honestLabel xor r".  That is the
authenticity of the garbling scheme: true with overwhelming probability over
r, a cryptographic statement outside Lean.  It is covered by the fault
enumeration on the real code (checks/C16.py).
-/
import MpcVerif.Proofs.Proto2
import MpcVerif.Model.StreamResult

namespace Mpc
open LabelAlg

variable {L : Type} [LabelAlg L] [DecidableEq L]

/-- If the result loop succeeds, it consumed labels that are each one of the
wire's two labels, and each bit is the decoding of its label. -/
theorem C16_ok_imp_known_labels :
    ∀ (ws : List (WireL L)) (ls : List L) (bs : List Bool), ws.length = ls.length →
      decodeLabels ws ls = .ok bs →
      bs.length = ls.length ∧
      ∀ i (hi : i < ls.length) (hw : i < ws.length) (hb : i < bs.length),
        (ls[i] = ws[i].l0 ∧ bs[i] = false) ∨ (ls[i] = ws[i].l1 ∧ bs[i] = true) := by
  intro ws
  induction ws with
  | nil =>
    intro ls bs hlen h
    obtain rfl := List.length_eq_zero_iff.mp hlen.symm
    obtain rfl : [] = bs := Except.ok.inj h
    exact ⟨rfl, fun i hi => absurd hi (Nat.not_lt_zero i)⟩
  | cons w ws ih =>
    intro ls bs hlen h
    cases ls with
    | nil => cases hlen
    | cons l ls =>
      rw [decodeLabels] at h
      split at h
      · cases h
      · split at h
        · obtain rfl := Except.ok.inj h
          obtain ⟨hl', hall⟩ := ih ls _ (Nat.succ.inj hlen) ‹_›
          refine ⟨congrArg Nat.succ hl', fun i hi hw hbi => ?_⟩
          cases i with
          | zero => exact WireL.bitFrom_eq_some ‹_›
          | succ i =>
            exact hall i (Nat.lt_of_succ_lt_succ hi) (Nat.lt_of_succ_lt_succ hw)
              (Nat.lt_of_succ_lt_succ hbi)
        · cases h

/-- **C16 (reduction).**  Honest garbler state: every result wire's pair
satisfies `l1 = l0 ⊕ r`; `v` are the correct output bits, so the honest
evaluator would return `ws[i].labelFor v[i]`.  Whatever labels `ls` actually
arrive: if the garbler's result loop succeeds with bits `bs ≠ v`, then at some
position the received label is exactly the honest label xor `r`. -/
theorem C16_wrong_imp_offset (r : L) (ws : List (WireL L)) (v : List Bool) (ls : List L)
    (bs : List Bool) (hpairs : ∀ w ∈ ws, w.l1 = w.l0 ^^^ r) (hv : v.length = ws.length)
    (hlen : ws.length = ls.length) (hok : decodeLabels ws ls = .ok bs) (hwrong : bs ≠ v) :
    ∃ i, ∃ (hi : i < ls.length) (hw : i < ws.length) (hvi : i < v.length),
      ls[i] = ws[i].labelFor v[i] ^^^ r := by
  obtain ⟨hbl, hall⟩ := C16_ok_imp_known_labels ws ls bs hlen hok
  -- if no position carried the label of the other bit, every bit would be the right one
  refine Classical.byContradiction fun hcon =>
    hwrong (List.ext_getElem (hbl.trans (hlen.symm.trans hv.symm)) fun i h1 h2 => ?_)
  have hi : i < ls.length := hbl ▸ h1
  have hw : i < ws.length := hlen ▸ hi
  have hl : ls[i] = ws[i].labelFor bs[i] := by
    rcases hall i hi hw h1 with ⟨hl, hb⟩ | ⟨hl, hb⟩ <;> rw [hl, hb] <;> rfl
  refine Classical.byContradiction fun hne => hcon ⟨i, hi, hw, h2, ?_⟩
  rw [hl, Bool.eq_not_of_ne hne]
  exact WireL.labelFor_not (hpairs _ (List.getElem_mem _)) _

/-- Decision logic stated outright: a label that is neither of the wire's two
labels makes the result loop fail (error branch), whatever else arrives. -/
theorem C16_unknown_label_is_error (w : WireL L) (l : L) (ws : List (WireL L)) (ls : List L)
    (h0 : l ≠ w.l0) (h1 : l ≠ w.l1) :
    decodeLabels (w :: ws) (l :: ls) = .error (.unknownLabel ls.length) := by
  simp [decodeLabels, WireL.bitFrom, h0, h1]

/-- The whole-circuit garbler's result loop is this decision logic applied to
the last `nOut` wires of its own garbling. -/
theorem C16_garblerDecode_eq (p : Circuit2) (G : Garbled L) (ls : List L) :
    ∀ i, (match garblerDecode p G i ls with | .ok bs => some bs | .error _ => none) =
      (match decodeLabels ((List.range' i ls.length).map fun j => G.wires.get (p.c.numWires - p.c.nOut + j)) ls with
        | .ok bs => some bs | .error _ => none) := by
  induction ls with
  | nil => intro i; rfl
  | cons l ls ih =>
    intro i
    simp only [garblerDecode, List.length_cons, List.range'_succ, List.map_cons, decodeLabels]
    cases (G.wires.get (p.c.numWires - p.c.nOut + i)).bitFrom l with
    | none => rfl
    | some b =>
      have := ih (i + 1)
      revert this
      cases garblerDecode p G (i + 1) ls <;>
        cases decodeLabels ((List.range' (i + 1) ls.length).map fun j =>
          G.wires.get (p.c.numWires - p.c.nOut + j)) ls <;>
        intro this <;> first | (cases this; rfl) | cases this

/-! ## Streaming sessions: the result loop counts

`compiler/ssa/streamer.go` reads exactly `Outputs.Size()` labels, one
`ReceiveLabel` each; `decodeLabels` (the decision logic above) stops at the
shorter of its two lists, so the COUNT is a separate obligation. -/

/-- The streaming result loop is the shared decision logic applied to exactly
the first `ws.length` labels of the stream. -/
theorem C16_streamResultLoop_eq_decode :
    ∀ (ws : List (WireL L)) (ls : List L) (bs : List Bool) (rest : List L),
      streamResultLoop ws ls = .ok (bs, rest) →
      ws.length ≤ ls.length ∧ rest = ls.drop ws.length ∧
        decodeLabels ws (ls.take ws.length) = .ok bs := by
  intro ws ls
  fun_induction streamResultLoop ws ls with
  | case1 ls =>
    intro bs rest h
    obtain ⟨rfl, rfl⟩ := Prod.mk.inj (Except.ok.inj h)
    exact ⟨Nat.zero_le _, rfl, rfl⟩
  | case4 w ws l ls b hb bs' rest' hrest ih =>
    intro bs rest h
    obtain ⟨rfl, rfl⟩ := Prod.mk.inj (Except.ok.inj h)
    obtain ⟨hle, hdrop, hdec⟩ := ih _ _ hrest
    refine ⟨Nat.succ_le_succ hle, hdrop, ?_⟩
    simp only [List.length_cons, List.take_succ_cons, decodeLabels, hb, hdec]
  | case2 | case3 | case5 =>
    -- stream ended early, unknown label, error further down: no `ok`
    intro _ _ h
    cases h

/-- **C16 (streaming result loop counts).**  If the streaming garbler's result
loop returns `ok`, it consumed EXACTLY `ws.length = Outputs.Size()` labels (the
stream held at least that many, the rest is left unread), it produced exactly
that many bits, and label `i` is one of the two labels of result wire `i`,
decoded accordingly.  A stream that ends early is an error, never a shorter
result. -/
theorem C16_stream_result_count (ws : List (WireL L)) (ls : List L) (bs : List Bool) (rest : List L)
    (h : streamResultLoop ws ls = .ok (bs, rest)) :
    bs.length = ws.length ∧ ws.length ≤ ls.length ∧ rest = ls.drop ws.length ∧
      ∀ i (hw : i < ws.length) (hl : i < ls.length) (hb : i < bs.length),
        (ls[i] = ws[i].l0 ∧ bs[i] = false) ∨ (ls[i] = ws[i].l1 ∧ bs[i] = true) := by
  obtain ⟨hle, hdrop, hdec⟩ := C16_streamResultLoop_eq_decode ws ls bs rest h
  have hlen := (List.length_take_of_le hle).symm
  obtain ⟨hbl, hall⟩ := C16_ok_imp_known_labels ws (ls.take ws.length) bs hlen hdec
  refine ⟨hbl.trans hlen.symm, hle, hdrop, fun i hw hl hb => ?_⟩
  have := hall i (hlen ▸ hw) hw hb
  rwa [List.getElem_take] at this

/-- A stream that ends before `Outputs.Size()` labels arrived is an error. -/
theorem C16_stream_short_is_error (ws : List (WireL L)) (ls : List L) (hlt : ls.length < ws.length) :
    ∀ bs rest, streamResultLoop ws ls ≠ .ok (bs, rest) := by
  intro bs rest h
  have := (C16_streamResultLoop_eq_decode ws ls bs rest h).1
  omega

/-- The reduction for streaming sessions: honest garbler state, ARBITRARY
arriving stream; a wrong value returned as success implies that one of the
first `Outputs.Size()` labels equals the honest label xor `r`. -/
theorem C16_stream_wrong_imp_offset (r : L) (ws : List (WireL L)) (v : List Bool) (ls : List L)
    (bs : List Bool) (rest : List L) (hpairs : ∀ w ∈ ws, w.l1 = w.l0 ^^^ r) (hv : v.length = ws.length)
    (hok : streamResultLoop ws ls = .ok (bs, rest)) (hwrong : bs ≠ v) :
    ∃ i, ∃ (hi : i < ls.length) (hw : i < ws.length) (hvi : i < v.length),
      ls[i] = ws[i].labelFor v[i] ^^^ r := by
  obtain ⟨hle, _, hdec⟩ := C16_streamResultLoop_eq_decode ws ls bs rest hok
  obtain ⟨i, hi, hw, hvi, h⟩ := C16_wrong_imp_offset r ws v (ls.take ws.length) bs hpairs hv
    (List.length_take_of_le hle).symm hdec hwrong
  exact ⟨i, Nat.lt_of_lt_of_le hw hle, hw, hvi, by rwa [List.getElem_take] at h⟩

/-- **Negation witness for a loop that resolves `len(block)/16` labels** (the
seeded change S86, `blockResultLoop`): a block holding only the first of two
honest result labels is ACCEPTED and decodes to 1 where the result is 3; the
repository's loop (`streamResultLoop`) reports an error on the same stream. -/
theorem C16_block_loop_accepts_short_block :
    ∃ (ws : List (WireL (BitVec 128))) (v : List Bool) (block : List (BitVec 128)) (bs : List Bool),
      v.length = ws.length ∧
      block = (List.zipWith (fun w b => w.labelFor b) ws v).take block.length ∧
      blockResultLoop ws block = .ok bs ∧ bs.length < ws.length ∧ packLE bs ≠ packLE v ∧
      streamResultLoop ws block = .error .desync :=
  ⟨[⟨3#128, 5#128⟩, ⟨7#128, 9#128⟩], [true, true], [5#128], [true], by decide, by decide,
    by simp [blockResultLoop, decodeLabels, WireL.bitFrom], by decide, by decide,
    by simp [streamResultLoop, WireL.bitFrom]⟩

/-! ## What the reduction does NOT cover: the evaluator's input bits

`C16_wrong_imp_offset` speaks about the labels that come back.  The honest
evaluator obtains, by OT, the labels of the input bits IT ASKS FOR; in a
streaming session it computes those bits by parsing its own input strings with
the argument description the garbler sent (`receiveArgument`, then
`IOArg.Parse`).  If a transit corruption changes that description, the
evaluator asks for the bits of another input `y'`, evaluates honestly and
returns the honest labels of `f(x, y')`: every one of them is a label of its
wire, the result loop succeeds, and where `f(x, y') ≠ f(x, y)` the conclusion
of `C16_wrong_imp_offset` holds although no label was forged: the evaluator
was GIVEN the other label by the OT. -/

/-- Honest labels of ANY output vector `v'` pass the streaming result
loop and decode to `v'`: the garbler cannot tell `f(x, y')` from `f(x, y)`. -/
theorem C16_labels_of_other_input_accepted :
    ∀ (ws : List (WireL L)) (v' : List Bool), (∀ w ∈ ws, w.l0 ≠ w.l1) → v'.length = ws.length →
      streamResultLoop ws (List.zipWith (fun w b => w.labelFor b) ws v') = .ok (v', []) := by
  intro ws
  induction ws with
  | nil =>
    intro v' _ hlen
    obtain rfl := List.length_eq_zero_iff.mp hlen
    rfl
  | cons w ws ih =>
    intro v' hne hlen
    cases v' with
    | nil => cases hlen
    | cons b bs =>
      rw [List.zipWith_cons_cons, streamResultLoop,
        WireL.bitFrom_labelFor (hne w List.mem_cons_self),
        ih bs (fun w' hw' => hne w' (List.mem_cons_of_mem _ hw')) (Nat.succ.inj hlen)]

namespace C16Desc
open IoArg

/-- `main(a uint16, b Pair)` with `type Pair struct { x, y uint16 }`: the
description of the evaluator's argument as the garbler sends it. -/
def pair : Desc :=
  .mk (.base .struct 32 0) 32 [.mk (.base .uint 16 0) 16 [], .mk (.base .uint 16 0) 16 []]
/-- The same description with the low byte of member `x`'s size word xor 0x18: 16 becomes 8. -/
def pairCorrupted : Desc :=
  .mk (.base .struct 32 0) 32 [.mk (.base .uint 16 0) 8 [], .mk (.base .uint 16 0) 16 []]
def pairInput : List StrFacts :=
  [StrFacts.ofString "0x0102" (some 0x0102), StrFacts.ofString "0x0304" (some 0x0304)]

/-- `main(a uint16, b []uint16)`, evaluator input of three elements (48 bits). -/
def slice16 : Desc := .mk (.elem .slice 0 0 (.base .uint 16 0)) 48 []
/-- The type string `[]uint16` with one bit of the digit `6` flipped: `[]uint12`. -/
def slice12 : Desc := .mk (.elem .slice 0 0 (.base .uint 12 0)) 48 []
def sliceInput : List StrFacts := [StrFacts.ofString "0xef78402e5eeb" (some 0xef78402e5eeb)]

end C16Desc

open C16Desc in
/-- **Witness (defect found on the unchanged tree).**  Under the corrupted
description the evaluator's own `IOArg.Parse` packs the same strings into
another 32-bit input (`0x00030402` instead of `0x03040102`): with
`f(a, b) = a + b.x + 2*b.y` and `a = 1000` the session completes and the
garbler returns 2032 instead of 2802.  The unpatched `receiveArgument` accepts
both descriptions (it checks nothing); the checks of the repair
(`Desc.ok`) reject the corrupted one: members of 8 + 16 bits in a compound of
32, size word 8 for type string `uint16`. -/
theorem C16_description_member_width_witness :
    (pair.toArg.parse pairInput).toOption = some 0x03040102 ∧
    (pairCorrupted.toArg.parse pairInput).toOption = some 0x00030402 ∧
    (1000 + 0x0102 + 2 * 0x0304 = 2802 ∧ 1000 + 0x0402 + 2 * 0x0003 = 2032) ∧
    pair.ok = true ∧ pairCorrupted.ok = false := by
  decide +kernel

open C16Desc in
/-- **Witness (what no local check can close).**  The element width of a slice
argument travels only in the type string.  `[]uint16` and `[]uint12` with size
word 48 BOTH pass every local consistency check (48 is a multiple of 16 and
of 12), and the same input string parses to different input bits: after the
repair the result is still `f(x, y')` for another well-formed input `y'`, and
only an authenticated description (or the evaluator knowing the program) could
tell.  -/
theorem C16_description_residual_witness :
    slice16.ok = true ∧ slice12.ok = true ∧
    (slice16.toArg.parse sliceInput).toOption = some 0x5eeb402eef78 ∧
    (slice12.toArg.parse sliceInput).toOption = some 0xeeb2e5840ef7 := by
  decide +kernel

theorem Desc.ok_mk (p : IoArg.Info) (s : Nat) (ms : List Desc) :
    (Desc.mk p s ms).ok = ((Desc.mk p s ms).okNode && Desc.oks ms) := by
  simp only [Desc.ok, Desc.okNode] <;> rfl

mutual
/-- **C16 (argument description, every node).**  `Desc.ok` (the model of the
check `receiveArgument` makes while it receives the tree) holds iff the
one-record conditions hold at EVERY record of the tree: the argument, its
members, their members (induction over the tree). -/
theorem C16_desc_ok_iff_every_node (d : Desc) : d.ok = true ↔ ∀ n ∈ d.nodes, n.okNode = true := by
  match d with
  | .mk p s ms =>
    have ih := C16_desc_oks_iff_every_node ms
    rw [Desc.ok_mk]
    simp only [Desc.nodes, List.mem_cons, forall_eq_or_imp, Bool.and_eq_true, ih]
theorem C16_desc_oks_iff_every_node (ds : List Desc) :
    Desc.oks ds = true ↔ ∀ n ∈ Desc.nodesL ds, n.okNode = true := by
  match ds with
  | [] => simp [Desc.oks, Desc.nodesL]
  | d :: ds =>
    have ih1 := C16_desc_ok_iff_every_node d
    have ih2 := C16_desc_oks_iff_every_node ds
    simp only [Desc.oks, Desc.nodesL, List.mem_append, Bool.and_eq_true, ih1, ih2, or_imp,
      forall_and]
end

/-- Consequence: in an accepted description the size word of EVERY record
whose type string carries a size (scalars, arrays of sized elements: at any
depth) is that size: the width the evaluator packs that member with is the one
its own type string names. -/
theorem C16_desc_ok_every_width (d : Desc) (h : d.ok = true) :
    ∀ n ∈ d.nodes, ∀ b, Desc.typeSize n.parsed = some b → n.size = b := by
  intro n hn b hb
  have hk := (C16_desc_ok_iff_every_node d).1 h n hn
  cases n with
  | mk p s ms =>
    simp only [Desc.parsed] at hb
    simp only [Desc.okNode, hb, Bool.and_eq_true, beq_iff_eq] at hk
    simp only [Desc.size]
    exact hk.1.1.symm

namespace C16Desc
open IoArg
/-- `main(g uint16, e E)` with `type E struct { a uint8; b uint16; c [3]uint8 }`:
the description of the evaluator's argument as the garbler sends it. -/
def withArray : Desc :=
  .mk (.base .struct 48 0) 48
    [.mk (.base .uint 8 0) 8 [], .mk (.base .uint 16 0) 16 [], .mk (.elem .array 24 3 (.base .uint 8 0)) 24 []]
/-- The same with the size word of member `c` changed in transit: 24 becomes 16
(low byte xor 0x08). -/
def withArrayCorrupted : Desc :=
  .mk (.base .struct 48 0) 48
    [.mk (.base .uint 8 0) 8 [], .mk (.base .uint 16 0) 16 [], .mk (.elem .array 24 3 (.base .uint 8 0)) 16 []]
/-- The evaluator's input strings `2 300 0x010203` (every element non-zero). -/
def withArrayInput : List StrFacts :=
  [StrFacts.ofString "2" (some 2), StrFacts.ofString "300" (some 300), StrFacts.ofString "0x010203" (some 0x010203)]
end C16Desc

open C16Desc in
/-- **Negation witness for a check applied once at the root** (the seeded
change S119, `okRootOnly`; never the code of the repository): the array member
counts with the size of its type string, so the root sum comes out right and
the description is ACCEPTED, although member `c` is inconsistent with its own
type string (`okNode` fails on it, `Desc.ok` rejects the tree).  The
evaluator then packs `c` with 16 bits: element `c[2] = 3` is dropped
(`0x0201012c02` instead of `0x030201012c02`) and with
`f(g, e) = g + e.a + e.b + e.c[0] + 3*e.c[2]`, `g = 1` the session completes
with 304 instead of 313. -/
theorem C16_root_only_check_accepts_inconsistent_member :
    withArray.ok = true ∧ withArray.okRootOnly = true ∧
    withArrayCorrupted.okRootOnly = true ∧ withArrayCorrupted.ok = false ∧
    (∃ n ∈ withArrayCorrupted.nodes, n ≠ withArrayCorrupted ∧ n.okNode = false ∧
      Desc.typeSize n.parsed = some 24 ∧ n.size = 16) ∧
    (withArray.toArg.parse withArrayInput).toOption = some 0x030201012c02 ∧
    (withArrayCorrupted.toArg.parse withArrayInput).toOption = some 0x0201012c02 ∧
    (1 + 2 + 300 + 1 + 3 * 3 = 313 ∧ 1 + 2 + 300 + 1 + 3 * 0 = 304) := by
  refine ⟨by decide +kernel, by decide +kernel, by decide +kernel, by decide +kernel,
    ⟨.mk (.elem .array 24 3 (.base .uint 8 0)) 16 [], by simp [Desc.nodes, Desc.nodesL, withArrayCorrupted], ?_, by decide +kernel, by decide +kernel,
      by decide +kernel⟩, by decide +kernel, by decide +kernel, by decide⟩
  intro h
  have := congrArg Desc.size h
  simp [Desc.size, withArrayCorrupted] at this

/-- non-vacuity of `C16_desc_ok_iff_every_node` / `C16_desc_ok_every_width`: an
accepted tree with members (4 records), and a member with a sized type string -/
example : C16Desc.withArray.ok = true ∧ C16Desc.withArray.nodes.length = 4 := by decide +kernel
example : ∃ n ∈ C16Desc.withArray.nodes, Desc.typeSize n.parsed = some 24 ∧ n.size = 24 :=
  ⟨.mk (.elem .array 24 3 (.base .uint 8 0)) 24 [], by simp [Desc.nodes, Desc.nodesL, C16Desc.withArray], by decide +kernel, by decide +kernel⟩
example : Desc.oks C16Desc.withArray.members = true := by decide +kernel

/-- Evaluator-side decision logic: a wrong gate count in the first flight is an
error, not an evaluation. -/
theorem C16_wrong_gate_count (p : Circuit2) (key : List UInt8) (count : Nat) (ms : List (Msg L))
    (h : count ≠ p.c.gates.length) :
    evaluatorRecv1 p (.data key :: .u32 count :: ms) = .error (.wrongGateCount count p.c.gates.length) := by
  simp [evaluatorRecv1, h]

/-! Non-vacuity: the hypotheses are met by every honest garbling (C01 gives
`l1 = l0 ⊕ r` on every defined wire); concrete instances: -/
example : decodeLabels [(⟨3#128, 5#128⟩ : WireL (BitVec 128))] [5#128] = .ok [true] := by
  simp [decodeLabels, WireL.bitFrom]
example : decodeLabels [(⟨3#128, 5#128⟩ : WireL (BitVec 128))] [4#128] = .error (.unknownLabel 0) := by
  simp [decodeLabels, WireL.bitFrom]
/-- non-vacuity of `C16_stream_result_count`: an accepted stream with a label left unread -/
example : streamResultLoop [(⟨3#128, 5#128⟩ : WireL (BitVec 128))] [5#128, 9#128] = .ok ([true], [9#128]) := by
  simp [streamResultLoop, WireL.bitFrom]
example : streamResult 0 [(⟨3#128, 5#128⟩ : WireL (BitVec 128))] [3#128] = .ok [false] := by
  simp [streamResult, streamResultLoop, WireL.bitFrom]
example : streamResult 1 [(⟨3#128, 5#128⟩ : WireL (BitVec 128))] [3#128] = .error .desync := by
  simp [streamResult]

end Mpc
