/-
C09 (operator level)  The two axes of C09 that `Props/C09.lean` leaves to
simulation — the multiplier threshold and the compilation target — proved at
the level of the circuit builders, for EVERY operand width, result width,
prologue variant and operand value, as corollaries of the exactness theorems of
`Props/C07.lean`: two builders that both compute the exact function with the
same number of result wires give the same result wires.

The Lean generators used here (`newAdder`, `newSubtractor` — ripple carry for
Yao, Kogge-Stone for GMW —, `arrayMultiplier`, `karatsuba`, `wallace`,
`newMultiplier`, `hamming`, `uDividerLong`) are the ones compared gate for gate with the real Go builders on
every run of the C07 check (T4).

What this does NOT cover: the GMW target of `NewUDivider` (Goldschmidt divider;
the quotient estimate is a validated hypothesis in C07, and a/0 differs between
the targets: `C09_target_equivalence_fails`), and the composition of operators
into whole programs (the SSA → circuit stage is validated per program by the
checker of `Props/C09.lean`).
-/
import MpcVerif.Props.C07

namespace Mpc
open Mpc.Bld

private theorem bits_eq_of_spec {a b : List Bool} {n v : Nat}
    (ha : a.length = n ∧ toNat a = v) (hb : b.length = n ∧ toNat b = v) : a = b :=
  toNat_inj a b (ha.1.trans hb.1.symm) (ha.2.trans hb.2.symm)

/-- Target axis, addition: `NewAdder` for the Yao target (ripple carry) and for
the GMW target (Kogge-Stone) drive identical result bits for all widths and
values. -/
theorem C09_add_target_equiv (pro : Bool) (x y : List Bool) (nz : Nat)
    (hw : 0 < max x.length y.length) (hnz : 0 < nz) :
    evalBuilder (fun a b => newAdder false a b nz) pro x y =
      evalBuilder (fun a b => newAdder true a b nz) pro x y :=
  bits_eq_of_spec (C07_adder pro x y nz hw hnz) (C07_ksAdder pro x y nz hw hnz)

example : evalBuilder (fun a b => newAdder false a b 7) true (ofNat 6 31) (ofNat 6 33) =
    evalBuilder (fun a b => newAdder true a b 7) true (ofNat 6 31) (ofNat 6 33) :=
  C09_add_target_equiv true _ _ 7 (by decide) (by decide)

/-- Target axis, subtraction: `NewSubtractor` ripple-borrow (Yao) and
Kogge-Stone (GMW) agree on every result bit. -/
theorem C09_sub_target_equiv (pro : Bool) (x y : List Bool) (nz : Nat)
    (hw : 0 < max x.length y.length) (hnz : 0 < nz) :
    evalBuilder (fun a b => newSubtractor false a b nz) pro x y =
      evalBuilder (fun a b => newSubtractor true a b nz) pro x y :=
  have h1 := C07_sub pro x y nz hw hnz
  have h2 := C07_ksSub pro x y nz hw hnz
  toNat_inj _ _ (h1.1.trans h2.1.symm) (Int.natCast_inj.mp (h1.2.trans h2.2.symm))

example : evalBuilder (fun a b => newSubtractor false a b 8) true (ofNat 6 0) (ofNat 6 1) =
    evalBuilder (fun a b => newSubtractor true a b 8) true (ofNat 6 0) (ofNat 6 1) :=
  C09_sub_target_equiv true _ _ 8 (by decide) (by decide)

/-- Threshold axis: the Karatsuba multiplier gives the same result bits for ANY
two array thresholds `l₁, l₂ ≥ 3` (on either target), for all widths and values;
`params.CircMultArrayTreshold` therefore never changes a product. -/
theorem C09_mul_threshold_irrelevant (gmw : Bool) (l₁ l₂ : Nat) (h₁ : 3 ≤ l₁) (h₂ : 3 ≤ l₂)
    (pro : Bool) (x y : List Bool) (nz : Nat) (hw : 0 < max x.length y.length) (hnz : 0 < nz) :
    evalBuilder (fun a b => do
        let r ← karatsuba gmw l₁ (2 * max a.length b.length + 8) a b nz
        pure (r.getD [])) pro x y =
    evalBuilder (fun a b => do
        let r ← karatsuba gmw l₂ (2 * max a.length b.length + 8) a b nz
        pure (r.getD [])) pro x y :=
  bits_eq_of_spec (C07_karatsuba gmw l₁ h₁ pro x y nz hw hnz) (C07_karatsuba gmw l₂ h₂ pro x y nz hw hnz)

example : evalBuilder (fun a b => do
      let r ← karatsuba false 3 (2 * max a.length b.length + 8) a b 10
      pure (r.getD [])) true (ofNat 5 27) (ofNat 5 19) =
    evalBuilder (fun a b => do
      let r ← karatsuba false 21 (2 * max a.length b.length + 8) a b 10
      pure (r.getD [])) true (ofNat 5 27) (ofNat 5 19) :=
  C09_mul_threshold_irrelevant false 3 21 (by decide) (by decide) true _ _ 10 (by decide) (by decide)

/-- Threshold axis, extreme case: Karatsuba at any threshold equals the plain
array multiplier (the `limit = ∞` configuration). -/
theorem C09_mul_karatsuba_eq_array (gmw : Bool) (l : Nat) (hl : 3 ≤ l)
    (pro : Bool) (x y : List Bool) (nz : Nat) (hw : 0 < max x.length y.length) (hnz : 0 < nz) :
    evalBuilder (fun a b => do
        let r ← karatsuba gmw l (2 * max a.length b.length + 8) a b nz
        pure (r.getD [])) pro x y =
    evalBuilder (fun a b => arrayMultiplier a b nz) pro x y :=
  bits_eq_of_spec (C07_karatsuba gmw l hl pro x y nz hw hnz) (C07_arrayMult pro x y nz hw hnz)

/-- Target axis, multiplication: `NewMultiplier` for Yao (Karatsuba with the
per-width threshold table) and for GMW (Wallace tree) compute the same number,
`(x·y) mod 2^nz` (numbers only: `C07_mul_gmw` has no length clause). -/
theorem C09_mul_target_equiv (pro : Bool) (x y : List Bool) (nz : Nat)
    (hw : 0 < max x.length y.length) (hnz : 0 < nz) :
    toNat (evalBuilder (fun a b => do let r ← newMultiplier false a b nz; pure (r.getD [])) pro x y) =
      toNat (evalBuilder (fun a b => do let r ← newMultiplier true a b nz; pure (r.getD [])) pro x y) := by
  rw [(C07_mul_yao pro x y nz hw hnz).2, C07_mul_gmw pro x y nz (by omega) hnz]

/-- Target axis, multiplication, bit for bit: Yao Karatsuba vs the Wallace tree
itself (which has the length clause). -/
theorem C09_mul_target_equiv_bits (pro : Bool) (x y : List Bool) (nz : Nat)
    (hw : 0 < max x.length y.length) (hnz : 0 < nz) :
    evalBuilder (fun a b => do let r ← newMultiplier false a b nz; pure (r.getD [])) pro x y =
      evalBuilder (fun a b => wallace a b nz) pro x y :=
  bits_eq_of_spec (C07_mul_yao pro x y nz hw hnz) (C07_wallace pro x y nz (by omega) hnz)

example : evalBuilder (fun a b => do let r ← newMultiplier false a b 8; pure (r.getD [])) true (ofNat 4 13) (ofNat 4 11) =
    evalBuilder (fun a b => wallace a b 8) true (ofNat 4 13) (ofNat 4 11) :=
  C09_mul_target_equiv_bits true _ _ 8 (by decide) (by decide)

/-- Target axis, Hamming distance: the adder tree built from ripple-carry
adders (Yao) and from Kogge-Stone adders (GMW) gives the same bits. -/
theorem C09_hamming_target_equiv (pro : Bool) (x y : List Bool) (nz : Nat)
    (hw : 1 ≤ max x.length y.length) (hnz : 0 < nz) :
    evalBuilder (fun a b => hamming false a b nz) pro x y =
      evalBuilder (fun a b => hamming true a b nz) pro x y :=
  bits_eq_of_spec (C07_hamming false pro x y nz hw hnz) (C07_hamming true pro x y nz hw hnz)

/-- Target axis, unsigned long division (`NewUDividerLong`, whose subtractor
follows the target): quotient and remainder agree between the targets for every
NON-ZERO divisor.  (The GMW target of `NewUDivider` is the Goldschmidt divider,
not this builder; see the header.) -/
theorem C09_udiv_long_target_equiv (pro : Bool) (x y : List Bool) (nz : Nat)
    (hw : 0 < max x.length y.length) (hy0 : toNat y ≠ 0) :
    evalBuilder (fun a b => do let d ← uDividerLong false a b nz 0; pure d.1) pro x y =
      evalBuilder (fun a b => do let d ← uDividerLong true a b nz 0; pure d.1) pro x y :=
  bits_eq_of_spec (C07_udiv false pro x y nz hw hy0) (C07_udiv true pro x y nz hw hy0)

/-- The same for the remainder. -/
theorem C09_umod_long_target_equiv (pro : Bool) (x y : List Bool) (nz : Nat)
    (hw : 0 < max x.length y.length) (hy0 : toNat y ≠ 0) :
    evalBuilder (fun a b => do let d ← uDividerLong false a b 0 nz; pure d.2) pro x y =
      evalBuilder (fun a b => do let d ← uDividerLong true a b 0 nz; pure d.2) pro x y :=
  bits_eq_of_spec (C07_umod false pro x y nz hw hy0) (C07_umod true pro x y nz hw hy0)

example : evalBuilder (fun a b => do let d ← uDividerLong false a b 5 0; pure d.1) true (ofNat 5 29) (ofNat 5 3) =
    evalBuilder (fun a b => do let d ← uDividerLong true a b 5 0; pure d.1) true (ofNat 5 29) (ofNat 5 3) :=
  C09_udiv_long_target_equiv true _ _ 5 (by decide) (by decide)

end Mpc
