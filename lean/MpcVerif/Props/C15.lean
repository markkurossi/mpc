/-
C15  Malicious-mode OT extension detects a deviating receiver.

Quantification.  Every family of PRG streams (`R0 R1 SS : column → position →
byte`, hence every AES key), every challenge generator `X : seed → index →
Label` (hence every PRG for `chi`), every `Delta`, every in-step stream state,
every choice vector of every length `n` (all chunk counts, all tails, all
1024-blocks of the challenge loop), every random choice vector `(b0, b1)` and
seed of the check batch, every error matrix `E1` (payload batch) / `E2`
(256-row check batch) XORed into the transmitted chunks — every single and
multiple flip at every (column, row) position including the padding rows of
the last byte-row — and every altered response `(x', t0', t1')`.  The only
link between the parties is `BaseOK` (the base OTs delivered, C06).

What is proved about "never silently accepts an inconsistent state": the
sender accepts EXACTLY on the zero set of
`residual = Σ_r χ_r·(E_r & Δ) ⊕ (x ⊕ x')·Δ ⊕ (t ⊕ t')` (unreduced 256-bit
products), and when it accepts its outputs are the honest ones XOR `E_r & Δ`
(`C15_kos_accept_iff`; for alterations given as sets of positions
`C15_kos_set_accept_iff`); the deterministic corollaries of that; and that
honest executions never abort, in one call and in every history of calls on one
pair.

FULL STATEMENT, NOT PROVED (and false as a deterministic statement,
`C15_kos_full_statement_false` in Props/C15Count.lean):

    ∀ E1 E2 x' t0' t1',  sendKos … = some out  →
        ∀ i < n, received_i = out.labels_i xor choice_i*Delta

1. For alterations of the matrix alone that span several rows with
   `E_r & Δ ≠ 0`, acceptance means `Σ_r χ_r·(E_r & Δ) = 0`, a non-trivial
   GF(2)[X]-linear relation among the PRG outputs `χ_r`; that this has
   probability about 2⁻¹²⁸ over the seed is a cryptographic statement about
   AES-CTR outside Lean.  The deterministic parts are `C15_kos_single_row_sound`
   (all effective alterations in one row) and `C15_kos_distinct_sound` (two
   positions of one column, coefficients pairwise distinct).  For alterations
   chosen WITH knowledge of `seed2` (it is on the wire, and the receiver picks
   it itself) the statement is false: the `n + 256 > 128` coefficients are
   128-bit vectors, so some set `S` of at most 129 rows has `XOR_{r∈S} χ_r = 0`
   (`C15_dependent_rows_exist`; Gaussian elimination finds it), and flipping
   one column at the rows of `S` is accepted whatever `Δ` is:
   `C15_kos_dependent_rows_forgery_witness`.
2. For alterations of the matrix TOGETHER with the response the statement is
   false: `C15_kos_adaptive_forgery_witness` — whoever sees `seed2` on the wire and
   guesses `E_r & Δ` (one bit of `Δ` for a single flip: probability 1/2) can
   set `t' = t ⊕ Σ_r χ_r·(E_r & Δ)` and is accepted with inconsistent outputs.
   This is the selective-failure leakage inherent to the KOS check.
-/
import MpcVerif.Proofs.KosSet
import MpcVerif.Proofs.KosMix

namespace Mpc
open Mpc.Iknp Mpc.Clmul Mpc.Kos

/-- The coefficients of `mul128(a, b)` are those of the product of the
polynomials over GF(2): coefficient `k` (`k < 256`; `lo` holds 0..127, `hi`
128..255, coefficient `j` of a label is `Label.Bit(j)`) is the XOR over `i` of
`b_i ∧ a_(k-i)`. -/
theorem C15_clmul_coefficients (a b : Label) (k : Nat) :
    c256 (mul128 a b) k = xsum 128 fun i => coef b i && decide (i ≤ k) && coef a (k - i) :=
  c256_mul128Generic a b k

/-- `TestMul128Cross`: `X^63 · X^63 = X^126`. -/
example : mul128 (ofD (1#64 <<< 63) 0#64) (ofD (1#64 <<< 63) 0#64) = (ofD 0#64 (1#64 <<< 62), 0#128) := by
  decide +kernel

/-- `mul128` is GF(2)-bilinear (XOR-additive in each argument, zero-preserving). -/
theorem C15_clmul_bilinear (a a' b b' : Label) :
    mul128 (a ^^^ a') b = pxor (mul128 a b) (mul128 a' b) ∧
    mul128 a (b ^^^ b') = pxor (mul128 a b) (mul128 a b') ∧
    mul128 0#128 b = pzero ∧ mul128 a 0#128 = pzero :=
  ⟨mul128_xor_left a a' b, mul128_xor_right a b b', mul128_zero_left b, mul128_zero_right a⟩

example : mul128 (3#128 ^^^ 5#128) 7#128 = pxor (mul128 3#128 7#128) (mul128 5#128 7#128) :=
  (C15_clmul_bilinear 3#128 5#128 7#128 0#128).1

/-- The unreduced product of two non-zero labels is non-zero. -/
theorem C15_clmul_no_zero_div (a b : Label) (ha : a ≠ 0#128) (hb : b ≠ 0#128) : mul128 a b ≠ pzero :=
  mul128_ne_zero a b ha hb

example : (1#128 <<< 127) ≠ 0#128 ∧ (BitVec.allOnes 128 : Label) ≠ 0#128 := by decide

/-- The algorithm of the amd64 assembly `mul128CLMUL` (three 64x64 carry-less
products, Karatsuba) computes `mul128Generic`, for any operands. -/
theorem C15_clmul_asm_algorithm (a b : Label) : mul128Karatsuba a b = mul128Generic a b :=
  mul128Karatsuba_eq a b

example : mul128Karatsuba (BitVec.allOnes 128) (ofD 5#64 9#64) = mul128Generic (BitVec.allOnes 128) (ofD 5#64 9#64) :=
  C15_clmul_asm_algorithm _ _

/-- Honest executions never abort.  For every `n = b.size`
(also 0), every choice vector, every random check vector and seed, on every
in-step pair: the sender consumes exactly the receiver's chunks and four
labels, the check passes, both sides end in step, and the outputs satisfy
`received_i = sent_i xor choice_i*Delta`. -/
theorem C15_kos_complete (X : Label → Nat → Label) (R0 R1 SS : Nat → Nat → Byte) (delta : Label)
    (hb : BaseOK R0 R1 SS delta) (rs : RecvSt) (ss : SendSt) (hs : InStep rs ss) (b : Array Bool)
    (b0 b1 seed2 : Label) (moreD : List Bytes) (moreL : List Label) :
    ∃ ss' sent,
      sendKos X SS delta ss b.size ((receiveKos X R0 R1 rs b b0 b1 seed2).msgs ++ moreD)
          ((receiveKos X R0 R1 rs b b0 b1 seed2).resp ++ moreL) =
        some { st := ss', labels := sent, restData := moreD, restLabels := moreL } ∧
      InStep (receiveKos X R0 R1 rs b b0 b1 seed2).st ss' ∧ sent.length = b.size ∧
      (receiveKos X R0 R1 rs b b0 b1 seed2).labels.length = b.size ∧
      ∀ i, i < b.size →
        (receiveKos X R0 R1 rs b b0 b1 seed2).labels.getD i 0#128 =
          sent.getD i 0#128 ^^^ (if b.getD i false then delta else 0#128) :=
  kos_complete_call X R0 R1 SS delta hb rs ss hs b b0 b1 seed2 moreD moreL

/-- Non-vacuity: for any receiver streams and any `Delta` there is a sender
satisfying `BaseOK`, and freshly initialised parties are in step. -/
example (R0 R1 : Nat → Nat → Byte) (delta : Label) :
    BaseOK R0 R1 (fun i p => if labelBit delta i then R1 i p else R0 i p) delta ∧ InStep RecvSt.init SendSt.init :=
  ⟨fun _ _ _ => rfl, InStep.init⟩

/-- `C15_kos_complete` on caller-provided result buffers.  `Receive(b, result,
true)` transposes into the CALLER's `result` and computes its checksum from
that slice (Model/KosBuf.lean: `receiveKosAt`).  For EVERY content of `result`
(a fresh slice, the slice of the previous call on the same pair, ones, random
bytes) the receiver produces exactly the messages and labels of `receiveKos` —
the function all theorems of this file are about — hence the honest call never
aborts and its outputs are correlated. -/
theorem C15_kos_complete_any_buffer (X : Label → Nat → Label) (R0 R1 SS : Nat → Nat → Byte) (delta : Label)
    (hb : BaseOK R0 R1 SS delta) (rs : RecvSt) (ss : SendSt) (hs : InStep rs ss) (b : Array Bool)
    (b0 b1 seed2 : Label) (result : Array Label) (hres : result.size = b.size) :
    receiveKosAt Store.assign X R0 R1 rs b b0 b1 seed2 result = some (receiveKos X R0 R1 rs b b0 b1 seed2) ∧
    ∃ ss' sent,
      sendKos X SS delta ss b.size (receiveKos X R0 R1 rs b b0 b1 seed2).msgs
          (receiveKos X R0 R1 rs b b0 b1 seed2).resp =
        some { st := ss', labels := sent, restData := [], restLabels := [] } ∧
      InStep (receiveKos X R0 R1 rs b b0 b1 seed2).st ss' ∧ sent.length = b.size ∧
      ∀ i, i < b.size →
        (receiveKos X R0 R1 rs b b0 b1 seed2).labels.getD i 0#128 =
          sent.getD i 0#128 ^^^ (if b.getD i false then delta else 0#128) := by
  refine ⟨receiveKosAt_assign X R0 R1 rs b b0 b1 seed2 result hres, ?_⟩
  obtain ⟨ss', sent, h1, h2, h3, _, h5⟩ := kos_complete_call X R0 R1 SS delta hb rs ss hs b b0 b1 seed2 [] []
  rw [List.append_nil, List.append_nil] at h1
  exact ⟨ss', sent, h1, h2, h3, h5⟩

example : (#[BitVec.allOnes 128, 5#128] : Array Label).size = (#[true, false] : Array Bool).size := rfl

/-- Honest executions never abort, as a statement about HISTORIES: any number
of malicious-mode calls on one initialised pair, every call naming where its
`result` slice comes from — a fresh allocation, or a slice at any offset of
the receiver's long-lived array, as the earlier calls left it or overwritten
with arbitrary content first.  Every call is accepted by the sender ("OT
extension check failed" is not reached), consumes exactly the receiver's
messages, and delivers `received_i = sent_i xor choice_i*Delta`. -/
theorem C15_kos_history_never_aborts (X : Label → Nat → Label) (R0 R1 SS : Nat → Nat → Byte) (delta : Label)
    (hb : BaseOK R0 R1 SS delta) (SL : Nat) (arena : Array Label) (har : arena.size = SL)
    (cs : List KCall) (hwf : ∀ c ∈ cs, c.WF SL) :
    ∃ outs, sessionK Store.assign X R0 R1 SS delta RecvSt.init SendSt.init arena cs = some outs ∧
      outs.length = cs.length ∧
      ∀ k (hk : k < cs.length) (hk' : k < outs.length), KSpec delta cs[k] outs[k] :=
  sessionK_ok X R0 R1 SS delta hb SL cs _ _ arena InStep.init har hwf

/-- Non-vacuity: two calls into the same slice, a third into a window of an
array of ones. -/
example : (zerosL 3).size = 3 ∧
    ∀ c ∈ [KCall.mk #[true, false] 1#128 2#128 3#128 (.arena none 0 0),
           KCall.mk #[false, true] 4#128 5#128 6#128 (.arena none 0 0),
           KCall.mk #[true] 7#128 8#128 9#128 (.arena (some (mk 3 fun _ => BitVec.allOnes 128)) 2 0)], c.WF 3 := by
  refine ⟨by simp [zerosL], ?_⟩
  intro c hc
  simp only [List.mem_cons, List.mem_nil_iff, or_false] at hc
  rcases hc with rfl | rfl | rfl
  all_goals simp [KCall.WF, BufSrc.WF]

/-- Honest executions never abort, MIXED histories: any number of calls of ALL
kinds on one initialised pair, in any order - malicious-mode label calls (with
the consistency check), semi-honest label calls and packed-bit calls
(`SendBits` / `ReceiveBits`; C06's `Iknp.runCallB`), every call naming its
result buffers.  The per-column PRG stream positions of both
parties (`RecvSt`, `SendSt`: one position per column and party) are threaded
through the whole history, whatever kind of call moved them.  Every call runs
to completion, every malicious-mode call is ACCEPTED by the sender ("OT
extension check failed" is not reached) and correlated (`KSpec`), every other
call meets C06's `CallSpecB`. -/
theorem C15_kos_mixed_history_never_aborts (X : Label → Nat → Label) (R0 R1 SS : Nat → Nat → Byte) (delta : Label)
    (hb : BaseOK R0 R1 SS delta) (SL SW : Nat) (ar : Arena) (har : ar.Sized SL SW)
    (cs : List MCall) (hwf : ∀ c ∈ cs, c.WF SL SW) :
    ∃ outs, sessionM Store.assign .write X R0 R1 SS delta RecvSt.init SendSt.init ar cs = some outs ∧
      outs.length = cs.length ∧
      ∀ k (hk : k < cs.length) (hk' : k < outs.length), MSpec delta cs[k] outs[k] :=
  sessionM_ok X R0 R1 SS delta hb SL SW cs _ _ ar InStep.init har hwf

/-- Non-vacuity: packed bits, then a malicious-mode call, a semi-honest one,
packed bits again and a second malicious-mode call into the first one's slice. -/
example : (Arena.mk (zerosL 3) (zerosW 2) (zerosW 2)).Sized 3 2 ∧
    ∀ c ∈ [MCall.plain (.bits 70 #[5#64, 1#64] .fresh (.arena none 0 0)),
           MCall.kos ⟨#[true, false], 1#128, 2#128, 3#128, .arena none 0 0⟩,
           MCall.plain (.labels false #[true] 0#128 0#128 .fresh),
           MCall.plain (.bits 1 #[1#64] (.arena none 1 0) .fresh),
           MCall.kos ⟨#[false, true], 4#128, 5#128, 6#128, .arena none 0 0⟩], c.WF 3 2 := by
  refine ⟨⟨by simp [zerosL], by simp [zerosW], by simp [zerosW]⟩, ?_⟩
  intro c hc
  simp only [List.mem_cons, List.mem_nil_iff, or_false] at hc
  rcases hc with rfl | rfl | rfl | rfl | rfl
  all_goals simp [MCall.WF, KCall.WF, CallB.WF, BufSrc.WF]

/-- The hypothesis that carries the mixed histories is `InStep` in ALL 128
columns: a party whose call advances only the stream of column 0 (the only
column the packed-bit form reads after the transpose) by `d > 0` leaves the
pair out of step, so no theorem of this file applies to the calls that follow
(the driver's op `mhist0` runs that variant: the next malicious-mode call
aborts). -/
theorem C15_kos_mixed_needs_all_columns (rs : RecvSt) (ss : SendSt) (hs : InStep rs ss) (d : Nat) (hd : 0 < d) :
    ¬ InStep (rs.adv d) ⟨fun i => if i = 0 then ss.p 0 + d else ss.p i⟩ := by
  intro h
  have h1 := (h 1).1
  have h2 := (hs 1).1
  simp [RecvSt.adv] at h1
  omega

example : InStep RecvSt.init SendSt.init ∧ 0 < 8 := ⟨InStep.init, by decide⟩

/-- The exact acceptance condition.  The receiver runs
honestly; in transit the error masks `E1` (chunks of the payload batch) and
`E2` (chunks of the 256-row check batch) are XORed into the transmitted matrix
and the response `(x, t0, t1)` is replaced by `(x', t0', t1')` (challenge seed
intact).  Then there are a state `ss'` and labels `sent` — the honest sender's
outputs XOR `E_r & Delta` — such that `Send(n, true)` returns `sent` if

    Σ_{r < n+256} χ_r·(E_r & Δ)  ⊕  (x ⊕ x')·Δ  ⊕  ((t0,t1) ⊕ (t0',t1'))  =  0

(`residual`, unreduced 256-bit products, `χ_r = X seed2 r`, `E_r = errRow`: row
`r` of the error matrix as a label) and fails with "OT extension check failed"
otherwise. -/
theorem C15_kos_accept_iff (X : Label → Nat → Label) (R0 R1 SS : Nat → Nat → Byte) (delta : Label)
    (hb : BaseOK R0 R1 SS delta) (rs : RecvSt) (ss : SendSt) (hs : InStep rs ss) (b : Array Bool)
    (b0 b1 seed2 : Label) (E1 E2 moreD : List Bytes)
    (h1 : Shape (receive R0 R1 rs b).2.2 E1)
    (h2 : Shape (receive R0 R1 (receive R0 R1 rs b).1 (bcvOf b0 b1)).2.2 E2) :
    ∃ ss' sent,
      InStep (receiveKos X R0 R1 rs b b0 b1 seed2).st ss' ∧ sent.length = b.size ∧
      (receiveKos X R0 R1 rs b b0 b1 seed2).labels.length = b.size ∧
      (∀ i, i < b.size →
        (receiveKos X R0 R1 rs b b0 b1 seed2).labels.getD i 0#128 =
          sent.getD i 0#128 ^^^ (if b.getD i false then delta else 0#128) ^^^ (errRow b.size E1 E2 i &&& delta)) ∧
      ∀ (x' t0' t1' : Label) (moreL : List Label),
        sendKos X SS delta ss b.size
            (xorMsgs (receive R0 R1 rs b).2.2 E1 ++
              (xorMsgs (receive R0 R1 (receive R0 R1 rs b).1 (bcvOf b0 b1)).2.2 E2 ++ moreD))
            (seed2 :: x' :: t0' :: t1' :: moreL) =
          if residual (X seed2) delta b.size E1 E2 (receiveKos X R0 R1 rs b b0 b1 seed2).x x'
              ((receiveKos X R0 R1 rs b b0 b1 seed2).t0, (receiveKos X R0 R1 rs b b0 b1 seed2).t1) (t0', t1') = pzero
          then some { st := ss', labels := sent, restData := moreD, restLabels := moreL } else none := by
  rw [receiveKos_eq]
  exact kos_runWith X R0 R1 SS delta hb rs ss hs b (bcvOf b0 b1) (size_bcvOf b0 b1) seed2 E1 E2 moreD h1 h2

/-- The error mask that flips column 0, row 0 of a one-row payload batch. -/
def flip00 : List Bytes := [mk 128 fun k => if k = 0 then 1#8 else 0#8]

/-- Non-vacuity of the `Shape` hypotheses (any streams, `n = 1`): `flip00` has
the shape of the payload chunk, and its row 0 is the label with bit 0 set. -/
example (R0 R1 : Nat → Nat → Byte) (rs : RecvSt) : Shape (receive R0 R1 rs #[true]).2.2 flip00 := by
  simp [receive, recvLoop, Shape, flip00, size_recvCols_u, K, chunkRows]

theorem errRow_flip00 (q : Nat) : errRow 1 flip00 [] q = if q = 0 then bitLabel 0 else 0#128 := by
  rw [flip00, errRow_col0 _ (by decide)]
  by_cases h : q = 0
  · subst h; rfl
  · rw [if_neg h, if_neg (by omega)]

example : errRow 1 flip00 [] 0 = 1#128 <<< 64 := by rw [errRow_flip00]; rfl

/-- If every altered column is one `Delta` does not
select (`E_r & Delta = 0` for every row) and the response is intact, the
tampered call returns exactly what the honest call returns, and that is a
success whose outputs satisfy the correlation for the receiver's original
choices. -/
theorem C15_kos_unselected_harmless (X : Label → Nat → Label) (R0 R1 SS : Nat → Nat → Byte) (delta : Label)
    (hb : BaseOK R0 R1 SS delta) (rs : RecvSt) (ss : SendSt) (hs : InStep rs ss) (b : Array Bool)
    (b0 b1 seed2 : Label) (E1 E2 moreD : List Bytes) (moreL : List Label)
    (h1 : Shape (receive R0 R1 rs b).2.2 E1)
    (h2 : Shape (receive R0 R1 (receive R0 R1 rs b).1 (bcvOf b0 b1)).2.2 E2)
    (hun : ∀ r, r < b.size + 256 → errRow b.size E1 E2 r &&& delta = 0#128) :
    sendKos X SS delta ss b.size
        (xorMsgs (receive R0 R1 rs b).2.2 E1 ++
          (xorMsgs (receive R0 R1 (receive R0 R1 rs b).1 (bcvOf b0 b1)).2.2 E2 ++ moreD))
        ((receiveKos X R0 R1 rs b b0 b1 seed2).resp ++ moreL) =
      sendKos X SS delta ss b.size ((receiveKos X R0 R1 rs b b0 b1 seed2).msgs ++ moreD)
        ((receiveKos X R0 R1 rs b b0 b1 seed2).resp ++ moreL) ∧
    ∃ ss' sent,
      sendKos X SS delta ss b.size
          (xorMsgs (receive R0 R1 rs b).2.2 E1 ++
            (xorMsgs (receive R0 R1 (receive R0 R1 rs b).1 (bcvOf b0 b1)).2.2 E2 ++ moreD))
          ((receiveKos X R0 R1 rs b b0 b1 seed2).resp ++ moreL) =
        some { st := ss', labels := sent, restData := moreD, restLabels := moreL } ∧
      sent.length = b.size ∧
      ∀ i, i < b.size →
        (receiveKos X R0 R1 rs b b0 b1 seed2).labels.getD i 0#128 =
          sent.getD i 0#128 ^^^ (if b.getD i false then delta else 0#128) := by
  obtain ⟨ss', sent, g1, g2, g3, g4, g5⟩ := C15_kos_accept_iff X R0 R1 SS delta hb rs ss hs b b0 b1 seed2 E1 E2 moreD h1 h2
  obtain ⟨ss'', sent', c1, c2, c3, _, c5⟩ := C15_kos_complete X R0 R1 SS delta hb rs ss hs b b0 b1 seed2 moreD moreL
  have hrun := g5 (receiveKos X R0 R1 rs b b0 b1 seed2).x (receiveKos X R0 R1 rs b b0 b1 seed2).t0
    (receiveKos X R0 R1 rs b b0 b1 seed2).t1 moreL
  rw [residual_zero _ _ _ _ _ _ _ hun, if_pos rfl, ← receiveKos_resp] at hrun
  have hcorr := fun i (hi : i < b.size) => (g4 i hi).trans (by rw [hun i (by omega), BitVec.xor_zero])
  have hsent : sent = sent' :=
    list_ext_getD _ _ (by rw [g2, c3]) fun i hi =>
      (BitVec.xor_left_inj _).mp ((hcorr i (g2 ▸ hi)).symm.trans (c5 i (g2 ▸ hi)))
  refine ⟨?_, ss', sent, hrun, g2, hcorr⟩
  rw [c1, hrun, hsent, inStep_unique g1 c2]

/-- Non-vacuity: an alteration confined to a column whose `Delta` bit is 0
(`Delta.Bit(0) = 0` here) satisfies the hypothesis. -/
example : ∀ r, r < 1 + 256 → errRow 1 flip00 [] r &&& (1#128 <<< 65) = 0#128 := by
  intro r _
  rw [errRow_flip00]
  split
  · decide
  · exact BitVec.zero_and

/-- If all effective alterations lie in one row `r0`
(`E_r0 & Delta ≠ 0`, `E_r & Delta = 0` elsewhere; payload or check batch), the
challenge of that row is non-zero and the response is intact, the sender
aborts — deterministically, by `C15_clmul_no_zero_div`.  A single flipped bit
in a column `i` selected by `Delta` is the special case `E_r0 & Delta = bitLabel i`. -/
theorem C15_kos_single_row_sound (X : Label → Nat → Label) (R0 R1 SS : Nat → Nat → Byte) (delta : Label)
    (hb : BaseOK R0 R1 SS delta) (rs : RecvSt) (ss : SendSt) (hs : InStep rs ss) (b : Array Bool)
    (b0 b1 seed2 : Label) (E1 E2 moreD : List Bytes) (moreL : List Label)
    (h1 : Shape (receive R0 R1 rs b).2.2 E1)
    (h2 : Shape (receive R0 R1 (receive R0 R1 rs b).1 (bcvOf b0 b1)).2.2 E2)
    (r0 : Nat) (hr0 : r0 < b.size + 256)
    (hne : errRow b.size E1 E2 r0 &&& delta ≠ 0#128) (hchi : X seed2 r0 ≠ 0#128)
    (hother : ∀ r, r < b.size + 256 → r ≠ r0 → errRow b.size E1 E2 r &&& delta = 0#128) :
    sendKos X SS delta ss b.size
        (xorMsgs (receive R0 R1 rs b).2.2 E1 ++
          (xorMsgs (receive R0 R1 (receive R0 R1 rs b).1 (bcvOf b0 b1)).2.2 E2 ++ moreD))
        ((receiveKos X R0 R1 rs b b0 b1 seed2).resp ++ moreL) = none := by
  obtain ⟨ss', sent, _, _, _, _, g5⟩ := C15_kos_accept_iff X R0 R1 SS delta hb rs ss hs b b0 b1 seed2 E1 E2 moreD h1 h2
  rw [receiveKos_resp, g5, residual_intact,
    psum_single _ _ r0 hr0 (fun r hr hne' => by rw [hother r hr hne', mul128_zero_right]),
    if_neg (mul128_ne_zero _ _ hchi hne)]

/-- Non-vacuity: the flip of column 0, row 0 with `Delta.Bit(0) = 1` is such an alteration. -/
example : errRow 1 flip00 [] 0 &&& (1#128 <<< 64) ≠ 0#128 ∧
    ∀ r, r < 1 + 256 → r ≠ 0 → errRow 1 flip00 [] r &&& (1#128 <<< 64) = 0#128 := by
  refine ⟨by rw [errRow_flip00]; decide, ?_⟩
  intro r _ hne
  rw [errRow_flip00, if_neg hne, BitVec.zero_and]

/-- The property's conclusion, PARTIAL: for every alteration of the matrix
(response intact) whose effective part `E_r & Delta` is confined to at most
one row `r0` with a non-zero challenge — in particular every single flip and
every set of flips within one row, in any columns — the sender never silently
accepts an inconsistent state: whenever `Send(n, true)` returns, its outputs
satisfy the correlation for the receiver's original choices.  (Missing for the
full statement: effective alterations in several rows — probabilistic, see the
header — and alterations of the response together with the matrix — false,
`C15_kos_adaptive_forgery_witness`.) -/
theorem C15_kos_never_silent_partial (X : Label → Nat → Label) (R0 R1 SS : Nat → Nat → Byte) (delta : Label)
    (hb : BaseOK R0 R1 SS delta) (rs : RecvSt) (ss : SendSt) (hs : InStep rs ss) (b : Array Bool)
    (b0 b1 seed2 : Label) (E1 E2 moreD : List Bytes) (moreL : List Label)
    (h1 : Shape (receive R0 R1 rs b).2.2 E1)
    (h2 : Shape (receive R0 R1 (receive R0 R1 rs b).1 (bcvOf b0 b1)).2.2 E2)
    (r0 : Nat) (hchi : X seed2 r0 ≠ 0#128)
    (hother : ∀ r, r < b.size + 256 → r ≠ r0 → errRow b.size E1 E2 r &&& delta = 0#128)
    (out : SendOut)
    (hacc : sendKos X SS delta ss b.size
        (xorMsgs (receive R0 R1 rs b).2.2 E1 ++
          (xorMsgs (receive R0 R1 (receive R0 R1 rs b).1 (bcvOf b0 b1)).2.2 E2 ++ moreD))
        ((receiveKos X R0 R1 rs b b0 b1 seed2).resp ++ moreL) = some out) :
    out.labels.length = b.size ∧
    ∀ i, i < b.size →
      (receiveKos X R0 R1 rs b b0 b1 seed2).labels.getD i 0#128 =
        out.labels.getD i 0#128 ^^^ (if b.getD i false then delta else 0#128) := by
  by_cases hr0 : r0 < b.size + 256 ∧ errRow b.size E1 E2 r0 &&& delta ≠ 0#128
  · rw [C15_kos_single_row_sound X R0 R1 SS delta hb rs ss hs b b0 b1 seed2 E1 E2 moreD moreL h1 h2 r0 hr0.1 hr0.2
      hchi hother] at hacc
    cases hacc
  · obtain ⟨_, ss', sent, hrun, hlen, hcorr⟩ :=
      C15_kos_unselected_harmless X R0 R1 SS delta hb rs ss hs b b0 b1 seed2 E1 E2 moreD moreL h1 h2 fun r hr => by
        by_cases he : r = r0
        · exact Decidable.not_not.mp fun hne => hr0 ⟨he ▸ hr, he ▸ hne⟩
        · exact hother r hr he
    rw [hrun] at hacc
    cases hacc
    exact ⟨hlen, hcorr⟩

example : ∀ r, r < 1 + 256 → r ≠ 0 → errRow 1 flip00 [] r &&& (BitVec.allOnes 128) = 0#128 := by
  intro r _ hne
  rw [errRow_flip00, if_neg hne, BitVec.zero_and]

/-- With the matrix intact (no effective alteration) and
the seed intact, an altered response `(x', t0', t1')` is accepted iff
`(x ⊕ x')·Δ = (t0,t1) ⊕ (t0',t1')`.  In particular altering only `t0/t1`
always aborts, and altering only `x` aborts whenever `Delta ≠ 0`. -/
theorem C15_kos_response_sound (X : Label → Nat → Label) (R0 R1 SS : Nat → Nat → Byte) (delta : Label)
    (hb : BaseOK R0 R1 SS delta) (rs : RecvSt) (ss : SendSt) (hs : InStep rs ss) (b : Array Bool)
    (b0 b1 seed2 : Label) (moreD : List Bytes) (moreL : List Label) (x' t0' t1' : Label) :
    ((sendKos X SS delta ss b.size ((receiveKos X R0 R1 rs b b0 b1 seed2).msgs ++ moreD)
        (seed2 :: x' :: t0' :: t1' :: moreL)).isSome ↔
      mul128 ((receiveKos X R0 R1 rs b b0 b1 seed2).x ^^^ x') delta =
        pxor ((receiveKos X R0 R1 rs b b0 b1 seed2).t0, (receiveKos X R0 R1 rs b b0 b1 seed2).t1) (t0', t1')) ∧
    (x' = (receiveKos X R0 R1 rs b b0 b1 seed2).x →
      (t0', t1') ≠ ((receiveKos X R0 R1 rs b b0 b1 seed2).t0, (receiveKos X R0 R1 rs b b0 b1 seed2).t1) →
      sendKos X SS delta ss b.size ((receiveKos X R0 R1 rs b b0 b1 seed2).msgs ++ moreD)
        (seed2 :: x' :: t0' :: t1' :: moreL) = none) ∧
    (x' ≠ (receiveKos X R0 R1 rs b b0 b1 seed2).x → delta ≠ 0#128 →
      (t0', t1') = ((receiveKos X R0 R1 rs b b0 b1 seed2).t0, (receiveKos X R0 R1 rs b b0 b1 seed2).t1) →
      sendKos X SS delta ss b.size ((receiveKos X R0 R1 rs b b0 b1 seed2).msgs ++ moreD)
        (seed2 :: x' :: t0' :: t1' :: moreL) = none) := by
  obtain ⟨ss', sent, _, _, _, _, g5⟩ := C15_kos_accept_iff X R0 R1 SS delta hb rs ss hs b b0 b1 seed2
    (zeroLike (receive R0 R1 rs b).2.2) (zeroLike (receive R0 R1 (receive R0 R1 rs b).1 (bcvOf b0 b1)).2.2) moreD
    (shape_zeroLike _) (shape_zeroLike _)
  have hmsgs : (receiveKos X R0 R1 rs b b0 b1 seed2).msgs ++ moreD =
      (receive R0 R1 rs b).2.2 ++ ((receive R0 R1 (receive R0 R1 rs b).1 (bcvOf b0 b1)).2.2 ++ moreD) := by
    simp [receiveKos, List.append_assoc]
  have hrun := g5 x' t0' t1' moreL
  rw [xorMsgs_zeroLike, xorMsgs_zeroLike, ← hmsgs,
    residual_matrix_intact _ _ _ _ _ _ _ _ _ (fun r _ => by rw [errRow_zeroLike]; simp)] at hrun
  simp only [pxor_eq_zero_iff] at hrun
  refine ⟨?_, ?_, ?_⟩
  · rw [hrun]
    split <;> simp [*]
  · intro hx ht
    rw [hrun, hx, BitVec.xor_self, mul128_zero_left]
    rw [if_neg]
    intro h
    exact ht ((pxor_eq_zero_iff _ _).mp h.symm).symm
  · intro hx hd ht
    rw [hrun, ht, pxor_self]
    rw [if_neg]
    apply mul128_ne_zero _ _ _ hd
    intro h
    exact hx (BitVec.xor_eq_zero_iff.mp h).symm

example : (5#128 : Label) ≠ 7#128 ∧ (1#128 <<< 64 : Label) ≠ 0#128 := by decide

/-- Negation witness for the full statement when the response may be altered
TOGETHER with the matrix: for EVERY alteration `E1, E2` of the matrix the
response `x' = x`, `(t0', t1') = (t0, t1) ⊕ Σ_r χ_r·(E_r & Δ)` is accepted, and
if some payload row has `E_r & Delta ≠ 0` the accepted outputs violate the
correlation at that row.  (Computing that response needs `seed2`, which is on
the wire, and `E_r & Delta`, i.e. a correct guess of the `Delta` bits of the
altered columns: one bit, probability 1/2, for a single flip.) -/
theorem C15_kos_adaptive_forgery_witness (X : Label → Nat → Label) (R0 R1 SS : Nat → Nat → Byte) (delta : Label)
    (hb : BaseOK R0 R1 SS delta) (rs : RecvSt) (ss : SendSt) (hs : InStep rs ss) (b : Array Bool)
    (b0 b1 seed2 : Label) (E1 E2 moreD : List Bytes) (moreL : List Label)
    (h1 : Shape (receive R0 R1 rs b).2.2 E1)
    (h2 : Shape (receive R0 R1 (receive R0 R1 rs b).1 (bcvOf b0 b1)).2.2 E2)
    (r : Nat) (hr : r < b.size) (hne : errRow b.size E1 E2 r &&& delta ≠ 0#128) :
    ∃ (t0' t1' : Label) (out : SendOut),
      (t0', t1') = pxor ((receiveKos X R0 R1 rs b b0 b1 seed2).t0, (receiveKos X R0 R1 rs b b0 b1 seed2).t1)
        (psum (b.size + 256) fun r => mul128 (X seed2 r) (errRow b.size E1 E2 r &&& delta)) ∧
      sendKos X SS delta ss b.size
          (xorMsgs (receive R0 R1 rs b).2.2 E1 ++
            (xorMsgs (receive R0 R1 (receive R0 R1 rs b).1 (bcvOf b0 b1)).2.2 E2 ++ moreD))
          (seed2 :: (receiveKos X R0 R1 rs b b0 b1 seed2).x :: t0' :: t1' :: moreL) = some out ∧
      (receiveKos X R0 R1 rs b b0 b1 seed2).labels.getD r 0#128 ≠
        out.labels.getD r 0#128 ^^^ (if b.getD r false then delta else 0#128) := by
  obtain ⟨ss', sent, _, _, _, g4, g5⟩ := C15_kos_accept_iff X R0 R1 SS delta hb rs ss hs b b0 b1 seed2 E1 E2 moreD h1 h2
  let t : P := ((receiveKos X R0 R1 rs b b0 b1 seed2).t0, (receiveKos X R0 R1 rs b b0 b1 seed2).t1)
  let er : P := psum (b.size + 256) fun r => mul128 (X seed2 r) (errRow b.size E1 E2 r &&& delta)
  refine ⟨(pxor t er).1, (pxor t er).2, { st := ss', labels := sent, restData := moreD, restLabels := moreL }, rfl, ?_, ?_⟩
  · rw [g5]
    have : residual (X seed2) delta b.size E1 E2 (receiveKos X R0 R1 rs b b0 b1 seed2).x
        (receiveKos X R0 R1 rs b b0 b1 seed2).x t ((pxor t er).1, (pxor t er).2) = pzero := by
      unfold residual
      show pxor (pxor er _) (pxor t (pxor t er)) = pzero
      rw [BitVec.xor_self, mul128_zero_left, pxor_zero, ← pxor_assoc t t er, pxor_self, zero_pxor, pxor_self]
    rw [if_pos this]
  · intro h
    have := g4 r hr
    rw [h] at this
    exact hne (xor_err_zero _ _ this)

/-- Non-vacuity (see also the examples after `C15_kos_accept_iff`): `flip00`
with `Delta.Bit(0) = 1`. -/
example : (0 : Nat) < (#[true] : Array Bool).size ∧ errRow 1 flip00 [] 0 &&& (1#128 <<< 64) ≠ 0#128 :=
  ⟨by decide, by rw [errRow_flip00]; decide⟩

/-- The acceptance condition for a SET of altered matrix
positions.  The transmitted matrix is altered by error masks whose rows are
exactly the flips of the position list `ps` (global rows: payload `0..n-1`,
check batch `n..n+255`; any number of positions, any columns `< 128`), the
response is intact.  Then `Send(n, true)` succeeds iff

    XOR over the (r, i) ∈ ps with r < n + 256 and Delta.Bit(i) = 1 of  χ_r · X^i  =  0

(`posSum`, unreduced products), and then its outputs are the honest ones XOR
the selected altered bits of each row. -/
theorem C15_kos_set_accept_iff (X : Label → Nat → Label) (R0 R1 SS : Nat → Nat → Byte) (delta : Label)
    (hb : BaseOK R0 R1 SS delta) (rs : RecvSt) (ss : SendSt) (hs : InStep rs ss) (b : Array Bool)
    (b0 b1 seed2 : Label) (E1 E2 moreD : List Bytes)
    (h1 : Shape (receive R0 R1 rs b).2.2 E1)
    (h2 : Shape (receive R0 R1 (receive R0 R1 rs b).1 (bcvOf b0 b1)).2.2 E2)
    (ps : List Pos) (hcol : ∀ p, p ∈ ps → p.2 < 128)
    (hE : ∀ r, r < b.size + 256 → errRow b.size E1 E2 r = posRow ps r) :
    ∃ ss' sent,
      InStep (receiveKos X R0 R1 rs b b0 b1 seed2).st ss' ∧ sent.length = b.size ∧
      (∀ i, i < b.size →
        (receiveKos X R0 R1 rs b b0 b1 seed2).labels.getD i 0#128 =
          sent.getD i 0#128 ^^^ (if b.getD i false then delta else 0#128) ^^^ (posRow ps i &&& delta)) ∧
      ∀ (moreL : List Label),
        sendKos X SS delta ss b.size
            (xorMsgs (receive R0 R1 rs b).2.2 E1 ++
              (xorMsgs (receive R0 R1 (receive R0 R1 rs b).1 (bcvOf b0 b1)).2.2 E2 ++ moreD))
            ((receiveKos X R0 R1 rs b b0 b1 seed2).resp ++ moreL) =
          if posSum (X seed2) delta (b.size + 256) ps = pzero
          then some { st := ss', labels := sent, restData := moreD, restLabels := moreL } else none := by
  obtain ⟨ss', sent, g1, g2, _, g4, g5⟩ := C15_kos_accept_iff X R0 R1 SS delta hb rs ss hs b b0 b1 seed2 E1 E2 moreD h1 h2
  refine ⟨ss', sent, g1, g2, ?_, ?_⟩
  · intro i hi
    rw [g4 i hi, hE i (by omega)]
  · intro moreL
    rw [receiveKos_resp, g5, residual_intact,
      psum_congr _ _ (fun r => mul128 (X seed2 r) (posRow ps r &&& delta)) (fun r hr => by rw [hE r hr]),
      psum_posRow _ _ _ _ hcol]

/-- Non-vacuity: `flip00` is the error matrix of the position list `[(0, 0)]`. -/
example : ∀ q, q < 1 + 256 → errRow 1 flip00 [] q = posRow [(0, 0)] q := by
  intro q _
  rw [errRow_flip00]
  by_cases h0 : q = 0
  · subst h0; rfl
  · simp [posRow_cons, posRow_nil, h0, Ne.symm h0]

/-- Two flips in the SAME column `i` selected by `Delta`
at two rows `r`, `r'` (payload or check batch), response intact, are accepted
IFF the two rows have the same challenge coefficient.  (With `r = r'` the two
flips cancel.) -/
theorem C15_kos_pair_accept_iff (X : Label → Nat → Label) (R0 R1 SS : Nat → Nat → Byte) (delta : Label)
    (hb : BaseOK R0 R1 SS delta) (rs : RecvSt) (ss : SendSt) (hs : InStep rs ss) (b : Array Bool)
    (b0 b1 seed2 : Label) (E1 E2 moreD : List Bytes) (moreL : List Label)
    (h1 : Shape (receive R0 R1 rs b).2.2 E1)
    (h2 : Shape (receive R0 R1 (receive R0 R1 rs b).1 (bcvOf b0 b1)).2.2 E2)
    (r r' i : Nat) (hr : r < b.size + 256) (hr' : r' < b.size + 256) (hi : i < 128)
    (hsel : labelBit delta i = true)
    (hE : ∀ q, q < b.size + 256 → errRow b.size E1 E2 q = posRow [(r, i), (r', i)] q) :
    (sendKos X SS delta ss b.size
        (xorMsgs (receive R0 R1 rs b).2.2 E1 ++
          (xorMsgs (receive R0 R1 (receive R0 R1 rs b).1 (bcvOf b0 b1)).2.2 E2 ++ moreD))
        ((receiveKos X R0 R1 rs b b0 b1 seed2).resp ++ moreL)).isSome ↔ X seed2 r = X seed2 r' := by
  obtain ⟨ss', sent, _, _, _, hrun⟩ := C15_kos_set_accept_iff X R0 R1 SS delta hb rs ss hs b b0 b1 seed2 E1 E2 moreD h1 h2
    [(r, i), (r', i)] (by intro p hp; simp at hp; rcases hp with e | e <;> (subst e; exact hi)) hE
  rw [hrun moreL, show [(r, i), (r', i)] = colAt [r, r'] i from rfl,
    posSum_colAt _ _ _ _ _ (by simp only [List.mem_cons, List.not_mem_nil, or_false]; rintro q (e | e) <;> (subst e; assumption)),
    if_pos hsel, rowXor_cons, rowXor_cons, rowXor_nil, BitVec.zero_xor]
  by_cases hx : X seed2 r = X seed2 r'
  · simp [hx, mul128_zero_left]
  · simp [hx, mul128_ne_zero _ _ (fun e => hx (BitVec.xor_eq_zero_iff.mp e).symm) (bitLabel_ne_zero i hi)]

/-- The error mask that flips column 0 at rows 0 and 1 of a two-row payload batch. -/
def flip01 : List Bytes := [mk 128 fun k => if k = 0 then 3#8 else 0#8]

/-- Non-vacuity: `flip01` has the shape of the payload chunk of a two-row call
and is the error matrix of the positions `[(0, 0), (1, 0)]`; `Delta.Bit(0) = 1`
for `Delta = 1 <<< 64`. -/
example (R0 R1 : Nat → Nat → Byte) (rs : RecvSt) : Shape (receive R0 R1 rs #[true, false]).2.2 flip01 := by
  simp [receive, recvLoop, Shape, flip01, size_recvCols_u, K, chunkRows]

example : ∀ q, q < 2 + 256 → errRow 2 flip01 [] q = posRow [(0, 0), (1, 0)] q := by
  intro q _
  rw [flip01, errRow_col0 _ (by decide)]
  by_cases h0 : q = 0
  · subst h0; rfl
  · by_cases h1 : q = 1
    · subst h1; rfl
    · rw [if_neg (by omega)]
      simp [posRow_cons, posRow_nil, Ne.symm h0, Ne.symm h1]

example : labelBit (1#128 <<< 64) 0 = true := by decide

/-- If the challenge coefficients of the `n + 256` rows
are non-zero and pairwise distinct (`distinctNZ`: a computable fact of the
session's seed, printed by the driver for every session), then NO alteration
of one position, and NO alteration of two positions of one column, in a
column selected by `Delta` is accepted.  This is the deterministic part of
soundness for two-row alterations; it is exactly what a challenge stream that
repeats coefficients across rows (restarted or shifted between blocks) loses
(`C15_kos_pair_accept_iff`). -/
theorem C15_kos_distinct_sound (X : Label → Nat → Label) (R0 R1 SS : Nat → Nat → Byte) (delta : Label)
    (hb : BaseOK R0 R1 SS delta) (rs : RecvSt) (ss : SendSt) (hs : InStep rs ss) (b : Array Bool)
    (b0 b1 seed2 : Label) (E1 E2 moreD : List Bytes) (moreL : List Label)
    (h1 : Shape (receive R0 R1 rs b).2.2 E1)
    (h2 : Shape (receive R0 R1 (receive R0 R1 rs b).1 (bcvOf b0 b1)).2.2 E2)
    (hchi : distinctNZ (X seed2) (b.size + 256) = true)
    (r r' i : Nat) (hr : r < b.size + 256) (hr' : r' < b.size + 256) (hi : i < 128)
    (hsel : labelBit delta i = true) (ps : List Pos)
    (hps : ps = [(r, i)] ∨ (r ≠ r' ∧ ps = [(r, i), (r', i)]))
    (hE : ∀ q, q < b.size + 256 → errRow b.size E1 E2 q = posRow ps q) :
    sendKos X SS delta ss b.size
        (xorMsgs (receive R0 R1 rs b).2.2 E1 ++
          (xorMsgs (receive R0 R1 (receive R0 R1 rs b).1 (bcvOf b0 b1)).2.2 E2 ++ moreD))
        ((receiveKos X R0 R1 rs b b0 b1 seed2).resp ++ moreL) = none := by
  obtain ⟨hnz, hdist⟩ := distinctNZ_spec _ _ hchi
  rcases hps with e | ⟨hne, e⟩
  · subst e
    obtain ⟨ss', sent, _, _, _, hrun⟩ := C15_kos_set_accept_iff X R0 R1 SS delta hb rs ss hs b b0 b1 seed2 E1 E2 moreD
      h1 h2 [(r, i)] (by intro p hp; simp at hp; subst hp; exact hi) hE
    rw [hrun moreL, show [(r, i)] = colAt [r] i from rfl, posSum_colAt _ _ _ _ _ (by simpa using hr), if_pos hsel,
      rowXor_cons, rowXor_nil, BitVec.zero_xor,
      if_neg (mul128_ne_zero _ _ (hnz r hr) (bitLabel_ne_zero i hi))]
  · subst e
    have h := C15_kos_pair_accept_iff X R0 R1 SS delta hb rs ss hs b b0 b1 seed2 E1 E2 moreD moreL h1 h2 r r' i hr hr' hi
      hsel hE
    exact Option.not_isSome_iff_eq_none.mp fun hsome => hdist r r' hr hr' hne (h.mp hsome)

/-- Non-vacuity: a coefficient vector with `distinctNZ` over `2 + 256` rows, and one without. -/
example : distinctNZ (fun r => BitVec.ofNat 128 (r + 1)) (2 + 256) = true := by
  have hval : ∀ r, r < 2 + 256 → (BitVec.ofNat 128 (r + 1)).toNat = r + 1 := fun r hr => by
    rw [BitVec.toNat_ofNat]; omega
  refine (distinctNZ_iff _ _).mpr ⟨fun r hr e => ?_, fun r r' hr hlt e => ?_⟩
  · have := hval r hr
    rw [e] at this
    simp at this
  · have := hval r hr
    rw [← e, hval r' (by omega)] at this
    omega
example : distinctNZ (fun _ => 5#128) 2 = false := by decide

/-- The property's conclusion for alterations of ONE or TWO positions of one
column (any column, selected or not; any rows of payload and check batch;
response intact), given that the session's coefficients are non-zero and
pairwise distinct: the sender never silently accepts an inconsistent state —
whenever `Send(n, true)` returns, its outputs satisfy the correlation for the
receiver's original choices.  (PARTIAL with respect to the full statement: three
and more rows are covered only by `C15_kos_set_accept_iff`, see the header.) -/
theorem C15_kos_never_silent_two_positions (X : Label → Nat → Label) (R0 R1 SS : Nat → Nat → Byte) (delta : Label)
    (hb : BaseOK R0 R1 SS delta) (rs : RecvSt) (ss : SendSt) (hs : InStep rs ss) (b : Array Bool)
    (b0 b1 seed2 : Label) (E1 E2 moreD : List Bytes) (moreL : List Label)
    (h1 : Shape (receive R0 R1 rs b).2.2 E1)
    (h2 : Shape (receive R0 R1 (receive R0 R1 rs b).1 (bcvOf b0 b1)).2.2 E2)
    (hchi : distinctNZ (X seed2) (b.size + 256) = true)
    (r r' i : Nat) (hr : r < b.size + 256) (hr' : r' < b.size + 256) (hi : i < 128) (ps : List Pos)
    (hps : ps = [(r, i)] ∨ (r ≠ r' ∧ ps = [(r, i), (r', i)]))
    (hE : ∀ q, q < b.size + 256 → errRow b.size E1 E2 q = posRow ps q)
    (out : SendOut)
    (hacc : sendKos X SS delta ss b.size
        (xorMsgs (receive R0 R1 rs b).2.2 E1 ++
          (xorMsgs (receive R0 R1 (receive R0 R1 rs b).1 (bcvOf b0 b1)).2.2 E2 ++ moreD))
        ((receiveKos X R0 R1 rs b b0 b1 seed2).resp ++ moreL) = some out) :
    out.labels.length = b.size ∧
    ∀ k, k < b.size →
      (receiveKos X R0 R1 rs b b0 b1 seed2).labels.getD k 0#128 =
        out.labels.getD k 0#128 ^^^ (if b.getD k false then delta else 0#128) := by
  by_cases hsel : labelBit delta i = true
  · have := C15_kos_distinct_sound X R0 R1 SS delta hb rs ss hs b b0 b1 seed2 E1 E2 moreD moreL h1 h2 hchi r r' i hr hr' hi
      hsel ps hps hE
    rw [this] at hacc
    cases hacc
  · have hz : bitLabel i &&& delta = 0#128 := by rw [bitLabel_and _ _ hi, if_neg hsel]
    have hall : ∀ q, q < b.size + 256 → errRow b.size E1 E2 q &&& delta = 0#128 := by
      intro q hq
      rw [hE q hq]
      rcases hps with e | ⟨_, e⟩ <;> subst e
      · by_cases a : r = q <;> simp [posRow_cons, posRow_nil, a, hz]
      · by_cases a : r = q <;> by_cases c : r' = q <;> simp [posRow_cons, posRow_nil, a, c, hz]
    obtain ⟨_, ss', sent, hrun, hlen, hcorr⟩ :=
      C15_kos_unselected_harmless X R0 R1 SS delta hb rs ss hs b b0 b1 seed2 E1 E2 moreD moreL h1 h2 hall
    rw [hrun] at hacc
    cases hacc
    exact ⟨hlen, hcorr⟩

/-- Non-vacuity: the hypotheses are those of `C15_kos_distinct_sound` without the selection of the column. -/
example : ([(0, 0), (1, 0)] : List Pos) = [(0, 0)] ∨ ((0 : Nat) ≠ 1 ∧ ([(0, 0), (1, 0)] : List Pos) = [(0, 0), (1, 0)]) :=
  Or.inr ⟨by decide, rfl⟩

/-- Negation witness for the full statement with the response INTACT: for any
set `S` of rows whose coefficients XOR to zero and any column `i`, flipping
column `i` at every row of `S` is accepted — whatever `Delta` is — and if
`Delta` selects the column, every payload row of `S` ends with outputs that
violate the correlation.  Two rows with equal coefficients are the case
`S = [r, r']`.  Such a set always exists among any 129 rows (128-bit
coefficients: `C15_dependent_rows_exist`, Props/C15Count.lean), and whoever
knows `seed2` (the receiver chooses it; it is on the wire before the response)
finds one by Gaussian elimination; the harness does so for every session and
replays the alteration on the real sender. -/
theorem C15_kos_dependent_rows_forgery_witness (X : Label → Nat → Label) (R0 R1 SS : Nat → Nat → Byte) (delta : Label)
    (hb : BaseOK R0 R1 SS delta) (rs : RecvSt) (ss : SendSt) (hs : InStep rs ss) (b : Array Bool)
    (b0 b1 seed2 : Label) (E1 E2 moreD : List Bytes) (moreL : List Label)
    (h1 : Shape (receive R0 R1 rs b).2.2 E1)
    (h2 : Shape (receive R0 R1 (receive R0 R1 rs b).1 (bcvOf b0 b1)).2.2 E2)
    (S : List Nat) (i : Nat) (hnd : S.Nodup) (hS : ∀ r, r ∈ S → r < b.size + 256) (hi : i < 128)
    (hdep : rowXor (X seed2) S = 0#128)
    (hE : ∀ q, q < b.size + 256 → errRow b.size E1 E2 q = posRow (colAt S i) q) :
    ∃ out : SendOut,
      sendKos X SS delta ss b.size
          (xorMsgs (receive R0 R1 rs b).2.2 E1 ++
            (xorMsgs (receive R0 R1 (receive R0 R1 rs b).1 (bcvOf b0 b1)).2.2 E2 ++ moreD))
          ((receiveKos X R0 R1 rs b b0 b1 seed2).resp ++ moreL) = some out ∧
      (labelBit delta i = true → ∀ r, r ∈ S → r < b.size →
        (receiveKos X R0 R1 rs b b0 b1 seed2).labels.getD r 0#128 ≠
          out.labels.getD r 0#128 ^^^ (if b.getD r false then delta else 0#128)) := by
  obtain ⟨ss', sent, _, _, hcorr, hrun⟩ := C15_kos_set_accept_iff X R0 R1 SS delta hb rs ss hs b b0 b1 seed2 E1 E2 moreD
    h1 h2 (colAt S i) (by intro p hp; simp only [colAt, List.mem_map] at hp; obtain ⟨_, _, rfl⟩ := hp; exact hi) hE
  have hz : posSum (X seed2) delta (b.size + 256) (colAt S i) = pzero := by
    rw [posSum_colAt _ _ _ _ _ hS, hdep, mul128_zero_left]
    simp
  refine ⟨{ st := ss', labels := sent, restData := moreD, restLabels := moreL }, ?_, ?_⟩
  · rw [hrun moreL, if_pos hz]
  · intro hsel r hr hlt h
    have := hcorr r hlt
    rw [h, posRow_colAt _ _ _ hnd, if_pos hr, bitLabel_and _ _ hi, if_pos hsel] at this
    exact bitLabel_ne_zero i hi (xor_err_zero _ _ this)

/-- Non-vacuity: two rows with equal coefficients. -/
example : colAt [0, 1] 0 = [(0, 0), (1, 0)] ∧ [0, 1].Nodup ∧ rowXor (fun _ => 5#128) [0, 1] = 0#128 ∧
    (∀ r, r ∈ [0, 1] → r < 2 + 256) := by decide

/-- The receiver's checksum `x` (the second label it sends) is the XOR of the
coefficients of the rows whose choice bit is set — payload choices and the
random choices `(b0, b1)` of the check batch.  Hence a call whose only set
choice bit is that of row `r0` sends `x = χ_r0`: the harness recovers every
coefficient of a session from the REAL receiver by `n + 256` such probe calls
(same seed), and compares them with the model's. -/
theorem C15_kos_probe_recovers_chi (X : Label → Nat → Label) (R0 R1 SS : Nat → Nat → Byte) (delta : Label)
    (hb : BaseOK R0 R1 SS delta) (rs : RecvSt) (ss : SendSt) (hs : InStep rs ss) (b : Array Bool)
    (b0 b1 seed2 : Label) :
    (receiveKos X R0 R1 rs b b0 b1 seed2).x =
      (lsum (b.size + 256) fun r => if choiceAt b b0 b1 r = true then X seed2 r else 0#128) ∧
    ∀ r0, r0 < b.size + 256 → (∀ r, r < b.size + 256 → choiceAt b b0 b1 r = decide (r = r0)) →
      (receiveKos X R0 R1 rs b b0 b1 seed2).x = X seed2 r0 :=
  ⟨receiveKos_x X R0 R1 rs b b0 b1 seed2, receiveKos_x_unit X R0 R1 rs b b0 b1 seed2⟩

/-- Non-vacuity: the choices `[false, true]` with zero check-batch choices have row 1 as their only set bit. -/
example : ∀ r, r < 2 + 256 → choiceAt #[false, true] 0#128 0#128 r = decide (r = 1) := by
  intro r hr
  by_cases h : r < 2
  · have : r = 0 ∨ r = 1 := by omega
    rcases this with e | e <;> subst e <;> decide
  · have hne : r ≠ 1 := by omega
    simp [choiceAt, h, hne, bcvOf, Array.getD, mk, labelBit]

end Mpc
