/-
C07  Arithmetic and logic circuit builders are exact for every width.

Property theorems; the builder specifications they rest on (`_num` / `_bits`: from
any well-formed state, on any existing operand wires `x` carrying a bit list
`xv`, `Bits s inp x xv`; `Sound2`: the same as a call of a history) are in
Proofs/Builders*.lean.

The width theorems are about `evalBuilder b pro x y` (`evalBuilder3` for the
multiplexer and the correction step): the circuit that the harness builds with the real Go builder
(inputs `x ‖ y`, optional ZeroWire/OneWire prologue `pro` as in
`ssa.Program.CompileCircuit`, the builder, `ret` through ID gates), evaluated
gate by gate in emission order.  The Lean generators are compared gate for
gate with the real `cc.Gates` on every run (T4), so a theorem about the
generator is a theorem about that Go output.

Quantification: every operand width, every result width (where the builder
has one), both prologue variants, every operand value.  Values are
little-endian bit lists; `toNat` / `toInt` read them as unsigned / two's
complement numbers.

Builders whose statement FAILS on the current code (/repo 776d360) have a
`…_partial` theorem that carries the exact guard or the exact semantics of the
code and a `…_wrong` theorem (negation with a concrete witness: what the
`…_partial` theorem gives there is not the specified value).  These are the signed comparators and the signed
divider on UNEQUAL operand widths: the code zero-extends the narrower operand
(`cc.ZeroPad`), `C07_intCmp_*`, `C07_idiv_*`, `C07_imod_*`.  The theorems
`C07_intCmp_signpad`, `C07_idiv_signpad`, `C07_imod_signpad` are CONDITIONAL
results about the PROPOSED REPAIR (`cc.SignPad` variants of the generators,
hooks/c07-*-signpad.patch), not about the code: the repair was withdrawn from
/repo because constants carry no sign (a positive literal in [2^31, 2^32) next
to a wider signed operand would be read negative).  No other builder theorem
of this file carries a width restriction (/repo at b4e0da3, 1a24bc4, b8285b2,
cf9e510), except that the Goldschmidt theorems are stated for operands of equal width.
`C07_goldschmidt_correction_old_wrong` is a negation witness about
the explicitly named old definition `goldCorrectionOld`.

Goldschmidt divider (GMW target of NewUDivider): only the correction step is
proved, UNDER THE EXPLICIT HYPOTHESIS that the quotient estimate is within ±1 of
⌊a / b⌋.  That bound is not proved; it is the VALIDATED HYPOTHESIS
`goldschmidt-estimate-within-one` of checks/C07.py (all operand pairs of widths
1..9 on every quick run, 1..11 on every thorough run, structured pairs at widths
up to 64; evaluated on the generator `goldEstimate`, which is tied gate for gate
to the Go code).

HISTORIES and OPERAND SHAPES.  The compiler calls many builders on ONE
`circuits.Compiler` and hands them buses that mix value wires with the
Compiler's constant wires, repeat a wire or are one bus twice.  The builder
specifications hold from any well-formed builder state and ask of the operand wires only
that they exist; the last two sections state what that means for sequences of
calls and for such operands.

NOT proved here (validated by the oracle and, for the gate lists, by T4 only):
see the list at the end of this file.
-/
import MpcVerif.Proofs.BuildersBridge
import MpcVerif.Proofs.BuildersKara
import MpcVerif.Proofs.BuildersHammingG
import MpcVerif.Proofs.BuildersGold
import MpcVerif.Proofs.BuildersOpnd

namespace Mpc
open Mpc.Bld

/-- `NewAdder` on the Yao target (ripple carry): for all operand widths (not
both zero), every result width `nz ≥ 1` and all operand values the result has
`nz` bits and is `(x + y) mod 2^nz`. -/
theorem C07_adder (pro : Bool) (x y : List Bool) (nz : Nat)
    (hw : 0 < max x.length y.length) (hnz : 0 < nz) :
    (evalBuilder (fun a b => rippleAdder a b nz) pro x y).length = nz ∧
    toNat (evalBuilder (fun a b => rippleAdder a b nz) pro x y) = (toNat x + toNat y) % 2 ^ nz :=
  evalBuilder_num (fun hwf hx hy => rippleAdder_num hwf nz hx.num hy.num hw hnz) pro (by omega)

-- non-vacuity: 3 + 3 = 6 on 3- and 2-bit operands, 4-bit result
example : toNat (evalBuilder (fun a b => rippleAdder a b 4) true [true, true, false] [true, true]) = 6 :=
  (C07_adder true _ _ 4 (by decide) (by decide)).2.trans (by decide)

/-- Bridge to C01: on the gate list of any well-formed builder state, the plain
circuit evaluator of Model/Circuit.lean (`Circuit.plainEval`, the model of
`circuit.Circuit.Compute` that C01 compares byte for byte with the Go code)
gives every wire the value `St.val` used by the theorems of this file. -/
theorem C07_bridge_plainEval (s : St) (inp : List Bool) (hwf : WF s inp) (nOut w : Nat) :
    ((s.toCircuit nOut).plainEval inp).get w = s.val inp w :=
  plainEval_eq_val s inp hwf nOut w

/-- The adder theorem stated on the C01 evaluator: the circuit the harness
builds around `NewAdder`, run through `Circuit.plainEval`, carries
`(x + y) mod 2^nz` on its output wires. -/
theorem C07_adder_compute_model (pro : Bool) (x y : List Bool) (nz : Nat)
    (hw : 0 < max x.length y.length) (hnz : 0 < nz) :
    toNat ((runBuilder (fun a b => rippleAdder a b nz) pro x.length y.length).2.map
      (((runBuilder (fun a b => rippleAdder a b nz) pro x.length y.length).1.toCircuit nz).plainEval
        (x ++ y)).get) = (toNat x + toNat y) % 2 ^ nz := by
  have hwf : WF (runBuilder (fun a b => rippleAdder a b nz) pro x.length y.length).1 (x ++ y) :=
    runBuilder_wf (fun hwf hx hy => (rippleAdder_num hwf nz hx.num hy.num hw hnz).mono fun _ _ _ h => h.bnd) pro
      (by omega)
  rw [← (C07_adder pro x y nz hw hnz).2]
  exact congrArg toNat (List.map_congr_left fun w _ => plainEval_eq_val _ _ hwf nz w)

/-- `NewSubtractor` on the Yao target (ripple borrow; the
leftover result bits are copies of the borrow, 1a24bc4): for all operand widths, every
result width `nz ≥ 1` and all operand values the result has `nz` bits and is
`(x - y) mod 2^nz`. -/
theorem C07_sub (pro : Bool) (x y : List Bool) (nz : Nat)
    (hw : 0 < max x.length y.length) (hnz : 0 < nz) :
    (evalBuilder (fun a b => rippleSubtractor a b nz) pro x y).length = nz ∧
    (toNat (evalBuilder (fun a b => rippleSubtractor a b nz) pro x y) : Int) =
      ((toNat x : Int) - (toNat y : Int)) % ((2 ^ nz : Nat) : Int) :=
  evalBuilder_diff (fun hwf hx hy => rippleSubtractor_num hwf nz hx.num hy.num hnz) pro (by omega)

-- 2-bit 0 - 1 into 4 bits is 15
example : toNat (evalBuilder (fun a b => rippleSubtractor a b 4) true [false, false] [true, false]) = 15 :=
  Int.natCast_inj.mp ((C07_sub true _ _ 4 (by decide) (by decide)).2.trans (by decide))

/-- `NewKoggeStoneAdder` with an explicit number of prefix stages: exact for all
operand widths, every result width and all values PROVIDED `2^stages` reaches
the width of the prefix network `ksWidth = min(max(|x|,|y|)+1, nz)`.  Proof:
after `k` stages the pair `(p_i, g_i)` of position `i` covers the interval
`[max(0, i-2^k+1), i]` (`KSInv`, `KSInv_step` doubles the width). -/
theorem C07_ksAdder_stages (stages : Nat) (pro : Bool) (x y : List Bool) (nz : Nat)
    (hw : 0 < max x.length y.length) (hnz : 0 < nz)
    (hst : ksWidth x.length y.length nz ≤ 2 ^ stages) :
    (evalBuilder (fun a b => ksAdderWith stages a b nz) pro x y).length = nz ∧
    toNat (evalBuilder (fun a b => ksAdderWith stages a b nz) pro x y) = (toNat x + toNat y) % 2 ^ nz :=
  evalBuilder_num (fun hwf hx hy => ksAdderWith_num hwf nz stages hx.num hy.num hnz hst) pro (by omega)

/-- `NewKoggeStoneAdder` as written (`numStages = ceil(log2 n)`): exact for all
widths, `(x + y) mod 2^nz`. -/
theorem C07_ksAdder (pro : Bool) (x y : List Bool) (nz : Nat)
    (hw : 0 < max x.length y.length) (hnz : 0 < nz) :
    (evalBuilder (fun a b => ksAdder a b nz) pro x y).length = nz ∧
    toNat (evalBuilder (fun a b => ksAdder a b nz) pro x y) = (toNat x + toNat y) % 2 ^ nz :=
  evalBuilder_num (fun hwf hx hy => ksAdder_num hwf nz hx.num hy.num hnz) pro (by omega)

example : toNat (evalBuilder (fun a b => ksAdder a b 7) true (ofNat 6 31) (ofNat 6 33)) = 64 :=
  (C07_ksAdder true _ _ 7 (by decide) (by decide)).2.trans (by decide)

/-- The stage count is necessary: with `floor(log2 6) = 2` stages instead of
`ceil(log2 6) = 3` the 6-bit network computes `31 + 1 = 0`. -/
theorem C07_ksAdder_too_few_stages_wrong :
    Nat.log2 6 = 2 ∧ ceilLog2 6 = 3 ∧
    toNat (evalBuilder (fun a b => ksAdderWith 2 a b 6) true (ofNat 6 31) (ofNat 6 1)) = 0 ∧
    toNat (evalBuilder (fun a b => ksAdderWith 3 a b 6) true (ofNat 6 31) (ofNat 6 1)) = 32 :=
  ⟨by decide, by decide, by simp only [evalBuilder, map_val_bits]; decide +kernel,
    (C07_ksAdder_stages 3 true _ _ 6 (by decide) (by decide) (by decide)).2.trans (by decide)⟩

/-- `NewKoggeStoneSubtractor` with an explicit number of prefix stages: exact
for all widths when `2^stages` reaches the network width. -/
theorem C07_ksSub_stages (stages : Nat) (pro : Bool) (x y : List Bool) (nz : Nat)
    (hw : 0 < max x.length y.length) (hnz : 0 < nz)
    (hst : ksWidth x.length y.length nz ≤ 2 ^ stages) :
    (evalBuilder (fun a b => ksSubtractorWith stages a b nz) pro x y).length = nz ∧
    (toNat (evalBuilder (fun a b => ksSubtractorWith stages a b nz) pro x y) : Int) =
      ((toNat x : Int) - (toNat y : Int)) % ((2 ^ nz : Nat) : Int) :=
  evalBuilder_diff (fun hwf hx hy => ksSubtractorWith_num hwf nz stages hx.num hy.num hnz hst) pro (by omega)

/-- `NewKoggeStoneSubtractor` as written (`for step := 1; step < n; step *= 2`,
i.e. `ceil(log2 n)` stages; leftover bits = copies of the borrow, 1a24bc4): exact for
all widths, `(x - y) mod 2^nz`. -/
theorem C07_ksSub (pro : Bool) (x y : List Bool) (nz : Nat)
    (hw : 0 < max x.length y.length) (hnz : 0 < nz) :
    (evalBuilder (fun a b => ksSubtractor a b nz) pro x y).length = nz ∧
    (toNat (evalBuilder (fun a b => ksSubtractor a b nz) pro x y) : Int) =
      ((toNat x : Int) - (toNat y : Int)) % ((2 ^ nz : Nat) : Int) :=
  evalBuilder_diff (fun hwf hx hy => ksSubtractor_num hwf nz hx.num hy.num hnz) pro (by omega)

example : toNat (evalBuilder (fun a b => ksSubtractor a b 8) true (ofNat 6 0) (ofNat 6 1)) = 255 :=
  Int.natCast_inj.mp ((C07_ksSub true _ _ 8 (by decide) (by decide)).2.trans (by decide))

/-- The stage count is necessary for the subtractor as well: with 2 stages the
6-bit network computes `32 - 0 = 0`. -/
theorem C07_ksSub_too_few_stages_wrong :
    toNat (evalBuilder (fun a b => ksSubtractorWith 2 a b 6) true (ofNat 6 32) (ofNat 6 0)) = 0 ∧
    toNat (evalBuilder (fun a b => ksSubtractorWith 3 a b 6) true (ofNat 6 32) (ofNat 6 0)) = 32 :=
  ⟨by simp only [evalBuilder, map_val_bits]; decide +kernel, Int.natCast_inj.mp
    ((C07_ksSub_stages 3 true _ _ 6 (by decide) (by decide) (by decide)).2.trans (by decide))⟩

/-- `NewUint{Gt,Ge,Lt,Le}Comparator`: for all operand widths and values the
single result bit is the comparison of the unsigned values. -/
theorem C07_ucmp (k : CmpKind) (pro : Bool) (x y : List Bool) (hw : 0 < x.length + y.length) :
    evalBuilder (comparator false k) pro x y = [k.relNat (toNat x) (toNat y)] :=
  evalBuilder_bits (fun hwf hx hy => ucomparator_bits hwf k hx hy) pro hw

example : evalBuilder (comparator false .gt) true [true, true, false] [false, true] = [true] :=
  C07_ucmp .gt true _ _ (by decide)

/- Full statement for the signed comparators (FALSE for unequal widths, see
   `C07_intCmp_unequal_wrong`): result = rel (toInt x) (toInt y).  Known
   finding C07-int-comparator-zero-extends (open; reachable:
   `func main(a int8, b int16) bool { return a < b }`, a = -1, b = 3). -/

/-- `NewInt{Gt,Ge,Lt,Le}Comparator`, every width: the result bit is the signed
comparison of the operands ZERO-padded to the common width (what the code
does: `cc.ZeroPad` then two's complement at the common width). -/
theorem C07_intCmp_partial (k : CmpKind) (pro : Bool) (x y : List Bool) (hw : 0 < max x.length y.length) :
    evalBuilder (comparator true k) pro x y =
      [k.relInt (toInt (padTo x (max x.length y.length))) (toInt (padTo y (max x.length y.length)))] :=
  evalBuilder_bits (fun hwf hx hy => icomparator_bits hwf k hx hy hw) pro (by omega)

/-- Signed comparators are exact for equal operand widths: the result bit is
the comparison of the two's complement values. -/
theorem C07_intCmp_equal_width (k : CmpKind) (pro : Bool) (x y : List Bool) (hl : x.length = y.length)
    (hw : 0 < x.length) :
    evalBuilder (comparator true k) pro x y = [k.relInt (toInt x) (toInt y)] := by
  rw [C07_intCmp_partial k pro x y (by omega), padTo_self (by omega), padTo_self (by omega)]

example : evalBuilder (comparator true .lt) true [true, true] [true, false] = [true] :=  -- -1 < 1
  C07_intCmp_equal_width .lt true _ _ (by decide) (by decide)

/-- Negation witness for unequal widths: `x = -1` (2 bits), `y = 3` (3 bits):
`x < y` but `NewIntLtComparator` answers false (the narrower operand is zero
extended).  Replayed on the Go code: `c07 one -extra "ilt 0 1 2 3 0 1 0 0 3 3 0"`. -/
theorem C07_intCmp_unequal_wrong :
    evalBuilder (comparator true .lt) true [true, true] [true, true, false] = [false] ∧
    toInt [true, true] < toInt [true, true, false] :=
  ⟨(C07_intCmp_partial .lt true _ _ (by decide)).trans (by decide), by decide⟩

/-- CONDITIONAL RESULT ABOUT THE PROPOSED REPAIR, NOT ABOUT THE CODE.
`comparatorSignPad` is `NewInt{Gt,Ge,Lt,Le}Comparator` with `cc.SignPad` in
place of `cc.ZeroPad` (hooks/c07-intcomparator-signpad.patch; judged not safe
for /repo as long as constants carry no sign: the literal 0xffffffff and the
folded -1 are the same 32-bit constant wires, so a positive literal in
[2^31, 2^32) compared with a wider signed operand would be read negative).
For this variant the result bit is the comparison of the two's complement
values for ALL operand widths, each operand read at its own width. -/
theorem C07_intCmp_signpad (k : CmpKind) (pro : Bool) (x y : List Bool) (hx : 0 < x.length) (hy : 0 < y.length) :
    evalBuilder (comparatorSignPad k) pro x y = [k.relInt (toInt x) (toInt y)] :=
  evalBuilder_bits (fun hwf hxb hyb => icomparatorSignPad_bits hwf k hxb hyb hx hy) pro (by omega)

-- the proposed repair on the witness of `C07_intCmp_unequal_wrong`: 2-bit -1 < 3-bit 3
example : evalBuilder (comparatorSignPad .lt) true [true, true] [true, true, false] = [true] :=
  C07_intCmp_signpad .lt true _ _ (by decide) (by decide)

/-- `NewEqComparator`: for all widths the result bit is `x = y` (as numbers). -/
theorem C07_eq (pro : Bool) (x y : List Bool) (hw : 0 < max x.length y.length) :
    evalBuilder eqComparator pro x y = [decide (toNat x = toNat y)] :=
  evalBuilder_bits (fun hwf hx hy => eqComparator_bits hwf hx hy hw) pro (by omega)

/-- `NewNeqComparator`: the result bit is `x ≠ y` as numbers. -/
theorem C07_neq (pro : Bool) (x y : List Bool) (hw : 0 < max x.length y.length) :
    evalBuilder neqComparator pro x y = [decide (toNat x ≠ toNat y)] :=
  evalBuilder_bits (fun hwf hx hy => neqComparator_bits hwf hx hy hw) pro (by omega)

example : evalBuilder eqComparator false [true, false, true] [true, false, true, false, false] = [true] :=
  C07_eq false _ _ (by decide)

/-- `NewMUX(cond, t, f, out)` with `len(out) = max(len t, len f)`: the result is
`t` if the condition bit is set, else `f` (zero padded to the result width). -/
theorem C07_mux (pro : Bool) (t f : List Bool) (c : Bool) :
    evalBuilder3 (fun tw fw cw => do
        let r ← newMUX (cw.getD 0 0) tw fw (max tw.length fw.length)
        pure (r.getD [])) pro t f [c] =
      if c then padTo t (max t.length f.length) else padTo f (max t.length f.length) :=
  evalBuilder3_bits (fun hwf ht hf hc => (newMUX_bits hwf ht hf (hc.getD 0 (by rw [hc.length]; exact Nat.one_pos))).map
    fun _ _ _ ⟨_, hr, h⟩ => by subst hr; exact h) pro (by simp)

example : evalBuilder3 (fun tw fw cw => do
    let r ← newMUX (cw.getD 0 0) tw fw (max tw.length fw.length)
    pure (r.getD [])) true [true, true] [false, true, true] [true] = [true, true, false] :=
  C07_mux true _ _ true

/-- `NewBinaryAND`: for every result width `nz` up to the operand width, bit `i`
of the result is `x_i ∧ y_i` (operands zero padded to the common width). -/
theorem C07_band (pro : Bool) (x y : List Bool) (nz : Nat) (hw : 0 < x.length + y.length) :
    evalBuilder (fun a b => binaryAnd a b nz) pro x y =
      List.zipWith (· && ·) ((padTo x (max x.length y.length)).take nz)
        ((padTo y (max x.length y.length)).take nz) :=
  evalBuilder_bits (fun hwf hx hy => binaryOp_bits hwf (gate .and) (· && ·) (gate_spec .and) nz hx hy) pro hw

theorem C07_bor (pro : Bool) (x y : List Bool) (nz : Nat) (hw : 0 < x.length + y.length) :
    evalBuilder (fun a b => binaryOr a b nz) pro x y =
      List.zipWith (· || ·) ((padTo x (max x.length y.length)).take nz)
        ((padTo y (max x.length y.length)).take nz) :=
  evalBuilder_bits (fun hwf hx hy => binaryOp_bits hwf or (· || ·) or_spec nz hx hy) pro hw

theorem C07_bxor (pro : Bool) (x y : List Bool) (nz : Nat) (hw : 0 < x.length + y.length) :
    evalBuilder (fun a b => binaryXor a b nz) pro x y =
      List.zipWith (· != ·) ((padTo x (max x.length y.length)).take nz)
        ((padTo y (max x.length y.length)).take nz) :=
  evalBuilder_bits (fun hwf hx hy => binaryOp_bits hwf (gate .xor) (· != ·) (gate_spec .xor) nz hx hy) pro hw

/-- `NewBinaryClear` (`x &^ y`). -/
theorem C07_bclr (pro : Bool) (x y : List Bool) (nz : Nat) (hw : 0 < x.length + y.length) :
    evalBuilder (fun a b => binaryClear a b nz) pro x y =
      List.zipWith (fun a b => a && !b) ((padTo x (max x.length y.length)).take nz)
        ((padTo y (max x.length y.length)).take nz) :=
  evalBuilder_bits (fun hwf hx hy => binaryOp_bits hwf (fun a b => do let w ← inv b; gate .and a w)
    (fun a b => a && !b) clear_h nz hx hy) pro hw

example : evalBuilder (fun a b => binaryClear a b 3) true [true, true, true] [false, true] = [true, false, true] :=
  C07_bclr true _ _ 3 (by decide)

/-- `NewLogicalAND` / `NewLogicalOR` on 1-bit operands. -/
theorem C07_logical (pro : Bool) (a b : Bool) :
    evalBuilder logicalAnd pro [a] [b] = [a && b] ∧ evalBuilder logicalOr pro [a] [b] = [a || b] :=
  ⟨evalBuilder_bits (fun hwf hx hy => logicalAnd_bits hwf hx hy (by exact Nat.one_pos) (by exact Nat.one_pos)) pro
      (by simp),
    evalBuilder_bits (fun hwf hx hy => logicalOr_bits hwf hx hy (by exact Nat.one_pos) (by exact Nat.one_pos)) pro
      (by simp)⟩

/-- `NewBitSetTest` / `NewBitClrTest` for every operand width and every index
(also outside the operand). -/
theorem C07_bittest (pro : Bool) (x y : List Bool) (index : Nat) (hw : 0 < x.length + y.length) :
    evalBuilder (fun a _ => bitSetTest a index) pro x y = [x.getD index false] ∧
    evalBuilder (fun a _ => bitClrTest a index) pro x y = [!x.getD index false] :=
  ⟨evalBuilder_bits (fun hwf hx _ => bitSetTest_bits hwf index hx) pro hw,
    evalBuilder_bits (fun hwf hx _ => bitClrTest_bits hwf index hx) pro hw⟩

example : evalBuilder (fun a _ => bitSetTest a 2) false [false, false, true] [false] = [true] :=
  (C07_bittest false _ _ 2 (by decide)).1

/-- `NewIndex(size, array, index, out)` for every element size `size ≥ 1`, every
element count `n ≥ 1`, every index width `≥ 1`: the result is element
`index mod 2^bits` of the array (split into `size`-bit elements), where `bits`
is the number of index bits the builder uses (`2^bits ≥ n`; index bits above
that are ignored, missing index bits read 0), and all zeros when that element
number is outside the array. -/
theorem C07_index (pro : Bool) (size n : Nat) (arr idx : List Bool) (hal : arr.length = n * size)
    (hsz : 0 < size) (hn : 0 < n) (hil : 0 < idx.length) :
    evalBuilder (newIndex size) pro arr idx =
      (chunks size n arr).getD (toNat (idx.take (indexBits n n 1 2).1)) (List.replicate size false) :=
  evalBuilder_bits (fun hwf ha hi => newIndex_bits hwf size n ha hi hal hsz hn hil) pro (by omega)

-- 3 elements of 2 bits, index 2 (binary 01 little endian = [false, true]) selects the third element
example : evalBuilder (newIndex 2) true [true, false, false, true, true, true] [false, true] = [true, true] :=
  C07_index true 2 3 _ _ (by decide) (by decide) (by decide) (by decide)
-- index 3 is outside the 3-element array: zero
example : evalBuilder (newIndex 2) true [true, false, false, true, true, true] [true, true] = [false, false] :=
  C07_index true 2 3 _ _ (by decide) (by decide) (by decide) (by decide)

/-- `Hamming` on either target (adder tree of `NewAdder`: ripple carry or
Kogge-Stone) for every operand width ≥ 1 (the 1-bit case included, b8285b2) and
every result width: the result is the number of bit positions in which the
(zero padded) operands differ, modulo `2^nz`. -/
theorem C07_hamming (gmw pro : Bool) (x y : List Bool) (nz : Nat)
    (hw : 1 ≤ max x.length y.length) (hnz : 0 < nz) :
    (evalBuilder (fun a b => hamming gmw a b nz) pro x y).length = nz ∧
    toNat (evalBuilder (fun a b => hamming gmw a b nz) pro x y) =
      popDiff ((padTo x (max x.length y.length)).zip (padTo y (max x.length y.length))) % 2 ^ nz :=
  evalBuilder_num (fun hwf hx hy => hammingG_num hwf gmw nz hx hy hw hnz) pro (by omega)

example : toNat (evalBuilder (fun a b => hamming false a b 3) true [true, false, true] [false, false, false, true]) = 3 :=
  (C07_hamming false true _ _ 3 (by decide) (by decide)).2.trans (by decide)
example : toNat (evalBuilder (fun a b => hamming false a b 2) true [true] [false]) = 1 :=
  (C07_hamming false true _ _ 2 (by decide) (by decide)).2.trans (by decide)

/-- `NewArrayMultiplier` is exact for every operand width and every result
width (narrower than, equal to and wider than twice the operand width; the
surplus bits are zero, b4e0da3): `(x · y) mod 2^nz`.  Proof by the
row-accumulation invariant: after row `j` the result bits `z[0..j]` and the
running sums satisfy `z + 2^(j+1)·sums = x · (y mod 2^(j+1))`. -/
theorem C07_arrayMult (pro : Bool) (x y : List Bool) (nz : Nat)
    (hw : 0 < max x.length y.length) (hnz : 0 < nz) :
    (evalBuilder (fun a b => arrayMultiplier a b nz) pro x y).length = nz ∧
    toNat (evalBuilder (fun a b => arrayMultiplier a b nz) pro x y) = (toNat x * toNat y) % 2 ^ nz :=
  evalBuilder_num (fun hwf hx hy => arrayMultiplier_num hwf nz hx.num hy.num hw hnz) pro (by omega)

-- 3 * 3 = 9 in 4 bits; 2-bit 1 * 2 into 6 bits is 2
example : toNat (evalBuilder (fun a b => arrayMultiplier a b 4) true [true, true] [true, true]) = 9 :=
  (C07_arrayMult true _ _ 4 (by decide) (by decide)).2.trans (by decide)
example : toNat (evalBuilder (fun a b => arrayMultiplier a b 6) true [true, false] [false, true]) = 2 :=
  (C07_arrayMult true _ _ 6 (by decide) (by decide)).2.trans (by decide)

/-- `NewKaratsubaMultiplier` for EVERY array threshold `limit ≥ 3` (limits below
3 make the Go recursion non-terminating; the compiler uses limits ≥ 8), on
either target (its adders / subtractors are `NewAdder` / `NewSubtractor`), all
operand and result widths: `(x · y) mod 2^nz`.  From the adder, subtractor
and array-multiplier theorems (each for every result width) and the
identity `z2·P² + (z1 - z2 - z0)·P + z0 = (al + P·ah)(bl + P·bh)` modulo `2^nz`. -/
theorem C07_karatsuba (gmw : Bool) (limit : Nat) (hlim : 3 ≤ limit) (pro : Bool) (x y : List Bool) (nz : Nat)
    (hw : 0 < max x.length y.length) (hnz : 0 < nz) :
    (evalBuilder (fun a b => do
        let r ← karatsuba gmw limit (2 * max a.length b.length + 8) a b nz
        pure (r.getD [])) pro x y).length = nz ∧
    toNat (evalBuilder (fun a b => do
        let r ← karatsuba gmw limit (2 * max a.length b.length + 8) a b nz
        pure (r.getD [])) pro x y) = (toNat x * toNat y) % 2 ^ nz :=
  evalBuilder_num (fun hwf hx hy => (karatsuba_num gmw limit hlim _ _ _ nz hwf hx.num hy.num hw hnz
    (by rw [hx.length, hy.length]; omega)).map fun _ _ _ ⟨_, hr, h⟩ => hr ▸ h) pro (by omega)

/-- `NewMultiplier` on the Yao target (Karatsuba with the per-width threshold
table, array multiplier below the threshold): exact for all widths. -/
theorem C07_mul_yao (pro : Bool) (x y : List Bool) (nz : Nat)
    (hw : 0 < max x.length y.length) (hnz : 0 < nz) :
    (evalBuilder (fun a b => do let r ← newMultiplier false a b nz; pure (r.getD [])) pro x y).length = nz ∧
    toNat (evalBuilder (fun a b => do let r ← newMultiplier false a b nz; pure (r.getD [])) pro x y) =
      (toNat x * toNat y) % 2 ^ nz :=
  evalBuilder_num (fun hwf hx hy => (newMultiplier_num hwf false nz hx.num hy.num hw hnz).map
    fun _ _ _ ⟨_, hr, h⟩ => hr ▸ h) pro (by omega)

-- 5-bit 27 * 19 = 513 with limit 3 (two recursion levels)
example : toNat (evalBuilder (fun a b => do
    let r ← karatsuba false 3 (2 * max a.length b.length + 8) a b 10
    pure (r.getD [])) true (ofNat 5 27) (ofNat 5 19)) = 513 :=
  (C07_karatsuba false 3 (by decide) true _ _ 10 (by decide) (by decide)).2.trans (by decide)

/-- `NewWallaceMultiplier`: exact for all operand and result widths,
`(x · y) mod 2^nz`.  Proof: the weighted column sum `Σ_i 2^i·(set bits of column i)` equals
`x·y` after the partial products, is preserved modulo `2^(2nz)` by every 3:2 /
2:2 compression round (`wlRound_cols`), the column height shrinks every round
until it is at most 2 (`wlLoop_cols`), and the two remaining rows are added by
the Kogge-Stone adder (`C07_ksAdder`). -/
theorem C07_wallace (pro : Bool) (x y : List Bool) (nz : Nat)
    (hw : 0 < x.length + y.length) (hnz : 0 < nz) :
    (evalBuilder (fun a b => wallace a b nz) pro x y).length = nz ∧
    toNat (evalBuilder (fun a b => wallace a b nz) pro x y) = (toNat x * toNat y) % 2 ^ nz :=
  evalBuilder_num (fun hwf hx hy => wallace_num hwf nz hx.num hy.num hnz) pro hw

/-- `NewMultiplier` on the GMW target (= `NewWallaceMultiplier`). -/
theorem C07_mul_gmw (pro : Bool) (x y : List Bool) (nz : Nat)
    (hw : 0 < x.length + y.length) (hnz : 0 < nz) :
    toNat (evalBuilder (fun a b => do let r ← newMultiplier true a b nz; pure (r.getD [])) pro x y) =
      (toNat x * toNat y) % 2 ^ nz :=
  (evalBuilder_num (n := nz) (fun hwf hx hy => (newMultiplier_num hwf true nz hx.num hy.num (by omega) hnz).map
    fun _ _ _ ⟨_, hr, h⟩ => by subst hr; exact h) pro hw).2

example : toNat (evalBuilder (fun a b => wallace a b 8) true (ofNat 4 13) (ofNat 4 11)) = 143 :=
  (C07_wallace true _ _ 8 (by decide) (by decide)).2.trans (by decide)

/-- `NewUDividerLong` (on either target: its subtractor is `NewSubtractor`),
quotient: for all operand widths, EVERY quotient width (wires above the
operand width are the zero wire, cf9e510) and every non-zero
divisor the result is `(x / y) mod 2^nz`.  Proof: restoring-division invariant
`a_top = q·b + r, r < b` over the dividend bits (`divLongLoop_spec`). -/
theorem C07_udiv (gmw pro : Bool) (x y : List Bool) (nz : Nat)
    (hw : 0 < max x.length y.length) (hy : toNat y ≠ 0) :
    (evalBuilder (fun a b => do let d ← uDividerLong gmw a b nz 0; pure d.1) pro x y).length = nz ∧
    toNat (evalBuilder (fun a b => do let d ← uDividerLong gmw a b nz 0; pure d.1) pro x y) =
      (toNat x / toNat y) % 2 ^ nz :=
  evalBuilder_num (fun hwf hx hy' => (uDividerLong_num hwf gmw nz 0 hx.num hy'.num hw (by omega)).map
    fun _ _ _ h => h.1) pro (by omega)

/-- `NewUDividerLong`, remainder: `(x mod y) mod 2^nz` for every result width,
non-zero divisor. -/
theorem C07_umod (gmw pro : Bool) (x y : List Bool) (nz : Nat)
    (hw : 0 < max x.length y.length) (hy : toNat y ≠ 0) :
    (evalBuilder (fun a b => do let d ← uDividerLong gmw a b 0 nz; pure d.2) pro x y).length = nz ∧
    toNat (evalBuilder (fun a b => do let d ← uDividerLong gmw a b 0 nz; pure d.2) pro x y) =
      (toNat x % toNat y) % 2 ^ nz :=
  evalBuilder_num (fun hwf hx hy' => (uDividerLong_num hwf gmw 0 nz hx.num hy'.num hw (by omega)).map
    fun _ _ _ h => h.2) pro (by omega)

-- 29 / 3 = 9 rem 2 on 5-bit operands
example : toNat (evalBuilder (fun a b => do let d ← uDividerLong false a b 5 0; pure d.1) true
    (ofNat 5 29) (ofNat 5 3)) = 9 :=
  (C07_udiv false true _ _ 5 (by decide) (by decide)).2.trans (by decide)
example : toNat (evalBuilder (fun a b => do let d ← uDividerLong false a b 0 5; pure d.2) true
    (ofNat 5 29) (ofNat 5 3)) = 2 :=
  (C07_umod false true _ _ 5 (by decide) (by decide)).2.trans (by decide)

/- Full statement for the signed divider: quotient `Int.tdiv (toInt x) (toInt y)`
   (the specification fixed by testsuite/lang/divi.mpcl), remainder
   `|x| mod |y|` (testsuite/lang/modi.mpcl, not Go's `%`), each operand read at
   its own width.  FALSE on the code for unequal operand widths (the narrower
   operand is ZERO extended, `C07_idiv_unequal_wrong`, `C07_imod_unequal_wrong`;
   known finding C07-signed-div-zero-extends, open; reachable: `int64 a / -3`,
   the constant -3 is the 32-bit value 4294967293).  The width of the RESULT is
   no restriction: the long divider delivers the magnitude quotient at the
   result width (zero filled, cf9e510) and it is negated there. -/

/-- `NewIDivider` on the Yao target as it is, ALL operand widths, EVERY quotient
width: the truncated quotient of the two's complement values of the operands
ZERO padded to the common width `m` (what the code does), modulo `2^nz`. -/
theorem C07_idiv_partial (pro : Bool) (x y : List Bool) (nz : Nat) (hw : 0 < max x.length y.length)
    (hy : toInt (padTo y (max x.length y.length)) ≠ 0) :
    (evalBuilder (fun a b => do let d ← iDivider false a b nz 0; pure d.1) pro x y).length = nz ∧
    (toNat (evalBuilder (fun a b => do let d ← iDivider false a b nz 0; pure d.1) pro x y) : Int) =
      (Int.tdiv (toInt (padTo x (max x.length y.length))) (toInt (padTo y (max x.length y.length)))) %
        ((2 ^ nz : Nat) : Int) :=
  evalBuilder_int (fun hwf hx hy' => (iDivider_tc hwf nz 0 hx hy' hw hy).map fun _ _ _ h => h.1) pro (by omega)

/-- `NewIDivider` on the Yao target is exact for EQUAL operand widths and EVERY
quotient width (also wider than the operands: zero fill of the long divider, cf9e510), non-zero divisor:
the quotient truncates toward zero (`Int.tdiv`), reduced modulo `2^nz`. -/
theorem C07_idiv_equal_width (pro : Bool) (x y : List Bool) (nz : Nat) (hl : x.length = y.length)
    (hw : 0 < x.length) (hy : toInt y ≠ 0) :
    (evalBuilder (fun a b => do let d ← iDivider false a b nz 0; pure d.1) pro x y).length = nz ∧
    (toNat (evalBuilder (fun a b => do let d ← iDivider false a b nz 0; pure d.1) pro x y) : Int) =
      (Int.tdiv (toInt x) (toInt y)) % ((2 ^ nz : Nat) : Int) := by
  have := C07_idiv_partial pro x y nz (by omega) (by rwa [padTo_self (by omega)])
  rwa [padTo_self (by omega), padTo_self (by omega)] at this

/-- Negation witness for unequal operand widths (the shape of `int64 a / -3`):
`x = 5` (4 bits), `y = -2` (3 bits): the truncated quotient is `-2` (14 at 4
bits) but `NewIDivider` answers 0, because the divisor is read as 6. -/
theorem C07_idiv_unequal_wrong :
    toNat (evalBuilder (fun a b => do let d ← iDivider false a b 4 0; pure d.1) true (ofNat 4 5) (ofNat 3 6)) = 0 ∧
    Int.tdiv (toInt (ofNat 4 5)) (toInt (ofNat 3 6)) % 16 = 14 :=
  ⟨Int.natCast_inj.mp ((C07_idiv_partial true _ _ 4 (by decide) (by decide)).2.trans (by decide)), by decide⟩

/-- `NewIDivider` on the Yao target as it is, remainder, all operand widths,
every result width: `(|x'| mod |y'|) mod 2^nz` for the ZERO padded operands
`x'`, `y'`. -/
theorem C07_imod_partial (pro : Bool) (x y : List Bool) (nz : Nat) (hw : 0 < max x.length y.length)
    (hy : toInt (padTo y (max x.length y.length)) ≠ 0) :
    (evalBuilder (fun a b => do let d ← iDivider false a b 0 nz; pure d.2) pro x y).length = nz ∧
    toNat (evalBuilder (fun a b => do let d ← iDivider false a b 0 nz; pure d.2) pro x y) =
      ((toInt (padTo x (max x.length y.length))).natAbs %
        (toInt (padTo y (max x.length y.length))).natAbs) % 2 ^ nz :=
  evalBuilder_num (fun hwf hx hy' => (iDivider_tc hwf 0 nz hx hy' hw hy).map fun _ _ _ h => h.2) pro (by omega)

/-- `NewIDivider` on the Yao target, remainder, EQUAL operand widths, every
result width: `(|x| mod |y|) mod 2^nz`. -/
theorem C07_imod_equal_width (pro : Bool) (x y : List Bool) (nz : Nat) (hl : x.length = y.length)
    (hw : 0 < x.length) (hy : toInt y ≠ 0) :
    (evalBuilder (fun a b => do let d ← iDivider false a b 0 nz; pure d.2) pro x y).length = nz ∧
    toNat (evalBuilder (fun a b => do let d ← iDivider false a b 0 nz; pure d.2) pro x y) =
      ((toInt x).natAbs % (toInt y).natAbs) % 2 ^ nz := by
  have := C07_imod_partial pro x y nz (by omega) (by rwa [padTo_self (by omega)])
  rwa [padTo_self (by omega), padTo_self (by omega)] at this

/-- Negation witness for unequal operand widths (the shape of `a % -3`):
`x = 5` (4 bits), `y = -2` (3 bits): `|x| mod |y| = 1` but `NewIDivider`
answers 5, because the divisor is read as 6. -/
theorem C07_imod_unequal_wrong :
    toNat (evalBuilder (fun a b => do let d ← iDivider false a b 0 4; pure d.2) true (ofNat 4 5) (ofNat 3 6)) = 5 ∧
    (toInt (ofNat 4 5)).natAbs % (toInt (ofNat 3 6)).natAbs = 1 :=
  ⟨(C07_imod_partial true _ _ 4 (by decide) (by decide)).2.trans (by decide), by decide⟩

-- -7 / 2 = -3 (13 as uint4), |-7| mod 2 = 1 on 4-bit operands
example : toNat (evalBuilder (fun a b => do let d ← iDivider false a b 4 0; pure d.1) true
    (ofNat 4 9) (ofNat 4 2)) = 13 :=
  Int.natCast_inj.mp ((C07_idiv_equal_width true _ _ 4 (by decide) (by decide) (by decide)).2.trans (by decide))
example : toNat (evalBuilder (fun a b => do let d ← iDivider false a b 0 4; pure d.2) true
    (ofNat 4 9) (ofNat 4 2)) = 1 :=
  (C07_imod_equal_width true _ _ 4 (by decide) (by decide) (by decide)).2.trans (by decide)
-- equal operand widths and a wider quotient: int3 -4 / int3 3 = -1 at 6 bits (63)
example : toNat (evalBuilder (fun a b => do let d ← iDivider false a b 6 0; pure d.1) true
    (ofNat 3 4) (ofNat 3 3)) = 63 :=
  Int.natCast_inj.mp ((C07_idiv_equal_width true _ _ 6 (by decide) (by decide) (by decide)).2.trans (by decide))

/-- CONDITIONAL RESULT ABOUT THE PROPOSED REPAIR, NOT ABOUT THE CODE.
`iDividerSignPad` is `NewIDivider` (Yao target) with `cc.SignPad` in place of
`cc.ZeroPad` (hooks/c07-idivider-signpad.patch; judged not safe for /repo as
long as constants carry no sign, see `C07_intCmp_signpad`).  For this variant:
ALL operand widths, EVERY quotient width, non-zero divisor: the quotient
truncates toward zero (`Int.tdiv`), reduced modulo `2^nz`. -/
theorem C07_idiv_signpad (pro : Bool) (x y : List Bool) (nz : Nat) (hx : 0 < x.length) (hyl : 0 < y.length)
    (hy : toInt y ≠ 0) :
    (evalBuilder (fun a b => do let d ← iDividerSignPad a b nz 0; pure d.1) pro x y).length = nz ∧
    (toNat (evalBuilder (fun a b => do let d ← iDividerSignPad a b nz 0; pure d.1) pro x y) : Int) =
      (Int.tdiv (toInt x) (toInt y)) % ((2 ^ nz : Nat) : Int) :=
  evalBuilder_int (fun hwf hxb hyb => (iDividerSignPad_tc hwf nz 0 hxb hyb hx hyl hy).map fun _ _ _ h => h.1) pro
    (by omega)

/-- CONDITIONAL RESULT ABOUT THE PROPOSED REPAIR, NOT ABOUT THE CODE: remainder
of `iDividerSignPad`, all operand widths, every result width:
`(|x| mod |y|) mod 2^nz`. -/
theorem C07_imod_signpad (pro : Bool) (x y : List Bool) (nz : Nat) (hx : 0 < x.length) (hyl : 0 < y.length)
    (hy : toInt y ≠ 0) :
    (evalBuilder (fun a b => do let d ← iDividerSignPad a b 0 nz; pure d.2) pro x y).length = nz ∧
    toNat (evalBuilder (fun a b => do let d ← iDividerSignPad a b 0 nz; pure d.2) pro x y) =
      ((toInt x).natAbs % (toInt y).natAbs) % 2 ^ nz :=
  evalBuilder_num (fun hwf hxb hyb => (iDividerSignPad_tc hwf 0 nz hxb hyb hx hyl hy).map fun _ _ _ h => h.2) pro
    (by omega)

-- the proposed repair on the witnesses of `C07_idiv_unequal_wrong` / `C07_imod_unequal_wrong`
example : toNat (evalBuilder (fun a b => do let d ← iDividerSignPad a b 4 0; pure d.1) true
    (ofNat 4 5) (ofNat 3 6)) = 14 :=
  Int.natCast_inj.mp ((C07_idiv_signpad true _ _ 4 (by decide) (by decide) (by decide)).2.trans (by decide))
example : toNat (evalBuilder (fun a b => do let d ← iDividerSignPad a b 0 4; pure d.2) true
    (ofNat 4 5) (ofNat 3 6)) = 1 :=
  (C07_imod_signpad true _ _ 4 (by decide) (by decide) (by decide)).2.trans (by decide)
-- unequal widths and a wider quotient: int4 -4 / int3 3 = -1 at 6 bits (63)
example : toNat (evalBuilder (fun a b => do let d ← iDividerSignPad a b 6 0; pure d.1) true
    (ofNat 4 12) (ofNat 3 3)) = 63 :=
  Int.natCast_inj.mp ((C07_idiv_signpad true _ _ 6 (by decide) (by decide) (by decide)).2.trans (by decide))

/-! ## Goldschmidt divider (GMW target of NewUDivider / NewIDivider): the correction step

`NewUDividerGoldschmidtFast` = zero pad, quotient ESTIMATE (MSB normalisation,
reciprocal seed from a ROM, `iterationsForWidthWithSeed` Goldschmidt
iterations on fixed-point products), CORRECTION (`goldCorrection`:
`r = a - q·b`, `q ± 1`, `r ± b`, selection by two sign bits).  The whole
generator `goldschmidt` is tied gate for gate to the Go code (T4).  Proved
here: the correction step is exact for every width IF the estimate is within
±1 of the true quotient (hypothesis `goldschmidt-estimate-within-one`, see the
head of this file). -/

/-- Correction step of `NewUDividerGoldschmidtFast` as of 776d360, for EVERY
operand width `n ≥ 1`, all result widths, every non-zero divisor: if the
estimate `q` satisfies `|q - ⌊a / b⌋| ≤ 1` (hypothesis `hest`) then the outputs
are exactly `(a / b) mod 2^nq` and `(a mod b) mod 2^nr`. -/
theorem C07_goldschmidt_correction (pro : Bool) (a b q : List Bool) (nq nr : Nat)
    (hlb : b.length = a.length) (hlq : q.length = a.length) (hn : 0 < a.length) (hb : toNat b ≠ 0)
    (hest : toNat q ≤ toNat a / toNat b + 1 ∧ toNat a / toNat b ≤ toNat q + 1) :
    ((evalBuilder3 (fun x y z => do let d ← goldCorrection x y z nq nr; pure d.1) pro a b q).length = nq ∧
      toNat (evalBuilder3 (fun x y z => do let d ← goldCorrection x y z nq nr; pure d.1) pro a b q) =
        (toNat a / toNat b) % 2 ^ nq) ∧
    ((evalBuilder3 (fun x y z => do let d ← goldCorrection x y z nq nr; pure d.2) pro a b q).length = nr ∧
      toNat (evalBuilder3 (fun x y z => do let d ← goldCorrection x y z nq nr; pure d.2) pro a b q) =
        (toNat a % toNat b) % 2 ^ nr) :=
  evalBuilder3_num2 (fun hwf hx hy hz => goldCorrection_num hwf nq nr hx.num (hy.num.cast hlb rfl) (hz.num.cast hlq rfl)
    hn (by omega) hest) pro (by omega)

-- non-vacuity: 7 / 3 at width 3 with the estimate 3 (one too big): 2 rem 1
example : toNat (evalBuilder3 (fun x y z => do let d ← goldCorrection x y z 3 3; pure d.1) true
    (ofNat 3 7) (ofNat 3 3) (ofNat 3 3)) = 2 :=
  (C07_goldschmidt_correction true _ _ _ 3 3 (by decide) (by decide) (by decide) (by decide)
    (by decide)).1.2.trans (by decide)
example : toNat (evalBuilder3 (fun x y z => do let d ← goldCorrection x y z 3 3; pure d.2) true
    (ofNat 3 7) (ofNat 3 3) (ofNat 3 3)) = 1 :=
  (C07_goldschmidt_correction true _ _ _ 3 3 (by decide) (by decide) (by decide) (by decide)
    (by decide)).2.2.trans (by decide)

/-- Old-definition negation witness (`goldCorrectionOld` in Model/Builders.lean is
the correction step as it was before 776d360: `q·b` truncated to `n` bits, `r`
on `n+1` bits, sign read from `r[n]`): `7 / 3` at width 3 with the estimate `3`
— which satisfies the hypothesis of `C07_goldschmidt_correction`, `⌊7/3⌋ = 2` —
gave `4 rem 3`: `3·3 = 9 = 1 (mod 2^3)`, so `r = 6` looked non-negative and
`≥ b`: `goldCorrE_num` at `e = 0` selects `q + 1` and `r - b`.  (The same defect at
width 7, `127 / 13` with the estimate 10 giving `11 rem 112`, is evaluated by the compiled driver on every run, fact
`goldschmidt_old_witness_127_13` of checks/C07.py.) -/
theorem C07_goldschmidt_correction_old_wrong :
    toNat (evalBuilder3 (fun x y z => do let d ← goldCorrectionOld x y z 3 3; pure d.1) true
      (ofNat 3 7) (ofNat 3 3) (ofNat 3 3)) = 4 ∧
    toNat (evalBuilder3 (fun x y z => do let d ← goldCorrectionOld x y z 3 3; pure d.2) true
      (ofNat 3 7) (ofNat 3 3) (ofNat 3 3)) = 3 ∧
    (3 ≤ 7 / 3 + 1 ∧ 7 / 3 ≤ 3 + 1) ∧ 7 / 3 = 2 ∧ 7 % 3 = 1 := by
  have h := evalBuilder3_num2 (b := fun x y z => goldCorrectionOld x y z 3 3) (x := ofNat 3 7) (y := ofNat 3 3)
    (w := ofNat 3 3) (n₁ := 3) (n₂ := 3) (V₁ := 4) (V₂ := 3) (fun hwf hx hy hz => by
      rw [goldCorrectionOld_eq]
      exact (goldCorrE_num hwf 0 3 3 (n := 3) hx.num hy.num hz.num (by omega) (by omega) rfl rfl).mono
        fun _ _ _ ⟨_, _, _, h1, h2⟩ => ⟨h1, h2⟩) true (by decide)
  exact ⟨h.1.2, h.2.2, by decide⟩

/-! ## Histories: many builder calls on ONE Compiler

The compiler creates one `circuits.Compiler` per program and calls many builders
on it.  The theorems above are stated on `evalBuilder` (one call on a fresh
state), but the specifications they rest on hold from ANY well-formed builder state; the
theorems of this section state the consequence for histories of calls.  The
Lean generators run in sequence from one state are compared gate for gate with
the real builders run in the same sequence on one `circuits.Compiler` (T4, op
`hgr` of harness/cmd/c07/hist.go). -/

/-- Sequential composition (frame property): two builders run one after the
other on ONE state, the second possibly using the result of the first.  If the
first establishes `Q1` from the state `s`, `Q1` is stable under state
extension (every postcondition of the form "these wires exist and carry these
values" is: `Bnd.mono`, `busVal_ext`), and the second establishes `Q2` from
every extension of `s` in which `Q1` holds, then after both calls BOTH
postconditions hold: the second call does not disturb the result of the
first, and the first does not disturb the working of the second. -/
theorem C07_history_compose {α β : Type} {inp : List Bool} {s : St} {m1 : BM α} {m2 : α → BM β}
    {Q1 : α → St → Prop} {Q2 : α → β → St → Prop}
    (h1 : Spec inp s m1 Q1)
    (hstab : ∀ a s' s'', Ext s' s'' inp → Q1 a s' → Q1 a s'')
    (h2 : ∀ a s', Ext s s' inp → Q1 a s' → Spec inp s' (m2 a) (Q2 a)) :
    Spec inp s (m1 >>= fun r1 => m2 r1 >>= fun r2 => (Pure.pure (r1, r2) : BM (α × β)))
      (fun (r : α × β) s'' => Q1 r.1 s'' ∧ Q2 r.1 r.2 s'') := by
  refine Spec.bind h1 ?_
  intro a s1 e1 q1
  refine Spec.bind (h2 a s1 e1 q1) ?_
  intro b s2 e2 q2
  exact Spec.pure (Q := fun (r : α × β) s'' => Q1 r.1 s'' ∧ Q2 r.1 r.2 s'') e2.wf ⟨hstab a s1 s2 e2 q1, q2⟩

/-- The fold over a HISTORY of calls, for every length: if every call of the
list meets its specification from every well-formed state (`SCall.Sound`: what
every builder specification gives) and the preconditions of the later calls follow
from the values at the start and the postconditions of the earlier calls
(`PreOk`), then running the calls in order on ONE state extends that state
(no earlier wire changes its value) and EVERY call's postcondition holds in the
final state (`Trace`), whatever the earlier calls were and whether its
operands are inputs or results of earlier calls. -/
theorem C07_history {inp : List Bool} (cs : List SCall) (hs : ∀ c ∈ cs, c.Sound inp)
    (s : St) (acc : List (List Nat)) (hwf : WF s inp) (hb : BndAll s acc) (hpre : PreOk cs (busVals s inp acc)) :
    Spec inp s (runHist (cs.map (·.call)) acc) (fun out s' => BndAll s' out ∧
      Trace cs (busVals s inp acc) (busVals s' inp out)) :=
  (runHist_cols cs hs hwf (.of_all hb) hpre).mono fun _ _ _ ⟨_, h, tr⟩ => ⟨h.bnd, h.vals ▸ tr⟩

/-- The same on the circuit the harness builds for a history (`evalHistory`:
input buses `ins`, optional constant-wire prologue, the calls in order on one
state, `ret` of every result, evaluation of the emitted gate list): the outputs
are one value per call, each satisfying its call's postcondition. -/
theorem C07_history_harness {ins : List (List Bool)} (cs : List SCall)
    (hs : ∀ c ∈ cs, c.Sound ins.flatten) (hpre : PreOk cs ins) (pro : Bool) (hpos : 0 < ins.flatten.length) :
    Trace cs ins (ins ++ evalHistory pro ins (cs.map (·.call))) :=
  evalHistory_spec cs hs hpre pro hpos

/-- DIVIDER AFTER DIVIDER on one Compiler (long divider, both targets of
`NewUDividerLong`; the Yao target of `NewUDivider`), independent operands
`a / b` and `c / d`, all operand and result widths, all values with non-zero
divisors: both quotients are exact. -/
theorem C07_history_udiv_udiv (gmw pro : Bool) (a b c d : List Bool) (nq1 nq2 : Nat)
    (hw1 : 0 < max a.length b.length) (hw2 : 0 < max c.length d.length) (hb : toNat b ≠ 0) (hd : toNat d ≠ 0) :
    ∃ q1 q2, evalHistory pro [a, b, c, d]
        [(udivLongCall gmw nq1 (0, 0, a.length) (1, 0, b.length)).call,
         (udivLongCall gmw nq2 (2, 0, c.length) (3, 0, d.length)).call] = [q1, q2] ∧
      q1.length = nq1 ∧ toNat q1 = (toNat a / toNat b) % 2 ^ nq1 ∧
      q2.length = nq2 ∧ toNat q2 = (toNat c / toNat d) % 2 ^ nq2 := by
  obtain ⟨q1, q2, h, h1, h2⟩ := evalHistory_two (ins := [a, b, c, d])
    (udivLongCall gmw nq1 (0, 0, a.length) (1, 0, b.length)) (udivLongCall gmw nq2 (2, 0, c.length) (3, 0, d.length))
    (udivLongCall_sound _ _ _ _ _) (udivLongCall_sound _ _ _ _ _)
    (by simp only [udivLongCall, SCall.of2, pickV_zero, pickV_succ]; exact ⟨hw1, hb⟩)
    (fun _ _ => by simp only [udivLongCall, SCall.of2, List.cons_append, pickV_zero, pickV_succ]; exact ⟨hw2, hd⟩)
    pro (by simp; omega)
  simp only [udivLongCall, SCall.of2, List.cons_append, pickV_zero, pickV_succ] at h1 h2
  exact ⟨q1, q2, h, h1.1, h1.2, h2.1, h2.2⟩

-- non-vacuity: 13 / 3 = 4 and then 14 / 5 = 2 on one state (4-bit operands, Yao long divider)
example : (evalHistory true [ofNat 4 13, ofNat 4 3, ofNat 4 14, ofNat 4 5]
    [(udivLongCall false 4 (0, 0, 4) (1, 0, 4)).call, (udivLongCall false 4 (2, 0, 4) (3, 0, 4)).call]).map toNat
    = [4, 2] := by
  obtain ⟨q1, q2, h, -, h1, -, h2⟩ := C07_history_udiv_udiv false true (ofNat 4 13) (ofNat 4 3) (ofNat 4 14)
    (ofNat 4 5) 4 4 (by decide) (by decide) (by decide) (by decide)
  exact (congrArg (List.map toNat) h).trans (by simp only [List.map, h1, h2]; decide)

/-- A later call FED BY an earlier result, with a precondition that follows from
the earlier postcondition: `s = a + b` (ripple adder, `nz` bits), then `c / s`
(long divider): exact whenever `(a + b) mod 2^nz ≠ 0`. -/
theorem C07_history_add_then_udiv (gmw pro : Bool) (a b c : List Bool) (nz nq : Nat)
    (hw : 0 < max a.length b.length) (hnz : 0 < nz) (hs : (toNat a + toNat b) % 2 ^ nz ≠ 0) :
    ∃ sm q, evalHistory pro [a, b, c]
        [(rippleAdderCall nz (0, 0, a.length) (1, 0, b.length)).call,
         (udivLongCall gmw nq (2, 0, c.length) (3, 0, nz)).call] = [sm, q] ∧
      sm.length = nz ∧ toNat sm = (toNat a + toNat b) % 2 ^ nz ∧
      q.length = nq ∧ toNat q = (toNat c / ((toNat a + toNat b) % 2 ^ nz)) % 2 ^ nq := by
  have hsum : ∀ z : List Bool, (rippleAdderCall nz (0, 0, a.length) (1, 0, b.length)).post [a, b, c] z →
      z.length = nz ∧ toNat z = (toNat a + toNat b) % 2 ^ nz ∧ pickV ([a, b, c] ++ [z]) (3, 0, nz) = z := by
    intro z h
    simp only [rippleAdderCall, SCall.of2, pickV_zero, pickV_succ] at h
    exact ⟨h.1, h.2, h.1 ▸ pickV_zero z []⟩
  obtain ⟨sm, q, h, h1, h2⟩ := evalHistory_two (ins := [a, b, c])
    (rippleAdderCall nz (0, 0, a.length) (1, 0, b.length)) (udivLongCall gmw nq (2, 0, c.length) (3, 0, nz))
    (rippleAdderCall_sound _ _ _ _) (udivLongCall_sound _ _ _ _ _)
    (by simp only [rippleAdderCall, SCall.of2, pickV_zero, pickV_succ]; exact ⟨hw, hnz⟩)
    (fun z hz => by
      obtain ⟨hl, hv, hp⟩ := hsum z hz
      simp only [udivLongCall, SCall.of2, hp, hv]
      exact ⟨by omega, hs⟩) pro (by simp; omega)
  obtain ⟨hl, hv, hp⟩ := hsum sm h1
  simp only [udivLongCall, SCall.of2, hp, hv] at h2
  simp only [List.cons_append, pickV_zero, pickV_succ] at h2
  exact ⟨sm, q, h, hl, hv, h2.1, h2.2⟩

-- non-vacuity: 2 + 3 = 5, then 14 / 5 = 2
example : (evalHistory true [ofNat 3 2, ofNat 3 3, ofNat 4 14]
    [(rippleAdderCall 3 (0, 0, 3) (1, 0, 3)).call, (udivLongCall false 4 (2, 0, 4) (3, 0, 3)).call]).map toNat
    = [5, 2] := by
  obtain ⟨sm, q, h, -, h1, -, h2⟩ := C07_history_add_then_udiv false true (ofNat 3 2) (ofNat 3 3) (ofNat 4 14) 3 4
    (by decide) (by decide) (by decide)
  exact (congrArg (List.map toNat) h).trans (by simp only [List.map, h1, h2]; decide)

/-- GOLDSCHMIDT DIVIDER AFTER GOLDSCHMIDT DIVIDER on one Compiler (the GMW
target of `NewUDivider`), stated for an arbitrary quotient estimator `est`
(`dividerWith est` = estimator, then the correction step `goldCorrection`;
`goldschmidt = dividerWith goldEstimate` on equal operand widths,
`C07_history_goldschmidt_pair`).  From any well-formed state, for all equal
operand widths and all result widths, non-zero divisors: if the estimator is
within ±1 of the quotient when run from the state `s` on `a, b` AND when run
on `c, d` from every state that extends `s` (in particular the one the first
divider leaves behind), then BOTH dividers are exact.  The estimate bound is
the VALIDATED hypothesis `goldschmidt-estimate-within-one`; checks/C07.py
evaluates it on fresh states (`estexh`, `estrnd`) and on the states a first
divider leaves behind (`esthist`). -/
theorem C07_history_divider_pair (est : List Nat → List Nat → BM (List Nat)) {s : St} {inp : List Bool}
    {a b c d : List Nat} (nq1 nr1 nq2 nr2 : Nat)
    (ha : Bnd s a) (hb : Bnd s b) (hc : Bnd s c) (hd : Bnd s d)
    (hlb : b.length = a.length) (hld : d.length = c.length) (hna : 0 < a.length) (hnc : 0 < c.length)
    (hB : 0 < toNat (busVal s inp b)) (hD : 0 < toNat (busVal s inp d))
    (hest1 : EstWithinOne est inp s a b)
    (hest2 : ∀ s', Ext s s' inp → EstWithinOne est inp s' c d) :
    Spec inp s (dividerWith est a b nq1 nr1 >>= fun r1 => dividerWith est c d nq2 nr2 >>= fun r2 =>
        (Pure.pure (r1, r2) : BM ((List Nat × List Nat) × (List Nat × List Nat))))
      (fun r s'' =>
        (r.1.1.length = nq1 ∧ r.1.2.length = nr1 ∧
          toNat (busVal s'' inp r.1.1) = (toNat (busVal s inp a) / toNat (busVal s inp b)) % 2 ^ nq1 ∧
          toNat (busVal s'' inp r.1.2) = (toNat (busVal s inp a) % toNat (busVal s inp b)) % 2 ^ nr1) ∧
        (r.2.1.length = nq2 ∧ r.2.2.length = nr2 ∧
          toNat (busVal s'' inp r.2.1) = (toNat (busVal s inp c) / toNat (busVal s inp d)) % 2 ^ nq2 ∧
          toNat (busVal s'' inp r.2.2) = (toNat (busVal s inp c) % toNat (busVal s inp d)) % 2 ^ nr2)) := by
  refine Spec.bind (dividerWith_num nq1 nr1 (.of ha) ((Num.of hb).cast hlb rfl) hna hB hest1) ?_
  intro t s1 e1 ⟨q1, r1⟩
  refine Spec.bind (dividerWith_num nq2 nr2 ((Num.of hc).mono e1) (((Num.of hd).cast hld rfl).mono e1) hnc hD
    (hest2 s1 e1)) ?_
  intro u s2 e2 ⟨q2, r2⟩
  exact Spec.pure e2.wf ⟨⟨q1.len, r1.len, (q1.mono e2).val, (r1.mono e2).val⟩, q2.len, r2.len, q2.val, r2.val⟩

-- non-vacuity of C07_history_divider_pair: with the exact estimator all its hypotheses hold from every state
example {s : St} {inp : List Bool} (hwf : WF s inp) {a b c d : List Nat} (ha : Bnd s a) (hb : Bnd s b) (hc : Bnd s c)
    (hd : Bnd s d) (hlb : b.length = a.length) (hld : d.length = c.length) (hna : 0 < a.length) (hnc : 0 < c.length)
    (hB : 0 < toNat (busVal s inp b)) (hD : 0 < toNat (busVal s inp d)) :
    Spec inp s (dividerWith exactEstimator a b 3 3 >>= fun r1 => dividerWith exactEstimator c d 3 3 >>= fun r2 =>
        (Pure.pure (r1, r2) : BM ((List Nat × List Nat) × (List Nat × List Nat)))) (fun _ _ => True) :=
  (C07_history_divider_pair exactEstimator 3 3 3 3 ha hb hc hd hlb hld hna hnc hB hD
    (exactEstimator_withinOne hwf ha hb hna hB)
    (fun s' e => exactEstimator_withinOne e.wf (hc.mono e) (hd.mono e) hnc
      (by rw [busVal_ext e hd]; exact hD))).mono (fun _ _ _ _ => trivial)

/-- The code's divider: two `NewUDividerGoldschmidtFast` calls on one Compiler
(equal operand widths), under the validated estimate hypothesis for
`goldEstimate` at both states. -/
theorem C07_history_goldschmidt_pair {s : St} {inp : List Bool}
    {a b c d : List Nat} (nq1 nr1 nq2 nr2 : Nat)
    (ha : Bnd s a) (hb : Bnd s b) (hc : Bnd s c) (hd : Bnd s d)
    (hlb : b.length = a.length) (hld : d.length = c.length) (hna : 0 < a.length) (hnc : 0 < c.length)
    (hB : 0 < toNat (busVal s inp b)) (hD : 0 < toNat (busVal s inp d))
    (hest1 : EstWithinOne goldEstimate inp s a b)
    (hest2 : ∀ s', Ext s s' inp → EstWithinOne goldEstimate inp s' c d) :
    Spec inp s (goldschmidt a b nq1 nr1 >>= fun r1 => goldschmidt c d nq2 nr2 >>= fun r2 =>
        (Pure.pure (r1, r2) : BM ((List Nat × List Nat) × (List Nat × List Nat))))
      (fun r s'' =>
        (r.1.1.length = nq1 ∧ r.1.2.length = nr1 ∧
          toNat (busVal s'' inp r.1.1) = (toNat (busVal s inp a) / toNat (busVal s inp b)) % 2 ^ nq1 ∧
          toNat (busVal s'' inp r.1.2) = (toNat (busVal s inp a) % toNat (busVal s inp b)) % 2 ^ nr1) ∧
        (r.2.1.length = nq2 ∧ r.2.2.length = nr2 ∧
          toNat (busVal s'' inp r.2.1) = (toNat (busVal s inp c) / toNat (busVal s inp d)) % 2 ^ nq2 ∧
          toNat (busVal s'' inp r.2.2) = (toNat (busVal s inp c) % toNat (busVal s inp d)) % 2 ^ nr2)) := by
  rw [goldschmidt_eq_dividerWith a b nq1 nr1 hlb.symm, goldschmidt_eq_dividerWith c d nq2 nr2 hld.symm]
  exact C07_history_divider_pair goldEstimate nq1 nr1 nq2 nr2 ha hb hc hd hlb hld hna hnc hB hD hest1 hest2

-- the conclusion of C07_history_goldschmidt_pair executed on the code's generators: 1 / 1 = 1 and then 0 / 1 = 0 with
-- two Goldschmidt dividers on one state (1-bit operands keep the kernel evaluation short; the same at 4 bits, where
-- the seed ROM is in use, 13 / 3 = 4 and then 14 / 5 = 2, is evaluated by the compiled driver on every run: fact
-- `goldschmidt_pair_on_one_state` of checks/C07.py)
example : (evalHistory true [ofNat 1 1, ofNat 1 1, ofNat 1 0, ofNat 1 1]
    [goldCall 1 (0, 0, 1) (1, 0, 1), goldCall 1 (2, 0, 1) (3, 0, 1)]).map toNat = [1, 0] := by
  simp only [evalHistory, map_val_bits]; decide +kernel

/-! ## Operand shapes: constant wires, repeated wires, one bus twice

`ssa.Program.Circuit` never hands a builder only fresh value wires: constants
are wired from `cc.ZeroWire()` / `cc.OneWire()`, every cast to a wider type,
shift, slice and short constant pads with `cc.ZeroWire()`, a sign extension
repeats the top wire, `x op x` passes one bus twice; earlier builders deliver
the constant wires as result bits (`z[i] = cc.ZeroWire()`).  "For all operand
values of the builders as the compiler uses them" therefore quantifies over
operand buses made of ARBITRARY existing wires.

The specifications behind every theorem of this file ask of the operand wires
only `Bits s inp x xv`: `Bnd s x` (each wire id is below `s.next`: an input, the
output of any earlier gate, a constant wire; no distinctness, no freshness) and
`busVal s inp x = xv` (`xv` is whatever those wires carry).  The family
`C07_builders_any_operand_wires_*` states this explicitly, builder by builder;
`mkOperand` requests the lazily created constant wires exactly as the harness
does with the real Compiler; through `C07_shaped_call` / `C07_shaped_call3` the
history theorems cover histories whose operands hold constant and repeated wires.

Tie: harness/cmd/c07 class `shape` (and the random histories) run the real
builders on such operand buses on both targets; the gate lists are compared
literally with the generators run on the same operand wires (T4, op `hgr`) and
every call is judged against math/big on the values its operands carry. -/

/-- An operand made of pieces (slices of known buses, `n` copies of the zero
wire, `n` copies of the one wire; the same wire may occur several times): from
any well-formed state its wires exist afterwards and carry `opndVal` of the
values of the known buses. -/
theorem C07_operand_shapes {inp : List Bool} {acc : List (List Nat)} (ps : List Piece) {s : St}
    (hwf : WF s inp) (hb : BndAll s acc) :
    Spec inp s (mkOperand acc ps) (fun w s' => Bnd s' w ∧ busVal s' inp w = opndVal (busVals s inp acc) ps) :=
  (mkOperand_bits ps hwf (.of_all hb)).mono fun _ _ _ h => ⟨h.bnd, h.val⟩

-- non-vacuity: from a state WITHOUT constant wires (they are created while the operand is made): the value `a`,
-- its top wire repeated, a zero and a one
example : (mkOperand [[0, 1]] [Piece.bus 0 0 2, Piece.bus 0 1 1, Piece.zeros 1, Piece.ones 1] (initSt 2 false)).1
    = [0, 1, 1, 3, 4] := by decide
example : let r := mkOperand [[0, 1]] [Piece.bus 0 0 2, Piece.bus 0 1 1, Piece.zeros 1, Piece.ones 1] (initSt 2 false)
    busVal r.2 [false, true] r.1 = [false, true, true, false, true] := by decide

/-- `NewEqComparator` on ANY operand wires of a well-formed state. -/
theorem C07_builders_any_operand_wires_eq {s : St} {inp : List Bool} (hwf : WF s inp) {x y : List Nat}
    (hx : Bnd s x) (hy : Bnd s y) (hne : 0 < max x.length y.length) :
    Spec inp s (eqComparator x y) (fun z s' => Bnd s' z ∧
      busVal s' inp z = [decide (toNat (busVal s inp x) = toNat (busVal s inp y))]) :=
  eqComparator_sound inp s x y hwf hx hy (by simpa using hne)

-- non-vacuity (state `initSt 2 true` of `exSt_wf`: inputs 0, 1; wire 3 = zero wire, wire 4 = one wire):
-- x = in0 twice, zero, one; y = in1, one, zero, zero
example : busVal (initSt 2 true) [true, false] [0, 0, 3, 4] = [true, true, false, true] ∧
    busVal (initSt 2 true) [true, false] [1, 4, 3, 3] = [false, true, false, false] := by decide
example : Spec [true, false] (initSt 2 true) (eqComparator [0, 0, 3, 4] [1, 4, 3, 3]) (fun z s' =>
    busVal s' [true, false] z = [false]) :=
  (C07_builders_any_operand_wires_eq exSt_wf (exSt_bnd _ (by decide)) (exSt_bnd _ (by decide)) (by decide)).mono
    (fun z s' _ h => by rw [h.2]; decide)

/-- `NewNeqComparator` on any operand wires. -/
theorem C07_builders_any_operand_wires_neq {s : St} {inp : List Bool} (hwf : WF s inp) {x y : List Nat}
    (hx : Bnd s x) (hy : Bnd s y) (hne : 0 < max x.length y.length) :
    Spec inp s (neqComparator x y) (fun z s' => Bnd s' z ∧
      busVal s' inp z = [decide (toNat (busVal s inp x) ≠ toNat (busVal s inp y))]) :=
  neqComparator_sound inp s x y hwf hx hy (by simpa using hne)

example : Spec [true, false] (initSt 2 true) (neqComparator [0, 0, 3, 4] [1, 4, 3, 3]) (fun z s' =>
    busVal s' [true, false] z = [true]) :=
  (C07_builders_any_operand_wires_neq exSt_wf (exSt_bnd _ (by decide)) (exSt_bnd _ (by decide)) (by decide)).mono
    (fun z s' _ h => by rw [h.2]; decide)

/-- `NewUint{Gt,Ge,Lt,Le}Comparator` on any operand wires. -/
theorem C07_builders_any_operand_wires_ucmp {s : St} {inp : List Bool} (hwf : WF s inp) (k : CmpKind)
    {x y : List Nat} (hx : Bnd s x) (hy : Bnd s y) :
    Spec inp s (comparator false k x y) (fun z s' => Bnd s' z ∧
      busVal s' inp z = [k.relNat (toNat (busVal s inp x)) (toNat (busVal s inp y))]) :=
  ucomparator_sound inp k s x y hwf hx hy trivial

example : Spec [true, false] (initSt 2 true) (comparator false .gt [0, 0, 3, 4] [1, 4, 3, 3]) (fun z s' =>
    busVal s' [true, false] z = [true]) :=  -- 11 > 2
  (C07_builders_any_operand_wires_ucmp exSt_wf .gt (exSt_bnd _ (by decide)) (exSt_bnd _ (by decide))).mono
    (fun z s' _ h => by rw [h.2]; decide)

/-- `NewInt{Gt,Ge,Lt,Le}Comparator` on any operand wires (AS IN THE CODE: the
operands are zero padded to the common width, see `C07_intCmp_partial`). -/
theorem C07_builders_any_operand_wires_icmp {s : St} {inp : List Bool} (hwf : WF s inp) (k : CmpKind)
    {x y : List Nat} (hx : Bnd s x) (hy : Bnd s y) (hne : 0 < max x.length y.length) :
    Spec inp s (comparator true k x y) (fun z s' => Bnd s' z ∧
      busVal s' inp z = [k.relInt (toInt (padTo (busVal s inp x) (max x.length y.length)))
        (toInt (padTo (busVal s inp y) (max x.length y.length)))]) := by
  have h := icomparator_bits (inp := inp) hwf k (.of hx) (.of hy) (by rwa [busVal_length, busVal_length])
  rw [busVal_length, busVal_length] at h
  exact h.mono fun _ _ _ h => ⟨h.bnd, h.val⟩

example : Spec [true, false] (initSt 2 true) (comparator true .lt [0, 0, 3, 4] [1, 4, 3, 3]) (fun z s' =>
    busVal s' [true, false] z = [true]) :=  -- -5 < 2
  (C07_builders_any_operand_wires_icmp exSt_wf .lt (exSt_bnd _ (by decide)) (exSt_bnd _ (by decide)) (by decide)).mono
    (fun z s' _ h => by rw [h.2]; decide)

/-- `NewAdder` (both targets: ripple carry, Kogge-Stone) on any operand wires. -/
theorem C07_builders_any_operand_wires_adder {s : St} {inp : List Bool} (hwf : WF s inp) (gmw : Bool)
    {x y : List Nat} (nz : Nat) (hx : Bnd s x) (hy : Bnd s y) (hne : 0 < max x.length y.length) (hnz : 0 < nz) :
    Spec inp s (newAdder gmw x y nz) (fun z s' => Bnd s' z ∧ z.length = nz ∧
      toNat (busVal s' inp z) = (toNat (busVal s inp x) + toNat (busVal s inp y)) % 2 ^ nz) :=
  (newAdder_num hwf gmw nz (.of hx) (.of hy) hne hnz).mono fun _ _ _ h => ⟨h.bnd, h.len, h.val⟩

example (gmw : Bool) : Spec [true, false] (initSt 2 true) (newAdder gmw [0, 0, 3, 4] [1, 4, 3, 3] 5) (fun z s' =>
    toNat (busVal s' [true, false] z) = 13) :=  -- 11 + 2
  (C07_builders_any_operand_wires_adder exSt_wf gmw 5 (exSt_bnd _ (by decide)) (exSt_bnd _ (by decide)) (by decide)
    (by decide)).mono (fun z s' _ h => by rw [h.2.2]; decide)

/-- `NewSubtractor` (Yao target) on any operand wires: `z + y ≡ x (mod 2^nz)`. -/
theorem C07_builders_any_operand_wires_sub {s : St} {inp : List Bool} (hwf : WF s inp)
    {x y : List Nat} (nz : Nat) (hx : Bnd s x) (hy : Bnd s y) (hnz : 0 < nz) :
    Spec inp s (rippleSubtractor x y nz) (fun z s' => Bnd s' z ∧ z.length = nz ∧
      (toNat (busVal s' inp z) + toNat (busVal s inp y)) % 2 ^ nz = toNat (busVal s inp x) % 2 ^ nz) :=
  (rippleSubtractor_num hwf nz (.of hx) (.of hy) hnz).mono fun _ _ _ ⟨_, h, v⟩ => ⟨h.bnd, h.len, h.val ▸ v⟩

example : Spec [true, false] (initSt 2 true) (rippleSubtractor [0, 0, 3, 4] [0, 0, 3, 4] 4) (fun z s' =>
    (toNat (busVal s' [true, false] z) + 11) % 16 = 11) :=  -- x - x
  (C07_builders_any_operand_wires_sub exSt_wf 4 (exSt_bnd _ (by decide)) (exSt_bnd _ (by decide)) (by decide)).mono
    (fun z s' _ h => by
      have hv : toNat (busVal (initSt 2 true) [true, false] [0, 0, 3, 4]) = 11 := by decide
      have := h.2.2
      rw [hv] at this
      exact this)

/-- `NewMUX` on any operand wires, condition included (a constant wire, the
result of a comparison, ...). -/
theorem C07_builders_any_operand_wires_mux {s : St} {inp : List Bool} (hwf : WF s inp) {t f : List Nat} {cond : Nat}
    (ht : Bnd s t) (hf : Bnd s f) (hc : cond < s.next) :
    Spec inp s (newMUX cond t f (max t.length f.length)) (fun z s' => ∃ r, z = some r ∧ Bnd s' r ∧
      busVal s' inp r = if s.val inp cond then padTo (busVal s inp t) (max t.length f.length)
        else padTo (busVal s inp f) (max t.length f.length)) := by
  have h := newMUX_bits (inp := inp) hwf (.of ht) (.of hf) (.of_lt hc)
  rw [busVal_length, busVal_length] at h
  exact h.mono fun _ _ _ ⟨r, hr, h⟩ => ⟨r, hr, h.bnd, h.val⟩

-- the condition is the one wire, the false value is the true value's own bus
example : Spec [true, false] (initSt 2 true) (newMUX 4 [0, 0, 3, 4] [0, 0, 3, 4] 4) (fun z s' =>
    ∃ r, z = some r ∧ busVal s' [true, false] r = [true, true, false, true]) :=
  (C07_builders_any_operand_wires_mux (t := [0, 0, 3, 4]) (f := [0, 0, 3, 4]) exSt_wf (exSt_bnd _ (by decide))
    (exSt_bnd _ (by decide)) (by decide)).mono
    (fun z s' _ ⟨r, hz, _, hv⟩ => ⟨r, hz, by rw [hv]; decide⟩)

/-- `NewArrayMultiplier` and `NewWallaceMultiplier` on any operand wires. -/
theorem C07_builders_any_operand_wires_mul {s : St} {inp : List Bool} (hwf : WF s inp)
    {x y : List Nat} (nz : Nat) (hx : Bnd s x) (hy : Bnd s y) (hne : 0 < max x.length y.length) (hnz : 0 < nz) :
    Spec inp s (arrayMultiplier x y nz) (fun z s' => Bnd s' z ∧ z.length = nz ∧
      toNat (busVal s' inp z) = (toNat (busVal s inp x) * toNat (busVal s inp y)) % 2 ^ nz) ∧
    Spec inp s (wallace x y nz) (fun z s' => Bnd s' z ∧ z.length = nz ∧
      toNat (busVal s' inp z) = (toNat (busVal s inp x) * toNat (busVal s inp y)) % 2 ^ nz) :=
  ⟨(arrayMultiplier_num hwf nz (.of hx) (.of hy) hne hnz).mono fun _ _ _ h => ⟨h.bnd, h.len, h.val⟩,
    (wallace_num hwf nz (.of hx) (.of hy) hnz).mono fun _ _ _ h => ⟨h.bnd, h.len, h.val⟩⟩

example : Spec [true, false] (initSt 2 true) (arrayMultiplier [0, 0, 3, 4] [1, 4, 3, 3] 8) (fun z s' =>
    toNat (busVal s' [true, false] z) = 22) :=
  ((C07_builders_any_operand_wires_mul exSt_wf 8 (exSt_bnd _ (by decide)) (exSt_bnd _ (by decide)) (by decide)
    (by decide)).1).mono (fun z s' _ h => by rw [h.2.2]; decide)

/-- `NewUDividerLong` on any operand wires (non-zero divisor VALUE; the divisor
may be all constant wires). -/
theorem C07_builders_any_operand_wires_udiv {s : St} {inp : List Bool} (hwf : WF s inp) (gmw : Bool)
    {a b : List Nat} (nq nr : Nat) (ha : Bnd s a) (hb : Bnd s b) (hne : 0 < max a.length b.length)
    (hB : 0 < toNat (busVal s inp b)) :
    Spec inp s (uDividerLong gmw a b nq nr) (fun t s' => Bnd s' t.1 ∧ Bnd s' t.2 ∧
      t.1.length = nq ∧ t.2.length = nr ∧
      toNat (busVal s' inp t.1) = (toNat (busVal s inp a) / toNat (busVal s inp b)) % 2 ^ nq ∧
      toNat (busVal s' inp t.2) = (toNat (busVal s inp a) % toNat (busVal s inp b)) % 2 ^ nr) :=
  (uDividerLong_num hwf gmw nq nr (.of ha) (.of hb) hne hB).mono
    fun _ _ _ ⟨h1, h2⟩ => ⟨h1.bnd, h2.bnd, h1.len, h2.len, h1.val, h2.val⟩

example : Spec [true, false] (initSt 2 true) (uDividerLong false [0, 0, 3, 4] [1, 4, 3, 3] 4 4) (fun t s' =>
    toNat (busVal s' [true, false] t.1) = 5 ∧ toNat (busVal s' [true, false] t.2) = 1) :=  -- 11 / 2
  (C07_builders_any_operand_wires_udiv exSt_wf false 4 4 (exSt_bnd _ (by decide)) (exSt_bnd _ (by decide)) (by decide)
    (by decide)).mono (fun t s' _ h => by rw [h.2.2.2.2.1, h.2.2.2.2.2]; decide)

/-- Bitwise builders (`NewBinaryAND/OR/XOR/Clear`: `binaryOp` over a per-bit
gate function) and the bit tests on any operand wires. -/
theorem C07_builders_any_operand_wires_bits {s : St} {inp : List Bool} (hwf : WF s inp)
    {x y : List Nat} (nz index : Nat) (hx : Bnd s x) (hy : Bnd s y) :
    Spec inp s (binaryAnd x y nz) (fun z s' => Bnd s' z ∧
      busVal s' inp z = List.zipWith (· && ·) ((padTo (busVal s inp x) (max x.length y.length)).take nz)
        ((padTo (busVal s inp y) (max x.length y.length)).take nz)) ∧
    Spec inp s (binaryXor x y nz) (fun z s' => Bnd s' z ∧
      busVal s' inp z = List.zipWith (· != ·) ((padTo (busVal s inp x) (max x.length y.length)).take nz)
        ((padTo (busVal s inp y) (max x.length y.length)).take nz)) ∧
    Spec inp s (bitSetTest x index) (fun z s' => Bnd s' z ∧ busVal s' inp z = [(busVal s inp x).getD index false]) := by
  have h (op : Op) := binaryOp_bits (inp := inp) hwf (gate op) op.eval (gate_spec op) nz (.of hx) (.of hy)
  simp only [busVal_length] at h
  exact ⟨(h .and).mono fun _ _ _ h => ⟨h.bnd, h.val⟩, (h .xor).mono fun _ _ _ h => ⟨h.bnd, h.val⟩,
    (bitSetTest_bits hwf index (.of hx)).mono fun _ _ _ h => ⟨h.bnd, h.val⟩⟩

example : Spec [true, false] (initSt 2 true) (binaryXor [0, 0, 3, 4] [0, 0, 3, 4] 4) (fun z s' =>
    busVal s' [true, false] z = [false, false, false, false]) :=  -- x ^ x
  ((C07_builders_any_operand_wires_bits exSt_wf 4 0 (exSt_bnd _ (by decide)) (exSt_bnd _ (by decide))).2.1).mono
    (fun z s' _ h => by rw [h.2]; decide)

/-- `Hamming` (both targets) on any operand wires. -/
theorem C07_builders_any_operand_wires_hamming {s : St} {inp : List Bool} (hwf : WF s inp) (gmw : Bool)
    {x y : List Nat} (nz : Nat) (hx : Bnd s x) (hy : Bnd s y) (hne : 1 ≤ max x.length y.length) (hnz : 0 < nz) :
    Spec inp s (hamming gmw x y nz) (fun z s' => Bnd s' z ∧ z.length = nz ∧
      toNat (busVal s' inp z) = popDiff ((padTo (busVal s inp x) (max x.length y.length)).zip
        (padTo (busVal s inp y) (max x.length y.length))) % 2 ^ nz) :=
  hammingG_spec hwf gmw nz hx hy hne hnz

example (gmw : Bool) : Spec [true, false] (initSt 2 true) (hamming gmw [0, 0, 3, 4] [1, 4, 3, 3] 3) (fun z s' =>
    toNat (busVal s' [true, false] z) = 2) :=
  (C07_builders_any_operand_wires_hamming exSt_wf gmw 3 (exSt_bnd _ (by decide)) (exSt_bnd _ (by decide)) (by decide)
    (by decide)).mono (fun z s' _ h => by rw [h.2.2]; decide)

/-- A builder call on SHAPED operands as a call of a history: any builder
specification of the form used throughout (`Spec` from every well-formed state,
operands any existing wires) makes it sound, so `C07_history` and
`C07_history_harness` apply to histories whose operand buses hold constant
wires, repeated wires, the same bus twice and results of earlier calls. -/
theorem C07_shaped_call {inp : List Bool} {b : List Nat → List Nat → BM (List Nat)} (px py : List Piece)
    {pre : List Bool → List Bool → Prop} {post : List Bool → List Bool → List Bool → Prop}
    (hb : ∀ (s : St) (xw yw : List Nat), WF s inp → Bnd s xw → Bnd s yw → pre (busVal s inp xw) (busVal s inp yw) →
      Spec inp s (b xw yw) (fun z s' => Bnd s' z ∧ post (busVal s inp xw) (busVal s inp yw) (busVal s' inp z))) :
    (SCall.shaped2 b px py pre post).Sound inp :=
  SCall.shaped2_sound px py hb

/-- The same with three operands (multiplexer). -/
theorem C07_shaped_call3 {inp : List Bool} {b : List Nat → List Nat → List Nat → BM (List Nat)}
    (px py pw : List Piece)
    {pre : List Bool → List Bool → List Bool → Prop}
    {post : List Bool → List Bool → List Bool → List Bool → Prop}
    (hb : ∀ (s : St) (xw yw ww : List Nat), WF s inp → Bnd s xw → Bnd s yw → Bnd s ww →
      pre (busVal s inp xw) (busVal s inp yw) (busVal s inp ww) →
      Spec inp s (b xw yw ww) (fun z s' => Bnd s' z ∧
        post (busVal s inp xw) (busVal s inp yw) (busVal s inp ww) (busVal s' inp z))) :
    (SCall.shaped3 b px py pw pre post).Sound inp :=
  SCall.shaped3_sound px py pw hb

-- non-vacuity of both: the `_sound` lemmas of Proofs/BuildersOpnd.lean are such specifications
example (inp : List Bool) (px py : List Piece) : (neqShaped px py).Sound inp :=
  C07_shaped_call px py (neqComparator_sound inp)
example (inp : List Bool) (px py pw : List Piece) :
    (SCall.shaped3 (fun t f c => do let r ← newMUX (c.getD 0 0) t f (max t.length f.length); pure (r.getD []))
      px py pw (fun _ _ cv => cv.length = 1)
      (fun tv fv cv z => z = if cv.getD 0 false then padTo tv (max tv.length fv.length)
        else padTo fv (max tv.length fv.length))).Sound inp :=
  C07_shaped_call3 px py pw (mux_sound inp)

/-- `uintN(a) == c` and `uintN(a) != c` for a constant `c` OUTSIDE the range of
`a` (a 1 inside the known-zero region of the zero-extended operand): on the
circuit the harness builds — the value `a` zero-extended to `n` wires with the
zero wire, the constant wired from the constant wires, one `NewEqComparator` /
`NewNeqComparator` call — the comparison answers false / true for EVERY value
of `a`, every width, with and without the constant-wire prologue. -/
theorem C07_eq_neq_zext_vs_constant (pro : Bool) (a : List Bool) (n c : Nat) (ha : 0 < a.length)
    (hc : 2 ^ a.length ≤ c % 2 ^ n) :
    evalHistory pro [a] [(eqShaped (zextPieces 0 a.length n) (constPieces n c)).call] = [[false]] ∧
    evalHistory pro [a] [(neqShaped (zextPieces 0 a.length n) (constPieces n c)).call] = [[true]] := by
  have hpos : 0 < [a].flatten.length := by simpa using ha
  have hxv : toNat (opndVal [a] (zextPieces 0 a.length n)) = toNat a := by
    rw [toNat_opndVal_zext]; simp
  have hyv : toNat (opndVal [a] (constPieces n c)) = c % 2 ^ n := by
    rw [opndVal_constPieces, toNat_ofNat]
  have hlt := toNat_lt a
  have hxl : 0 < (opndVal [a] (zextPieces 0 a.length n)).length := by
    rw [opndVal_zextPieces]; simp; omega
  obtain ⟨z, hz, hp⟩ := evalHistory_one (ins := [a]) (eqShaped (zextPieces 0 a.length n) (constPieces n c))
    (eqShaped_sound _ _ _) (by simp only [eqShaped, SCall.shaped2]; omega) pro hpos
  obtain ⟨z', hz', hp'⟩ := evalHistory_one (ins := [a]) (neqShaped (zextPieces 0 a.length n) (constPieces n c))
    (neqShaped_sound _ _ _) (by simp only [neqShaped, SCall.shaped2]; omega) pro hpos
  simp only [eqShaped, neqShaped, SCall.shaped2, hxv, hyv] at hp hp'
  rw [hz, hz', hp, hp']
  simp; omega

-- non-vacuity: uint4(a) == 4 / != 4 with a 2-bit `a` = 3, no prologue (the constant wires are created while the
-- operands are made)
example : evalHistory false [[true, true]] [(eqShaped (zextPieces 0 2 4) (constPieces 4 4)).call] = [[false]] ∧
    evalHistory false [[true, true]] [(neqShaped (zextPieces 0 2 4) (constPieces 4 4)).call] = [[true]] :=
  C07_eq_neq_zext_vs_constant false [true, true] 4 4 (by decide) (by decide)
-- and the hypotheses of the theorem at this instance
example : 0 < [true, true].length ∧ 2 ^ [true, true].length ≤ 4 % 2 ^ 4 := by decide

-- a HISTORY with shaped operands fed by an earlier result: s = a + b (3 bits), then uint4(s) != 8; the fold theorem
-- applies (every call sound by `C07_shaped_call`, preconditions hold) and the generators give 5 and true
example (pro : Bool) : Trace [adderShaped 3 [Piece.bus 0 0 2] [Piece.bus 1 0 2],
      neqShaped [Piece.bus 2 0 3, Piece.zeros 1] (constPieces 4 8)] [ofNat 2 3, ofNat 2 2]
    ([ofNat 2 3, ofNat 2 2] ++ evalHistory pro [ofNat 2 3, ofNat 2 2]
      [(adderShaped 3 [Piece.bus 0 0 2] [Piece.bus 1 0 2]).call,
       (neqShaped [Piece.bus 2 0 3, Piece.zeros 1] (constPieces 4 8)).call]) :=
  C07_history_harness (ins := [ofNat 2 3, ofNat 2 2])
    [adderShaped 3 [Piece.bus 0 0 2] [Piece.bus 1 0 2], neqShaped [Piece.bus 2 0 3, Piece.zeros 1] (constPieces 4 8)]
    (by intro c hc; simp at hc; rcases hc with rfl | rfl
        · exact adderShaped_sound _ _ _ _
        · exact neqShaped_sound _ _ _)
    (by simp only [PreOk, adderShaped, neqShaped, SCall.shaped2]
        refine ⟨by decide, fun z _ => ⟨?_, fun _ _ => trivial⟩⟩
        simp [opndVal, pieceVal, constPieces]; omega)
    pro (by decide)
example : evalHistory false [ofNat 2 3, ofNat 2 2]
    [(adderShaped 3 [Piece.bus 0 0 2] [Piece.bus 1 0 2]).call,
     (neqShaped [Piece.bus 2 0 3, Piece.zeros 1] (constPieces 4 8)).call] = [ofNat 3 5, [true]] := by decide +kernel

/-! ## What is NOT proved in this file

* The quotient ESTIMATE of `NewUDividerGoldschmidtFast` (`goldEstimate`: MSB
  normalisation, seed ROM, Goldschmidt iterations): Lean generator tied gate for
  gate (T4, also as a later call of a history), bound `|estimate - ⌊a/b⌋| ≤ 1`
  and well-formed state extension only VALIDATED (hypothesis
  `goldschmidt-estimate-within-one` = `EstWithinOne goldEstimate`, evaluated from
  fresh states and from the states an earlier divider leaves behind); therefore
  no unconditional theorem for `NewUDivider` / `NewIDivider` on the GMW target,
  alone or in a history.
* That the REAL `circuits.Compiler` has no state beyond what `St` models (gate
  list, `invI0Wire`/`zeroWire`/`oneWire` caches): not provable in Lean; this is
  what the history tie (T4 on sequences of calls on one Compiler) and the
  history oracle check on every run.
* Signed comparators and signed divider on unequal operand widths: the full
  statement is FALSE on the code (zero extension; witnesses above, open known
  findings C07-int-comparator-zero-extends, C07-signed-div-zero-extends,
  C07-signed-goldschmidt-zero-extends).
* `NewUDividerRestoring`, `NewUDividerArray` (not dispatched by the compiler):
  oracle only.
* `Compiler.Compile` (wire numbering, BFS order, GMW level sort) and the
  optimisation passes: validated by evaluation.
-/

end Mpc
