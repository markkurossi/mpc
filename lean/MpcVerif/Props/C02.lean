/-
C02  Two-party protocol: both parties obtain f(x, y).

Quantification: every well-formed two-party circuit (any widths, any number of
outputs of any widths), every pair of inputs, every key and key-derivation
`mkH` (AES of any key size is one), every offset with the select bit set,
every input-label randomness, and every oblivious transfer that satisfies
`OtSpec` (which property C06 establishes for each implementation).  The byte
encoding of the typed messages and its independence of transport
fragmentation is property C11.
-/
import MpcVerif.Proofs.Proto2Int
import MpcVerif.Model.Proto2Route
import MpcVerif.Props.C01

namespace Mpc
open LabelAlg

variable {L : Type} [LabelAlg L]

/-- The expected results: the plain evaluation of the circuit on
(garbler input ++ evaluator input), split per declared output. -/
def Circuit2.expected (p : Circuit2) (x y : List Bool) : List Nat :=
  (chunk p.outWidths (p.c.compute (x ++ y))).map packLE

theorem evaluator_store_eq (p : Circuit2) (G : Garbled L) (x y : List Bool)
    (hx : x.length = p.n0) (hn : p.c.nIn = p.n0 + p.n1) (otl : List L)
    (hotl : otl = (List.range p.n1).map fun i => (G.wires.get (p.n0 + i)).labelFor (y.getD i false)) :
    initStore p.c.numWires (LabelAlg.zero : L) (garblerInputLabels p G x ++ otl) =
      encodeInputs p.c G (x ++ y) := by
  have hl : garblerInputLabels p G x ++ otl =
      (List.range p.c.nIn).map fun i => (G.wires.get i).labelFor ((x ++ y).getD i false) := by
    rw [hn, List.range_add, List.map_append, List.map_map, hotl, garblerInputLabels]
    congr 1 <;> apply List.map_congr_left <;> intro i hi
    · rw [getD_append_left _ _ _ _ (by rw [hx]; exact List.mem_range.mp hi)]
    · simp only [Function.comp]
      rw [getD_append_right _ _ _ _ (by rw [hx]; exact Nat.le_add_right _ _), hx, Nat.add_sub_cancel_left]
  rw [initStore, encodeInputs, hl]
  refine Array.map_inj_left.mpr fun i _ => ?_
  rw [getD_range_map, ← LabelAlg.default_eq]

def resultLabels (p : Circuit2) (G : Garbled L) (v : Store Bool) : List L :=
  (List.range p.c.nOut).map fun j =>
    (G.wires.get (p.c.numWires - p.c.nOut + j)).labelFor (v.get (p.c.numWires - p.c.nOut + j))

@[simp] theorem length_resultLabels (p : Circuit2) (G : Garbled L) (v : Store Bool) :
    (resultLabels p G v).length = p.c.nOut := by
  simp [resultLabels]

/-- The labels of any bits `v` decode to `v` as soon as the two labels of each result wire differ
(the whole-circuit counterpart of `C16_labels_of_other_input_accepted`). -/
theorem garblerDecode_resultLabels [DecidableEq L] (p : Circuit2) (G : Garbled L) (v : Store Bool)
    (hne : ∀ j, j < p.c.nOut → (G.wires.get (p.c.numWires - p.c.nOut + j)).l0 ≠
      (G.wires.get (p.c.numWires - p.c.nOut + j)).l1) :
    garblerDecode p G 0 (resultLabels p G v) = .ok (p.c.outputs v) := by
  have key : ∀ k i, i + k = p.c.nOut →
      garblerDecode p G i ((List.range' i k).map fun j =>
        (G.wires.get (p.c.numWires - p.c.nOut + j)).labelFor (v.get (p.c.numWires - p.c.nOut + j))) =
      .ok ((List.range' i k).map fun j => v.get (p.c.numWires - p.c.nOut + j)) := by
    intro k
    induction k with
    | zero => intro i _; rfl
    | succ k ih =>
      intro i hik
      simp only [List.range'_succ, List.map_cons, garblerDecode]
      rw [WireL.bitFrom_labelFor (hne i (by omega)), ih (i + 1) (by omega)]
  simpa only [resultLabels, Circuit.outputs, List.range_eq_range'] using key p.c.nOut 0 (Nat.zero_add _)

theorem OtSpec.labels {ot : OtFun L} (hot : OtSpec ot) (p : Circuit2) (G : Garbled L) (y : List Bool) :
    ot ((List.range p.n1).map fun i => G.wires.get (p.n0 + i)) ((List.range p.n1).map fun i => y.getD i false) =
      (List.range p.n1).map fun i => (G.wires.get (p.n0 + i)).labelFor (y.getD i false) := by
  rw [hot _ _ (by simp), zipWith_labelFor]

/-- The honest session after the first flight, whatever the label algebra and the hash: the
evaluator returns the labels of the plain output bits and the garbler decodes exactly these bits.
The OT result is a variable with an equation so that sessions with an `OtFun` and sessions that
compute the OT labels themselves both instantiate it. -/
theorem honest_session [DecidableEq L] (p : Circuit2) (hwf : p.WF = true) (H : Hash L) (r : L)
    (hr : sbit r = true) (inl : Nat → L) (x y : List Bool) (hx : x.length = p.n0) (otl : List L)
    (hotl : otl = (List.range p.n1).map fun i =>
      ((p.c.garble H r inl).wires.get (p.n0 + i)).labelFor (y.getD i false)) :
    evaluatorEval p H (p.c.garble H r inl).rows (garblerInputLabels p (p.c.garble H r inl) x) otl =
      .ok (resultLabels p (p.c.garble H r inl) (p.c.plainEval (x ++ y))) ∧
    garblerDecode p (p.c.garble H r inl) 0 (resultLabels p (p.c.garble H r inl) (p.c.plainEval (x ++ y))) =
      .ok (p.c.compute (x ++ y)) := by
  simp only [Circuit2.WF, Bool.and_eq_true, decide_eq_true_eq] at hwf
  obtain ⟨⟨⟨hcwf, hn⟩, _⟩, hod⟩ := hwf
  obtain ⟨out, hev, hout⟩ := C01_garbled_eq_plain H p.c r hr inl (x ++ y) hcwf
  have hrel (j : Nat) (hj : j < p.c.nOut) : Rel r _ (out.get (p.c.numWires - p.c.nOut + j)) _ :=
    hout _ (List.all_eq_true.mp hod j (List.mem_range.mpr hj))
  have hres : resultLabels p (p.c.garble H r inl) (p.c.plainEval (x ++ y)) =
      (List.range p.c.nOut).map fun j => out.get (p.c.numWires - p.c.nOut + j) :=
    List.map_congr_left fun j hj => (hrel j (List.mem_range.mp hj)).2.symm
  constructor
  · rw [evaluatorEval, evaluator_store_eq p _ x y hx hn _ hotl, hev, hres]
  · exact garblerDecode_resultLabels p _ _ fun j hj => (hrel j hj).ne hr

/-- **C02.**  Both parties terminate without error and return the same
values: the plain evaluation of the circuit on (garbler input, evaluator
input), split per declared output. -/
theorem C02_both_get_f [DecidableEq L] (p : Circuit2) (hwf : p.WF = true)
    (mkH : List UInt8 → Hash L) (key : List UInt8) (r : L) (hr : sbit r = true) (inl : Nat → L)
    (x y : List Bool) (hx : x.length = p.n0) (ot : OtFun L) (hot : OtSpec ot) :
    run2 p mkH key r inl x y ot = .ok (p.expected x y, p.expected x y) := by
  obtain ⟨hE, hD⟩ := honest_session p hwf (mkH key) r hr inl x y hx _ (hot.labels p _ y)
  simp only [run2, evaluatorRecv1_flight1, ne_eq, not_true_eq_false, or_self, if_false, hE, hD,
    bytes_roundtrip, splitNat_packLE, Circuit2.expected]

/-- Message-level framing: what the evaluator parses from the garbler's first
flight is exactly what was sent (key, every table row, the garbler's input
labels), for every circuit and gate mix. -/
theorem C02_flight1_roundtrip (p : Circuit2) (key : List UInt8) (H : Hash L) (r : L)
    (inl : Nat → L) (x : List Bool) :
    evaluatorRecv1 p (garblerFlight1 p key (p.c.garble H r inl) x) =
      .ok (key, (p.c.garble H r inl).rows, garblerInputLabels p (p.c.garble H r inl) x, []) :=
  evaluatorRecv1_flight1 p key H r inl x

/-- The result byte string loses nothing: `SetBytes(Bytes(v)) = v` for every
value, including values with leading zero bits/bytes. -/
theorem C02_result_bytes_roundtrip (n : Nat) : bytesToNatBE (natToBytesBE n) = n :=
  bytes_roundtrip n

/-- Ideal OT satisfies the specification (the specification is satisfiable). -/
theorem idealOt_spec : OtSpec (fun (ws : List (WireL L)) fl => List.zipWith (fun w b => w.labelFor b) ws fl) :=
  fun _ _ _ => rfl

/-! Non-vacuity: a two-party circuit with two outputs of widths 1 and 2. -/
def exampleCircuit2 : Circuit2 :=
  { c := { numWires := 7, nIn := 3, nOut := 3,
           gates := [⟨.and, 0, 2, 3⟩, ⟨.xor, 1, 2, 4⟩, ⟨.or, 3, 4, 5⟩, ⟨.inv, 0, 0, 6⟩] },
    n0 := 2, n1 := 1, outWidths := [1, 2] }

example : exampleCircuit2.WF = true := by decide
example : exampleCircuit2.expected [true, false] [true] = [1, 1] := by decide +kernel

/-- The expected results for integer inputs: `Circuit.Compute` on the
flattened argument values of both parties, split per declared output. -/
def Circuit2.expectedInt (p : Circuit2) (xs ys : ArgVals) : List Nat :=
  (chunk p.outWidths (p.computeInts xs ys)).map packLE

theorem Circuit2.expected_encodeArg (p : Circuit2) (xs ys : ArgVals) :
    p.expected (encodeArg xs) (encodeArg ys) = p.expectedInt xs ys := by
  simp [Circuit2.expectedInt, Circuit2.expected, Circuit2.computeInts, encodeArg_append]

/-- **C02 on integers.**  For EVERY pair of integer inputs -- negative values,
values wider than the declared argument, zero -- given as flattened members of
the declared widths, both parties return `Circuit.Compute` of those integers.
The only hypothesis on the inputs is that the garbler's member widths add up to
its argument width (which is how `Circuit.Inputs[0]` is declared). -/
theorem C02_both_get_f_int [DecidableEq L] (p : Circuit2) (hwf : p.WF = true)
    (mkH : List UInt8 → Hash L) (key : List UInt8) (r : L) (hr : sbit r = true) (inl : Nat → L)
    (xs ys : ArgVals) (hx : argWidth xs = p.n0) (ot : OtFun L) (hot : OtSpec ot) :
    run2Int p mkH key r inl xs ys ot = .ok (p.expectedInt xs ys, p.expectedInt xs ys) := by
  rw [run2Int, C02_both_get_f p hwf mkH key r hr inl _ _ (by rw [encodeArg_length, hx]) ot hot,
    Circuit2.expected_encodeArg]

/-- The wire bits of an argument of width `w` with value `v` are the `w` binary
digits of `v mod 2^w`: two's complement for a negative `v`, truncation for a
`v` wider than the argument. -/
theorem C02_input_bits_twos_complement (w : Nat) (v : Int) :
    (bitsOfInt w v).length = w ∧ packLE (bitsOfInt w v) = (v % 2 ^ w).toNat :=
  ⟨bitsOfInt_length w v, packLE_bitsOfInt w v⟩

/-- Only the residue of every member modulo `2^width` matters to the session. -/
theorem C02_session_depends_on_residues [DecidableEq L] (p : Circuit2) (mkH : List UInt8 → Hash L)
    (key : List UInt8) (r : L) (inl : Nat → L) (w : Nat) (v v' : Int) (ys : ArgVals) (ot : OtFun L)
    (h : v % 2 ^ w = v' % 2 ^ w) :
    run2Int p mkH key r inl ys [(w, v)] ot = run2Int p mkH key r inl ys [(w, v')] ot ∧
    run2Int p mkH key r inl [(w, v)] ys ot = run2Int p mkH key r inl [(w, v')] ys ot := by
  simp [run2Int, encodeArg, bitsOfInt_congr w v v' h]

/-- The packed value `IOArg.Parse` builds for a struct argument
(`SetBit(offset+i, member.Bit(i))`) carries exactly the members' bits: a session
on the packed value is the session on the members. -/
theorem C02_packed_argument_faithful [DecidableEq L] (p : Circuit2) (mkH : List UInt8 → Hash L)
    (key : List UInt8) (r : L) (inl : Nat → L) (xs ys : ArgVals) (ot : OtFun L) :
    run2Int p mkH key r inl [(argWidth xs, (packArg xs : Int))] [(argWidth ys, (packArg ys : Int))] ot =
      run2Int p mkH key r inl xs ys ot := by
  simp [run2Int, encodeArg, bitsOfInt_packArg]

/-- Reading the machine words of the magnitude (`big.Int.Bits()`) agrees with
`Bit(i)` on every NON-NEGATIVE value ... -/
theorem C02_abs_words_agree_nonneg (w n : Nat) : absBits w (n : Int) = bitsOfInt w (n : Int) :=
  absBits_natCast w n

/-- ... and on no negative value whose width reaches its lowest set bit: the
words of `|v|` are the words of `-v`. -/
theorem C02_abs_words_differ_witness : absBits 8 (-5) ≠ bitsOfInt 8 (-5) ∧
    absBits 8 (-5) = bitsOfInt 8 5 ∧ packLE (bitsOfInt 8 (-5)) = 251 := by decide

/-- A circuit that copies the evaluator's two bits (xored with the garbler's
bit on the first). -/
def exampleCircuit3 : Circuit2 :=
  { c := { numWires := 5, nIn := 3, nOut := 2, gates := [⟨.xor, 0, 1, 3⟩, ⟨.and, 2, 2, 4⟩] },
    n0 := 1, n1 := 2, outWidths := [2] }

/-- Session-level witness: an evaluator that takes its choice flags from the
words of `|y|` finishes without error, both parties agree -- on `f(x, |y|)`,
which is not `f(x, y)`: for every key derivation, randomness and OT. -/
theorem C02_abs_words_session_wrong [DecidableEq L] (mkH : List UInt8 → Hash L) (key : List UInt8)
    (r : L) (hr : sbit r = true) (inl : Nat → L) (ot : OtFun L) (hot : OtSpec ot) :
    run2 exampleCircuit3 mkH key r inl (encodeArg [(1, 0)]) (absBits 2 (-1)) ot = .ok ([1], [1]) ∧
    run2Int exampleCircuit3 mkH key r inl [(1, 0)] [(2, -1)] ot = .ok ([3], [3]) := by
  constructor
  · rw [C02_both_get_f exampleCircuit3 (by decide) mkH key r hr inl _ _ (by decide) ot hot]
    have : exampleCircuit3.expected (encodeArg [(1, 0)]) (absBits 2 (-1)) = [1] := by decide +kernel
    rw [this]
  · rw [C02_both_get_f_int exampleCircuit3 (by decide) mkH key r hr inl _ _ (by decide) ot hot]
    have : exampleCircuit3.expectedInt [(1, 0)] [(2, -1)] = [3] := by decide +kernel
    rw [this]

example : exampleCircuit3.WF = true := by decide
example : argWidth [(1, (0 : Int))] = exampleCircuit3.n0 := by decide
example : exampleCircuit2.expectedInt [(2, -1)] [(1, -1)] = exampleCircuit2.expected [true, true] [true] := by
  decide +kernel
example : (-5 : Int) % 2 ^ 8 = 251 % 2 ^ 8 := by decide
example : bitsOfInt 3 (-5) = [true, true, false] ∧ bitsOfInt 3 1003 = [true, true, false] := by decide
example : packArg [(4, -1), (5, 3)] = 63 ∧ argWidth [(4, (-1 : Int)), (5, 3)] = 9 := by decide

/-! ## Circuit construction routes: "for every two-party circuit" means every circuit VALUE

A `*circuit.Circuit` carries derived data (`Stats`, `Gate.Level`) besides the
fields that define `f`.  The model's `Circuit2` has NO such field — that is the
reason `C02_both_get_f` covers a circuit however it was constructed.  The
theorems below say so about `GoCircuit` (defining fields + derived data) and
`run2Go`; that the real `Garbler` / `Evaluator` read the defining fields only
is the DOCUMENTED ASSUMPTION behind `run2Go`, tied on every run by the harness'
route dimension (every session class x {exact, zero, stale, parsed, appended,
levels}; op `c02 rt <route> <Stats> ...`; obligations that every route ran). -/

/-- **C02 for every circuit value.**  Whatever the derived fields of the circuit
value hold (zero, exact, stale, levels assigned), both parties return the plain
evaluation of the circuit its defining fields describe. -/
theorem C02_both_get_f_every_circuit_value [DecidableEq L] (gc : GoCircuit) (hwf : gc.core.WF = true)
    (mkH : List UInt8 → Hash L) (key : List UInt8) (r : L) (hr : sbit r = true) (inl : Nat → L)
    (x y : List Bool) (hx : x.length = gc.core.n0) (ot : OtFun L) (hot : OtSpec ot) :
    run2Go gc mkH key r inl x y ot = .ok (gc.core.expected x y, gc.core.expected x y) :=
  C02_both_get_f gc.core hwf mkH key r hr inl x y hx ot hot

/-- Two circuit values with the same defining fields run the same session,
error branches included: the derived data is not an input of the protocol. -/
theorem C02_session_independent_of_derived_data [DecidableEq L] (gc gc' : GoCircuit) (h : gc.core = gc'.core)
    (mkH : List UInt8 → Hash L) (key : List UInt8) (r : L) (inl : Nat → L) (x y : List Bool) (ot : OtFun L) :
    run2Go gc mkH key r inl x y ot = run2Go gc' mkH key r inl x y ot := by
  simp [run2Go, h]

/-- The defining fields a route yields: the given ones, except that `appended`
yields the edited gate list on the extended wire range. -/
def Route.coreOf : Route → Circuit2 → Circuit2
  | .appended gs, p => p.append gs
  | _, p => p

theorem C02_route_defining_fields (rt : Route) (p : Circuit2) : (rt.construct p).core = rt.coreOf p := by
  cases rt <;> rfl

/-- **C02 along every construction route.**  For every route and every defining
fields `p` such that the constructed circuit is well formed, both parties return
the plain evaluation of the CONSTRUCTED circuit (for `appended`: of the edited
gate list), although the `Stats` the value carries are those of `p`, of another
circuit, or zero. -/
theorem C02_both_get_f_every_route [DecidableEq L] (rt : Route) (p : Circuit2)
    (hwf : (rt.coreOf p).WF = true)
    (mkH : List UInt8 → Hash L) (key : List UInt8) (r : L) (hr : sbit r = true) (inl : Nat → L)
    (x y : List Bool) (hx : x.length = p.n0) (ot : OtFun L) (hot : OtSpec ot) :
    run2Go (rt.construct p) mkH key r inl x y ot = .ok ((rt.coreOf p).expected x y, (rt.coreOf p).expected x y) := by
  have hc := C02_route_defining_fields rt p
  have hn0 : (rt.coreOf p).n0 = p.n0 := by cases rt <;> rfl
  have := C02_both_get_f_every_circuit_value (rt.construct p) (by rw [hc]; exact hwf) mkH key r hr inl x y
    (by rw [hc, hn0]; exact hx) ot hot
  rw [this, hc]

/-- Non-vacuity of the route dimension: the statistics a value carries and the
rows its gate list makes the garbler transmit really differ along the routes
(a struct literal claims 0 rows where 6 are sent; an appended OR gate adds 3 rows
the parser never counted), and the edited circuit is a different function. -/
theorem C02_routes_carry_wrong_statistics :
    rowsNeeded exampleCircuit2.c.gates = 6 ∧
    (Route.zero.construct exampleCircuit2).derived.stats = [] ∧
    (Route.exact.construct exampleCircuit2).derived.stats = [1, 0, 1, 1, 1, 0, 0, 0] ∧
    ((Route.appended [⟨.or, 5, 6, 7⟩]).construct exampleCircuit2).derived.stats = [1, 0, 1, 1, 1, 0, 0, 0] ∧
    rowsNeeded ((Route.appended [⟨.or, 5, 6, 7⟩]).construct exampleCircuit2).core.c.gates = 9 ∧
    ((Route.appended [⟨.or, 5, 6, 7⟩]).coreOf exampleCircuit2).WF = true ∧
    ((Route.appended [⟨.or, 5, 6, 7⟩]).coreOf exampleCircuit2).expected [true, false] [true] = [1, 2] := by
  refine ⟨by decide, by decide, by decide, by decide, by decide, by decide, by decide +kernel⟩

example : (Route.zero.coreOf exampleCircuit2).WF = true := by decide
example : (Route.stale { stats := [9, 9, 0, 0, 0, 0, 0, 0] }).coreOf exampleCircuit2 = exampleCircuit2 := rfl
example : ({ core := exampleCircuit2 } : GoCircuit).core.WF = true := by decide
example : ({ core := exampleCircuit2, derived := { stats := [1] } } : GoCircuit).core =
    ({ core := exampleCircuit2 } : GoCircuit).core := rfl
example : [true, false].length = exampleCircuit2.n0 := by decide

end Mpc
