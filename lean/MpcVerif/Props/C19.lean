/-
C19  Peer-to-peer mesh always forms completely and consistently.

Model: `Mpc.Mesh` (Model/Mesh.lean), a transition system over all parties'
`Join`/`Connect` goroutines, their accept goroutines (three critical sections
per accepted connection: check `need[k] > 0`, store with `SetConn`/`addPeer`,
then `need[k]--; Broadcast`), the listeners' sets of not yet accepted
connections (accept order arbitrary) and the leader's info messages.
Quantification in the theorems on the code as it is: every configuration `c`
with `2 ≤ n`, `1 ≤ m ≤ 256` (`Cfg.Ok`: what `Create`/`Join`/`dial` accept), every
state reachable (`Reach`), i.e. every interleaving of every start order,
including every interleaving inside `acceptConn`.

Where `m ≤ 256` comes from: the connection id travels in ONE byte of the hello
word (`dial`: `connMagic | (connID & 0xff)`, `acceptConn`:
`int(byte(magic))`, `connMagicMask = 0xffffff00`), and `dial` refuses
`connID > 0xff`.  The model keeps the two sides apart: the dialler stores under
`k`, the acceptor files under `helloId k = k % 256`; they agree exactly for the
ids `dial` admits (`C19_conn_id_one_byte`).  `Create`/`Join` do not bound
`numConns`: with m > 256 the dial of id 256 fails ("invalid connection ID") -
outside the theorems and outside the property's range (1..4).  checks/C19.py
extracts the four constants on every run and requires that they describe the
same id range (structural fact "hello id coding"), and runs real meshes with up
to 256 connections per pair.

Data phase overlapping the setup phase (`Model/MeshData.lean`, `DReach`): a
party uses its connections as soon as ITS OWN `Connect` has returned, while
other parties are still accepting.  Per connection and direction the model
keeps the bytes in the socket from the moment of the dial, the `ReadBuf` of the
`*Conn` that `acceptConn` reads the hello with (and then stores), and what the
application sent / received per slot.  An `acceptConn`
that reads the hello through a reader that is not the stored connection loses
what arrived together with the hello although the mesh forms completely
(`C19_hello_reader_drops_early_data`); checks/C19.py forces that schedule on
the real code and requires that the data arrives.

History: before commit b60eeb5 `acceptConn` decremented `need[k]` and
broadcast BEFORE it stored the connection; for that ordering (`ReachOld`,
events `oldDec`/`oldStore`) all three statements are false.  The witnesses
`C19_old_order_*` below document what the repair removed; checks/C19.py
replays their schedules on the real code and requires that they no longer
produce the failure.
-/
import MpcVerif.Proofs.MeshMeasure
import MpcVerif.Proofs.MeshData
import MpcVerif.Proofs.MeshLive

namespace Mpc
open Mesh

/-- **mesh_safe**.  In every reachable state: no party has
taken an error path — `SetConn` never met an occupied slot, "too many
connections" (`need[k] = 0` at an accept) never occurred, no invalid peer or
connection id, no refused dial; every table entry `Peers[q].Conns[k]` of party
p holds the canonical connection between p and q with hello id k (so the id
and the peer are right, and both ends index it by the same k); an entry at the
accepting end implies the same connection at the dialling end; and no dialled
connection is lost (it is pending at the listener, held by the acceptor's
accept goroutine or stored at the acceptor; connection 0 to the leader may
still await its hello). -/
theorem C19_mesh_safe (c : Cfg) (hc : c.Ok) (s : State) (h : Reach c s) :
    s.bad = false ∧
    (∀ p q k cn, s.conn p q k = some cn → cn = wire p q k ∧ p ≠ q ∧ p < c.n ∧ q < c.n ∧ k < c.m) ∧
    (∀ p q k cn, s.conn p q k = some cn → cn.dst = p → s.conn q p k = some cn) ∧
    (∀ p q k cn, s.conn p q k = some cn → cn.src = p →
      s.pend q p k = true ∨ s.conn q p k = some cn ∨ (q = 0 ∧ k = 0 ∧ s.phase p = .joined) ∨
        s.infl q = .taken p k) := by
  have hI := reach_inv c hc s h
  have hsame : ∀ p q k cn, s.conn p q k = some cn → (s.conn q p k).isSome → s.conn q p k = some cn := by
    intro p q k cn hcn hs
    obtain ⟨hw, hpq, -⟩ := hI.slot p q k cn hcn
    rw [(hI.slot_isSome hs).1, hw, wire_comm p q k hpq]
  refine ⟨hI.notBad, hI.slot, ?_, ?_⟩
  · intro p q k cn hcn hdst
    obtain ⟨hw, hpq, -⟩ := hI.slot p q k cn hcn
    have hd : Dials q p := (dials_of_wire hpq).1 (hw ▸ hdst)
    exact hsame p q k cn hcn (hI.accSlot q p k hd (by rw [hcn]; rfl)).1
  · intro p q k cn hcn hsrc
    obtain ⟨hw, hpq, -⟩ := hI.slot p q k cn hcn
    have hd : Dials p q := (dials_of_wire hpq).2 (hw ▸ hsrc)
    exact (hI.dialSlot p q k hd (by rw [hcn]; rfl)).imp_right (Or.imp_left (hsame p q k cn hcn))

example : (⟨3, 2⟩ : Cfg).Ok := ⟨by decide, by decide, by decide⟩

/-- The connection id fits the one byte it travels in exactly for the ids `dial`
admits: for `k ≤ 0xff` the acceptor decodes `k`; id 256 would be decoded as 0
(cross-wired), and `dial` takes its error path for every id above 0xff. -/
theorem C19_conn_id_one_byte :
    (∀ k, k ≤ 0xff → helloId k = k) ∧ helloId 256 = 0 ∧
    (∀ (c : Cfg) (s : State) (i k j : Nat) (rest : List Nat), s.phase i = .run k (j :: rest) → 0xff < k →
      (step c s (.dial i)).map (·.bad) = some true) := by
  refine ⟨fun k hk => helloId_of_le k (by omega), by decide, ?_⟩
  intro c s i k j rest hph hk
  simp [step, hph, hk]

/-- No step from a reachable state takes an error path (the successor
state is again free of errors): in particular a `dial` is never issued on an
occupied slot and an accept never finds `need[k] = 0`. -/
theorem C19_no_error_step (c : Cfg) (hc : c.Ok) (s s' : State) (h : Reach c s) (e : Ev)
    (he : e.real = true) (hs : step c s e = some s') : s'.bad = false :=
  (reach_inv c hc s' (.step e h he hs)).notBad

/-- **mesh_progress**, part 1: deadlock freedom.  In every
reachable state in which some party's `Connect` has not returned some event is
enabled. -/
theorem C19_mesh_progress (c : Cfg) (hc : c.Ok) (s : State) (h : Reach c s)
    (hnd : ∃ p, p < c.n ∧ s.phase p ≠ .done) : ∃ e, e.real = true ∧ (step c s e).isSome :=
  progress c hc s (reach_inv c hc s h) hnd

theorem run_preserves (c : Cfg) (R : Nat → State → Prop) (ok : Ev → Bool)
    (hstep : ∀ n s s' e, R n s → ok e = true → step c s e = some s' → R (n + 1) s') (es : List Ev)
    (hat : ∀ e ∈ es, ok e = true) (n : Nat) (s0 s : State) (h0 : R n s0) (hr : run c s0 es = some s) :
    R (n + es.length) s := by
  induction es generalizing s0 n with
  | nil => simp [run] at hr; subst hr; exact h0
  | cons e es ih =>
    simp only [run] at hr
    cases h1 : step c s0 e with
    | none => simp [h1] at hr
    | some s1 =>
      simp only [h1, Option.bind_some] at hr
      have := ih (fun e' he' => hat e' (by simp [he'])) (n + 1) s1 (hstep n s0 s1 e h0 (hat e (by simp)) h1) hr
      rwa [Nat.add_right_comm] at this

/-- **mesh_progress**, part 2: every step strictly decreases the measure `mu`
(remaining goroutine steps + three per remaining accept), ... -/
theorem C19_measure_decreases (c : Cfg) (hc : c.Ok) (s s' : State) (h : Reach c s) (e : Ev)
    (he : e.real = true) (hs : step c s e = some s') : mu c s' < mu c s :=
  measure_step hc (reach_inv c hc s h) he hs

theorem run_bounded (c : Cfg) (hc : c.Ok) (es : List Ev) (hat : ∀ e ∈ es, e.real = true) (s0 s : State)
    (h0 : Inv c s0) (hr : run c s0 es = some s) : Inv c s ∧ es.length + mu c s ≤ mu c s0 := by
  simpa using run_preserves c (fun n s => Inv c s ∧ n + mu c s ≤ mu c s0) Ev.real
    (fun n s s' e h he hs => ⟨inv_step hc h.1 he hs, by have := measure_step hc h.1 he hs; omega⟩)
    es hat 0 s0 s ⟨h0, by omega⟩ hr

/-- ... hence every execution is finite: a run of events of the code from the
initial state has at most `mu c (init c)` steps, whatever the schedule (no
fairness assumption is needed: there are no stuttering steps).  With part 1:
every maximal execution ends with every `Connect` returned. -/
theorem C19_terminates (c : Cfg) (hc : c.Ok) (es : List Ev) (hat : ∀ e ∈ es, e.real = true)
    (s : State) (hr : run c (init c) es = some s) : es.length + mu c s ≤ mu c (init c) :=
  (run_bounded c hc es hat (init c) s (inv_init c hc) hr).2

/-- **mesh_final**.  When `Connect` has returned at party p
(in particular in the final state, for every p) its table holds, for every
other party q and every k < m, exactly the canonical connection between p and
q with id k, and nothing else.  If q's `Connect` has returned as well, q holds
the same connection under the same k: the k-th connection at one end is the
k-th at the other. -/
theorem C19_mesh_final (c : Cfg) (hc : c.Ok) (s : State) (h : Reach c s) (p : Nat)
    (hp : p < c.n) (hd : s.phase p = .done) :
    (∀ q k, q < c.n → q ≠ p → k < c.m → s.conn p q k = some (wire p q k)) ∧
    (∀ q k, (q = p ∨ c.n ≤ q ∨ c.m ≤ k) → s.conn p q k = none) ∧
    (∀ q k, q < c.n → q ≠ p → k < c.m → s.phase q = .done → s.conn q p k = s.conn p q k) := by
  have hI := reach_inv c hc s h
  refine ⟨fun q k hq hqp hk => done_table hI hp hd hq hqp hk, ?_, ?_⟩
  · intro q k hor
    cases hcn : s.conn p q k with
    | none => rfl
    | some v =>
      have := hI.slot p q k v hcn
      omega
  · intro q k hq hqp hk hqd
    rw [done_table hI hp hd hq hqp hk, done_table hI hq hqd hp (Ne.symm hqp) hk, wire_comm p q k (Ne.symm hqp)]

/-- In the final state nothing is in flight: no pending connection (none lost),
no unread info, no half-done accept. -/
theorem C19_final_quiet (c : Cfg) (hc : c.Ok) (s : State) (h : Reach c s)
    (hall : ∀ p, p < c.n → s.phase p = .done) :
    (∀ j i k, s.pend j i k = false) ∧ (∀ p, p < c.n → s.mail p = none) ∧ (∀ p, s.infl p = Infl.none) := by
  have hI := reach_inv c hc s h
  -- whoever has something pending or in hand is a party of the configuration, so `hall` applies to it
  have hq := fun j hj => done_quiet_at hI hj (hall j hj)
  refine ⟨fun j i k => ?_, fun p hp => (hq p hp).2.1, fun p => ?_⟩
  · cases hp : s.pend j i k with
    | false => rfl
    | true => rw [(hq j (hI.pendFacts hp).jn).1] at hp; cases hp
  · cases hi : s.infl p with
    | none => rfl
    | taken i k => rw [(hq p (hI.takenFacts hi).jn).2.2] at hi; cases hi
    | stored i k => rw [(hq p (hI.storedFacts hi).jn).2.2] at hi; cases hi

theorem reach_of_run (c : Cfg) (es : List Ev) (hat : ∀ e ∈ es, e.real = true) (s0 s : State)
    (h0 : Reach c s0) (hr : run c s0 es = some s) : Reach c s :=
  run_preserves c (fun _ => Reach c) Ev.real (fun _ _ _ e h he hs => .step e h he hs) es hat 0 s0 s h0 hr

/-- Non-vacuity: a complete run for 3 parties, 2 connections per pair, with other
goroutines acting between the critical sections of `acceptConn`. -/
def demoRun : List Ev :=
  [.join 2, .lconnect, .join 1, .hello 1, .accTake 0 1 0, .hello 2, .accStore 0, .accDec 0,
   .accTake 0 2 0, .accStore 0, .accDec 0, .waitDone 0, .info, .info,
   .recvInfo 2, .recvInfo 1, .dial 1, .waitDone 1, .dial 1, .accTake 2 1 0, .accStore 2, .dial 1, .accDec 2,
   .waitDone 2, .dial 2, .accTake 0 2 1, .accStore 0, .accDec 0, .accTake 0 1 1, .accTake 2 1 1, .accStore 0,
   .accStore 2, .accDec 0, .waitDone 0, .accDec 2, .waitDone 2, .waitDone 1]

example : demoRun.all Ev.real = true ∧ ((run ⟨3, 2⟩ (init ⟨3, 2⟩) demoRun).map fun s =>
    allDone ⟨3, 2⟩ s && quiet ⟨3, 2⟩ s && (List.range 3).all (tableComplete ⟨3, 2⟩ s)) = some true := by
  decide +kernel

/-- ... so the hypotheses of the theorems above are satisfiable with parties
whose `Connect` has returned. -/
example : ∃ s, Reach ⟨3, 2⟩ s ∧ s.phase 0 = .done ∧ s.phase 2 = .done := by
  obtain ⟨s, hrun, hv⟩ := Option.map_eq_some_iff.mp
    (show ((run ⟨3, 2⟩ (init ⟨3, 2⟩) demoRun).map fun s => (s.phase 0, s.phase 2)) = some (.done, .done) by
      decide +kernel)
  exact ⟨s, reach_of_run _ demoRun (by decide) _ s .init hrun, congrArg Prod.fst hv, congrArg Prod.snd hv⟩

theorem reachOld_of_run (c : Cfg) (es : List Ev) (hat : ∀ e ∈ es, e.old = true) (s0 s : State)
    (h0 : ReachOld c s0) (hr : run c s0 es = some s) : ReachOld c s :=
  run_preserves c (fun _ => ReachOld c) Ev.old (fun _ _ _ e h he hs => .step e h he hs) es hat 0 s0 s h0 hr

/-- n = 2, m = 1, old ordering: the leader's wait ends between `need[0]--` and
the store of peer 1, so its peer list is still `[0]`, nobody is sent the
network info and the leader's `Connect` returns; peer 1 waits forever. -/
def oldDeadlockRun : List Ev :=
  [.join 1, .hello 1, .lconnect, .oldDec 0 1 0, .waitDone 0, .oldStore 0]

/-- Old ordering: a reachable state in which peer 1's `Connect` has not
returned and no event is enabled (mesh_progress was false). -/
theorem C19_old_order_deadlock :
    ∃ s, ReachOld ⟨2, 1⟩ s ∧ s.bad = false ∧ s.phase 0 = .done ∧ s.phase 1 = .hello ∧
      enabled ⟨2, 1⟩ s Ev.old = [] := by
  obtain ⟨s, hrun, hv⟩ := Option.map_eq_some_iff.mp
    (show ((run ⟨2, 1⟩ (init ⟨2, 1⟩) oldDeadlockRun).map fun s =>
        (s.bad, s.phase 0, s.phase 1, enabled ⟨2, 1⟩ s Ev.old)) = some (false, .done, .hello, []) by
      decide +kernel)
  simp only [Prod.mk.injEq] at hv
  exact ⟨s, reachOld_of_run _ oldDeadlockRun (by decide) _ s .init hrun, hv⟩

/-- The same schedule is impossible for the code as it is: after the check
(`accTake`) the leader's wait cannot end, `need[0]` is still 1. -/
theorem C19_fix_blocks_early_wait :
    run ⟨2, 1⟩ (init ⟨2, 1⟩) [.join 1, .hello 1, .lconnect, .accTake 0 1 0, .waitDone 0] = none ∧
    run ⟨2, 1⟩ (init ⟨2, 1⟩) [.join 1, .hello 1, .lconnect, .accTake 0 1 0, .accStore 0, .waitDone 0] = none := by
  constructor <;> decide +kernel

/-- n = 2, m = 2, old ordering: the leader's last wait ends between `need[1]--` and the store. -/
def oldEarlyReturnRun : List Ev :=
  [.join 1, .hello 1, .lconnect, .oldDec 0 1 0, .oldStore 0, .waitDone 0, .info, .recvInfo 1, .waitDone 1,
   .dial 1, .oldDec 0 1 1, .waitDone 0]

/-- Old ordering: the leader's `Connect` has returned nil (no error anywhere)
while `Peers[1].Conns[1]` is not set (mesh_final was false). -/
theorem C19_old_order_return_incomplete :
    ((run ⟨2, 2⟩ (init ⟨2, 2⟩) oldEarlyReturnRun).map fun s =>
      (oldEarlyReturnRun.all Ev.old, s.bad, s.phase 0, s.conn 0 1 1)) = some (true, false, .done, none) := by
  decide +kernel

/-- n = 4, m = 1, old ordering: the leader sends peer 2 a list made while peer 1
is not yet stored; peer 2 computes `NumParties = 3` and rejects peer 3. -/
def oldBadListRun : List Ev :=
  [.join 1, .join 2, .join 3, .hello 1, .hello 2, .hello 3, .lconnect, .oldDec 0 2 0, .oldStore 0,
   .oldDec 0 3 0, .oldStore 0, .oldDec 0 1 0, .waitDone 0, .info, .recvInfo 2]

/-- Old ordering: an error path ("invalid peer ID") was reachable (mesh_safe was false). -/
theorem C19_old_order_error :
    ((run ⟨4, 1⟩ (init ⟨4, 1⟩) oldBadListRun).map fun s => (oldBadListRun.all Ev.old, s.bad)) =
      some (true, true) := by
  decide +kernel

/-- **Conservation**, in every state reachable with payload events interleaved
in any way with the setup events (every schedule, every split of the byte
stream into socket reads, including the read that fetches the hello): what p
has received from `Peers[q].Conns[k]`, followed by what sits in the `ReadBuf` of
that connection, followed by what is still in its socket, is exactly what q has
sent on ITS `Peers[p].Conns[k]`.  Nothing is lost, duplicated, reordered or
delivered to another slot. -/
theorem C19_early_data_conserved (c : Cfg) (hc : c.Ok) (s : DState) (h : DReach c s) (p q k : Nat)
    (hpq : p ≠ q) :
    s.inp p q k ++ (s.buf (wire p q k) p ++ s.sock (wire p q k) p) = s.out q p k :=
  dreach_conserved c hc s h p q k hpq

/-- **early data is delivered**.  For every reachable state of the overlapped
system and every pair p ≠ q, k < m: (1) the sequence p has received on its k-th
connection to q is a prefix of what q has sent on its k-th connection to p; (2)
once nothing is under way the two are equal; (3) q may send as soon as its own
`Connect` has returned - whatever p is doing, in particular before p has
accepted the connection; (4) once p's `Connect` has returned a receive on that
connection is enabled and yields everything q has sent so far, including what
was sent before p accepted. -/
theorem C19_early_data_delivered (c : Cfg) (hc : c.Ok) (s : DState) (h : DReach c s) (p q k : Nat)
    (hp : p < c.n) (hq : q < c.n) (hpq : p ≠ q) (hk : k < c.m) :
    s.inp p q k <+: s.out q p k ∧
    (drained s p q k = true → s.inp p q k = s.out q p k) ∧
    (s.base.phase q = .done → ∀ bs, ∃ s', dstep c s (.send q p k bs) = some s' ∧
      s'.out q p k = s.out q p k ++ bs) ∧
    (s.base.phase p = .done → ∃ s',
      dstep c s (.recv p q k (s.sock (wire p q k) p).length (s.out q p k).length) = some s' ∧
      s'.inp p q k = s.out q p k ∧ drained s' p q k = true) := by
  have hI := reach_inv c hc s.base (dreach_base c s h)
  have hJ := dreach_conserved c hc s h p q k hpq
  refine ⟨⟨_, hJ⟩, ?_, ?_, ?_⟩
  · intro hd
    simp only [drained, Bool.and_eq_true, beq_iff_eq] at hd
    rw [hd.1, hd.2] at hJ
    simpa using hJ
  · intro hqd bs
    have ht := done_table hI hq hqd hp hpq hk
    simp [dstep, hqd, ht, updS_apply]
  · intro hpd
    have ht := done_table hI hp hpd hq (Ne.symm hpq) hk
    have hlen : (s.buf (wire p q k) p ++ s.sock (wire p q k) p).length ≤ (s.out q p k).length := by
      rw [← hJ]; simp
    simp only [dstep, hpd, if_true, ht, List.take_length, List.drop_length]
    refine ⟨_, rfl, ?_, ?_⟩
    · simp only [updS_apply, and_self, if_true]
      rw [List.take_of_length_le hlen, hJ]
    · simp only [drained, updC_apply, and_self, if_true, Bool.and_eq_true, beq_iff_eq]
      exact ⟨trivial, List.drop_of_length_le hlen⟩

theorem drun_preserves (c : Cfg) (R : DState → Prop) (ok : DEv → Bool)
    (hstep : ∀ s s' e, R s → ok e = true → dstep c s e = some s' → R s') (es : List DEv)
    (hat : ∀ e ∈ es, ok e = true) (s0 s : DState) (h0 : R s0) (hr : drun c s0 es = some s) : R s := by
  induction es generalizing s0 with
  | nil => simp [drun] at hr; subst hr; exact h0
  | cons e es ih =>
    simp only [drun] at hr
    cases h1 : dstep c s0 e with
    | none => simp [h1] at hr
    | some s1 =>
      simp only [h1, Option.bind_some] at hr
      exact ih (fun e' he' => hat e' (by simp [he'])) s1 (hstep s0 s1 e h0 (hat e (by simp)) h1) hr

theorem dreach_of_run (c : Cfg) (es : List DEv) (hat : ∀ e ∈ es, e.real = true) (s0 s : DState)
    (h0 : DReach c s0) (hr : drun c s0 es = some s) : DReach c s :=
  drun_preserves c (DReach c) DEv.real (fun _ _ e h he hs => .step e h he hs) es hat s0 s h0 hr

theorem dreachDrop_of_run (c : Cfg) (es : List DEv) (hat : ∀ e ∈ es, e.dropping = true) (s0 s : DState)
    (h0 : DReachDrop c s0) (hr : drun c s0 es = some s) : DReachDrop c s :=
  drun_preserves c (DReachDrop c) DEv.dropping (fun _ _ e h he hs => .step e h he hs) es hat s0 s h0 hr

/-- n = 3, m = 1: party 1 has nothing to accept, so its `Connect` returns as
soon as it has dialled party 2; it sends three bytes at once.  Party 2 has not
accepted the connection yet: the bytes wait in the socket behind the hello. -/
def earlySetup : List DEv :=
  [.ev (.join 2) 0, .ev .lconnect 0, .ev (.join 1) 0, .ev (.hello 1) 0, .ev (.accTake 0 1 0) 0,
   .ev (.hello 2) 0, .ev (.accStore 0) 0, .ev (.accDec 0) 0, .ev (.accTake 0 2 0) 0, .ev (.accStore 0) 0,
   .ev (.accDec 0) 0, .ev (.waitDone 0) 0, .ev .info 0, .ev .info 0, .ev (.recvInfo 2) 0,
   .ev (.recvInfo 1) 0, .ev (.dial 1) 0, .ev (.waitDone 1) 0, .send 1 2 0 [7, 8, 9]]

/-- ... then party 2 accepts (`acc`: the read of the hello takes the three
bytes along), stores, returns from `Connect` and receives. -/
def earlyRest (acc : DEv) : List DEv :=
  [acc, .ev (.accStore 2) 0, .ev (.accDec 2) 0, .ev (.waitDone 2) 0, .recv 2 1 0 10 10]

/-- Non-vacuity of `C19_early_data_conserved` / `C19_early_data_delivered` (3): a reachable state of
the overlapped system in which party 1 has returned and sent while party 2 has not accepted
yet (`phase q = done` with p not yet accepting and a non-empty socket) ... -/
example : ∃ s, DReach ⟨3, 1⟩ s ∧ s.base.phase 1 = .done ∧ s.base.phase 2 = .run 0 [] ∧
    s.base.conn 2 1 0 = none ∧ s.sock (wire 2 1 0) 2 = [7, 8, 9] ∧ s.inp 2 1 0 = [] := by
  obtain ⟨s, hrun, hv⟩ := Option.map_eq_some_iff.mp
    (show ((drun ⟨3, 1⟩ (dinit ⟨3, 1⟩) earlySetup).map fun s =>
        (s.base.phase 1, s.base.phase 2, s.base.conn 2 1 0, s.sock (wire 2 1 0) 2, s.inp 2 1 0)) =
        some (.done, .run 0 [], none, [7, 8, 9], []) by decide +kernel)
  simp only [Prod.mk.injEq] at hv
  exact ⟨s, dreach_of_run _ earlySetup (by decide) _ s .init hrun, hv⟩

/-- ... and with the code as it is the schedule ends with the mesh complete
and the three bytes received on party 2's connection 0 to party 1. -/
example : (earlySetup ++ earlyRest (.ev (.accTake 2 1 0) 3)).all DEv.real = true ∧
    ((drun ⟨3, 1⟩ (dinit ⟨3, 1⟩) (earlySetup ++ earlyRest (.ev (.accTake 2 1 0) 3))).map fun s =>
      (s.base.bad, allDone ⟨3, 1⟩ s.base, s.out 1 2 0, s.inp 2 1 0, drained s 2 1 0)) =
      some (false, true, [7, 8, 9], [7, 8, 9], true) := by
  decide +kernel

/-- The same schedule with every accept reading the hello through a temporary reader. -/
def dropRun : List DEv :=
  (earlySetup ++ earlyRest (.ev (.accTake 2 1 0) 3)).map fun
    | .ev (.accTake j i k) r => .evDrop (.accTake j i k) r
    | e => e

/-- **Negation witness** for a variant of `acceptConn` that reads the hello
through a reader that is not the stored connection (a temporary `Conn` /
buffered reader on the raw `net.Conn`): a reachable state in which the mesh has
formed completely - no error, every `Connect` returned, every table complete,
nothing in flight, the need counters at 0 - party 1 has sent `[7, 8, 9]` on its
connection 0 to party 2, party 2 has received NOTHING on its connection 0 to
party 1 and nothing is under way any more: the data is lost for good
(`C19_early_data_delivered` (2) is false there). -/
theorem C19_hello_reader_drops_early_data :
    ∃ s, DReachDrop ⟨3, 1⟩ s ∧ s.base.bad = false ∧ allDone ⟨3, 1⟩ s.base = true ∧
      quiet ⟨3, 1⟩ s.base = true ∧ (List.range 3).all (tableComplete ⟨3, 1⟩ s.base) = true ∧
      s.base.need 2 0 = 0 ∧ s.out 1 2 0 = [7, 8, 9] ∧ s.inp 2 1 0 = [] ∧ drained s 2 1 0 = true := by
  obtain ⟨s, hrun, h1⟩ := Option.map_eq_some_iff.mp
    (show ((drun ⟨3, 1⟩ (dinit ⟨3, 1⟩) dropRun).map fun s =>
        (s.base.bad, allDone ⟨3, 1⟩ s.base, quiet ⟨3, 1⟩ s.base,
          (List.range 3).all (tableComplete ⟨3, 1⟩ s.base))) = some (false, true, true, true) by decide +kernel)
  have h2 : ((drun ⟨3, 1⟩ (dinit ⟨3, 1⟩) dropRun).map fun s =>
      (s.base.need 2 0, s.out 1 2 0, s.inp 2 1 0, drained s 2 1 0)) = some (0, [7, 8, 9], [], true) := by
    decide +kernel
  simp only [hrun, Option.map_some, Option.some.injEq, Prod.mk.injEq] at h1 h2
  obtain ⟨a1, a2, a3, a4⟩ := h1
  exact ⟨s, dreachDrop_of_run _ dropRun (by decide) _ s .init hrun, a1, a2, a3, a4, h2⟩

example : dropRun.all DEv.dropping = true ∧ (drun ⟨3, 1⟩ (dinit ⟨3, 1⟩) dropRun).isSome = true := by
  decide +kernel

end Mpc
