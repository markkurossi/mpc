/-
C08  Compilation is deterministic.

Statement of the property (fixed): compiling the same MPCL source with the
same parameters and input sizes always yields the byte-identical circuit and
the same SSA listing, across repeated compilations, fresh compiler instances
and separate processes.

Level "other".  A Lean model cannot exhibit Go's map iteration order or the
scheduler; what is logic is (1) whether each loop over a map computes
something that depends on the ORDER it is handed, and (2) whether a
compilation depends on STATE left behind by earlier compilations.  The full
statement (equal circuit bytes and SSA text for every program, history and
schedule)

    ∀ src params sizes history₁ history₂ mapOrders₁ mapOrders₂,
      compile history₁ mapOrders₁ src = compile history₂ mapOrders₂ src

is not one theorem here; it is split.  Map orders: per map-range site of the
compile path (the site list is extracted from the source on every run and
compared with checks/C08.py) a permutation-invariance theorem
`l₁.Perm l₂ → fold l₁ = fold l₂` under the hypothesis that the real code
guarantees (and the harness re-checks on every compiled program).  State of a
`Compiler`: `C08_history_independent`, for the abstraction of a compilation to
its package-initialiser blocks and function labels.  State of the process
(package-level variables; fresh `Compiler`s share it): the step of the code as
it is never looks at it, over histories of compilations, of all step kinds and
of concurrent elements; beside each, the condition under which a facility that
does keep state (a memo table, an allocator pool, a scratch cell) stays
invisible, with a witness when it does not.  Operand widths: lookups in a
package-level table keyed by the width.  The section comments say how each
part is tied to the code.
NOT a theorem: that nothing outside the enumerated sites and the modelled
state influences the bytes (directory listing order, pointer values,
scheduler) — that part is the cross-process oracle of harness/cmd/c08.

History of the code.  Until /repo 1e863b8 a second compilation on one
`Compiler` skipped the package initialisers (`Package.Initialized`) and kept
counting `Func.NumInstances`; until 6aa1568 `Package.Init` and
`Compiler.parse` ranged over the `Imports` map.  The negation witnesses are
kept, about the explicitly named old definitions only
(`C08_old_init_order_dependent`, `C08_old_parse_alias_order_dependent`,
`C08_old_history_dependent_init`, `C08_old_history_dependent_labels`); the
structural facts of checks/C08.py require both repairs to be present.

Observation (not a determinism defect any more, hence not a C08 finding):
`Compiler.packages` / `Codegen.Packages` are keyed by the import ALIAS (last
path element).  If two packages of an import closure import different paths
with the same last element (the analogue of math/rand and crypto/rand) both
importers get the package that is parsed first — since 6aa1568 always the same
one (`C08_parse_perm_invariant`), so every process builds the same circuit,
but one importer is bound to the wrong package (`C08_alias_resolution_observation`).
No two packages of /repo/pkg share a last path element (checked on every run).
-/
import MpcVerif.Proofs.ProcState
import MpcVerif.Proofs.ProcSteps
import MpcVerif.Proofs.ProcConc
import MpcVerif.Proofs.WidthTable

namespace Mpc
open Mpc.Det
open Mpc.PSt

/-! ### Site: Program.DefineConstants (range prog.Constants) -/

/-- Whatever sorting algorithm `sort.Slice` is: two sorted permutations of the
handed-over constants are EQUAL when the names are pairwise distinct.  (The
map is keyed by the name, `gen.constants[c.Name]`, so they are; the harness
checks `key == Const.Name` on every compiled program.) -/
theorem C08_sorted_perm_unique (l s₁ s₂ : List Const) (hnd : (l.map Const.name).Nodup)
    (p₁ : s₁.Perm l) (p₂ : s₂.Perm l)
    (h₁ : s₁.Pairwise (fun a b => constLe a b = true)) (h₂ : s₂.Pairwise (fun a b => constLe a b = true)) :
    s₁ = s₂ :=
  sorted_perm_unique p₁ p₂ h₁ h₂ fun a ha b hb hab hba =>
    eq_of_nodup_map Const.name _ hnd a ha b hb (bytesLe_isOrder.antisymm _ _ hab hba)

/-- Collect-then-sort-by-name does not depend on the order the map hands the
constants over. -/
theorem C08_defineConstants_perm_invariant (l₁ l₂ : List Const) (hp : l₁.Perm l₂)
    (hnd : (l₁.map Const.name).Nodup) :
    sortConsts l₁ = sortConsts l₂ ∧ defineConstants l₁ = defineConstants l₂ := by
  have h : sortConsts l₁ = sortConsts l₂ :=
    mergeSort_perm_invariant bytesLe_isOrder Const.name hp (eq_of_nodup_map Const.name _ hnd)
  exact ⟨h, congrArg (allocConsts · []) h⟩

-- non-vacuity: a two-element map, both hand-over orders
example : sortConsts [⟨[36, 50], [false, true]⟩, ⟨[36, 49], [true]⟩] =
          sortConsts [⟨[36, 49], [true]⟩, ⟨[36, 50], [false, true]⟩] :=
  (C08_defineConstants_perm_invariant _ _ (List.Perm.swap _ _ _) (by decide +kernel)).1

/-- The hypothesis is needed ("iff"): with two entries of the same name the
result depends on the hand-over order. -/
theorem C08_defineConstants_needs_distinct_names :
    ∃ l₁ l₂ : List Const, l₁.Perm l₂ ∧ sortConsts l₁ ≠ sortConsts l₂ ∧ defineConstants l₁ ≠ defineConstants l₂ :=
  by
  -- both hand-over orders are already sorted (equal names), so sorting keeps them
  have s₁ : sortConsts [⟨[36, 49], [true]⟩, ⟨[36, 49], [false]⟩] = [⟨[36, 49], [true]⟩, ⟨[36, 49], [false]⟩] :=
    List.mergeSort_of_pairwise (by decide +kernel)
  have s₂ : sortConsts [⟨[36, 49], [false]⟩, ⟨[36, 49], [true]⟩] = [⟨[36, 49], [false]⟩, ⟨[36, 49], [true]⟩] :=
    List.mergeSort_of_pairwise (by decide +kernel)
  refine ⟨[⟨[36, 49], [true]⟩, ⟨[36, 49], [false]⟩], [⟨[36, 49], [false]⟩, ⟨[36, 49], [true]⟩],
    List.Perm.swap _ _ _, ?_, ?_⟩
  · rw [s₁, s₂]; decide
  · simp only [defineConstants, s₁, s₂]; decide

/-! ### Site: Set.Array (collect, sort by Value.ID).  Params.SaveSymbolIDs collects the keys and calls sort.Strings:
the shape of Package.SortedImports below. -/

theorem C08_sortByKey_perm_invariant {α : Type} (key : α → Nat) (l₁ l₂ : List α) (hp : l₁.Perm l₂)
    (hnd : (l₁.map key).Nodup) : sortByKey key l₁ = sortByKey key l₂ :=
  mergeSort_perm_invariant natLe_isOrder key hp (eq_of_nodup_map key _ hnd)

example : sortByKey (fun x : Nat × Nat => x.1) [(3, 0), (1, 7)] = sortByKey (fun x : Nat × Nat => x.1) [(1, 7), (3, 0)] :=
  C08_sortByKey_perm_invariant _ _ _ (List.Perm.swap _ _ _) (by decide +kernel)

/-! ### Sites: Type.String (range Types), peephole init (range operands) -/

/-- Searching a map for the key of a value: order independent when the values
are pairwise distinct (`types.Types` and `ssa.operands` are injective; the
harness checks `types.Types` at run time). -/
theorem C08_findKey_perm_invariant {κ υ : Type} [DecidableEq υ] (l₁ l₂ : List (κ × υ)) (t : υ)
    (hp : l₁.Perm l₂) (hnd : (l₁.map Prod.snd).Nodup) : findKey l₁ t = findKey l₂ t := by
  rw [findKey_eq_find?, findKey_eq_find?]
  exact find?_map_perm _ hp fun a ha b hb pa pb => congrArg Prod.fst
    (eq_of_nodup_map Prod.snd _ hnd a ha b hb ((of_decide_eq_true pa).trans (of_decide_eq_true pb).symm))

example : findKey [("int", 2), ("uint", 3)] 3 = findKey [("uint", 3), ("int", 2)] 3 :=
  C08_findKey_perm_invariant _ _ _ (List.Perm.swap _ _ _) (by decide +kernel)

/-- The hypothesis is needed: a value stored under two keys. -/
theorem C08_findKey_needs_injective :
    ∃ (l₁ l₂ : List (Nat × Nat)) (t : Nat), l₁.Perm l₂ ∧ findKey l₁ t ≠ findKey l₂ t :=
  ⟨[(10, 3), (11, 3)], [(11, 3), (10, 3)], 3, List.Perm.swap _ _ _, by decide +kernel⟩

/-! ### Site: instructions.go init (maximum of the operand name lengths) -/

theorem C08_maxLen_perm_invariant (l₁ l₂ : List Nat) (hp : l₁.Perm l₂) : maxLen l₁ = maxLen l₂ :=
  -- the loop body is `max`
  have step : (fun m v : Nat => if v > m then v else m) = max := funext fun m => funext fun v =>
    (Nat.lt_or_ge m v).elim (fun h => by rw [if_pos h, Nat.max_eq_right (Nat.le_of_lt h)])
      fun h => by rw [if_neg (Nat.not_lt.mpr h), Nat.max_eq_left h]
  by rw [maxLen, maxLen, step]; exact hp.foldl_eq' (fun x _ y _ z => Nat.max_right_comm z x y) 0

example : maxLen [3, 7, 5] = 7 := by decide +kernel

/-! ### Sites: Set.Copy, Set.Subtract -/

/-- The entries of a Go map have pairwise distinct keys (`hnd` is a property
of every map, not an assumption about the program). -/
theorem C08_setCopy_perm_invariant {υ : Type} (l₁ l₂ : List (Nat × υ)) (hp : l₁.Perm l₂)
    (hnd : (l₁.map Prod.fst).Nodup) : setCopy l₁ = setCopy l₂ :=
  hp.foldl_eq' (fun x hx y hy m => funext fun k => ite_ite_comm (k = y.1) (k = x.1) _ _ _ fun h1 h2 => by
    rw [eq_of_nodup_map Prod.fst _ hnd x hx y hy (h2.symm.trans h1)]) _

theorem C08_setSubtract_perm_invariant {υ : Type} (set : Nat → Option υ) (l₁ l₂ : List Nat) (hp : l₁.Perm l₂) :
    setSubtract set l₁ = setSubtract set l₂ :=
  hp.foldl_eq' (fun x _ y _ _ => funext fun k => ite_ite_comm (k = y) (k = x) _ _ _ fun _ _ => rfl) set

example : setCopy [(1, "a"), (2, "b")] 2 = some "b" := by decide +kernel

/-! ### Site: Package.SortedImports (range pkg.Imports: collect the aliases, sort.Strings) -/

/-- The alias list `Package.Init` and `Compiler.parse` iterate does not depend
on the order the `Imports` map hands the aliases over. -/
theorem C08_sortedImports_perm_invariant {ν : Type} (le : ν → ν → Bool) (h : IsOrder le) (l₁ l₂ : List ν)
    (hp : l₁.Perm l₂) : sortedImports le l₁ = sortedImports le l₂ :=
  isort_perm_invariant h id hp fun _ _ _ _ e => e

/-- Go's string order (byte-wise) is such an order (`Det.bytesLe_isOrder`, restated so that the audit
covers it). -/
theorem C08_bytesLe_isOrder : IsOrder bytesLe := bytesLe_isOrder

example : sortedImports bytesLe [[104, 101, 120], [97, 101, 115]] = sortedImports bytesLe [[97, 101, 115], [104, 101, 120]] :=
  C08_sortedImports_perm_invariant _ C08_bytesLe_isOrder _ _ (List.Perm.swap _ _ _)

/-! ### Package.Init (iterates pkg.SortedImports() since 6aa1568) -/

/-- `Package.Init` emits the same initialiser blocks, with the same
anonymous-value numbers, whatever order every package's `Imports` map hands
its aliases over (`LibRel`: same packages, import lists permuted). -/
theorem C08_init_perm_invariant {ν : Type} [DecidableEq ν] (le : ν → ν → Bool) (hle : IsOrder le)
    (lib₁ lib₂ : List (Pkg ν)) (h : LibRel lib₁ lib₂) (fuel : Nat) (p : ν) (st : GenSt ν) :
    initPkg le fuel lib₁ p st = initPkg le fuel lib₂ p st := by
  induction fuel generalizing p st with
  | zero => rfl
  | succ n ih =>
    have ih : (fun s q => initPkg le n lib₁ q s) = fun s q => initPkg le n lib₂ q s :=
      funext fun s => funext fun q => ih q s
    simp only [initPkg]
    split
    · rfl
    · rcases getPkg_rel h p with ⟨h1, h2⟩ | ⟨a, b, h1, h2, _, hv, ha, hi⟩
      · rw [h1, h2]
      · rw [h1, h2]
        simp only [ih, C08_sortedImports_perm_invariant le hle _ _ hi, emitBlock, hv, ha]

-- non-vacuity: the witness of the old defect, both hand-over orders
example : (initPkg (fun a b : Nat => decide (a ≤ b)) 4 [⟨0, [1, 2], 0, 0⟩, ⟨1, [], 1, 1⟩, ⟨2, [], 1, 1⟩] 0 ⟨[], [], 0⟩).blocks
    = [(1, some 0), (2, some 1)] := by decide +kernel
example : (initPkg (fun a b : Nat => decide (a ≤ b)) 4 [⟨0, [2, 1], 0, 0⟩, ⟨1, [], 1, 1⟩, ⟨2, [], 1, 1⟩] 0 ⟨[], [], 0⟩).blocks
    = [(1, some 0), (2, some 1)] := by decide +kernel
example : LibRel [(⟨0, [1, 2], 0, 0⟩ : Pkg Nat), ⟨1, [], 1, 1⟩] [⟨0, [2, 1], 0, 0⟩, ⟨1, [], 1, 1⟩] :=
  .cons ⟨rfl, rfl, rfl, List.Perm.swap _ _ _⟩ (.cons ⟨rfl, rfl, rfl, List.Perm.refl _⟩ .nil)

/-- OLD definition (before 6aa1568, `for alias, name := range pkg.Imports`):
the emitted listing depended on the hand-over order.  Witness: `main` imports
packages 1 and 2, each with one `make`-initialised package-level variable.
Was observed on the real compiler as differing SSA listings between processes
and fresh instances (findings C08-init-order-ssa-*, fixed). -/
theorem C08_old_init_order_dependent :
    ∃ (lib : List (Pkg Nat)) (i₁ i₂ : List Nat), i₁.Perm i₂ ∧
      (initPkgOld 4 (⟨0, i₁, 0, 0⟩ :: lib) 0 ⟨[], [], 0⟩).blocks ≠
      (initPkgOld 4 (⟨0, i₂, 0, 0⟩ :: lib) 0 ⟨[], [], 0⟩).blocks :=
  ⟨[⟨1, [], 1, 1⟩, ⟨2, [], 1, 1⟩], [1, 2], [2, 1], List.Perm.swap _ _ _, by decide +kernel⟩

/-! ### Compiler.parse (iterates pkg.SortedImports() since 6aa1568) -/

/-- The alias→path table built by `parse`/`parsePkg` does not depend on the
hand-over order of any `Imports` map of the closure (`files₁ p ~ files₂ p`),
even when an alias names two paths. -/
theorem C08_parse_perm_invariant {α π : Type} [DecidableEq α] (le : α → α → Bool) (h : IsOrder le)
    (files₁ files₂ : π → List (α × π))
    (hf : ∀ p, (files₁ p).Perm (files₂ p) ∧ ((files₁ p).map Prod.fst).Nodup)
    (fuel : Nat) (i₁ i₂ cache : List (α × π)) (hp : i₁.Perm i₂) (hnd : (i₁.map Prod.fst).Nodup) :
    parseImports le fuel files₁ i₁ cache = parseImports le fuel files₂ i₂ cache := by
  induction fuel generalizing i₁ i₂ cache with
  | zero => rfl
  | succ n ih =>
    have ih : (fun c (ap : α × π) => parseImports le n files₁ (files₁ ap.2) (c ++ [ap])) =
        fun c ap => parseImports le n files₂ (files₂ ap.2) (c ++ [ap]) :=
      funext fun c => funext fun ap => ih _ _ _ (hf ap.2).1 (hf ap.2).2
    -- the aliases are the keys of a map: the sort key is injective on the pairs
    rw [parseImports, parseImports, isort_perm_invariant h Prod.fst hp (eq_of_nodup_map Prod.fst _ hnd)]
    exact congrArg (fun f => List.foldl (fun c ap => if c.any (fun e => e.1 = ap.1) then c else f c ap) cache _) ih

/-- OLD definition (before 6aa1568): with an alias naming two paths the
package both importers ended up with depended on the hand-over order of
`main`'s imports.  Witness: main imports a (path 1) and b (path 2); a imports
alias 9 = path 91, b imports alias 9 = path 92.  Was observed as DIFFERENT
CIRCUITS between processes on generated programs. -/
theorem C08_old_parse_alias_order_dependent :
    ∃ (files : Nat → List (Nat × Nat)) (i₁ i₂ : List (Nat × Nat)), i₁.Perm i₂ ∧
      resolve (parseImportsOld 3 files i₁ []) 9 ≠ resolve (parseImportsOld 3 files i₂ []) 9 :=
  ⟨fun p => if p = 1 then [(9, 91)] else if p = 2 then [(9, 92)] else [],
   [(1, 1), (2, 2)], [(2, 2), (1, 1)], List.Perm.swap _ _ _, by decide +kernel⟩

/-- Observation on the CURRENT definition (a resolution-correctness issue, not
a determinism defect): in the same witness both hand-over orders now resolve
alias 9 to path 91, so package b, which imports path 92 under alias 9, is
bound to the wrong package — deterministically. -/
theorem C08_alias_resolution_observation :
    let files : Nat → List (Nat × Nat) := fun p => if p = 1 then [(9, 91)] else if p = 2 then [(9, 92)] else []
    resolve (parseImports (fun a b => decide (a ≤ b)) 3 files [(1, 1), (2, 2)] []) 9 = some 91 ∧
    resolve (parseImports (fun a b => decide (a ≤ b)) 3 files [(2, 2), (1, 1)] []) 9 = some 91 := by
  decide +kernel

/-! ### History independence (state kept in Compiler.packages) -/

/-- FULL (for the code as it is, since 1e863b8): a compilation's output does
not depend on what earlier uses of the `Compiler` left behind, whatever they
were — successful compilations AND compilations that failed half-way (`Event`).
What makes this true is that `compile` / `CompileSSA` / `Stream` call
`c.resetPackages()` before anything of `c.packages` is read (their first
statement, in `Stream` the first after `circuit.NewTiming()`; required by the
`codegen_entries` fact: reset before the first `c.parse`): the proof is `rfl`
because `compile` does not look at its cache argument.  A reset placed later
(e.g. after successful code generation) does not give this theorem:
`C08_reset_at_start_needed`. -/
theorem C08_history_independent {ν : Type} [DecidableEq ν] (le : ν → ν → Bool)
    (lib : List (Pkg ν)) (c₀ : Cache ν) (history : List (Event ν)) (prog : Prog ν) :
    (compile le lib (runHistory le lib c₀ history) prog).1 = (compile le lib Cache.empty prog).1 := rfl

-- non-vacuity: a failing compilation (stopped after both function instances were expanded) followed by a good one
example : (compile (fun a b : Nat => decide (a ≤ b)) [⟨1, [], 1, 0⟩]
      (runHistory (fun a b : Nat => decide (a ≤ b)) [⟨1, [], 1, 0⟩] Cache.empty
        [.failing ⟨⟨0, [1], 0, 0⟩, [0], [0, 5]⟩ 2]) ⟨⟨0, [1], 0, 0⟩, [0], [0, 5]⟩).1
    = ⟨[(1, none)], [(0, 0), (5, 0)]⟩ := by decide +kernel

/-- The reset must be at the START.  Hypothetical variant `compileResetOnSuccess`
(table dropped only after successful code generation): after a FAILING
compilation of a program importing package 1 the next, good compilation of the
same imports misses the package initialiser block and numbers the function
instance `5#1` — while after a successful compilation everything is as on a
fresh instance.  (Replayed on the real compiler by the failing-history oracle
of harness/cmd/c08/failhist.go.) -/
theorem C08_reset_at_start_needed :
    ∃ (lib : List (Pkg Nat)) (prog : Prog Nat),
      let le := fun a b : Nat => decide (a ≤ b)
      (compileResetOnSuccess le lib (stepResetOnSuccess le lib Cache.empty (.good prog)) prog).1
        = (compileResetOnSuccess le lib Cache.empty prog).1 ∧
      (compileResetOnSuccess le lib (stepResetOnSuccess le lib Cache.empty (.failing prog 2)) prog).1
        ≠ (compileResetOnSuccess le lib Cache.empty prog).1 :=
  ⟨[⟨1, [], 1, 0⟩], ⟨⟨0, [1], 0, 0⟩, [0], [0, 5]⟩, by decide +kernel, by decide +kernel⟩

/-- … hence k compilations on one `Compiler` all give the output of the first. -/
theorem C08_repeated_compilations_equal {ν : Type} [DecidableEq ν] (le : ν → ν → Bool)
    (lib : List (Pkg ν)) (prog : Prog ν) : ∀ (k : Nat) (c : Cache ν) (o : Output ν),
    o ∈ compileRepeated le lib prog k c → o = (compile le lib Cache.empty prog).1 :=
  fun k c _ h => List.eq_of_mem_replicate (compileRepeated_eq le lib prog k c ▸ h)

example : (compileRepeated (fun a b : Nat => decide (a ≤ b)) [⟨1, [], 1, 0⟩] ⟨⟨0, [1], 0, 0⟩, [0], [0, 5]⟩ 2 Cache.empty).map (·.funcLabels)
    = [[(0, 0), (5, 0)], [(0, 0), (5, 0)]] := by decide +kernel

/-- OLD definition (before 1e863b8): on a second compilation the imported
package was still cached with `Initialized = true`, so its package-level
initialisers were not emitted again (real compiler: 130 gates instead of
108915 for apps/garbled/examples/aesexpand.mpcl; finding
C08-recompile-pkg-init-skipped, fixed). -/
theorem C08_old_history_dependent_init :
    ∃ (lib : List (Pkg Nat)) (prog : Prog Nat),
      (compileOld lib Cache.empty prog).1.initBlocks ≠
      (compileOld lib (compileOld lib Cache.empty prog).2 prog).1.initBlocks :=
  ⟨[⟨1, [], 1, 0⟩], ⟨⟨0, [1], 0, 0⟩, [0], [0, 5]⟩, by decide +kernel⟩

/-- OLD definition (before 1e863b8): `Func.NumInstances` of the cached
package's functions kept counting (`F#0` then `F#1`; finding
C08-recompile-func-instance-labels, fixed). -/
theorem C08_old_history_dependent_labels :
    ∃ (lib : List (Pkg Nat)) (prog : Prog Nat),
      (compileOld lib Cache.empty prog).1.funcLabels ≠
      (compileOld lib (compileOld lib Cache.empty prog).2 prog).1.funcLabels :=
  ⟨[⟨1, [], 0, 0⟩], ⟨⟨0, [1], 0, 0⟩, [0], [0, 5]⟩, by decide +kernel⟩


/-! ### Process state: package-level variables of the compile path (Model/ProcState.lean)

`C08_history_independent` above is about what a `Compiler` keeps.  The property
also quantifies over everything else the PROCESS did before ("any number of
earlier compilations in the process", fresh instances included).  The tie to
the code is (1) the structural fact that pins the package-level variables of
the compile path (a new one is a broken obligation and focuses the history
search on the facilities of its package), (2) the `phist` correspondence: the folded wide
constants of every compilation of real same-Compiler histories equal
`outputsAlong stepNow`, (3) the process-state oracle of harness/cmd/c08/pstate.go
(sibling groups, every history in its own process). -/

/-- FULL, for the code as it is: whatever the process compiled before (any two
histories, from any two initial states), the step's output for (source,
parameters) is the same, and the state is handed on untouched. -/
theorem C08_step_independent_of_process_state {σ π : Type} (st₁ st₂ : σ) (h₁ h₂ : List (Src × π))
    (src : Src) (par : π) :
    (stepNow src par (PSt.runHistory stepNow st₁ h₁)).1 = (stepNow src par (PSt.runHistory stepNow st₂ h₂)).1 ∧
    PSt.runHistory (stepNow (π := π)) st₁ h₁ = st₁ :=
  ⟨rfl, runHistory_stepNow h₁ st₁⟩

-- non-vacuity: the victim of seeded change S56 after an unrelated compilation: A / B and A % B for
-- A = 0xf123456789abcdef0123456789abcdef (128 bits), B = 0x123456789abcdef01234567 (89 bits) in uint128
example : (stepNow [⟨128, .div, 0xf123456789abcdef0123456789abcdef, 0x123456789abcdef01234567⟩,
                    ⟨128, .mod, 0xf123456789abcdef0123456789abcdef, 0x123456789abcdef01234567⟩] ()
      (PSt.runHistory stepNow () [([⟨128, .div, 0x80000000000000000000000000000001, 1000003⟩], ())])).1
    = [340282366920938463463374607375665201152, 276701161135814226449] := by decide +kernel

/-- The uncached divider answer IS what the code as it is folds. -/
theorem C08_foldNow_is_uncached_divider (w x y : Nat) :
    foldNow ⟨w, .div, x, y⟩ = (direct dividerByWidths (x, y)).1 ∧
    foldNow ⟨w, .mod, x, y⟩ = (direct dividerByWidths (x, y)).2 ∧
    direct dividerByMax (x, y) = direct dividerByWidths (x, y) := ⟨rfl, rfl, rfl⟩

/-- A memo table in the process state whose stored object is a function of its
KEY is invisible: after every history of compilations, for every capacity
(eviction), every compilation gets the uncached answers. -/
theorem C08_memo_keyed_by_object_history_independent {ρ κ ω ο : Type} [DecidableEq κ] (F : Facility ρ κ ω ο)
    (hf : Factors F) (cap : Nat) (history : List (List ρ)) (reqs : List ρ) :
    (compileMemo F cap reqs (runMemoHistory F cap history [])).1 = reqs.map (direct F) :=
  (memo_invisible_iff F).mpr hf.answers cap history reqs

-- non-vacuity: a table keyed by the request itself, a history of two compilations, capacity 1
example : (compileMemo (⟨id, fun r => r + 1, fun o r => o * r⟩ : Facility Nat Nat Nat Nat) 1 [3, 4]
      (runMemoHistory ⟨id, fun r => r + 1, fun o r => o * r⟩ 1 [[5], [3, 9]] [])).1 = [12, 20] :=
  C08_memo_keyed_by_object_history_independent _ (fun _ _ h => by simp_all) 1 _ _

/-- … and a COARSER key is visible: if two requests share a key but the object
built for one answers the other differently, then after the history "one
compilation asking `a`" a compilation asking `b` gets another output than in a
fresh process — for every capacity ≥ 1 ("last object" slot included). -/
theorem C08_memo_coarse_key_history_dependent {ρ κ ω ο : Type} [DecidableEq κ] (F : Facility ρ κ ω ο)
    (cap : Nat) (hc : 1 ≤ cap) (a b : ρ) (hk : F.key a = F.key b)
    (hne : F.use (F.build a) b ≠ F.use (F.build b) b) :
    ∃ history : List (List ρ),
      (compileMemo F cap [b] (runMemoHistory F cap history [])).1 ≠ (compileMemo F cap [b] []).1 ∧
      (compileMemo F cap [b] []).1 = [direct F b] := by
  refine ⟨[[a]], ?_, compileMemo_fresh F cap b⟩
  rw [compileMemo_after_one F cap hc a b hk, compileMemo_fresh]
  exact fun h => hne (List.singleton_inj.mp h)

/-- The divider of `mpa.Int.Div/Mod` memoised by BOTH operand widths would be
invisible … -/
theorem C08_divider_keyed_by_widths_history_independent (cap : Nat) (history : List (List (Nat × Nat)))
    (reqs : List (Nat × Nat)) :
    (compileMemo dividerByWidths cap reqs (runMemoHistory dividerByWidths cap history [])).1 =
      reqs.map (direct dividerByWidths) :=
  C08_memo_keyed_by_object_history_independent dividerByWidths
    (fun a b h => by simp only [dividerByWidths, Prod.mk.injEq] at h; simp [dividerByWidths, h.1, h.2]) cap history reqs

example : (compileMemo dividerByWidths 1 [(0xf123456789abcdef0123456789abcdef, 0x123456789abcdef01234567)]
      (runMemoHistory dividerByWidths 1 [[(0x80000000000000000000000000000001, 1000003)]] [])).1
    = [(340282366920938463463374607375665201152, 276701161135814226449)] := by decide +kernel

/-- … memoised by `max x.bits y.bits` (a "last divider" slot, capacity 1) it is
NOT: witness = the replay of seeded change S56.  After a compilation that folds
`0x80000000000000000000000000000001 / 1000003` (widths 128 and 32) the fold of
`0xf123456789abcdef0123456789abcdef / 0x123456789abcdef01234567` (widths 128
and 89, same maximum) is evaluated on the stored circuit, which reads only 32
bits of the divisor: other quotient and remainder than in a fresh process.
Replayed on the real compiler by harness/cmd/c08/pstate.go (family
wide-const-divmod: same maximum, different operand sizes). -/
theorem C08_divider_keyed_by_max_width_history_dependent :
    ∃ (history : List (List (Nat × Nat))) (r : Nat × Nat),
      (compileMemo dividerByMax 1 [r] (runMemoHistory dividerByMax 1 history [])).1 ≠
      (compileMemo dividerByMax 1 [r] []).1 := by
  obtain ⟨h, hne, _⟩ := C08_memo_coarse_key_history_dependent dividerByMax 1 (Nat.le_refl 1)
    (0x80000000000000000000000000000001, 1000003)
    (0xf123456789abcdef0123456789abcdef, 0x123456789abcdef01234567)
    (by decide +kernel) (by decide +kernel)
  exact ⟨h, _, hne⟩

-- what the witness gets after the history; in a fresh process it gets what the example before the theorem shows
example : (compileMemo dividerByMax 1 [(0xf123456789abcdef0123456789abcdef, 0x123456789abcdef01234567)]
      (runMemoHistory dividerByMax 1 [[(0x80000000000000000000000000000001, 1000003)]] [])).1
    = [(340282365886020561464563945178558002168, 4109017)] := by decide +kernel

/-! ### Process state, histories over ALL step kinds (Model/ProcSteps.lean)

What the process did before a compilation is not only compilations: it may have
served streaming sessions (values die, `gc` recycles their wires), obtained SSA
programs, computed / garbled / marshalled / parsed circuits.  Tie to the code:
(1) the pinned package-level variables (a pool is one), (2) the `ahist` correspondence: along
real one-process histories over all kinds the folded constants, the number of
ids the input wires take (`NumWires − NumGates`) and the results of streaming
sessions / Compute / Garble-Eval equal `outputsAlongK stepNowK`, (3) the
activity histories of harness/cmd/c08/pacts.go. -/

/-- GENERAL: let `reads` be the component of the process state that a
compilation reads (`hread`: the output of a compilation depends on the state
only through it).  If EVERY step kind leaves that component unchanged, the
output of a compilation is the same after any two histories over ALL step
kinds, from any two initial states that agree on the component. -/
theorem C08_all_step_kinds_history_independent {σ π ρ : Type} (step : KStep σ π) (reads : σ → ρ)
    (isCompile : Req π → Prop)
    (hread : ∀ r s s', isCompile r → reads s = reads s' → (step r s).1 = (step r s').1)
    (hkeep : ∀ r s, reads (step r s).2 = reads s)
    (s₁ s₂ : σ) (hs : reads s₁ = reads s₂) (h₁ h₂ : List (Req π)) (r : Req π) (hc : isCompile r) :
    (step r (runHistoryK step s₁ h₁)).1 = (step r (runHistoryK step s₂ h₂)).1 := by
  apply hread r _ _ hc
  have keep (s₀ h) : reads (runHistoryK step s₀ h) = reads s₀ :=
    runHistoryK_invariant step (reads · = reads s₀) (fun _ => True) (fun r s _ e => (hkeep r s).trans e) h s₀
      (fun _ _ => trivial) rfl
  rw [keep, keep, hs]

-- non-vacuity: the code as it is (nothing is read), a history with a streaming session and a CompileSSA
example : (stepNowK (σ := Nat) (π := Unit) ⟨.compile, ⟨[2, 2], [⟨0, none⟩]⟩, (), [], []⟩
      (runHistoryK stepNowK 7 [⟨.stream, ⟨[2, 2], [⟨0, none⟩]⟩, (), [1, 2], [0, 1]⟩, ⟨.ssa, ⟨[3], []⟩, (), [], []⟩])).1 =
    (stepNowK (σ := Nat) (π := Unit) ⟨.compile, ⟨[2, 2], [⟨0, none⟩]⟩, (), [], []⟩ (runHistoryK (stepNowK (π := Unit)) 7 [])).1 :=
  C08_all_step_kinds_history_independent stepNowK (fun _ => ()) (fun r => r.kind = .compile) (fun _ _ _ _ _ => rfl)
    (fun _ _ => rfl) 7 7 rfl _ _ _ rfl

/-- FULL, for the code as it is (`NewWireAllocator` makes a new allocator for
every program): after any two histories over all step kinds, from any two
states, a step of ANY kind gives the same output; the state is handed on
untouched; and a compilation numbers its input wires `0 … Σ bits − 1`, taking
exactly `Σ bits` ids (`NumWires − NumGates`, compared on every real
compilation of the `ahist` ops). -/
theorem C08_stepNowK_independent_of_process_state {σ π : Type} (st₁ st₂ : σ) (h₁ h₂ : List (Req π)) (r : Req π) :
    (stepNowK r (runHistoryK stepNowK st₁ h₁)).1 = (stepNowK r (runHistoryK stepNowK st₂ h₂)).1 ∧
    runHistoryK (stepNowK (π := π)) st₁ h₁ = st₁ ∧
    (r.kind = .compile → (stepNowK r st₁).1.inIds = List.range' 0 r.prog.args.sum ∧
      (stepNowK r st₁).1.inw = some r.prog.args.sum ∧ (stepNowK r st₁).1.consts = r.prog.src.map foldNow) := by
  refine ⟨rfl, runHistoryK_stepNowK h₁ st₁, fun hk => ?_⟩
  simp [stepNowK, stepOn, hk, compileOut, compileAlloc_empty]

-- non-vacuity: a streaming session of a sibling, then the compilation and a Compute of the S56 victim
example : outputsAlongK (stepNowK (σ := Unit) (π := Unit)) ()
      [⟨.stream, ⟨[128, 128], [⟨0, some ⟨128, .div, 0x80000000000000000000000000000001, 1000003⟩⟩, ⟨1, none⟩]⟩, (), [5, 9], [0, 1]⟩,
       ⟨.compute, ⟨[128, 128], [⟨0, some ⟨128, .div, 0xf123456789abcdef0123456789abcdef, 0x123456789abcdef01234567⟩⟩,
                               ⟨1, some ⟨128, .mod, 0xf123456789abcdef0123456789abcdef, 0x123456789abcdef01234567⟩⟩]⟩, (), [1, 0], []⟩]
    = [⟨[], [], none, [340282196780265425013258226093608510054, 9]⟩,
       ⟨[340282366920938463463374607375665201152, 276701161135814226449], List.range' 0 256, some 256,
        [340282366920938463463374607375665201153, 276701161135814226449]⟩] := by decide +kernel

/-- A process-wide allocator POOL whose `Release` keeps the free lists is
visible: after one streaming session in which both arguments die (`gc a`,
`gc b`), a compilation of a program with the same argument widths gets the
recycled, already numbered arrays — most recently freed first, so `a` is wired to
the ids of the session's `b` — and the input wires take NO id from the counter,
so the first gates' output ids collide with them (`inw = 0`: `NumWires =
NumGates`, observed on the real code under seeded change S76).  A program with
other argument widths is not affected. -/
theorem C08_pooled_allocator_keeping_free_lists_history_dependent :
    ∃ (history : List (Req Unit)) (r : Req Unit), r.kind = .compile ∧
      (∃ x ∈ history, x.kind = .stream) ∧
      (stepPool true r (runHistoryK (stepPool true) WAlloc.empty history)).1 ≠ (stepPool true r WAlloc.empty).1 ∧
      (stepPool true r (runHistoryK (stepPool true) WAlloc.empty history)).1.inIds = [2, 3, 0, 1] ∧
      (stepPool true r (runHistoryK (stepPool true) WAlloc.empty history)).1.inw = some 0 ∧
      (stepPool true r WAlloc.empty).1.inIds = [0, 1, 2, 3] ∧ (stepPool true r WAlloc.empty).1.inw = some 4 :=
  ⟨[⟨.stream, ⟨[2, 2], [⟨0, none⟩]⟩, (), [1, 2], [0, 1]⟩], ⟨.compile, ⟨[2, 2], [⟨1, none⟩]⟩, (), [], []⟩,
    rfl, ⟨_, List.mem_cons_self, rfl⟩, by decide +kernel, by decide +kernel, by decide +kernel, by decide +kernel, by decide +kernel⟩

-- other argument widths: as in a fresh process
example : (stepPool true ⟨.compile, ⟨[3, 3], []⟩, (), [], []⟩
      (runHistoryK (stepPool true) WAlloc.empty [⟨.stream, ⟨[2, 2], [⟨0, none⟩]⟩, (), [1, 2], [0, 1]⟩])).1
    = (stepPool (π := Unit) true ⟨.compile, ⟨[3, 3], []⟩, (), [], []⟩ WAlloc.empty).1 := by decide +kernel

/-- … but INVISIBLE to histories without a streaming session (compilations,
CompileSSA, Compute, Garble/Eval, round trips only): the pool stays empty and
every step gives the output of the code as it is.  (This is why histories of
compilations alone cannot observe such a pool.) -/
theorem C08_pooled_allocator_invisible_without_streaming {σ π : Type} (history : List (Req π))
    (hns : ∀ x ∈ history, x.kind ≠ .stream) (r : Req π) (st : σ) :
    (stepPool true r (runHistoryK (stepPool true) WAlloc.empty history)).1 = (stepNowK r st).1 := by
  rw [runHistoryK_pool_no_stream history hns]
  rfl

example : (stepPool true ⟨.compile, ⟨[2, 2], []⟩, (), [], []⟩
      (runHistoryK (stepPool true) WAlloc.empty [⟨.compile, ⟨[2, 2], []⟩, (), [], []⟩, ⟨.ssa, ⟨[2, 2], []⟩, (), [], []⟩])).1.inIds
    = [0, 1, 2, 3] := by decide +kernel

/-- A pool whose `Release` EMPTIES the free lists is invisible after every
history over all step kinds. -/
theorem C08_pooled_allocator_cleared_history_independent {σ π : Type} (history : List (Req π)) (r : Req π) (st : σ) :
    (stepPool false r (runHistoryK (stepPool false) WAlloc.empty history)).1 = (stepNowK r st).1 := by
  rw [runHistoryK_pool_cleared history]
  rfl

example : (stepPool false ⟨.compile, ⟨[2, 2], []⟩, (), [], []⟩
      (runHistoryK (stepPool false) WAlloc.empty [⟨.stream, ⟨[2, 2], [⟨0, none⟩]⟩, (), [1, 2], [0, 1]⟩])).1.inIds
    = [0, 1, 2, 3] := by decide +kernel

/-! ### Process state, CONCURRENT history elements (Model/ProcConc.lean)

A process may run several steps at the same time (a server, parallel tests),
each with its own `Compiler` and `Params`: they share the process state only.
A step is a sequence of atomic micro-steps, a concurrent element runs its
steps under a schedule; every interleaving is a schedule.  Tie to the code:
(1) the pinned package-level variables, (2) the `chist` correspondence: along
real histories with concurrent elements (k = 2..8 goroutines started from a
barrier) the outputs of every step equal the model's under a seeded schedule,
(3) the concurrent histories of harness/cmd/c08/pconc.go, one of them under
the race detector. -/

/-- GENERAL: let `reads` be the component of the process state that micro-steps
read (`hread`).  If every micro-step leaves it unchanged, then under EVERY
schedule — every interleaving of any number of concurrent tasks — each task
produces exactly its solo outputs, and the component is unchanged. -/
theorem C08_concurrent_interleavings_frame {σ ρ ο κ : Type} (micro : Micro σ ρ ο) (reads : σ → κ)
    (hread : ∀ r s s', reads s = reads s' → (micro r s).1 = (micro r s').1)
    (hkeep : ∀ r s, reads (micro r s).2 = reads s)
    (sched : List Nat) (tasks : List (List ρ)) (s : σ) :
    (concurrent micro sched tasks s).1 = tasks.map (fun t => solo micro t s) ∧
    reads (concurrent micro sched tasks s).2 = reads s :=
  concurrent_frame micro reads hread hkeep sched tasks s s rfl

-- non-vacuity: a counter that no micro-step reads; three tasks, a schedule that interleaves them
example : (concurrent (fun (r : Nat) (s : Nat × Nat) => (r + s.1, (s.1, s.2 + 1))) [2, 0, 1, 1, 0, 2, 2]
      [[1, 2], [3], [4, 5, 6]] (10, 0)).1 = [[11, 12], [13], [14, 15, 16]] :=
  (C08_concurrent_interleavings_frame _ (fun s => s.1) (fun _ _ _ h => by simp_all) (fun _ _ => rfl) _ _ _).1

/-- FULL, for the code as it is: over every history of concurrent elements
(any number of steps of any kinds per element, any schedule per element) every
step's output is the output of the step ALONE in a fresh process
(`stepNowK r st'` for any state `st'`). -/
theorem C08_concurrent_history_solo_outputs {σ π : Type} (st st' : σ) :
    ∀ (els : List (List Nat × List (Req π))),
      (runElements microNow st (els.map fun e => (e.1, e.2.map microsK))).map (fun el => el.map assembleK) =
        els.map (fun e => e.2.map fun r => (stepNowK r st').1) := by
  intro els
  rw [runElements_frame (microNow (σ := σ)) id (fun r s s' h => by cases h; rfl) (fun r s => by cases r <;> rfl) _ st st rfl]
  simp only [List.map_map, Function.comp_def, assembleK_solo]
  rfl

-- non-vacuity: two compilations and a Compute at the same time, interleaved fold by fold, then a compilation
example : (runElements (microNow (σ := Unit)) ()
      ([([0, 1, 2, 2, 1, 0, 0, 1], [⟨.compile, ⟨[128, 128], [⟨0, some ⟨128, .div, 0x80000000000000000000000000000001, 1000003⟩⟩, ⟨1, none⟩]⟩, (), [], []⟩,
          ⟨.compile, ⟨[128, 128], [⟨0, some ⟨128, .div, 0xf123456789abcdef0123456789abcdef, 0x123456789abcdef01234567⟩⟩,
                                   ⟨1, some ⟨128, .mod, 0xf123456789abcdef0123456789abcdef, 0x123456789abcdef01234567⟩⟩]⟩, (), [], []⟩,
          ⟨.compute, ⟨[8], [⟨0, none⟩]⟩, (), [5], []⟩]),
        ([], [(⟨.compile, ⟨[3, 4], []⟩, (), [], []⟩ : Req Unit)])].map fun e => (e.1, e.2.map microsK))).map
      (fun el => el.map assembleK)
    = [[⟨[340282196780265425013258226093608510051], List.range' 0 256, some 256, []⟩,
        ⟨[340282366920938463463374607375665201152, 276701161135814226449], List.range' 0 256, some 256, []⟩,
        ⟨[], List.range' 0 8, some 8, [5]⟩],
       [⟨[], List.range' 0 7, some 7, []⟩]] :=
  (C08_concurrent_history_solo_outputs () () _).trans (by decide +kernel)

/-- A package-level SCRATCH CELL through which every constant's name passes
(written, then read back) is invisible to sequential histories: when the
tasks of an element run one after the other (the empty schedule), each names
its constants by their own values, whatever the cell held before … -/
theorem C08_shared_scratch_sequential_invisible (tasks : List (List Nat)) (cell : Nat) :
    (concurrent microScratch [] (tasks.map nameTask) cell).1.map namesOf = tasks := by
  simp only [concurrent, runSched, List.map_map]
  exact drain_nameTasks tasks cell

example : (concurrent microScratch [] ([[1, 16, 24], [2, 16]].map nameTask) 99).1.map namesOf = [[1, 16, 24], [2, 16]] :=
  C08_shared_scratch_sequential_invisible _ _

/-- … and VISIBLE to an interleaving: two compilations, each naming one
constant; the second writes the cell between the first's write and read, so the
first names its constant `$2` — the witness of seeded change S93 (the SSA
listing of every affected compilation changes; the circuit changes when the
wrong name is the name of another constant of the program).  Found on the
real code by the concurrent histories of harness/cmd/c08/pconc.go. -/
theorem C08_shared_scratch_interleaving_dependent :
    ∃ (sched : List Nat) (tasks : List (List Nat)) (cell : Nat),
      (concurrent microScratch sched (tasks.map nameTask) cell).1.map namesOf ≠ tasks ∧
      (concurrent microScratch sched (tasks.map nameTask) cell).1.map namesOf = [[2], [2]] ∧
      (concurrent microScratch [] (tasks.map nameTask) cell).1.map namesOf = tasks :=
  ⟨[0, 1, 0, 1], [[1], [2]], 0, by decide +kernel, by decide +kernel, by decide +kernel⟩

open Mpc.WT

/-! ### Width-indexed tables of the circuit builders (Model/WidthTable.lean)

The property quantifies over ALL programs, hence over all operand widths.  A
builder of compiler/circuits may choose its construction from a package-level
table keyed by the width (today: `multiplierArrayTresholds`, read by
`NewMultiplier` with `m[len(x)]`, default 21).  A Go map has no order: the
table is a list of entries in the order the runtime hands them over, with one
value per key.  The lookup BY KEY of the code as it is does not depend on that
order, so neither does the recursion of the Karatsuba multiplier
(`C08_multiplier_table_perm_invariant`; tie: op `mthr` - the limits for which
`Params.CircMultArrayTreshold = L` gives the circuit of the default parameters
= `multClass` of the table read from the source, at every swept width).  A
lookup by the CLOSEST key written as a best-so-far loop over `range m` is order
independent iff all closest keys carry one value, or ties are broken by a total
order on the keys (`C08_nearest_key_perm_invariant`,
`C08_nearest_key_tie_order_dependent`, witness `C08_nearest_key_tie_witness`:
width 29 halfway between the tuned widths 21 and 37 - the limits 12 and 19 give
different Karatsuba recursions, hence different gates).  The oracle of the
width sweep (harness sweep.go) looks for such a dependence on the real
compiler at every width 1..130, at powers of two and at the edges of and
midpoints between the runs of keys of every integer-keyed table of the
compile path. -/

/-- The code as it is: `m[len(x)]` with a default.  The limit handed to NewKaratsubaMultiplier, the recursion it
makes and what the harness observes of it (`multClass`) are the same for all hand-over orders of the table. -/
theorem C08_multiplier_table_perm_invariant (l₁ l₂ : List (Nat × Nat)) (hp : l₁.Perm l₂) (hf : Functional l₁)
    (gmw : Bool) (w lo cnt : Nat) :
    multLimit l₁ w = multLimit l₂ w ∧ multShape l₁ w = multShape l₂ w ∧
      multClass gmw l₁ w lo cnt = multClass gmw l₂ w lo cnt :=
  have hl : multLimit l₁ w = multLimit l₂ w := by simp only [multLimit, lookupD, lookup?_perm l₁ l₂ hp hf w]
  have hs : multShape l₁ w = multShape l₂ w := by simp only [multShape, hl]
  ⟨hl, hs, by simp only [multClass, hs]⟩

-- non-vacuity: a three-entry table in two orders; width 21 is a key (limit 12), width 29 is not (limit 21)
example : Functional [(16, 9), (21, 12), (37, 19)] := by unfold Functional; decide +kernel
example : multLimit [(16, 9), (21, 12), (37, 19)] 21 = 12 ∧ multLimit [(37, 19), (21, 12), (16, 9)] 21 = 12 ∧
    multLimit [(37, 19), (21, 12), (16, 9)] 29 = 21 := by decide +kernel
example : multClass false [(16, 9), (21, 12), (37, 19)] 29 8 23 = [16, 17, 18, 19, 20, 21, 22, 23, 24, 25, 26, 27, 28] := by
  decide +kernel

/-- One value per key is what makes the lookup by key order independent: with two entries of one key (impossible in a
Go map) the first one handed over wins. -/
theorem C08_lookup_needs_functional :
    ∃ l₁ l₂ : List (Nat × Nat), l₁.Perm l₂ ∧ lookupD l₁ 1 21 ≠ lookupD l₂ 1 21 :=
  ⟨[(1, 2), (1, 3)], [(1, 3), (1, 2)], List.Perm.swap _ _ _, by decide +kernel⟩

/-- A lookup by the closest key (best-so-far loop over the entries in hand-over order, replacing on a strictly smaller
distance) does not depend on the hand-over order when all closest keys carry ONE value - in particular when the closest
key is unique -; with ties broken by the smaller key it never does (keys of a map are distinct); the same for "exact
hit, otherwise the closest key". -/
theorem C08_nearest_key_perm_invariant (l₁ l₂ : List (Nat × Nat)) (hp : l₁.Perm l₂) (bits d : Nat) :
    ((∀ a ∈ l₁, ∀ b ∈ l₁, Closest l₁ bits a → Closest l₁ bits b → a.2 = b.2) →
        nearest l₁ bits d = nearest l₂ bits d) ∧
    (Functional l₁ → nearestTB l₁ bits d = nearestTB l₂ bits d) ∧
    (Functional l₁ → (∀ a ∈ l₁, ∀ b ∈ l₁, Closest l₁ bits a → Closest l₁ bits b → a.2 = b.2) →
        lookupNearest l₁ bits d = lookupNearest l₂ bits d) := by
  -- the loop returns a minimal entry, and for `rankNear` minimal is closest
  have near (huniq : ∀ a ∈ l₁, ∀ b ∈ l₁, Closest l₁ bits a → Closest l₁ bits b → a.2 = b.2) :
      nearest l₁ bits d = nearest l₂ bits d := by
    rw [nearest, argmin_perm_invariant (rankNear bits) (·.2) l₁ l₂ hp fun a ha b hb ma mb =>
      huniq a ha b hb ((minimal_rankNear _ _ _).mp ma) ((minimal_rankNear _ _ _).mp mb)]
    rfl
  refine ⟨near, fun hf => ?_, fun hf huniq => ?_⟩
  · rw [nearestTB, argmin_perm_invariant (rankNearTB bits) (·.2) l₁ l₂ hp]
    · rfl
    · -- two minimal entries have the same rank, hence the same key
      intro a ha b hb ma mb
      injection lexLt_false_antisymm _ _ (ma b hb) (mb a ha) with _ hk
      exact hf a ha b hb hk.symm
  · simp only [lookupNearest, lookup?_perm l₁ l₂ hp hf bits, near huniq]

-- non-vacuity: width 30 is closer to 37 than to 21 (unique closest key); width 29 is a tie, broken towards 21
example : nearest [(21, 12), (37, 19)] 30 21 = 19 ∧ nearest [(37, 19), (21, 12)] 30 21 = 19 := by decide +kernel
example : ∀ a ∈ [(21, 12), (37, 19)], ∀ b ∈ [(21, 12), (37, 19)],
    Closest [(21, 12), (37, 19)] 30 a → Closest [(21, 12), (37, 19)] 30 b → a.2 = b.2 := by
  unfold Closest; decide
example : nearestTB [(21, 12), (37, 19)] 29 21 = 12 ∧ nearestTB [(37, 19), (21, 12)] 29 21 = 12 := by decide +kernel

/-- The hypothesis is needed ("iff"): whenever two closest keys carry different values there are two hand-over orders
of the same table with different results - the entry handed over first wins. -/
theorem C08_nearest_key_tie_order_dependent (l : List (Nat × Nat)) (bits d : Nat) (a b : Nat × Nat)
    (ha : a ∈ l) (hb : b ∈ l) (ca : Closest l bits a) (cb : Closest l bits b) (hne : a.2 ≠ b.2) :
    ∃ l₁ l₂ : List (Nat × Nat), l₁.Perm l ∧ l₂.Perm l ∧ nearest l₁ bits d ≠ nearest l₂ bits d := by
  obtain ⟨l₁, l₂, p₁, p₂, e₁, e₂⟩ := argmin_tie_witnesses (rankNear bits) l a b ha hb
    ((minimal_rankNear l bits a).mpr ca) ((minimal_rankNear l bits b).mpr cb)
  exact ⟨l₁, l₂, p₁, p₂, by rw [nearest, nearest, e₁, e₂]; exact hne⟩

-- non-vacuity: the tuned widths 21 and 37 are equally close to 29
example : ∃ l₁ l₂ : List (Nat × Nat), l₁.Perm [(21, 12), (37, 19)] ∧ l₂.Perm [(21, 12), (37, 19)] ∧
    nearest l₁ 29 21 ≠ nearest l₂ 29 21 :=
  C08_nearest_key_tie_order_dependent [(21, 12), (37, 19)] 29 21 (21, 12) (37, 19) (by decide +kernel) (by decide +kernel)
    (by unfold Closest; decide) (by unfold Closest; decide) (by decide +kernel)

/-- Witness: the tuned widths 21 (limit 12) and 37 (limit 19), operand width 29 exactly halfway.  The two hand-over
orders give the limits 12 and 19, and these give different Karatsuba recursions for 29-bit operands (14-bit halves go
to the array multiplier under 19 and are split again under 12): different gates and wire numbers. -/
theorem C08_nearest_key_tie_witness :
    [((21, 12) : Nat × Nat), (37, 19)].Perm [(37, 19), (21, 12)] ∧
    nearest [(21, 12), (37, 19)] 29 21 = 12 ∧ nearest [(37, 19), (21, 12)] 29 21 = 19 ∧
    kshape 12 29 29 29 ≠ kshape 19 29 29 29 :=
  ⟨List.Perm.swap _ _ _, by decide +kernel, by decide +kernel, by decide +kernel⟩

end Mpc
