/-
C11  Connection layer is a faithful, ordered, typed byte stream.

The models (Model/Conn.lean, Model/ConnDuplex.lean) are executable: the driver runs the same definitions against the
real `p2p.Conn`.

Quantification carried by the theorems:
* every operation list `ops` (typed sends of every kind with payloads of every
  size — 0, 1, 65535..65537, 2^20±1, … are just values of `d.size` — interleaved
  with `Flush` and `NeedSpace n` in any way);
* every writer-goroutine schedule `sch : Nat → Nat` (how far the writer gets
  during each flush) plus any number `j` of additional writer iterations at the
  point of observation;
* every fragmentation oracle `frag : Nat → Nat` (the size the transport returns
  on its i-th `Read`, clamped to 1 .. min(room, bytes remaining));
* every trailing byte string `rest` following the values that are received.

The send half exists in two models: the value-level `Sender` (queue of byte
strings) about which the main theorems are stated, and `Ring`, where the three
physical write buffers, the slice headers in `toWriter` and the aliasing of
`WriteBuf` are explicit; `C11_conn_ring_refines` proves the ownership
invariant of the ring and that it refines `Sender` step for step.

Transport faults are a third model of the send half, `FSender`: the `i`-th
`conn.Write` may fail after any number of bytes (`Fault`), the writer goroutine
records `writerErr` and keeps taking buffers without writing them, `Flush`/`Close`
have their early-return error paths; quantified over every fault pattern, every
schedule, every operation list (`C11_conn_fault_*`; `C11_old_writer_gap_witness`
keeps the behaviour before the fix f07ee15 as a witness).  A stream that ends
inside a value is covered by `C11_conn_recv_eof_mid_value`.

Both halves of one `Conn` together with the transport endpoint they share are
`Local` (Model/ConnDuplex.lean): a session is any list of events - local typed
sends / `Flush` / `NeedSpace` / writer iterations, each under its own fault
pattern and writer schedule, local typed receives, bytes accepted from the peer
in any chunking, the peer's close (`C11_conn_directions_independent`,
`C11_conn_duplex_faults`); `Sess` is two of them back to back
(`C11_sess_sides_are_local_runs`).

Domain guard (explicit hypothesis `Val.Valid`): `u16 < 2^16`, `u32 < 2^32`,
payload and list lengths `< 2^32`, labels `< 2^128`.  Outside it the Go code
truncates (`uint32(val)`) and nothing is claimed.
-/
import MpcVerif.Proofs.ConnRing
import MpcVerif.Proofs.ConnFault
import MpcVerif.Proofs.ConnDuplex

namespace Mpc
open Conn

/-- **conn_send_inv.**  At every point between two sender operations, under
every writer schedule and after any number of further writer iterations:
bytes already written to the transport, followed by the buffers still queued
for the writer goroutine, followed by the partly filled write buffer are
exactly the encoding of the operations executed so far, in order.  Moreover
the write buffer never exceeds 64 KiB, at most `numBuffers - 1` buffers are
queued, `Stats.Sent` is the number of bytes handed to the writer,
`Stats.Flushed` the number of chunks, and every chunk is non-empty and at most
64 KiB. -/
theorem C11_conn_send_inv (sch : Sched) (ops : List Op) (j : Nat) :
    let s := (Sender.init.run sch ops).writerSteps j
    joinB (s.wire ++ s.queue) ++ s.cur = encodeAll ops ∧
    s.cur.size ≤ writeBufSize ∧
    s.queue.length ≤ numBuffers - 1 ∧
    s.sent = (joinB (s.wire ++ s.queue)).size ∧
    s.flushed = (s.wire ++ s.queue).length ∧
    ∀ c ∈ s.wire ++ s.queue, 0 < c.size ∧ c.size ≤ writeBufSize := by
  intro s
  have w := writerSteps_spec j (run_init sch ops)
  exact ⟨w.acc, w.cur_le, w.queue_le, w.sent_eq, w.flushed_eq, w.chunk_sz⟩

example : ∃ ops : List Op, ops ≠ [] ∧ encodeAll ops ≠ ByteArray.empty :=
  ⟨[.send (.byte 7)], by simp, by decide⟩

/-- **Chunking is schedule-independent.**  The sequence of chunks handed to
`conn.Write` (hence the flush points), the content of the write buffer and
both counters do not depend on how the writer goroutine is scheduled. -/
theorem C11_conn_sched_indep (sch sch' : Sched) (ops : List Op) :
    (Sender.init.run sch ops).cur = (Sender.init.run sch' ops).cur ∧
    (Sender.init.run sch ops).chunks = (Sender.init.run sch' ops).chunks ∧
    (Sender.init.run sch ops).sent = (Sender.init.run sch' ops).sent ∧
    (Sender.init.run sch ops).flushed = (Sender.init.run sch' ops).flushed := by
  exact Sender.core_eq.mp (core_run_congr sch sch' ops Sender.init Sender.init rfl)

/-- **Flush hands everything over.**  Right after a `Flush` nothing is left in
the write buffer: everything sent so far is on the wire or queued for the
writer goroutine (which writes it without further action of the sender). -/
theorem C11_conn_flush_hands_over (sch : Sched) (ops : List Op) :
    let s := Sender.init.run sch (ops ++ [Op.flush])
    s.cur = ByteArray.empty ∧ joinB (s.wire ++ s.queue) = encodeAll ops := by
  intro s
  obtain ⟨f1, f3⟩ := flushS_spec sch (run_init sch ops)
  have hs : s = (Sender.init.run sch ops).flushS sch := List.foldl_append
  rw [hs]
  exact ⟨f3, (Sender.stream_of_empty f3).symm.trans f1.acc⟩

/-- **conn_close_delivers.**  After `Close` the transport has received exactly
the encoding of all operations, nothing is left queued or buffered, and
`Stats.Sent` equals the number of bytes written, `Stats.Flushed` the number of
`Write` calls; every `Write` carried between 1 and 65536 bytes. -/
theorem C11_conn_close_delivers (sch : Sched) (ops : List Op) :
    let s := (Sender.init.run sch ops).close sch
    joinB s.wire = encodeAll ops ∧ s.queue = [] ∧ s.cur = ByteArray.empty ∧
    s.sent = (encodeAll ops).size ∧ s.sent = (joinB s.wire).size ∧
    s.flushed = s.wire.length ∧
    ∀ c ∈ s.wire, 0 < c.size ∧ c.size ≤ writeBufSize := by
  intro s
  obtain ⟨ci, c1, c2, c3⟩ := close_spec sch (run_init sch ops)
  have hch : s.chunks = s.wire := Sender.chunks_of_drained c1
  have hs := ci.sent_eq
  rw [hch] at hs
  exact ⟨c3, c1, c2, by rw [hs, c3], hs, by rw [← hch]; exact ci.flushed_eq,
    by rw [← hch]; exact ci.chunk_sz⟩

/-- **conn_recv (general form).**  From any receiver state satisfying the
window invariant (`ReadStart ≤ ReadEnd ≤ 1 MiB`) whose unread bytes (window
followed by what the transport still holds) are `encodeVals vs ++ rest`, under
every fragmentation of the transport reads, the matching typed receives return
exactly `vs` in order, take no error branch, leave exactly `rest` unread, and
`Stats.Recvd` grows by exactly the number of bytes taken from the transport. -/
theorem C11_conn_recv_from (frag : Frag) (vs : List Val) (hv : ∀ v ∈ vs, v.Valid)
    (r : Recv) (hr : r.rs ≤ r.buf.size ∧ r.buf.size ≤ readBufSize ∧ r.pos ≤ r.pend.size)
    (rest : ByteArray) (hu : r.unread = encodeVals vs ++ rest) :
    ∃ r', r.recvAll frag (vs.map Val.kind) = (vs, r', none) ∧
      r'.unread = rest ∧ r'.pend = r.pend ∧
      r'.recvd - r.recvd = r'.pos - r.pos ∧ r.recvd ≤ r'.recvd ∧
      r'.rs ≤ r'.buf.size ∧ r'.buf.size ≤ readBufSize ∧ r'.pos ≤ r'.pend.size := by
  obtain ⟨r', e, i, u, a⟩ := recvAll_spec frag vs hv r ⟨hr.1, hr.2.1, hr.2.2⟩ rest hu
  have := a.recvd_eq
  have := a.pos_mono
  exact ⟨r', e, u, a.pend_eq, by omega, by omega, i.rs_le, i.buf_le, i.pos_le⟩

/-- **conn_recv.**  A fresh connection reading the stream `encodeVals vs ++ rest`
from a transport that fragments reads in any way receives exactly `vs` and
leaves exactly `rest`; `Stats.Recvd` equals the bytes taken from the transport. -/
theorem C11_conn_recv (frag : Frag) (vs : List Val) (hv : ∀ v ∈ vs, v.Valid) (rest : ByteArray) :
    ∃ r', (Recv.init (encodeVals vs ++ rest)).recvAll frag (vs.map Val.kind) = (vs, r', none) ∧
      r'.unread = rest ∧ r'.recvd = r'.pos ∧ r'.pos ≤ (encodeVals vs ++ rest).size := by
  obtain ⟨r', e, i, u, a⟩ := recvAll_spec frag vs hv _ (RInv_init _) rest (unread_init _)
  refine ⟨r', e, u, ?_, ?_⟩
  · have := a.recvd_eq; simpa [Recv.init] using this
  · have h1 := i.pos_le; have h2 := a.pend_eq; rw [h2] at h1; simpa [Recv.init] using h1

/-- **conn_recv_eof_mid_value.**  If the transport's stream ends in the middle
of a value - after the complete encodings of `vs` only a proper prefix `p` of
the encoding of a further value `v` arrives, under any fragmentation - then
the matching typed receives return exactly `vs`, the receive of `v` fails with
the transport's end-of-stream error, nothing after it is attempted, and no
partial value is ever reported as received (for `ReceiveData/ReceiveString`
this includes a complete length prefix followed by a short body, for
`ReceiveInputSizes` a complete count followed by too few entries). -/
theorem C11_conn_recv_eof_mid_value (frag : Frag) (vs : List Val) (hv : ∀ v ∈ vs, v.Valid)
    (v : Val) (hvv : v.Valid) (p q : ByteArray) (hp : p.size < v.encode.size)
    (hpq : p ++ q = v.encode) (more : List Kind) :
    ∃ r', (Recv.init (encodeVals vs ++ p)).recvAll frag (vs.map Val.kind ++ v.kind :: more)
        = (vs, r', some Err.eof) ∧ r'.unread = p := by
  obtain ⟨r1, i1, u1, _, e⟩ := recvAll_spec_append frag vs hv (v.kind :: more) _ (RInv_init _) p
    (unread_init _)
  have herr := recvVal_eof frag v hvv r1 i1 p q hp hpq u1
  refine ⟨r1, ?_, u1⟩
  rw [e]
  simp [Recv.recvAll, herr]

/-- non-vacuity: a data value of 3 bytes cut after its length prefix and one body byte -/
example : ∃ (v : Val) (p q : ByteArray), v.Valid ∧ p.size < v.encode.size ∧ p ++ q = v.encode ∧ 4 < p.size :=
  ⟨.data [1, 2, 3].toByteArray, [0, 0, 0, 3, 1].toByteArray, [2, 3].toByteArray,
   by simp [Val.Valid], by decide, by decide, by decide⟩

/-- Example values of every kind, including the empty payload, for non-vacuity. -/
def exampleVals : List Val :=
  [.byte 0xab, .u16 65535, .u32 4294967295, .data ByteArray.empty, .data [1, 2, 3].toByteArray,
   .str "hi".toUTF8, .label (2 ^ 128 - 1), .sizes [], .sizes [0, 7, 4294967295]]

theorem exampleVals_valid : ∀ v ∈ exampleVals, v.Valid := by
  intro v hv
  simp only [exampleVals, List.mem_cons, List.not_mem_nil, or_false] at hv
  rcases hv with h | h | h | h | h | h | h | h | h <;> subst h <;> simp [Val.Valid] <;> decide

example (frag : Frag) (rest : ByteArray) :=
  C11_conn_recv frag exampleVals exampleVals_valid rest

/-- **conn_roundtrip.**  Any sequence of typed sends of valid values interleaved
with flushes and `NeedSpace` calls in any way, under any writer schedule,
closed, and read back through a transport with any read fragmentation by the
matching typed receives yields exactly the sent values in order, consumes the
stream completely, and the byte counters of both ends equal the number of bytes
that crossed the transport. -/
theorem C11_conn_roundtrip (sch : Sched) (frag : Frag) (ops : List Op)
    (hv : ∀ v ∈ opsVals ops, v.Valid) :
    let s := (Sender.init.run sch ops).close sch
    ∃ r', (Recv.init (joinB s.wire)).recvAll frag ((opsVals ops).map Val.kind) = (opsVals ops, r', none) ∧
      r'.unread = ByteArray.empty ∧
      r'.recvd = (joinB s.wire).size ∧ s.sent = (joinB s.wire).size := by
  intro s
  obtain ⟨c1, _, _, _, c5, _⟩ := C11_conn_close_delivers sch ops
  have hw : joinB s.wire = encodeVals (opsVals ops) ++ ByteArray.empty := by
    rw [c1, encodeAll_eq_encodeVals]; simp
  obtain ⟨r', e, i, u, a⟩ := recvAll_spec frag (opsVals ops) hv (Recv.init (joinB s.wire))
    (RInv_init _) ByteArray.empty (by rw [unread_init]; exact hw)
  refine ⟨r', e, u, ?_, c5⟩
  have hsz : r'.unread.size = 0 := by rw [u]; simp
  rw [size_unread] at hsz
  have h1 := i.pos_le
  have h2 := a.pend_eq
  have h3 := a.recvd_eq
  rw [h2] at h1 hsz
  simp only [Recv.init] at h1 h3 hsz
  omega

/-- **Both directions at once.**  The send half (`WriteBuf/WritePos/channels/
Sent/Flushed`) and the receive half (`ReadBuf/ReadStart/ReadEnd/Recvd`) of a
`Conn` share no state, so a duplex session is a pair of independent one-way
sessions; whatever A→B does (operations, writer schedule, fragmentation), B→A
round-trips, and vice versa. -/
theorem C11_conn_duplex (schA schB : Sched) (fragA fragB : Frag) (opsA opsB : List Op)
    (hA : ∀ v ∈ opsVals opsA, v.Valid) (hB : ∀ v ∈ opsVals opsB, v.Valid) :
    (∃ rB, (Recv.init (joinB ((Sender.init.run schA opsA).close schA).wire)).recvAll fragB
        ((opsVals opsA).map Val.kind) = (opsVals opsA, rB, none) ∧ rB.unread = ByteArray.empty) ∧
    (∃ rA, (Recv.init (joinB ((Sender.init.run schB opsB).close schB).wire)).recvAll fragA
        ((opsVals opsB).map Val.kind) = (opsVals opsB, rA, none) ∧ rA.unread = ByteArray.empty) := by
  obtain ⟨rB, e1, u1, _⟩ := C11_conn_roundtrip schA fragB opsA hA
  obtain ⟨rA, e2, u2, _⟩ := C11_conn_roundtrip schB fragA opsB hB
  exact ⟨⟨rB, e1, u1⟩, ⟨rA, e2, u2⟩⟩

/-- Non-vacuity: an operation list with every kind of send, flushes and
`NeedSpace` between them, whose values are all in the domain. -/
def exampleOps : List Op :=
  [.flush, .send (.byte 1), .needSpace 70000, .send (.data [9, 8, 7].toByteArray), .flush, .flush,
   .send (.u16 513), .send (.sizes [1, 2]), .needSpace 3, .send (.label 5), .send (.str "x".toUTF8),
   .send (.u32 0), .send (.data ByteArray.empty)]

theorem exampleOps_valid : ∀ v ∈ opsVals exampleOps, v.Valid := by
  intro v hv
  simp only [exampleOps, opsVals, List.mem_cons, List.not_mem_nil, or_false] at hv
  rcases hv with h | h | h | h | h | h | h | h <;> subst h <;> simp [Val.Valid] <;> decide

example (sch : Sched) (frag : Frag) := C11_conn_roundtrip sch frag exampleOps exampleOps_valid
example (s1 s2 : Sched) (f1 f2 : Frag) :=
  C11_conn_duplex s1 s2 f1 f2 exampleOps exampleOps exampleOps_valid exampleOps_valid

/-- **The physical buffer ring refines the value-level send half.**  In the
model with the three physical 64 KiB buffers made explicit (the sender writes
into the buffer `WriteBuf` aliases; `toWriter` carries slice headers whose
bytes are read only when the writer goroutine calls `conn.Write`;
`fromWriter` returns buffers for reuse), for every operation list and every
writer schedule: the current buffer, the queued buffers and the free buffers
are always pairwise distinct and are all `numBuffers` buffers (so the sender
never writes into a buffer that is queued or being written and `Flush` never
dead-locks), every queued slice covers exactly what was written into its
buffer, and reading the queued slices from memory *now* gives exactly the
state of the value-level model - hence every theorem above about
`Sender.init.run sch ops` holds for the ring; writer iterations commute with
`Ring.abs` (`abs_writerSteps`, `RingInv_writerSteps`). -/
theorem C11_conn_ring_refines (sch : Sched) (ops : List Op) :
    let r := Ring.init.run sch ops
    (r.cur :: (r.toW.map Prod.fst ++ r.fromW)).Nodup ∧
    1 + r.toW.length + r.fromW.length = numBuffers ∧
    (∀ p ∈ r.toW, p.2 = (getB r.mem p.1).size) ∧
    r.abs = Sender.init.run sch ops := by
  intro r
  have h := run_sim sch ops Refines_init
  exact ⟨h.inv.nodup, h.inv.count, h.inv.len_eq, h.abs⟩

/-- Ring version of `conn_send_inv`: the bytes already written, followed by
what the writer goroutine will read from the queued physical buffers, followed
by the content of the current buffer are the encoding of the operations so far. -/
theorem C11_conn_ring_send_inv (sch : Sched) (ops : List Op) :
    let r := Ring.init.run sch ops
    joinB (r.wire ++ r.toW.map (fun p => (getB r.mem p.1).extract 0 p.2)) ++ getB r.mem r.cur = encodeAll ops := by
  intro r
  obtain ⟨_, _, _, h⟩ := C11_conn_ring_refines sch ops
  have h0 := (C11_conn_send_inv sch ops 0).1
  simp only [Sender.writerSteps] at h0
  rw [← h] at h0
  exact h0

example (sch : Sched) := C11_conn_ring_refines sch exampleOps

/-- **conn_fault_prefix.**  The transport's `i`-th `Write` may fail after any
number of bytes (`fault i = some k`: short write + error), and it may recover
afterwards - EVERY fault pattern.  For every operation list, every writer
schedule and any number `j` of further writer iterations, both before and
after `Close`: the bytes that reached the transport are a PREFIX of the
encoding of the operations - no gap, no duplicate, no reordering - although
the writer goroutine keeps taking buffers, a failed `Flush` leaves `WritePos`
unchanged and `Close` queues that buffer a second time: since /repo f07ee15
the writer goroutine does not write any more once a `Write` has failed.  (The
caller stops at its first error and calls `Close`.) -/
theorem C11_conn_fault_prefix (fault : Fault) (sch : Sched) (ops : List Op) (j : Nat) :
    let r := FSender.init.run fault sch ops
    let c := r.1.close fault sch
    (∃ rem, joinB (r.1.writerSteps fault j).wire ++ rem = encodeAll ops) ∧
    (∃ rem, joinB (c.1.writerSteps fault j).wire ++ rem = encodeAll ops) := by
  intro r c
  have h := run_out_init fault sch ops
  exact ⟨h.wire_prefix j, (close_out fault sch h).wire_prefix j⟩

/-- **No success is reported silently** (every fault pattern, sticky or not).
(1) If every operation and `Close` returned `nil`, then every byte was written:
the wire is exactly the encoding of the operations, nothing is queued and
`Stats.Sent` is its length.  (2) Once an operation has returned an error,
`writerErr` is set for good, every later `Flush` with buffered data fails and
`Close` fails.  (3) Whenever any `Write` has failed by the time `Close`
returns, `Close` returns an error. -/
theorem C11_conn_fault_reported (fault : Fault) (sch : Sched) (ops : List Op) :
    let r := FSender.init.run fault sch ops
    let c := r.1.close fault sch
    (r.2.2 = true → c.2 = true →
      joinB c.1.wire = encodeAll ops ∧ c.1.queue = [] ∧ c.1.werr = false ∧
      c.1.sent = (encodeAll ops).size) ∧
    (r.2.2 = false → r.1.werr = true ∧ c.2 = false ∧
      ∀ k, r.1.cur.size ≠ 0 → (r.1.flush fault k).2 = false) ∧
    (c.1.werr = true → c.2 = false) := by
  intro r c
  obtain ⟨r1, r2⟩ := run_out_init fault sch ops
  refine ⟨fun hok hc => ?_, fun hbad => ?_, close_reports fault sch r.1⟩
  · exact ((close_finv fault sch r.1 _ (r1 hok)).1 hc).2
  · have hd := r2 hbad
    exact ⟨hd.werr, (close_dead fault sch r.1 _ hd).1, fun k => (flush_dead fault k r.1 _ hd).2⟩

/-- On a transport without faults the fault model never reports an error
(so by `C11_conn_fault_reported` it delivers everything: the error paths do
not disturb the fault-free behaviour). -/
theorem C11_conn_fault_free_ok (sch : Sched) (ops : List Op) :
    let r := FSender.init.run (fun _ => none) sch ops
    let c := r.1.close (fun _ => none) sch
    r.2.2 = true ∧ c.2 = true ∧ joinB c.1.wire = encodeAll ops := by
  intro r c
  obtain ⟨r1, r2⟩ := run_out_init (fun _ => none) sch ops
  have nodead : ∀ (s : FSender) (B : ByteArray), ¬ FDead (fun _ => none) s B := by
    intro s B hd
    obtain ⟨i, hne⟩ := hd.core.dirty hd.werr
    exact hne rfl
  have hok : r.2.2 = true := Bool.of_not_eq_false fun h => nodead _ _ (r2 h)
  obtain ⟨c1, c2⟩ := close_finv (fun _ => none) sch r.1 _ (r1 hok)
  have hc : c.2 = true := Bool.of_not_eq_false fun h => nodead _ _ (c2 h)
  exact ⟨hok, hc, (c1 hc).2.1⟩

/-- A transport with a TRANSIENT fault: only its first `Write` fails. -/
def gapFault : Fault := fun i => if i = 0 then some 0 else none
/-- two chunks `01` and `02` queued for the writer goroutine -/
def gapState : FSender := { queue := [[1].toByteArray, [2].toByteArray] }

/-- **old_writer_gap_witness** (finding `C11-writer-continues-after-write-error`,
fixed by /repo f07ee15).  With the writer iteration as it was BEFORE the fix
(`FSender.writerStepOld`: `conn.Write` unconditionally) and a transient fault,
two iterations over the queued chunks `01`, `02` put `02` on the wire without
the `01` before it - not a prefix of what was handed over.  The current writer
iteration writes nothing after the failed `Write`; both set `writerErr`. -/
theorem C11_old_writer_gap_witness :
    let old := (gapState.writerStepOld gapFault).writerStepOld gapFault
    let new := (gapState.writerStep gapFault).writerStep gapFault
    joinB old.handed = [1, 2].toByteArray ∧ joinB old.wire = [2].toByteArray ∧ old.werr = true ∧
    (¬ ∃ rem, joinB old.wire ++ rem = joinB old.handed) ∧
    joinB new.handed = [1, 2].toByteArray ∧ joinB new.wire = ByteArray.empty ∧ new.werr = true := by
  intro old new
  have hw : joinB old.wire = [2].toByteArray := by decide
  have hh : joinB old.handed = [1, 2].toByteArray := by decide
  refine ⟨hh, hw, by decide, ?_, by decide, by decide, by decide⟩
  rintro ⟨rem, h⟩
  rw [hw, hh] at h
  have h1 : ([2].toByteArray ++ rem).extract 0 1 = [2].toByteArray :=
    ByteArray.extract_append_eq_left (by decide)
  rw [h] at h1
  revert h1
  decide

/-- **conn_directions_independent.**  The receive direction of a connection
does not depend on what happens on its send direction.  Take two sessions of an
endpoint that start with the same receive side and are the same as far as the
receive direction is concerned (`recvView`: the same typed receives, the same
bytes accepted from the peer, the same peer close, in the same order) - but
with ANY typed sends, flushes, `NeedSpace` calls and writer-goroutine
iterations interleaved anywhere, under ANY fault pattern of the transport's
`Write` (failing, short, transient, permanent; a different one for every
event) and any writer schedule.  Then every typed receive returns the same
value or error in both, and the receive half ends in the same state in both -
the same window, the same `Stats.Recvd`, the same `epClosed` (no send-half event
closes the endpoint).  In particular (`evs' := recvView evs`) a failed send
discards nothing the peer has sent: values received and the receive counter are
a function of the bytes the peer sent, the read fragmentation and the receives
only.  (`Close` is the one send-side call that closes the transport - on its
success path; sessions are compared up to the local `Close`.) -/
theorem C11_conn_directions_independent (frag : Frag) (l l' : Local) (evs evs' : List Ev)
    (hr : l.r = l'.r) (hview : recvView evs = recvView evs')
    (hnc : ∀ e ∈ evs, e.isClose = false) (hnc' : ∀ e ∈ evs', e.isClose = false) :
    recvObs (Local.run false frag l evs).2 = recvObs (Local.run false frag l' evs').2 ∧
    (Local.run false frag l evs).1.r = (Local.run false frag l' evs').1.r := by
  obtain ⟨a1, a2⟩ := run_recvView frag evs l l hnc rfl
  obtain ⟨b1, b2⟩ := run_recvView frag evs' l' l hnc' hr.symm
  rw [hview] at a1 a2
  exact ⟨by rw [a2, b2], by rw [a1, b1]⟩

/-- a transport whose every `Write` fails having written nothing (the peer is gone) -/
def allFail : Fault := fun _ => some 0

/-- non-vacuity: the peer sends a byte and closes; the local side sends and flushes towards the
dead peer, the writer goroutine runs into the failing `Write`, then the local side receives -/
def failThenRecv : List Ev :=
  [.peerWrite [7].toByteArray, .peerClose, .op allFail lazySched (.send (.byte 1)),
   .op allFail lazySched .flush, .writer allFail 1, .recv .byte]

example (frag : Frag) := C11_conn_directions_independent frag Local.init Local.init failThenRecv
  (recvView failThenRecv) rfl (by simp [failThenRecv, recvView, Ev.isSend])
  (by simp [failThenRecv, Ev.isClose]) (by simp [failThenRecv, recvView, Ev.isSend, Ev.isClose])

/-- **conn_duplex_faults** (`C11_conn_duplex` with faults and with arrival
interleaved with the receives).  The peer's bytes are accepted by the transport
in any chunking and at any time, in rounds: after each round's chunks the
local side receives that round's values (`RoundsOK`: every receive happens when
its value has arrived completely; what arrived early is carried over); then the
peer closes and one more receive of any kind follows.  Interleave ANY local
typed sends, flushes and writer iterations under ANY fault patterns and
schedules.  Then the typed receives return exactly the peer's values in order,
then the end of the stream (never an error of the send direction, never a
closed transport); all bytes of the peer are the encoding of those values, and
`Stats.Recvd` equals the number of bytes the transport accepted from the peer. -/
theorem C11_conn_duplex_faults (frag : Frag) (l : Local) (hl : l.r = {}) (evs : List Ev) (rs : List Round)
    (k : Kind) (hnc : ∀ e ∈ evs, e.isClose = false)
    (hview : recvView evs = roundsEvs rs ++ [Ev.peerClose, Ev.recv k])
    (hok : RoundsOK ByteArray.empty rs) (hlast : lastTail ByteArray.empty rs = ByteArray.empty) :
    recvObs (Local.run false frag l evs).2 = (roundsVals rs).map Obs.got ++ [Obs.rerr RErr.eof] ∧
    roundsBytes rs = encodeVals (roundsVals rs) ∧
    (Local.run false frag l evs).1.r.rcv.recvd = (roundsBytes rs).size := by
  obtain ⟨a1, a2⟩ := run_recvView frag evs l l hnc rfl
  rw [hview] at a1 a2
  obtain ⟨snd, r⟩ := l
  obtain rfl : r = {} := hl
  have hu : ({} : Recv).unread = ByteArray.empty := unread_init _
  obtain ⟨r', e1, o1, i1, u1, (p1 : r'.pend = ByteArray.empty ++ roundsBytes rs),
      (c1 : r'.recvd + 0 = 0 + r'.pos)⟩ :=
    run_rounds false frag rs ⟨snd, {}⟩ rfl rfl (RInv_init _) (show RoundsOK ({} : Recv).unread rs from hu.symm ▸ hok)
  have u1 : r'.unread = ByteArray.empty := by rw [u1]; show lastTail ({} : Recv).unread rs = _; rw [hu, hlast]
  have hbytes := rounds_bytes ByteArray.empty rs hok
  rw [hlast, ByteArray.empty_append, ByteArray.append_empty] at hbytes
  have hex := recvVal_exhausted frag k r' i1 u1
  -- everything has been taken from the transport
  have hsz := size_unread r'
  rw [u1, p1, ByteArray.empty_append] at hsz
  have hfin : (Local.run false frag ⟨snd, { rcv := r' }⟩ [Ev.peerClose, Ev.recv k]).2 =
        [Obs.skip, Obs.rerr RErr.eof] ∧
      (Local.run false frag ⟨snd, { rcv := r' }⟩ [Ev.peerClose, Ev.recv k]).1.r.rcv.recvd =
        r'.recvd + (r'.pend.size - r'.pos) := by
    simp [Local.run_cons, Local.run_nil, Local.step, RSide.peerClose, RSide.recv, hex, classify]
  rw [Local.run_append, e1] at a1 a2
  refine ⟨?_, hbytes, ?_⟩
  · rw [a2]
    simp only [recvObs_append, o1, hfin.1, recvObs]
  · rw [a1]
    show (Local.run false frag ⟨snd, { rcv := r' }⟩ [Ev.peerClose, Ev.recv k]).1.r.rcv.recvd = _
    rw [hfin.2, p1, ByteArray.empty_append]
    have hp := i1.pos_le
    rw [p1, ByteArray.empty_append] at hp
    have : (ByteArray.empty : ByteArray).size = 0 := rfl
    omega

/-- **Round trip with a failing return direction.**  B sends any operation list
(any flush placement, any writer schedule) and closes; the transport hands B's
`Write` chunks to A one by one.  A meanwhile sends, flushes and runs its writer
goroutine in any way under ANY fault pattern (B may be gone: every `Write` of A
may fail) - before, between and after the arrival of B's chunks and A's
receives.  A's matching typed receives return exactly B's values, then the end
of the stream; A's `Stats.Recvd` equals B's `Stats.Sent`. -/
theorem C11_conn_duplex_faults_roundtrip (schB : Sched) (frag : Frag) (opsB : List Op)
    (hB : ∀ v ∈ opsVals opsB, v.Valid) (l : Local) (hl : l.r = {}) (evs : List Ev) (k : Kind)
    (hnc : ∀ e ∈ evs, e.isClose = false)
    (hview : recvView evs =
      (((Sender.init.run schB opsB).close schB).wire.map Ev.peerWrite ++
        (opsVals opsB).map fun v => Ev.recv v.kind) ++ [Ev.peerClose, Ev.recv k]) :
    recvObs (Local.run false frag l evs).2 = (opsVals opsB).map Obs.got ++ [Obs.rerr RErr.eof] ∧
    (Local.run false frag l evs).1.r.rcv.recvd = ((Sender.init.run schB opsB).close schB).sent := by
  obtain ⟨c1, _, _, _, c5, _⟩ := C11_conn_close_delivers schB opsB
  let rd : Round := ⟨((Sender.init.run schB opsB).close schB).wire, opsVals opsB, ByteArray.empty⟩
  have hok : RoundsOK ByteArray.empty [rd] :=
    ⟨hB, by show ByteArray.empty ++ joinB _ = encodeVals (opsVals opsB) ++ ByteArray.empty
            rw [c1, encodeAll_eq_encodeVals]; simp, trivial⟩
  obtain ⟨t1, _, t3⟩ := C11_conn_duplex_faults frag l hl evs [rd] k hnc
    (by rw [hview]; simp [roundsEvs, roundEvs, rd]) hok rfl
  refine ⟨by simpa [roundsVals, rd] using t1, ?_⟩
  rw [t3, c5]
  simp [roundsBytes, rd]

example (sch : Sched) (frag : Frag) (k : Kind) (f : Fault) :=
  C11_conn_duplex_faults_roundtrip sch frag exampleOps exampleOps_valid Local.init rfl
    ([Ev.op f sch (.send (.u32 42)), Ev.op f sch .flush] ++
      (((Sender.init.run sch exampleOps).close sch).wire.map Ev.peerWrite ++
        (opsVals exampleOps).map fun v => Ev.recv v.kind) ++ [Ev.peerClose, Ev.recv k]) k

/-- non-vacuity of `RoundsOK`: a 3-byte data value whose length prefix arrives in the first round
(together with a byte that is received at once), its body in the second -/
example : RoundsOK ByteArray.empty
    [⟨[[9, 0, 0].toByteArray, [0, 3].toByteArray], [.byte 9], [0, 0, 0, 3].toByteArray⟩,
     ⟨[[1, 2, 3].toByteArray], [.data [1, 2, 3].toByteArray], ByteArray.empty⟩] :=
  ⟨by simp [Val.Valid], by decide, by simp [Val.Valid], by decide, trivial⟩

/-- **closing_writer_couples_directions_witness** (negation witness for a
writer goroutine that closes the transport when a `Write` fails, `wc = true`
in `Local.sendEffect`).  The peer sends the byte `07` and closes; the local side sends
a byte and flushes towards the dead peer, its writer goroutine runs into the
failing `Write`; then it receives.  The code as it is (`wc = false`) returns
the peer's byte.  With the closing writer the same receive fails with
"closed" - although without the sends (`recvView`) it returns the byte: the
receive direction depends on the send direction, data the peer sent and closed
behind is discarded. -/
theorem C11_closing_writer_couples_directions_witness (frag : Frag) :
    recvObs (Local.run false frag Local.init failThenRecv).2 = [Obs.got (.byte 7)] ∧
    recvObs (Local.run true frag Local.init failThenRecv).2 = [Obs.rerr RErr.closed] ∧
    recvObs (Local.run true frag Local.init (recvView failThenRecv)).2 = [Obs.got (.byte 7)] := by
  have hview : recvView failThenRecv = [.peerWrite [7].toByteArray, .peerClose, .recv .byte] := by
    simp [failThenRecv, recvView, Ev.isSend]
  -- without the sends: the byte arrives and is received (whatever the writer would do)
  have hplain : ∀ wc, recvObs (Local.run wc frag Local.init
      [.peerWrite [7].toByteArray, .peerClose, .recv .byte]).2 = [Obs.got (.byte 7)] := by
    intro wc
    let l1 : Local := { r := { rcv := { pend := ByteArray.empty ++ [7].toByteArray }, inClosed := true } }
    have h1 : Local.run wc frag Local.init [.peerWrite [7].toByteArray, .peerClose, .recv .byte] =
        ((Local.run wc frag l1 [.recv .byte]).1, Obs.skip :: Obs.skip :: (Local.run wc frag l1 [.recv .byte]).2) := by
      simp [Local.run_cons, Local.step, RSide.peerWrite, RSide.peerClose, Local.init, l1]
    obtain ⟨r', e, _⟩ := run_recvs wc frag [.byte 7] (by simp [Val.Valid]) l1 rfl rfl
      ⟨Nat.le_refl _, by decide, by decide⟩ ByteArray.empty (by decide)
    rw [h1]
    have e' : Local.run wc frag l1 [.recv .byte] = _ := e
    rw [e']
    simp [recvObs]
  refine ⟨?_, ?_, by rw [hview]; exact hplain true⟩
  · rw [(run_recvView frag failThenRecv Local.init Local.init (by simp [failThenRecv, Ev.isClose]) rfl).2, hview]
    exact hplain false
  · -- the closing writer: after the failed Write the endpoint is closed
    let l4 : Local := (Local.run true frag Local.init (failThenRecv.take 5)).1
    have hsplit : failThenRecv = failThenRecv.take 5 ++ [.recv .byte] := by simp [failThenRecv]
    obtain ⟨c1, c2, c3⟩ : l4.r.epClosed = true ∧ l4.r.dead = false ∧
        l4.r.rcv = { pend := ByteArray.empty ++ [7].toByteArray } := by
      simp [l4, failThenRecv, Local.run_cons, Local.run_nil, Local.step, RSide.peerWrite, RSide.peerClose,
        Local.init, sendEffect_epClosed, sendEffect_snd, sendEffect_dead, sendEffect_rcv]
      decide
    have hobs : recvObs (Local.run true frag Local.init (failThenRecv.take 5)).2 = [] := by
      simp [failThenRecv, Local.run_cons, Local.run_nil, Local.step, recvObs]
    have hex := recvVal_exhausted frag .byte { pend := (ByteArray.empty ++ [7].toByteArray).extract 0 0 }
      ⟨Nat.le_refl _, by decide, by decide⟩ (by decide)
    have hlast : (l4.step true frag (.recv .byte)).2 = Obs.rerr RErr.closed := by
      simp only [Local.step, RSide.recv, c1, c2, c3, Bool.false_eq_true, if_false, if_true]
      rw [hex]
      simp [classify]
    rw [hsplit, Local.run_append, recvObs_append, hobs]
    simp only [Local.run_cons, Local.run_nil, List.nil_append]
    show recvObs [(l4.step true frag (.recv .byte)).2] = _
    rw [hlast]
    rfl

/-- **The session model is two endpoint sessions.**  In the two-endpoint
model `Sess` that the driver runs against the real code (two `Conn`s over two
independent byte queues; a `Write` towards a closed endpoint fails at once or
after `grace` accepted-and-discarded `Write`s), for every script of steps
(either side: typed send / `Flush` / `NeedSpace`, typed receive, `Close`, in
any order) each side's state and everything its calls returned is a session
`Local.run` of that endpoint for some event list - so the theorems above hold
for every side of every session the correspondence runs. -/
theorem C11_sess_sides_are_local_runs (fragA fragB : Frag) (script : List (Bool × Act)) (gAB gBA : Nat) :
    let s := Sess.run fragA fragB { graceAB := gAB, graceBA := gBA } script
    (∃ evA, (s.a, s.obsA) = Local.run false fragA Local.init evA) ∧
    (∃ evB, (s.b, s.obsB) = Local.run false fragB Local.init evB) := by
  suffices inv : ∀ (script : List (Bool × Act)) (s : Sess),
      Reachable fragA s.a s.obsA ∧ Reachable fragB s.b s.obsB →
      Reachable fragA (Sess.run fragA fragB s script).a (Sess.run fragA fragB s script).obsA ∧
      Reachable fragB (Sess.run fragA fragB s script).b (Sess.run fragA fragB s script).obsB from
    inv script _ ⟨⟨[], rfl⟩, ⟨[], rfl⟩⟩
  intro script
  induction script with
  | nil => exact fun s h => h
  | cons st rest ih =>
    intro s ⟨hA, hB⟩
    refine ih (s.step fragA fragB st) ?_
    unfold Sess.step
    split
    · exact (sideStep_reachable hB hA s.graceBA s.discBA st.2).symm
    · exact sideStep_reachable hA hB s.graceAB s.discAB st.2

example (fragA fragB : Frag) := C11_sess_sides_are_local_runs fragA fragB
  [(true, .op (.send (.byte 7))), (true, .close), (false, .op (.send (.u32 1))), (false, .op .flush),
   (false, .recv .byte), (false, .close)] 0 1

/-- The fixed-width encodings are big-endian and decode to the value sent
(what `ReceiveUint16/32/Label` compute from the window). -/
theorem C11_be_roundtrip (k n : Nat) (h : n < 256 ^ k) :
    (be k n).size = k ∧ decodeBE (be k n) = n := by
  exact ⟨size_be k n, by rw [decodeBE_be, Nat.mod_eq_of_lt h]⟩

example : be 2 0x1234 = [0x12, 0x34].toByteArray := by decide
example : be 4 0xdeadbeef = [0xde, 0xad, 0xbe, 0xef].toByteArray := by decide
example : (Val.data [5, 6].toByteArray).encode = [0, 0, 0, 2, 5, 6].toByteArray := by decide

end Mpc
