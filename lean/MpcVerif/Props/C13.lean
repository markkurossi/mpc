/-
C13  Input and output value encoding is lossless and consistent.

The model is Model/IoArg.lean (circuit/ioarg.go, result.go, types/types.go,
types/parse.go) and, for the size inference with struct members
(`C13_instantiate_…`, `C13_mainarg_…`: `Ty.inst`, `mainArg`), Model/IoInst.lean.
The vocabulary of the statements is in Proofs/IoArg.lean (`Fits`, `encLeaf`,
`encMembers`, `concatWires`, `writtenBits`, `Clean`) and Proofs/IoInst.lean
(`Ty.sized`, `Ty.layoutOk`, `Ty.agree`).

A `*big.Int` is an `Int`; the wires of an argument are
`wire z n` = the bits `z.Bit(0..n-1)` (two's complement for negative `z`),
which is how garbler/evaluator/computer read an input.  `StrFacts` is what the
code reads off an input string (`num` = outcome of `big.Int.SetString(s,0)`,
given).  `GoVal` is a dynamic Go value handed to `Set`/`Sizes`.

Status against /repo HEAD.  Five defects are repaired by commits 66e4e03
(`mpc.Result` no longer rewrites its argument), 485d3fb (`bitLen` loop bound
`i > 0`), 95af76e (`setInt` writes exactly `t.Bits` bits,
sign-extended above bit 63), 74f1961 (`Result` decodes arrays of arrays /
slices / structs) and 4a72a07 (`InstantiateWithSizes` hands a struct member the
sizes that follow the ones consumed by the members before it).  The model
follows the repaired code and the corresponding theorems are full-strength;
what was wrong is stated about explicitly named OLD definitions
(`resultIntOld`, `bitLenOld`, `setIntOld`, `Ty.instOld`).
Still violated (`C13_sizes_negative_witness` next to `C13_sizes_agree_partial`):
  for negative values `Sizes` = 64 while `InputSizes` = bit length of |v|,
  which is too short for the two's complement form.
-/
import MpcVerif.Proofs.IoArg
import MpcVerif.Proofs.IoInst

namespace Mpc
open IoArg

/-- Integers, full statement: for every width (1..∞, also > 64), every value
`v` of an `int8…uint64` Go kind (`s`: signed kind) and every spelling of `v`
(`st.num = v`: decimal, 0x, 0b, 0o, sign), `Parse` and `Set` succeed and put
the same bits on the `t.bits` wires. -/
theorem C13_int_wire_bits_parse_eq_set
    (t : Info) (ht : t.tag = .int ∨ t.tag = .uint) (st : StrFacts) (v : Int) (s : Bool) (w : Nat)
    (hnum : st.num = some v) (hv : v < (2 ^ 64 : Nat)) (hlo : -((2 ^ 63 : Nat) : Int) ≤ v)
    (hs : v < 0 → s = true) :
    ∃ r, (Arg.mk t []).set [.num s w v] = .ok r ∧ (Arg.mk t []).parse [st] = .ok v ∧
      wire (r : Int) t.bits = wire v t.bits := by
  refine ⟨_, Arg.set_leaf (setLeaf_num ht s w hv hlo hs 0 0), (Arg.parse_leaf t st).trans (parseLeaf_num ht hnum), ?_⟩
  rw [wire_eq_iff]
  intro j hj
  rw [ibit_ofNat, testBit_writeBits_zero, decide_eq_true hj, Bool.true_and]

example : ∃ (t : Info) (st : StrFacts) (v : Int) (s : Bool), (t.tag = .int ∨ t.tag = .uint) ∧ 64 < t.bits ∧
    st.num = some v ∧ v < (2 ^ 64 : Nat) ∧ -((2 ^ 63 : Nat) : Int) ≤ v ∧ (v < 0 → s = true) ∧ v < 0 :=
  ⟨.base .int 65 0, ⟨none, false, false, 2, none, some (-1)⟩, -1, true, by decide⟩

/-- What was wrong before commit 95af76e, about the OLD `setInt` window: `int65`,
value −1: the 64-bit window leaves wire 64 at 0 (the text "-1" sets it); and
for `int8` the window reaches past the argument's 8 wires (wire 8 set). -/
theorem C13_old_setInt_witness :
    wire ((setIntOld 0 (-1) 0 : Nat) : Int) 65 ≠ wire (-1) 65 ∧
    (setIntOld 0 (-1) 0).testBit 8 = true ∧ (setIntOld 0 1 0).testBit 8 = false := by
  decide +kernel

/- Arrays and slices, textual form.  `N` is the written number, `writtenBits`
the number of bits Parse takes as written (4 per hex digit after "0x", else
the bit length), `ceilDiv (writtenBits st N) el.bits` the number of written
elements. -/

/-- `Parse` of an array/slice literal: element `i` of the result (wires
`i*w .. i*w+w-1`) is the `i`-th `w`-bit group of the written number counted
from the most significant group (declaration order), elements beyond the
written ones are zero (short literals are padded), nothing is written above
the last element, and no written bit is dropped. Every element width `w ≥ 1`,
every count including 0. -/
theorem C13_parse_array_elements
    (tag : Tag) (htag : tag = .array ∨ tag = .slice) (bits arraySize : Nat) (el : Info)
    (st : StrFacts) (N : Nat) (hnum : st.num = some (N : Int)) (hw : 0 < el.bits)
    (hhex : st.hex0x = true → N < 2 ^ ((st.len - 2) * 4))
    (hk : ceilDiv (writtenBits st N) el.bits ≤
      (if tag = .slice then ceilDiv (writtenBits st N) el.bits else arraySize)) :
    ∃ z : Nat, parseLeaf (.elem tag bits arraySize el) st = .ok (z : Int) ∧
      (∀ i b, i < (if tag = .slice then ceilDiv (writtenBits st N) el.bits else arraySize) → b < el.bits →
          z.testBit (i * el.bits + b) =
            (decide (i < ceilDiv (writtenBits st N) el.bits) &&
              N.testBit ((ceilDiv (writtenBits st N) el.bits - i - 1) * el.bits + b))) ∧
      (∀ j, (if tag = .slice then ceilDiv (writtenBits st N) el.bits else arraySize) * el.bits ≤ j →
          z.testBit j = false) ∧
      N < 2 ^ (ceilDiv (writtenBits st N) el.bits * el.bits) :=
  have ⟨h1, h2⟩ := testBit_packElems_lsh N _ _ el.bits hk
  ⟨_, parseLeaf_elem tag htag bits arraySize el st N hnum hw rfl rfl hk, h1, h2,
    Nat.lt_of_lt_of_le (lt_two_pow_writtenBits hhex) (Nat.pow_le_pow_right (by omega) (le_ceilDiv_mul _ _ hw))⟩

example : ∃ (st : StrFacts) (N : Nat), st.num = some (N : Int) ∧ (st.hex0x = true → N < 2 ^ ((st.len - 2) * 4)) ∧
    ceilDiv (writtenBits st N) 8 ≤ 4 :=
  ⟨⟨none, false, true, 6, none, some 0xa0a1⟩, 0xa0a1, by decide⟩

/-- `Set` of one leaf argument at offset `o` into a result with no bit set at
or above `o`: the lower bits are untouched, the argument's wires hold
`encLeaf` (two's complement little-endian per element, elements in order,
short `[]byte` values and `nil` padded with zeros), nothing above the
argument's own wires is touched. -/
theorem C13_set_bytes_elements (t : Info) (v : GoVal) (hf : Fits t v) (r o : Nat) (hc : Clean r o) :
    ∃ r', setLeaf t r v o = .ok (r', o + t.bits) ∧
      (∀ j, j < o → r'.testBit j = r.testBit j) ∧
      Clean r' (o + t.bits) ∧
      (∀ i, i < t.bits → r'.testBit (o + i) = encLeaf t v i) :=
  ⟨_, setLeaf_eq t v hf r o hc, fun _ hj => testBit_writeBits_lt hj, hc.writeBits _ _,
    fun _ hi => testBit_writeBits_add hi⟩

example : Fits (.elem .array (4 * 8) 4 (.base .uint 8 0)) (.bytes [0xa0, 0xa1]) ∧ Clean 0 0 :=
  ⟨Fits.arrayBytes 4 (.base .uint 8 0) [0xa0, 0xa1] (Or.inr rfl) (by decide) (by decide),
   clean_zero 0⟩

/-- Arrays: when the text denotes the same elements as the `[]byte` value
(`hden`: the `bs.length` written groups are the bytes, zero-extended to the
element width), `Parse` and `Set` put the same bits on all `count*w` wires;
short and empty values are padded identically.  Element widths 8..∞. -/
theorem C13_array_wire_bits_parse_eq_set
    (count : Nat) (el : Info) (bs : List Nat) (st : StrFacts) (N : Nat)
    (htag : el.tag = .int ∨ el.tag = .uint) (hw : 8 ≤ el.bits) (hk : bs.length ≤ count)
    (hb : ∀ b, b ∈ bs → b < 256)
    (hnum : st.num = some (N : Int)) (hhex : st.hex0x = true → N < 2 ^ ((st.len - 2) * 4))
    (hcnt : ceilDiv (writtenBits st N) el.bits = bs.length)
    (hden : ∀ e c, (h : e < bs.length) → c < el.bits →
      N.testBit ((bs.length - e - 1) * el.bits + c) = bs[e].testBit c) :
    ∃ (z r : Nat), (Arg.mk (.elem .array (count * el.bits) count el) []).parse [st] = .ok (z : Int) ∧
      (Arg.mk (.elem .array (count * el.bits) count el) []).set [.bytes bs] = .ok r ∧
      wire (z : Int) (count * el.bits) = wire (r : Int) (count * el.bits) := by
  have hw0 : 0 < el.bits := by omega
  obtain ⟨z, hz, hz1, _, _⟩ := C13_parse_array_elements .array (Or.inl rfl) (count * el.bits) count el st N hnum hw0
    hhex (by simp [hcnt, hk])
  have hr := setLeaf_eq _ _ (Fits.arrayBytes count el bs htag hw hk) 0 0 (clean_zero 0)
  refine ⟨z, _, (Arg.parse_leaf _ st).trans hz, Arg.set_leaf hr, ?_⟩
  rw [wire_eq_iff]
  intro j hj
  rw [ibit_ofNat, ibit_ofNat, testBit_writeBits_zero, Info.bits_elem, decide_eq_true hj, Bool.true_and]
  have hml : j % el.bits < el.bits := Nat.mod_lt _ hw0
  have hi : j / el.bits < count := Nat.div_lt_of_lt_mul (by rw [Nat.mul_comm]; exact hj)
  have h1 := hz1 (j / el.bits) (j % el.bits) (by simpa using hi) hml
  rw [Nat.div_add_mod'] at h1
  rw [h1, hcnt]
  simp only [encLeaf]
  by_cases he : j / el.bits < bs.length
  · rw [hden _ _ he hml]
    have hlt : bs[j / el.bits] < 256 := hb _ (List.getElem_mem he)
    simp [he, List.getD, Nat.mod_eq_of_lt hlt]
  · simp [he]

example : ∃ (bs : List Nat) (st : StrFacts) (N : Nat), bs ≠ [] ∧ (∀ b, b ∈ bs → b < 256) ∧
    st.num = some (N : Int) ∧ ceilDiv (writtenBits st N) 8 = bs.length ∧
    (∀ e c, (h : e < bs.length) → c < 8 →
      N.testBit ((bs.length - e - 1) * 8 + c) = bs[e].testBit c) :=
  ⟨[0xa0, 0xa1], ⟨none, false, true, 6, none, some 0xa0a1⟩, 0xa0a1, by decide, by decide, rfl, by decide,
    fun e c h hc => (by decide : ∀ e, (h : e < [0xa0, 0xa1].length) → ∀ c, c < 8 →
      Nat.testBit 0xa0a1 (([0xa0, 0xa1].length - e - 1) * 8 + c) =
        ([0xa0, 0xa1] : List Nat)[e].testBit c) e h c hc⟩

/-- `Parse` of a compound argument whose members are leaves: the result is
exactly the concatenation of the members' wires at the running offset
(declaration order), each member contributing the low `Type.Bits` two's
complement bits of its own parse result; nothing else is set. -/
theorem C13_parse_compound_wires (t : Info) (ms : List (Info × StrFacts × Int)) (hne : ms ≠ [])
    (h : ∀ m, m ∈ ms → parseLeaf m.1 m.2.1 = .ok m.2.2) :
    ∃ z : Nat, (Arg.mk t (ms.map fun m => leaf m.1)).parse (ms.map fun m => m.2.1) = .ok (z : Int) ∧
      ∀ j, z.testBit j = concatWires (ms.map fun m => (m.1.bits, m.2.2)) j :=
  ⟨_, Arg.parse_leaves t ms hne h, testBit_concatWires _⟩

example : ∃ ms : List (Info × StrFacts × Int), ms ≠ [] ∧ ∀ m, m ∈ ms → parseLeaf m.1 m.2.1 = .ok m.2.2 :=
  ⟨[(.base .int 8 0, ⟨none, false, false, 2, none, some (-1)⟩, -1)], List.cons_ne_nil _ _,
    fun m hm => by rw [List.mem_singleton.1 hm]; rfl⟩

/-- Member independence (textual form): replacing the input of one member
changes no wire outside that member's own `Type.Bits` wires. -/
theorem C13_parse_member_independent (t : Info) (pre post : List (Info × StrFacts × Int))
    (ti : Info) (st st' : StrFacts) (x x' : Int)
    (hpre : ∀ m, m ∈ pre → parseLeaf m.1 m.2.1 = .ok m.2.2)
    (hpost : ∀ m, m ∈ post → parseLeaf m.1 m.2.1 = .ok m.2.2)
    (hx : parseLeaf ti st = .ok x) (hx' : parseLeaf ti st' = .ok x') :
    ∃ z z' : Nat,
      (Arg.mk t ((pre ++ (ti, st, x) :: post).map fun m => leaf m.1)).parse
        ((pre ++ (ti, st, x) :: post).map fun m => m.2.1) = .ok (z : Int) ∧
      (Arg.mk t ((pre ++ (ti, st', x') :: post).map fun m => leaf m.1)).parse
        ((pre ++ (ti, st', x') :: post).map fun m => m.2.1) = .ok (z' : Int) ∧
      ∀ j, (j < widthSum (pre.map fun m => (m.1.bits, m.2.2)) ∨
            widthSum (pre.map fun m => (m.1.bits, m.2.2)) + ti.bits ≤ j) →
        z.testBit j = z'.testBit j := by
  obtain ⟨z, hz, hzw⟩ := C13_parse_compound_wires t (pre ++ (ti, st, x) :: post) (by simp) (List.forall_mem_append.2 ⟨hpre, List.forall_mem_cons.2 ⟨hx, hpost⟩⟩)
  obtain ⟨z', hz', hzw'⟩ := C13_parse_compound_wires t (pre ++ (ti, st', x') :: post) (by simp) (List.forall_mem_append.2 ⟨hpre, List.forall_mem_cons.2 ⟨hx', hpost⟩⟩)
  refine ⟨z, z', hz, hz', ?_⟩
  intro j hj
  rw [hzw, hzw']
  simp only [List.map_append, List.map_cons, concatWires_append, concatWires]
  rcases hj with hj | hj
  · rw [if_pos hj, if_pos hj]
  · rw [if_neg (by omega), if_neg (by omega), if_neg (by omega), if_neg (by omega)]

/-- `Set` of a compound argument whose members are leaves, full statement:
for all member values that `Fit` (every `int8…uint64` value for integer
members of any width, bools, `[]byte`/`nil` for arrays and slices) the
`totalBits` wires are the concatenation of the members' encodings `encLeaf`
at the running offset — in particular member `k`'s wires depend on member
`k`'s value only. -/
theorem C13_set_compound_wires (t : Info) (ms : List (Info × GoVal)) (hne : ms ≠ [])
    (hf : ∀ m, m ∈ ms → Fits m.1 m.2) :
    ∃ r : Nat, (Arg.mk t (ms.map fun m => leaf m.1)).set (ms.map (·.2)) = .ok r ∧
      ∀ j, j < totalBits ms → r.testBit j = encMembers ms j :=
  ⟨_, Arg.set_leaves t ms hne hf, fun j hj => by rw [testBit_writeBits_zero, decide_eq_true hj, Bool.true_and]⟩

example : ∃ ms : List (Info × GoVal), ms ≠ [] ∧ ∀ m, m ∈ ms → Fits m.1 m.2 :=
  ⟨[(.base .int 8 0, .num true 8 (-1)), (.elem .array (4 * 8) 4 (.base .uint 8 0), .nil)], by simp, by
    intro m hm
    simp at hm
    rcases hm with h | h <;> subst h
    · exact Fits.num .int 8 0 true 8 (-1) (Or.inl rfl) (by decide) (by decide) (fun _ => rfl)
    · exact Fits.arrayNil 4 (.base .uint 8 0) (Or.inr rfl)⟩

/-- The case in which `setIntOld` spilled (`C13_old_setInt_witness`), on
`setInt`: struct {int8; [4]byte; uint32} with (1, nil, 7) and with (−1, nil, 7):
wire 8 (the array's first wire) is 0 in both, and `Set` of (−1, nil, 7) equals
`Parse` of "-1","0","7". -/
theorem C13_set_spill_case_now_correct :
    let arg := Arg.mk (.base .struct 72 0)
      [leaf (.base .int 8 0), leaf (.elem .array 32 4 (.base .uint 8 0)), leaf (.base .uint 32 0)]
    arg.set [.num true 8 1, .nil, .num false 32 7] = .ok 0x70000000001 ∧
    arg.set [.num true 8 (-1), .nil, .num false 32 7] = .ok 0x700000000ff ∧
    arg.parse [⟨none, false, false, 2, none, some (-1)⟩, ⟨some false, false, false, 1, none, some 0⟩,
      ⟨none, false, false, 1, none, some 7⟩] = .ok 0x700000000ff := by
  decide +kernel

/-- `bitLen` is the bit length for every 64-bit value ≥ 1, and 1 for 0
(full statement; loop bound `i > 0` since commit 485d3fb). -/
theorem C13_bitLen_spec (v : Nat) (hv : v < 2 ^ 64) :
    (1 ≤ v → bitLen v = natBitLen v) ∧ bitLen 0 = 1 :=
  ⟨bitLen_spec v hv, bitLen_zero⟩

example : (2 : Nat) < 2 ^ 64 ∧ 1 ≤ 2 ∧ bitLen 2 = 2 ∧ bitLen 3 = 2 := by decide +kernel

/- Full statement (still FALSE at negative values, see
   `C13_sizes_negative_witness`): `Sizes [v] = InputSizes [decimal v]` = the
   width that is written. -/

/-- Every non-negative 64-bit value: `Sizes` of the Go integer and
`InputSizes` of a non-literal, non-"0x" spelling of the same number agree and
equal its bit length (`n ≥ 1`; the decimal text of every `n ≥ 2` is such a
spelling), and for 0 and 1 spelled "0"/"1" (bool literals) both give 1. -/
theorem C13_sizes_agree_partial (n : Nat) (hn : n < 2 ^ 64) (s : Bool) (w : Nat) (st : StrFacts)
    (hu : st.underscore = false) :
    (1 ≤ n → st.boolLit = none → st.hex0x = false → st.reHex = none → st.num = some (n : Int) →
      sizeOf1 (.num s w n) = .ok (natBitLen n) ∧ inputSize1 st = .ok (natBitLen n)) ∧
    (n < 2 → st.boolLit.isSome → sizeOf1 (.num s w n) = .ok 1 ∧ inputSize1 st = .ok 1) := by
  constructor
  · intro h1 hb hx hre hnum
    constructor
    · simp [sizeOf1, ival_ofNat n hn, bitLen_spec n hn h1]
    · simpa [writtenBits, hx] using inputSize1_written hu hb (fun _ => hre) hnum
  · intro h2 hb
    have : bitLen n = 1 := by
      have : n = 0 ∨ n = 1 := by omega
      rcases this with h | h <;> subst h <;> decide
    constructor
    · simp [sizeOf1, ival_ofNat n hn, this]
    · simp [inputSize1, hu, hb]

example : ∃ (n : Nat) (st : StrFacts), n < 2 ^ 64 ∧ 1 ≤ n ∧ st.underscore = false ∧ st.boolLit = none ∧ st.hex0x = false ∧
    st.reHex = none ∧ st.num = some (n : Int) :=
  ⟨3, ⟨none, false, false, 1, none, some 3⟩, by decide⟩

/-- What was wrong before commit 485d3fb, about the OLD definition: the loop
`i > 1` gave 1 for the values 2 and 3 (the text "2"/"3" is sized 2). -/
theorem C13_old_bitLen_2_3_witness :
    bitLenOld 2 = 1 ∧ bitLenOld 3 = 1 ∧ bitLen 2 = 2 ∧ bitLen 3 = 2 ∧
    inputSize1 ⟨none, false, false, 1, none, some 2⟩ = .ok 2 ∧
    inputSize1 ⟨none, false, false, 1, none, some 3⟩ = .ok 2 := by
  decide +kernel

/-- Witness of what is still violated (header), negative values: `int8(-3)`
gives 64, the text "-3" gives 2, and 2 wires cannot hold −3: they carry the same bits as +1. -/
theorem C13_sizes_negative_witness :
    sizeOf1 (.num true 8 (-3)) = .ok 64 ∧
    inputSize1 ⟨none, false, false, 2, none, some (-3)⟩ = .ok 2 ∧
    wire (-3) 2 = wire 1 2 := by
  decide +kernel

/-- `Result` inverts the encoding of every unsigned value of every width:
`uint8/16/32/64` for widths up to 64, `*big.Int` above; the cell is unchanged. -/
theorem C13_result_inverts_uint (n a : Nat) (v : Nat) (hv : v < 2 ^ n) :
    result (.base .uint n a) (v : Int) =
      .ok (if n ≤ 64 then .u (widthClass n) v else .big v, (v : Int)) := by
  by_cases h : n ≤ 64
  · obtain ⟨h1, h2, h3⟩ := widthClass_le h
    have hc0 : widthClass n ≠ 0 := by omega
    have hvc : v < 2 ^ widthClass n := Nat.lt_of_lt_of_le hv (Nat.pow_le_pow_right (by omega) h1)
    have hv64 : v < 2 ^ 64 := Nat.lt_of_lt_of_le hvc (Nat.pow_le_pow_right (by omega) h2)
    simp [result, hc0, h, toUint64, Nat.mod_eq_of_lt hv64, Nat.mod_eq_of_lt hvc]
  · have hc0 : widthClass n = 0 := widthClass_gt (by omega)
    simp [result, hc0, h]

example : (200 : Nat) < 2 ^ 8 := by decide

/-- `Result` inverts the two's complement encoding `lowBits v n` of every
signed value of every width `n ≥ 1`: the returned value is `v` and the cell
still holds the encoding. -/
theorem C13_result_inverts_int (n a : Nat) (hn : 1 ≤ n) (v : Int)
    (hlo : -((2 ^ (n - 1) : Nat) : Int) ≤ v) (hhi : v < ((2 ^ (n - 1) : Nat) : Int)) :
    result (.base .int n a) ((lowBits v n : Nat) : Int) =
      .ok (if n ≤ 64 then .i (widthClass n) v else .big v, ((lowBits v n : Nat) : Int)) := by
  rw [result_int_pattern n a hn _ (lowBits_lt v n), toSigned_lowBits n hn v hlo hhi]

example : -((2 ^ (8 - 1) : Nat) : Int) ≤ -16 ∧ (-16 : Int) < ((2 ^ (8 - 1) : Nat) : Int) := by decide

theorem C13_result_inverts_bool (a : Nat) (b : Bool) :
    result (.base .bool 1 a) (if b then 1 else 0) = .ok (.bool b, if b then 1 else 0) := by
  cases b <;> rfl

/-- Arrays/slices of unsigned elements of any width `w` and any count
(0 included): element `i` is decoded by the scalar decoder from the number
whose bits are wires `i*w .. i*w+w-1` of the value — the inverse of
`C13_parse_array_elements` / `encLeaf` — and the cell is unchanged. -/
theorem C13_result_inverts_array (tag : Tag) (htag : tag = .array ∨ tag = .slice) (bits count w a : Nat)
    (z : Int) :
    result (.elem tag bits count (.base .uint w a)) z =
      .ok (.slice (if widthClass w = 0 then "big" else s!"uint{widthClass w}")
        ((List.range count).map fun i =>
          if w ≤ 64 then .u (widthClass w) (lowBits (rsh z (i * w)) w) else .big (lowBits (rsh z (i * w)) w)), z) ∧
    ∀ i b, (lowBits (rsh z (i * w)) w).testBit b = (decide (b < w) && ibit z (i * w + b)) := by
  refine ⟨?_, fun i b => by rw [testBit_lowBits, ibit_rsh]⟩
  apply result_array tag htag bits count (.base .uint w a) _ (elemName_explicit _ _ _ (by simp [elemTypeName])) z
  intro i _
  exact ⟨_, C13_result_inverts_uint w a _ (lowBits_lt _ _)⟩

/-- Purity and repeatability, full statement: whenever `Result` returns (every
type, every cell content `z`, negative `TInt` values included) the cell is
unchanged, hence a second call on the same `*big.Int` returns the same value. -/
theorem C13_result_pure (t : Info) (z : Int) (rv : RVal) (c : Int)
    (h : result t z = .ok (rv, c)) :
    c = z ∧ result t c = .ok (rv, c) := by
  obtain rfl := result_cell t z rv c h
  exact ⟨rfl, h⟩

example : result (.base .int 8 0) 0xF0 = .ok (.i 8 (-16), 0xF0) ∧
    result (.base .int 5 0) 16 = .ok (.i 8 (-16), 16) ∧
    result (.base .int 100 0) (2 ^ 99) = .ok (.big (-(2 ^ 99)), 2 ^ 99) :=
  ⟨by rfl, by rfl, by rfl⟩

/-- What was wrong before commit 66e4e03, about the OLD `TInt` branch: `int8`,
cell 0xF0: the call returned −16 and left −16 in the caller's `*big.Int`, the
next call left −272; `int5`, cell 16: −16 then −48 (a different value). -/
theorem C13_old_result_not_pure_witness :
    resultIntOld 8 0xF0 = (.i 8 (-16), -16) ∧ resultIntOld 8 (-16) = (.i 8 (-16), -272) ∧
    resultIntOld 5 16 = (.i 8 (-16), -16) ∧ resultIntOld 5 (-16) = (.i 8 (-48), -48) :=
  ⟨by rfl, by rfl, by rfl, by rfl⟩

/-- Arrays of arrays (commit 74f1961): an array/slice whose elements are
arrays/slices of unsigned integers decodes to a slice of slices — element
`(i, k)` is the scalar decoding of wires `i*W + k*w .. +w-1` (`W` the inner
`Bits`) — and the cell is unchanged; every count (0 included) and width. -/
theorem C13_result_nested_array_decodes (tag itag : Tag) (htag : tag = .array ∨ tag = .slice)
    (hitag : itag = .array ∨ itag = .slice) (bits count ibits icount w a : Nat) (z : Int) :
    result (.elem tag bits count (.elem itag ibits icount (.base .uint w a))) z =
      .ok (.slice ("[]" ++ (if widthClass w = 0 then "big" else s!"uint{widthClass w}"))
        ((List.range count).map fun i =>
          .slice (if widthClass w = 0 then "big" else s!"uint{widthClass w}")
            ((List.range icount).map fun k =>
              if w ≤ 64 then .u (widthClass w) (lowBits (rsh ((lowBits (rsh z (i * ibits)) ibits : Nat) : Int) (k * w)) w)
              else .big (lowBits (rsh ((lowBits (rsh z (i * ibits)) ibits : Nat) : Int) (k * w)) w))), z) := by
  apply result_array tag htag bits count (.elem itag ibits icount (.base .uint w a)) _ ?_ z
  · intro i _
    exact ⟨_, (C13_result_inverts_array itag hitag ibits icount w a _).1⟩
  · have h0 := (C13_result_inverts_array itag hitag ibits icount w a 0).1
    have hn : elemTypeName (.elem itag ibits icount (.base .uint w a)) = none := by
      rcases hitag with h | h <;> simp [elemTypeName, h]
    rw [elemName_default _ _ _ hn h0]
    rfl

example : result (.elem .array 32 2 (.elem .array 16 2 (.base .uint 8 0))) 0x04030201 =
    .ok (.slice "[]uint8" [.slice "uint8" [.u 8 1, .u 8 2], .slice "uint8" [.u 8 3, .u 8 4]], 0x04030201) := by
  rfl

/-- `IO.Split`: part `k` is the `ns[k]` bits of the value starting at the sum
of the widths before it (two's complement bits for a negative value). -/
theorem C13_split_spec (ns : List Nat) (z : Int) (k : Nat) (hk : k < ns.length) (i : Nat) :
    ((split ns z 0).getD k 0).testBit i = (decide (i < ns[k]) && ibit z ((ns.take k).sum + i)) := by
  simpa using split_spec ns z 0 k hk i

/-- Member independence (Go-value form), full statement: replacing the value
of one member by another value of its type changes no wire outside that
member's own `Type.Bits` wires. -/
theorem C13_set_member_independent (t : Info) (pre post : List (Info × GoVal))
    (ti : Info) (v v' : GoVal)
    (hpre : ∀ m, m ∈ pre → Fits m.1 m.2) (hpost : ∀ m, m ∈ post → Fits m.1 m.2)
    (hv : Fits ti v) (hv' : Fits ti v') :
    ∃ r r' : Nat,
      (Arg.mk t ((pre ++ (ti, v) :: post).map fun m => leaf m.1)).set ((pre ++ (ti, v) :: post).map (·.2)) = .ok r ∧
      (Arg.mk t ((pre ++ (ti, v') :: post).map fun m => leaf m.1)).set ((pre ++ (ti, v') :: post).map (·.2)) = .ok r' ∧
      ∀ j, j < totalBits pre + ti.bits + totalBits post →
        (j < totalBits pre ∨ totalBits pre + ti.bits ≤ j) → r.testBit j = r'.testBit j := by
  obtain ⟨r, hr, hrw⟩ := C13_set_compound_wires t (pre ++ (ti, v) :: post) (by simp) (List.forall_mem_append.2 ⟨hpre, List.forall_mem_cons.2 ⟨hv, hpost⟩⟩)
  obtain ⟨r', hr', hrw'⟩ := C13_set_compound_wires t (pre ++ (ti, v') :: post) (by simp) (List.forall_mem_append.2 ⟨hpre, List.forall_mem_cons.2 ⟨hv', hpost⟩⟩)
  refine ⟨r, r', hr, hr', ?_⟩
  intro j hj hout
  have ht : ∀ x, totalBits (pre ++ (ti, x) :: post) = totalBits pre + ti.bits + totalBits post := by
    intro x; rw [totalBits_append]; simp [totalBits, Nat.add_assoc]
  rw [hrw j (by rw [ht]; exact hj), hrw' j (by rw [ht]; exact hj)]
  simp only [encMembers_append, encMembers]
  rcases hout with h | h
  · rw [if_pos h, if_pos h]
  · rw [if_neg (by omega), if_neg (by omega), if_neg (by omega), if_neg (by omega)]

example : Fits (.base .int 8 0) (.num true 8 (-1)) ∧ Fits (.base .int 8 0) (.num true 8 1) :=
  ⟨Fits.num .int 8 0 true 8 (-1) (Or.inl rfl) (by decide) (by decide) (fun _ => rfl),
   Fits.num .int 8 0 true 8 1 (Or.inl rfl) (by decide) (by decide) (fun _ => rfl)⟩

/-- Arrays/slices of signed elements: element `i` is the two's complement
reading (`toSigned`) of wires `i*w .. i*w+w-1`; the cell is unchanged (the
sign fix happens on a temporary). -/
theorem C13_result_inverts_array_int (tag : Tag) (htag : tag = .array ∨ tag = .slice) (bits count w a : Nat)
    (hw : 1 ≤ w) (z : Int) :
    result (.elem tag bits count (.base .int w a)) z =
      .ok (.slice (if widthClass w = 0 then "big" else s!"int{widthClass w}")
        ((List.range count).map fun i =>
          if w ≤ 64 then .i (widthClass w) (toSigned w (lowBits (rsh z (i * w)) w))
          else .big (toSigned w (lowBits (rsh z (i * w)) w))), z) := by
  apply result_array tag htag bits count (.base .int w a) _ (elemName_explicit _ _ _ (by simp [elemTypeName])) z
  intro i _
  exact ⟨_, result_int_pattern w a hw _ (lowBits_lt _ _)⟩

/-- Inferred size, unsized `uint` argument: for a plain number spelling (not
"_", not a bool literal, not the `NxHH` pattern) `InputSizes` yields exactly
the number of bits written, `InstantiateWithSizes` gives the type that width,
and the value fits it: no written bit is lost. -/
theorem C13_inferred_size_uint (b n : Nat) (st : StrFacts) (N : Nat)
    (hu : st.underscore = false) (hb : st.boolLit = none) (hre : st.hex0x = false → st.reHex = none)
    (hnum : st.num = some (N : Int)) (hhex : st.hex0x = true → N < 2 ^ ((st.len - 2) * 4)) :
    inputSize1 st = .ok (writtenBits st N) ∧
    instantiate (.base .uint b n) false (writtenBits st N) = .ok (.base .uint (writtenBits st N) n) ∧
    parseLeaf (.base .uint (writtenBits st N) n) st = .ok (N : Int) ∧
    N < 2 ^ writtenBits st N :=
  ⟨inputSize1_written hu hb hre hnum, by simp [instantiate], parseLeaf_num (Or.inr rfl) hnum,
    lt_two_pow_writtenBits hhex⟩

example : ∃ (st : StrFacts) (N : Nat), st.underscore = false ∧ st.boolLit = none ∧
    (st.hex0x = false → st.reHex = none) ∧ st.num = some (N : Int) ∧
    (st.hex0x = true → N < 2 ^ ((st.len - 2) * 4)) :=
  ⟨⟨none, false, true, 6, some (some 0, 4), some 0xa0a1⟩, 0xa0a1, by decide⟩

/-- Inferred size, slice argument with element width `w ≥ 1`: the slice is
instantiated with `k = ⌈written bits / w⌉` elements and `Bits = k*w`, which is
exactly the element count `Parse` reads from the same text (so Parse cannot
fail with "too many values" and writes inside the `Bits` wires). -/
theorem C13_inferred_size_slice (b n : Nat) (el : Info) (c : Bool) (st : StrFacts) (N : Nat) (hw : 0 < el.bits)
    (hu : st.underscore = false) (hb : st.boolLit = none) (hre : st.hex0x = false → st.reHex = none)
    (hnum : st.num = some (N : Int)) (hhex : st.hex0x = true → N < 2 ^ ((st.len - 2) * 4)) :
    inputSize1 st = .ok (writtenBits st N) ∧
    instantiate (.elem .slice b n el) c (writtenBits st N) =
      .ok (.elem .slice (ceilDiv (writtenBits st N) el.bits * el.bits) (ceilDiv (writtenBits st N) el.bits) el) ∧
    ∃ z : Nat, parseLeaf (.elem .slice (ceilDiv (writtenBits st N) el.bits * el.bits)
        (ceilDiv (writtenBits st N) el.bits) el) st = .ok (z : Int) ∧
      z < 2 ^ (ceilDiv (writtenBits st N) el.bits * el.bits) := by
  refine ⟨inputSize1_written hu hb hre hnum, ?_, ?_⟩
  · have : el.bits ≠ 0 := by omega
    simp [instantiate, this]
  · obtain ⟨z, hz, _, hz2, _⟩ := C13_parse_array_elements .slice (Or.inr rfl)
      (ceilDiv (writtenBits st N) el.bits * el.bits) (ceilDiv (writtenBits st N) el.bits) el st N hnum hw hhex
      (by simp)
    exact ⟨z, hz, Nat.lt_pow_two_of_testBit _ fun i hi => hz2 i (by simpa using hi)⟩

/-- Whole compound arguments: if every member's text parses, every member's
Go value `Fits`, and text and Go value of each member denote the same bits on
that member's own wires (`hag`; for integers and bools this is
`C13_member_agreement_int`/`_bool`, for arrays the content of
`C13_array_wire_bits_parse_eq_set`), then `Parse` and `Set` put the same bits
on all wires of the argument. -/
theorem C13_compound_wire_bits_parse_eq_set (t : Info) (ms : List (Info × StrFacts × Int × GoVal))
    (hne : ms ≠ [])
    (hp : ∀ m, m ∈ ms → parseLeaf m.1 m.2.1 = .ok m.2.2.1)
    (hf : ∀ m, m ∈ ms → Fits m.1 m.2.2.2)
    (hag : ∀ m, m ∈ ms → ∀ i, i < m.1.bits → ibit m.2.2.1 i = encLeaf m.1 m.2.2.2 i) :
    ∃ z r : Nat,
      (Arg.mk t (ms.map fun m => leaf m.1)).parse (ms.map fun m => m.2.1) = .ok (z : Int) ∧
      (Arg.mk t (ms.map fun m => leaf m.1)).set (ms.map fun m => m.2.2.2) = .ok r ∧
      ∀ j, j < totalBits (ms.map fun m => (m.1, m.2.2.2)) → z.testBit j = r.testBit j := by
  obtain ⟨z, hz, hzw⟩ := C13_parse_compound_wires t (ms.map fun m => (m.1, m.2.1, m.2.2.1)) (by simpa using hne)
    (List.forall_mem_map.2 hp)
  obtain ⟨r, hr, hrw⟩ := C13_set_compound_wires t (ms.map fun m => (m.1, m.2.2.2)) (by simpa using hne)
    (List.forall_mem_map.2 hf)
  simp only [List.map_map, Function.comp_def] at hz hr hzw hrw
  refine ⟨z, r, hz, hr, ?_⟩
  intro j hj
  rw [hzw j, hrw j hj]
  exact concat_eq_enc ms hag j

example : ∃ ms : List (Info × StrFacts × Int × GoVal), ms ≠ [] ∧
    (∀ m, m ∈ ms → parseLeaf m.1 m.2.1 = .ok m.2.2.1) ∧ (∀ m, m ∈ ms → Fits m.1 m.2.2.2) ∧
    (∀ m, m ∈ ms → ∀ i, i < m.1.bits → ibit m.2.2.1 i = encLeaf m.1 m.2.2.2 i) :=
  ⟨[(.base .int 8 0, ⟨none, false, false, 2, none, some (-1)⟩, -1, .num true 8 (-1))], List.cons_ne_nil _ _,
    fun m hm => by rw [List.mem_singleton.1 hm]; rfl,
    fun m hm => by
      rw [List.mem_singleton.1 hm]
      exact Fits.num .int 8 0 true 8 (-1) (Or.inl rfl) (by decide) (by decide) (fun _ => rfl),
    fun m hm i _ => by rw [List.mem_singleton.1 hm]; rfl⟩

/-- member-level agreement for integers: the parsed number and the Go value
are the same number -/
theorem C13_member_agreement_int (t : Info) (st : StrFacts) (s : Bool) (w : Nat) (v : Int)
    (ht : t.tag = .int ∨ t.tag = .uint) (hnum : st.num = some v) :
    parseLeaf t st = .ok v ∧ ∀ i, ibit v i = encLeaf t (.num s w v) i :=
  ⟨parseLeaf_num ht hnum, fun _ => rfl⟩

/-- member-level agreement for bools (any of the six literals) -/
theorem C13_member_agreement_bool (n : Nat) (st : StrFacts) (b : Bool) (hb : st.boolLit = some b) :
    parseLeaf (.base .bool 1 n) st = .ok (if b then 1 else 0) ∧
      ∀ i, ibit (if b then 1 else 0) i = encLeaf (.base .bool 1 n) (.bool b) i := by
  refine ⟨by cases b <;> simp [parseLeaf, hb], fun i => ?_⟩
  cases b <;> cases i <;> simp [encLeaf, ibit, Nat.testBit_succ]

/-- the argument of the demonstration program: `struct { n uint; key [8]byte; tag uint16 }` -/
def demoGarbler : Ty :=
  .struct true 80 0 0 [.base .uint false 0 0 0, .elem .array true 64 8 0 (.base .uint true 8 0 0),
    .base .uint true 16 0 64]

/-- `demoGarbler` instantiated from the inputs `5`, `0xa0a1`, `0x3132`: `n` is uint3, `key` stays `[8]uint8` on
wires 3..66, `tag` stays uint16 on wires 67..82 -/
def demoGarblerInst : Ty :=
  .struct true 83 0 0 [.base .uint true 3 0 0, .elem .array true 64 8 3 (.base .uint true 8 0 0),
    .base .uint true 16 0 67]

/-- Identity on sized types: a type in which every leaf has its declared size
(scalars / arrays with `IsConcrete`, structs with `IsConcrete` set of such members, at any nesting
depth) and which has the struct layout is returned unchanged, whatever the
size vector says (shorter, equal or longer literals than declared) — as long
as the vector has an entry for every member.  In particular the argument loop
of `Package.Compile` leaves it alone. -/
theorem C13_instantiate_identity_on_sized (t : Ty) (sizes : List Nat) (hs : t.sized = true)
    (hl : t.layoutOk = true) (hn : t.span ≤ sizes.length) :
    t.inst sizes = .ok t ∧ t.mainArgType sizes = .ok t := by
  have h := Ty.inst_sized t sizes hs hl hn
  exact ⟨h, by rw [Ty.mainArgType, h, ite_self]⟩

/-- non-vacuity: `struct { a uint8; key [8]byte; p struct { x int4; f bool } }` with a short size vector entry for `key` -/
example : ∃ (t : Ty) (sizes : List Nat), t.sized = true ∧ t.layoutOk = true ∧ t.span ≤ sizes.length ∧
    t.inst sizes = .ok t :=
  ⟨.struct true 77 0 0 [.base .uint true 8 0 0, .elem .array true 64 8 8 (.base .uint true 8 0 0),
      .struct true 5 0 72 [.base .int true 4 0 0, .base .bool true 1 0 4]], [3, 16, 2, 1],
    by decide, by decide, by decide, C13_instantiate_identity_on_sized _ _ (by decide) (by decide) (by decide) |>.1⟩

/-- Only unsized leaves are touched: whenever
`InstantiateWithSizes` succeeds, the result has the same tags, the same
members in the same order, the same element types, and the same width and
length for every scalar/array that is `IsConcrete` — at any nesting depth
(`Ty.agree`); what it writes are the widths of unsized scalars, the lengths of
unsized arrays and of slices, and the struct bookkeeping, which comes out
consistent: offsets are the running sums of the member widths and a struct's
`Bits` is the sum of its members (`Ty.layoutOk`). -/
theorem C13_instantiate_touches_only_unsized (t t' : Ty) (sizes : List Nat) (h : t.inst sizes = .ok t') :
    t.agree t' ∧ t'.layoutOk = true :=
  have hs := Ty.inst_spec t sizes t' h
  ⟨hs.1, hs.2.1⟩

/-- non-vacuity, a struct mixing both, with a SHORT literal for `key` -/
example : demoGarbler.inst [3, 16, 16] = .ok demoGarblerInst := rfl

/-- Sized members keep their type in the flattened argument: position by
position, a sized leaf of the declared type appears in `flattenStruct` of the
instantiated type with the `Info` that `IOArg.Parse` / `Set` / `Result` read
(same tag, width, length, element type).  With `C13_parse_compound_wires` /
`C13_set_compound_wires` (wires = members at the running offsets) this is the
statement that a fixed-size member's bits depend on its own text only. -/
theorem C13_instantiate_sized_members_keep_type (t t' : Ty) (sizes : List Nat) (h : t.inst sizes = .ok t') :
    t'.leaves.length = t.leaves.length ∧
    ∀ k (hk : k < t.leaves.length), t.leaves[k].sized = true →
      ∃ l', t'.leaves[k]? = some l' ∧ l'.toInfo = t.leaves[k].toInfo := by
  have hg := agreeAll_get _ _ (Ty.agree_leaves t t' (Ty.inst_spec t sizes t' h).1)
  refine ⟨hg.1, ?_⟩
  intro k hk hs
  obtain ⟨g, h1, h2⟩ := hg.2 k hk
  exact ⟨g, h1, Ty.agree_sized_toInfo _ g (Ty.leaves_not_struct t _ (List.getElem_mem hk)) hs h2⟩

example : ∃ (t t' : Ty) (sizes : List Nat) (k : Nat) (hk : k < t.leaves.length), t.inst sizes = .ok t' ∧
    t.leaves[k].sized = true ∧ t.concrete = false :=
  ⟨demoGarbler, demoGarblerInst, [3, 16, 16], 1, by decide, rfl, by decide, by decide⟩

/-- Inferred size of every unsized member, any nesting depth (the code since
commit 4a72a07): whenever `InstantiateWithSizes` succeeds, the k-th leaf of the
flattened argument — the one that receives the k-th input string — is what
that leaf alone becomes when instantiated from `sizes[k:]` (up to the `Offset`
bookkeeping field); in particular an unsized `int` / `uint` leaf gets width
`sizes[k]`, and a slice leaf gets `⌈sizes[k] / w⌉` elements of its element
width `w`.  With `C13_inferred_size_uint` / `C13_inferred_size_slice` (the size
`InputSizes` infers is the number of bits written) this is "the inferred input
sizes match what is written" for nested compound arguments. -/
theorem C13_instantiate_member_width (t t' : Ty) (sizes : List Nat) (h : t.inst sizes = .ok t') :
    t'.leaves.length = t.leaves.length ∧
    ∀ k (hk : k < t.leaves.length),
      (∃ l l', t.leaves[k].inst (sizes.drop k) = .ok l ∧ t'.leaves[k]? = some l' ∧ l'.setOff 0 = l.setOff 0) ∧
      (∀ tag b n o, t.leaves[k] = .base tag false b n o → (tag = .int ∨ tag = .uint) →
        ∃ s off, sizes[k]? = some s ∧ t'.leaves[k]? = some (.base tag true s n off)) ∧
      (∀ c b n o el, t.leaves[k] = .elem .slice c b n o el →
        ∃ s off, sizes[k]? = some s ∧
          t'.leaves[k]? = some (.elem .slice true (ceilDiv s el.bits * el.bits) (ceilDiv s el.bits) off el)) := by
  refine ⟨(Ty.inst_leaf h).1, fun k hk => ?_⟩
  obtain ⟨l, off, hl, hl'⟩ := (Ty.inst_leaf h).2 k hk
  refine ⟨⟨l, _, hl, hl', Ty.setOff_setOff l off 0⟩, ?_, ?_⟩
  · intro tag b n o hleaf htag
    rw [hleaf] at hl
    obtain ⟨s, hs, rfl⟩ := Ty.inst_base_ok hl
    have hnb : ¬ (tag = .bool ∨ false = true) := by rcases htag with rfl | rfl <;> simp
    exact ⟨s, off, by rw [← hs, List.head?_drop], by rw [hl', if_neg hnb]; rfl⟩
  · intro c b n o el hleaf
    rw [hleaf] at hl
    obtain ⟨s, b', n', hs, rfl, _, hsl⟩ := Ty.inst_elem_ok hl
    obtain ⟨rfl, rfl⟩ := hsl rfl
    exact ⟨s, off, by rw [← hs, List.head?_drop], hl'⟩

/-- non-vacuity, nested: `struct { in struct { x uint; y uint }; b uint }` with sizes 1, 8, 16 -/
example : ∃ (t t' : Ty) (sizes : List Nat) (k : Nat) (hk : k < t.leaves.length),
    t.inst sizes = .ok t' ∧ t.leaves[k] = .base .uint false 0 0 0 ∧ t.leaves.length = 3 :=
  ⟨.struct true 0 0 0 [.struct true 0 0 0 [.base .uint false 0 0 0, .base .uint false 0 0 0], .base .uint false 0 0 0],
    .struct true 25 0 0 [.struct true 9 0 0 [.base .uint true 1 0 0, .base .uint true 8 0 1], .base .uint true 16 0 9],
    [1, 8, 16], 2, by decide, rfl, rfl, rfl⟩

/-- The defect repaired by commit 4a72a07, about the OLD struct loop
(`Ty.instOld`: member `idx` received `sizes[idx:]`): for the nested struct
argument `struct { in struct { x uint; y uint }; b uint }` with the inputs `1`,
`255`, `65535` (sizes 1, 8, 16) member `b`, the third leaf, which receives the
third input, was instantiated from `sizes[1]`: it became uint8 (which holds
only the low 8 bits of 65535). -/
theorem C13_old_instantiate_nested_sizes_witness :
    let t : Ty := .struct true 0 0 0 [.struct true 0 0 0 [.base .uint false 0 0 0, .base .uint false 0 0 0],
      .base .uint false 0 0 0]
    (t.instOld [1, 8, 16]).toOption.map (fun t' => t'.leaves.map Ty.bits) = some [1, 8, 8] ∧
    (t.leaves.length = 3) := by
  decide

/-- the same type and sizes under `Ty.inst`: `b` is uint16 -/
example :
    let t : Ty := .struct true 0 0 0 [.struct true 0 0 0 [.base .uint false 0 0 0, .base .uint false 0 0 0],
      .base .uint false 0 0 0]
    (t.inst [1, 8, 16]).toOption.map (fun t' => t'.leaves.map Ty.bits) = some [1, 8, 16] := by
  decide

/-- the three input strings `5`, `0xa0a1`, `0x3132` as the facts the code reads -/
def demoInputs : List StrFacts :=
  [⟨none, false, false, 1, none, some 5⟩, ⟨none, false, true, 6, some (some 0, 4), some 0xa0a1⟩,
   ⟨none, false, true, 6, some (some 0, 4), some 0x3132⟩]

/-- End to end on the model (`InputSizes` → argument loop of `Compile` →
`flattenStruct` → `Parse`), the demonstration case: with a short literal for
the fixed-size member `key`, `n` = 5 sits on wires 0..2, the two given bytes
of `key` on wires 3..18 followed by 48 zero wires, `tag` on wires 67..82. -/
theorem C13_mainarg_short_literal_keeps_layout :
    (mainArg demoGarbler demoInputs).toOption.map (·.2) = some (5 + 0xa1a0 * 2 ^ 3 + 0x3132 * 2 ^ 67) ∧
    (mainArg demoGarbler demoInputs).toOption.map (·.1.ty.bits) = some 83 := by
  decide +kernel

example : (mainArg demoGarbler demoInputs).toOption.map (·.1) = some demoGarblerInst.toArg := rfl

end Mpc
