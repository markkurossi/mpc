/-
C06  Oblivious transfer delivers exactly the chosen label.

The theorems are about Model/{Iknp,IknpBuf,Cot,Co,RsaOt,RsaOtBytes}.lean.
Model/{CoBytes,P256,Sha256}.lean are executed only (the byte-level instance of
the Chou-Orlandi model on P-256 that the driver compares with the real
`ot.CO`): no theorem depends on P-256 or SHA-256.

Quantification.  IKNP: every family of PRG streams (`R0 R1 SS : column →
position → byte`, hence every AES key and every PRG), every `Delta`, every
stream state in which the two parties are in step, every choice vector of
every length (all n, all tails mod 8/64/128/512), every sequence of calls on
one pair.  The only link between the parties is `BaseOK`: the base OTs
delivered, i.e. the sender's stream `i` is the receiver's stream selected by
`Delta.Bit(i)`; `C06_iknp_over_co` discharges it from the Chou-Orlandi model.
COT/ROT: every block cipher `π`, every seed, every number of transfers of a
call (the MITCCRH batch is `otBatchSize = 8`, as in the code).  CO: every
commutative group with a scalar action and every KDF (the executed instance is
P-256 with SHA-256, compared byte for byte with Go).  RSA: every modulus and
exponent pair satisfying the RSA key relation, every randomness of both
parties (`x0`, `x1` any natural numbers - `messageSize` random bytes may exceed
`N` -, `k` any value `< N`), every block size and every pair of messages that
fit; the transfer messages are sums over the integers exactly as the code
forms them (Model/RsaOtBytes.lean, executed by the driver on the op lines of
the real code with both random sources on harness tapes).
-/
import MpcVerif.Proofs.IknpBuf
import MpcVerif.Proofs.Cot
import MpcVerif.Proofs.RsaOtBytes

namespace Mpc
open Mpc.Iknp

/-- `iknp_transpose`: `createLabels(l, buf, w)` is the bit-matrix transpose for
every row width `w` and every destination length `len`: it writes exactly
`min (8w) len` labels and bit `j` (Go numbering, `Label.Bit(j)`) of label `idx`
is bit `idx % 8` of byte `idx / 8` of column `j` (`buf[j*w + idx/8]`). -/
theorem C06_iknp_transpose (len w : Nat) (buf : Bytes) :
    (createLabels len buf w).length = min (w * 8) len ∧
    ∀ idx j, idx < min (w * 8) len → j < 128 →
      labelBit ((createLabels len buf w).getD idx 0#128) j = (bget buf (j * w + idx / 8)).getLsbD (idx % 8) :=
  ⟨length_createLabels .., fun idx j h hj => labelBit_createLabels len buf w idx j h hj⟩

example : createLabels 3 (mk 128 fun j => if j = 5 then 0x04#8 else 0#8) 1 = [0#128, 0#128, 1#128 <<< 69] := by
  simp only [createLabels, bget, getD_mk_ite]
  decide +kernel

/-- `iknp_label_corr`: one `Receive(b, result, false)` / `Send(n, false)` pair.
For every choice vector `b` (every `n = b.size`, including 0), the sender
consumes exactly the chunks the receiver produced (`more` is left untouched,
no error branch), both outputs have `n` labels, the streams are in step again
afterwards, and `received_i = sent_i xor choice_i * Delta` at every position. -/
theorem C06_iknp_label_corr (R0 R1 SS : Nat → Nat → Byte) (delta : Label) (hb : BaseOK R0 R1 SS delta)
    (rs : RecvSt) (ss : SendSt) (hs : InStep rs ss) (b : Array Bool) (more : List Bytes) :
    ∃ ss' sent,
      send SS delta ss b.size ((receive R0 R1 rs b).2.2 ++ more) = some (ss', sent, more) ∧
      InStep (receive R0 R1 rs b).1 ss' ∧
      sent.length = b.size ∧ (receive R0 R1 rs b).2.1.length = b.size ∧
      ∀ i, i < b.size →
        (receive R0 R1 rs b).2.1.getD i 0#128 =
          sent.getD i 0#128 ^^^ (if b.getD i false then delta else 0#128) :=
  label_call R0 R1 SS delta hb rs ss hs b more

/-- Non-vacuity: for any receiver streams and any `Delta` there is a sender
satisfying `BaseOK`, and freshly initialised parties are in step. -/
example (R0 R1 : Nat → Nat → Byte) (delta : Label) :
    BaseOK R0 R1 (fun i p => if labelBit delta i then R1 i p else R0 i p) delta ∧ InStep RecvSt.init SendSt.init :=
  ⟨fun _ _ _ => rfl, InStep.init⟩

/-- The same in malicious mode (`Receive(.., true)` / `Send(n, true)`): the 256
extra transfers with the random choice vector `bcvOf b0 b1` are consumed by
the sender, the first `n` outputs are correlated and the streams end in step.
(That the sender's consistency check accepts the honest receiver is C15.) -/
theorem C06_iknp_label_corr_malicious (R0 R1 SS : Nat → Nat → Byte) (delta : Label)
    (hb : BaseOK R0 R1 SS delta) (rs : RecvSt) (ss : SendSt) (hs : InStep rs ss) (b : Array Bool)
    (b0 b1 : Label) (more : List Bytes) :
    ∃ ss' sent,
      sendMal SS delta ss b.size ((receiveMal R0 R1 rs b b0 b1).2.2 ++ more) = some (ss', sent, more) ∧
      InStep (receiveMal R0 R1 rs b b0 b1).1 ss' ∧
      sent.length = b.size ∧ (receiveMal R0 R1 rs b b0 b1).2.1.length = b.size ∧
      ∀ i, i < b.size →
        (receiveMal R0 R1 rs b b0 b1).2.1.getD i 0#128 =
          sent.getD i 0#128 ^^^ (if b.getD i false then delta else 0#128) :=
  label_call_mal R0 R1 SS delta hb rs ss hs b b0 b1 more

/-! Packed-bit form.  `ReceiveBits` XORs the choice bits into the u-matrix in `words` 64-bit words
per chunk.  At /repo HEAD `words := (byteRows + 7) / 8` (commit 564d319), which
covers every row; before that commit it was `byteRows / 8`, which dropped the
choices of a partial last word.  The model has the word count as a parameter:
`receiveBits` counts as the current code does, `receiveBitsOld` as the code before
the fix (kept only to state what was wrong with it).  Both, and `sendBits`, store a
result bit by OR only, on the zeroed buffers of these theorems; the store of /repo
HEAD on any buffer is `BitStore.write`, `C06_iknp_bits_dirty` below. -/

/-- `iknp_bits_corr`: one `ReceiveBits`/`SendBits` pair on zeroed result
buffers, for EVERY count `n` (every n mod 8/64/128/512, also 0): no error
branch, the sender consumes exactly the receiver's chunks, the streams are in
step afterwards, no bit is set at positions `≥ n`, and at every position
`received_j = sent_j xor (Delta.Bit(0) and choice_j)`. -/
theorem C06_iknp_bits_corr (R0 R1 SS : Nat → Nat → Byte) (delta : Label) (hb : BaseOK R0 R1 SS delta)
    (rs : RecvSt) (ss : SendSt) (hs : InStep rs ss) (choices : Words) (n : Nat)
    (hch : (n + 63) / 64 ≤ choices.size) (more : List Bytes) :
    ∃ rs' ss' rw sw msgs,
      receiveBits R0 R1 rs choices (mk ((n + 63) / 64) fun _ => 0#64) n = some (rs', rw, msgs) ∧
      sendBits SS delta ss n (mk ((n + 63) / 64) fun _ => 0#64) (msgs ++ more) = some (ss', sw, more) ∧
      InStep rs' ss' ∧ rw.size = (n + 63) / 64 ∧ sw.size = (n + 63) / 64 ∧
      (∀ j, j < n → bitAt rw j = (bitAt sw j ^^ (labelBit delta 0 && bitAt choices j))) ∧
      (∀ j, n ≤ j → bitAt rw j = false ∧ bitAt sw j = false) := by
  obtain ⟨rs', ss', rw, sw, msgs, h1, h2, h3, h4, h5, h6, h7⟩ :=
    bits_call wordsHead R0 R1 SS delta hb rs ss hs choices n hch more
  refine ⟨rs', ss', rw, sw, msgs, h1, h2, h3, h4, h5, ?_, h7⟩
  intro j hj
  rw [h6 j hj, covered_head n j hj, Bool.true_and]

example : (10 + 63) / 64 ≤ (#[0x3ff#64] : Words).size := by decide

/-- The same by plain evaluation of the model at the input that used to fail
(n = 1, zero streams, choice bit 1, `Delta.Bit(0) = 1`): sender bit 1,
receiver bit 0 (before the fix both were 0). -/
theorem C06_iknp_bits_corr_eval :
    (runCall (fun _ _ => 0#8) (fun _ _ => 0#8) (fun _ _ => 0#8) (1#128 <<< 64) RecvSt.init SendSt.init
      (.bits 1 #[1#64])).map (fun r => (r.2.2.1.sentW, r.2.2.1.rcvdW)) = some (#[1#64], #[0#64]) := by
  rw [runCall]
  iknp_eval

/-- What was wrong before 564d319 (`receiveBitsOld`, `words := byteRows / 8`):
for every count with `1 ≤ n % 64 ≤ 56`, whenever `Delta.Bit(0) = 1` and the
last choice bit is 1, the receiver's last bit equalled the sender's instead of
its complement — for all streams and states.  The check replays this on a tree
with the fix reverted (oracle signature `c06-bits-corr`). -/
theorem C06_iknp_bits_old_fails (R0 R1 SS : Nat → Nat → Byte) (delta : Label) (hb : BaseOK R0 R1 SS delta)
    (rs : RecvSt) (ss : SendSt) (hs : InStep rs ss) (choices : Words) (n : Nat)
    (hch : (n + 63) / 64 ≤ choices.size) (h1 : 1 ≤ n % 64) (h2 : n % 64 ≤ 56)
    (hd : labelBit delta 0 = true) (hc : bitAt choices (n - 1) = true) :
    ∃ rs' ss' rw sw msgs,
      receiveBitsOld R0 R1 rs choices (mk ((n + 63) / 64) fun _ => 0#64) n = some (rs', rw, msgs) ∧
      sendBits SS delta ss n (mk ((n + 63) / 64) fun _ => 0#64) msgs = some (ss', sw, []) ∧
      ¬ (∀ j, j < n → bitAt rw j = (bitAt sw j ^^ (labelBit delta 0 && bitAt choices j))) := by
  obtain ⟨rs', ss', rw, sw, msgs, e1, e2, _, _, _, h6, _⟩ :=
    bits_call wordsOld R0 R1 SS delta hb rs ss hs choices n hch []
  rw [List.append_nil] at e2
  refine ⟨rs', ss', rw, sw, msgs, e1, e2, ?_⟩
  intro hall
  have hn : n - 1 < n := by omega
  have a := hall (n - 1) hn
  rw [h6 (n - 1) hn, not_covered_old_last n h1 h2, hd, hc] at a
  cases h : bitAt sw (n - 1) <;> simp [h] at a

/-- Concrete instance n = 10 (all-ones choices, `Delta = Label{D0: 1}`) of the
old defect. -/
theorem C06_iknp_bits_old_witness (R0 R1 : Nat → Nat → Byte) :
    ∃ rs' ss' rw sw msgs,
      receiveBitsOld R0 R1 RecvSt.init #[0x3ff#64] (mk 1 fun _ => 0#64) 10 = some (rs', rw, msgs) ∧
      sendBits (fun i p => if labelBit (1#128 <<< 64) i then R1 i p else R0 i p) (1#128 <<< 64) SendSt.init 10
        (mk 1 fun _ => 0#64) msgs = some (ss', sw, []) ∧
      ¬ (∀ j, j < 10 → bitAt rw j = (bitAt sw j ^^ (labelBit (1#128 <<< 64) 0 && bitAt #[0x3ff#64] j))) :=
  C06_iknp_bits_old_fails R0 R1 _ (1#128 <<< 64) (fun _ _ _ => rfl) _ _ InStep.init #[0x3ff#64] 10
    (by decide) (by decide) (by decide) (by decide) (by decide)

/-- `iknp_*` for any sequence of calls on one initialised pair (label form,
malicious-mode label form and packed-bit form in any order): the session runs
to completion and every call meets its specification — the per-column PRG
streams of sender and receiver stay in lock step across batches. -/
theorem C06_iknp_session (R0 R1 SS : Nat → Nat → Byte) (delta : Label) (hb : BaseOK R0 R1 SS delta)
    (cs : List Call) (hwf : ∀ c ∈ cs, c.WF) :
    ∃ outs, session R0 R1 SS delta RecvSt.init SendSt.init cs = some outs ∧ outs.length = cs.length ∧
      ∀ k (hk : k < cs.length) (hk' : k < outs.length), CallSpec delta cs[k] outs[k] :=
  session_ok R0 R1 SS delta hb cs _ _ InStep.init hwf

example : ∀ c ∈ [Call.labels true #[true, false, true] 0#128 0#128, Call.bits 64 #[5#64]], c.WF := by
  intro c hc
  simp only [List.mem_cons, List.mem_nil_iff, or_false] at hc
  rcases hc with rfl | rfl
  · trivial
  · show (64 + 63) / 64 ≤ (#[5#64] : Words).size
    decide

/-! Caller-provided output buffers (Model/IknpBuf.lean).
`Receive(b, result, malicious)` writes into the CALLER's `result`
(`createLabels(result[ofs:], ..)`), `COT.Receive`/`ROT.Receive` pass their
caller's slice through, `ReceiveBits`/`SendBits` set bits in the caller's
words.  "Every call" includes every content of those buffers: fresh, the
buffer of the previous call on the same pair, ones, random bytes, a window of
a larger array. -/

/-- `iknp_transpose`, destination side: `createLabels(l[ofs:], buf, w)` on ANY
array `l` keeps its length, leaves every position outside
`[ofs, ofs + min (8w) (len l - ofs))` as it was, and makes every position
inside that range the transposed row — label `p - ofs` of the pure transpose
`createLabels` of `C06_iknp_transpose`, which does not mention `l`: the code
writes every destination position it is responsible for. -/
theorem C06_iknp_transpose_into (l : Array Label) (ofs : Nat) (buf : Bytes) (w : Nat) :
    (createLabelsAt Store.assign l ofs buf w).size = l.size ∧
    ∀ p, p < l.size →
      lgetA (createLabelsAt Store.assign l ofs buf w) p =
        if ofs ≤ p ∧ p < ofs + min (w * 8) (l.size - ofs) then (createLabels (l.size - ofs) buf w).getD (p - ofs) 0#128
        else lgetA l p :=
  ⟨size_createLabelsAt .., fun p hp => lgetA_createLabelsAt Store.assign l ofs buf w p hp⟩

/-- Non-vacuity: a dirty destination of 4 labels, written at offset 1. -/
example : createLabelsAt Store.assign #[7#128, 7#128, 7#128, 7#128] 1 (mk 128 fun j => if j = 5 then 0x02#8 else 0#8) 1 =
    #[7#128, 0#128, 1#128 <<< 69, 0#128] := by
  iknp_eval

/-- The receiver's rows are independent of the initial content of the output
buffer: for EVERY array `result` of the right length, `receive(b, result)`
(and the malicious-mode `Receive(b, result, true)`) ends with the same stream
state, the same chunks on the wire and exactly the labels of the pure model
`receive` / `receiveMal` — the function `C06_iknp_label_corr`,
`C06_iknp_label_corr_malicious`, `C06_iknp_session` and the COT/ROT theorems
are about. -/
theorem C06_iknp_receive_buffer_independent (R0 R1 : Nat → Nat → Byte) (st : RecvSt) (b : Array Bool)
    (b0 b1 : Label) (result : Array Label) (hs : result.size = b.size) :
    receiveAt Store.assign R0 R1 st b result =
      some ((receive R0 R1 st b).1, (receive R0 R1 st b).2.1.toArray, (receive R0 R1 st b).2.2) ∧
    receiveMalAt Store.assign R0 R1 st b b0 b1 result =
      some ((receiveMal R0 R1 st b b0 b1).1, (receiveMal R0 R1 st b b0 b1).2.1.toArray,
        (receiveMal R0 R1 st b b0 b1).2.2) :=
  ⟨receiveAt_assign R0 R1 st b result hs, receiveMalAt_assign R0 R1 st b b0 b1 result hs⟩

example : (#[5#128, 6#128] : Array Label).size = (#[true, false] : Array Bool).size := rfl

/-- The variant that ORs the transposed bits straight into the destination
(`Store.orInto`) is indistinguishable on a zeroed buffer ... -/
theorem C06_iknp_or_store_zero_buffer_ok (R0 R1 : Nat → Nat → Byte) (st : RecvSt) (b : Array Bool) :
    receiveAt Store.orInto R0 R1 st b (zerosL b.size) = receiveAt Store.assign R0 R1 st b (zerosL b.size) :=
  receiveAt_orInto_zeros R0 R1 st b

example : (receiveAt Store.orInto (fun _ _ => 0#8) (fun _ _ => 0#8) RecvSt.init #[true] (zerosL 1)).map
    (fun r => (r.2.1, r.2.2)) = some (#[0#128], [mk 128 fun _ => 1#8]) := by
  apply eq_of_toLists
  iknp_eval

/-- ... and wrong on a buffer that is not zero (negation witness for the
OR-accumulating transposition): one transfer, zero streams, choice 0, a result
slice holding `1` — the sender ends with label 0, the receiver with label 1,
`received_0 ≠ sent_0 xor 0*Delta`. -/
theorem C06_iknp_or_store_dirty_witness :
    (runCallB Store.orInto .write (fun _ _ => 0#8) (fun _ _ => 0#8) (fun _ _ => 0#8) 0#128 RecvSt.init SendSt.init
        ⟨#[1#128], #[], #[]⟩ (.labels false #[false] 0#128 0#128 (.arena none 0 0))).map
      (fun r => (r.2.2.2.1.out.sentL, r.2.2.2.1.out.rcvdL)) = some ([0#128], [1#128]) ∧
    ∀ r, runCallB Store.orInto .write (fun _ _ => 0#8) (fun _ _ => 0#8) (fun _ _ => 0#8) 0#128 RecvSt.init SendSt.init
        ⟨#[1#128], #[], #[]⟩ (.labels false #[false] 0#128 0#128 (.arena none 0 0)) = some r →
      ¬ CallSpecB 0#128 (.labels false #[false] 0#128 0#128 (.arena none 0 0)) r.2.2.2.1 := by
  refine (fun h => ⟨h, fun r hr hspec => ?_⟩) (by rw [runCallB, BufSrc.resolve]; iknp_eval)
  rw [hr] at h
  simp only [Option.map_some, Option.some.injEq, Prod.mk.injEq] at h
  have := hspec.2.2 0 (by decide)
  rw [h.1, h.2] at this
  revert this
  decide

/-- Histories with named buffers: for every
history of calls on one initialised pair in which every call names where its
output goes — a fresh allocation, or a slice at any offset of the party's
long-lived array, either as the earlier calls left it or overwritten with
ARBITRARY content first — the history runs to completion (no error, no panic,
every chunk consumed, streams in step), and every label-form call (both
adversary modes) delivers `received_i = sent_i xor choice_i*Delta` at every
position of the receiver's slice, and every packed-bit call delivers
`received_j = sent_j xor (Delta.Bit(0) and choice_j)` at every position `< n`
of the two result slices and leaves every position `≥ n` unchanged
(`CallSpecB`; single call: `C06_iknp_bits_dirty`). -/
theorem C06_iknp_history_buffers (R0 R1 SS : Nat → Nat → Byte) (delta : Label) (hb : BaseOK R0 R1 SS delta)
    (SL SW : Nat) (ar : Arena) (har : ar.Sized SL SW) (cs : List CallB) (hwf : ∀ c ∈ cs, c.WF SL SW) :
    ∃ outs, sessionB Store.assign .write R0 R1 SS delta RecvSt.init SendSt.init ar cs = some outs ∧
      outs.length = cs.length ∧
      ∀ k (hk : k < cs.length) (hk' : k < outs.length), CallSpecB delta cs[k] outs[k] :=
  sessionB_ok R0 R1 SS delta hb SL SW cs _ _ ar InStep.init har hwf

/-- Non-vacuity: a history that reuses the receiver's array (second call into
the slice the first call wrote, third into a window of an array of ones). -/
example : (Arena.mk (zerosL 4) (zerosW 2) (zerosW 2)).Sized 4 2 ∧
    ∀ c ∈ [CallB.labels false #[true, false, true] 0#128 0#128 (.arena none 0 0),
           CallB.labels true #[false, true] 0#128 0#128 (.arena none 1 0),
           CallB.labels false #[true] 0#128 0#128 (.arena (some (mk 4 fun _ => BitVec.allOnes 128)) 3 0),
           CallB.bits 64 #[5#64] (.arena none 1 0) .fresh], c.WF 4 2 := by
  refine ⟨⟨size_zerosL _, size_zerosW _, size_zerosW _⟩, ?_⟩
  intro c hc
  simp only [List.mem_cons, List.mem_nil_iff, or_false] at hc
  rcases hc with rfl | rfl | rfl | rfl
  all_goals simp [CallB.WF, BufSrc.WF]

/-- Packed-bit form on caller buffers with ARBITRARY content (what the doc
comments of `SendBits` / `ReceiveBits` promise: "Existing contents are
overwritten"; /repo HEAD since 8f72c8a writes each of the `n` result bits,
`BitStore.write`).  For every content of the two result slices (at least the
needed length, possibly longer): no error branch, the sender consumes exactly
the receiver's chunks, the streams end in step, both slices keep their lengths,
EVERY position `< n` holds exactly `received_j = sent_j xor (Delta.Bit(0) and
choice_j)`, the positions `≥ n` of the last needed word are unchanged, and so
are all later words. -/
theorem C06_iknp_bits_dirty (R0 R1 SS : Nat → Nat → Byte) (delta : Label) (hb : BaseOK R0 R1 SS delta)
    (rs : RecvSt) (ss : SendSt) (hs : InStep rs ss) (choices : Words) (n : Nat)
    (hch : (n + 63) / 64 ≤ choices.size) (rwin swin : Words)
    (hr : (n + 63) / 64 ≤ rwin.size) (hsw : (n + 63) / 64 ≤ swin.size) :
    ∃ rs' ss' rw sw msgs,
      receiveBitsS .write R0 R1 rs choices rwin n = some (rs', rw, msgs) ∧
      sendBitsS .write SS delta ss n swin msgs = some (ss', sw, []) ∧
      InStep rs' ss' ∧ rw.size = rwin.size ∧ sw.size = swin.size ∧
      (∀ j, j < n → bitAt rw j = (bitAt sw j ^^ (labelBit delta 0 && bitAt choices j))) ∧
      (∀ j, n ≤ j → j < 64 * ((n + 63) / 64) → bitAt rw j = bitAt rwin j ∧ bitAt sw j = bitAt swin j) ∧
      (∀ j, 64 * ((n + 63) / 64) ≤ j → bitAt rw j = bitAt rwin j ∧ bitAt sw j = bitAt swin j) := by
  obtain ⟨rs', ss', rw, sw, msgs, g1, g2, g3, g4, g5, g6, g7⟩ :=
    bits_call_write R0 R1 SS delta hb rs ss hs choices n hch rwin swin hr hsw
  exact ⟨rs', ss', rw, sw, msgs, g1, g2, g3, g4, g5, g6, fun j h _ => g7 j h, fun j h => g7 j (by omega)⟩

example : (3 + 63) / 64 ≤ (#[0xffff#64, 1#64] : Words).size ∧ (3 + 63) / 64 ≤ (#[5#64] : Words).size := by decide

/-- What was wrong before 8f72c8a (`BitStore.orOnly`: only the 1 bits were ORed
in, a 0 result left the caller's word alone): one transfer, zero streams,
choice 0, the receiver's result word holding `1` — the sender's bit is 0, the
receiver's bit stays 1.  The check replays this on a tree with the fix
reverted (oracle signature `c06-bits-corr` with stale bits). -/
theorem C06_iknp_bits_dirty_old_witness :
    (runCallB Store.assign .orOnly (fun _ _ => 0#8) (fun _ _ => 0#8) (fun _ _ => 0#8) 0#128 RecvSt.init SendSt.init
        ⟨#[], #[1#64], #[]⟩ (.bits 1 #[0#64] (.arena none 0 0) .fresh)).map
      (fun r => (r.2.2.2.1.out.sentW, r.2.2.2.1.out.rcvdW)) = some (#[0#64], #[1#64]) ∧
    ¬ (∀ j, j < 1 → bitAt #[1#64] j = (bitAt #[0#64] j ^^ (labelBit 0#128 0 && bitAt #[0#64] j))) := by
  refine ⟨by rw [runCallB, BufSrc.resolve, BufSrc.resolve]; iknp_eval, ?_⟩
  intro h
  have := h 0 (by decide)
  revert this
  decide

/-- The same call with the store of /repo HEAD clears the bit. -/
example :
    (runCallB Store.assign .write (fun _ _ => 0#8) (fun _ _ => 0#8) (fun _ _ => 0#8) 0#128 RecvSt.init SendSt.init
        ⟨#[], #[1#64], #[]⟩ (.bits 1 #[0#64] (.arena none 0 0) .fresh)).map
      (fun r => (r.2.2.2.1.out.sentW, r.2.2.2.1.out.rcvdW)) = some (#[0#64], #[0#64]) := by
  rw [runCallB, BufSrc.resolve, BufSrc.resolve]
  iknp_eval

open Mpc.Cot in
/-- `cot_delivers`: for every block cipher `π` (every AES), seed, batch size
`n = flags.size` (every tail mod 8; stale pad entries of a short last batch
included) and every pair of IKNP outputs that are correlated
(`result_j = data_j xor choice_j*Delta`, which is `C06_iknp_label_corr`), the
batch loop of `COT.Send` terminates without error, `COT.Receive` reads exactly
the labels sent and ends with the sender's label selected by the choice bit at
every position. -/
theorem C06_cot_delivers (π : Label → Label → Label) (delta seed : Label) (data result : Array Label)
    (wires : Array Cot.Wire) (flags : Array Bool) (hw : wires.size = flags.size) (hr : result.size = flags.size)
    (hcorr : ∀ j, j < flags.size →
      lget result j = lget data j ^^^ (if flags.getD j false then delta else 0#128)) :
    ∃ cts, cotSend π delta seed data wires = some cts ∧
      ∃ out, cotRecv π seed flags result cts = some out ∧ out.size = flags.size ∧
        ∀ j, j < flags.size → lget out j = if flags.getD j false then (wget wires j).2 else (wget wires j).1 :=
  Cot.cot_delivers π delta seed data result wires flags hw hr hcorr

example : ∃ (data result : Array Label) (flags : Array Bool) (delta : Label),
    result.size = flags.size ∧ flags.size = 3 ∧
    ∀ j, j < flags.size → Cot.lget result j = Cot.lget data j ^^^ (if flags.getD j false then delta else 0#128) :=
  ⟨#[1#128, 2#128, 3#128], #[1#128, 2#128 ^^^ 7#128, 3#128], #[false, true, false], 7#128, rfl, rfl, by decide⟩

open Mpc.Cot in
/-- `rot_consistent`: random OT — the receiver's output is the sender's output
wire label selected by the choice bit, for every batch size. -/
theorem C06_rot_consistent (π : Label → Label → Label) (delta seed : Label) (data result : Array Label)
    (wires : Array Cot.Wire) (flags : Array Bool) (hw : wires.size = flags.size) (hr : result.size = flags.size)
    (hcorr : ∀ j, j < flags.size →
      lget result j = lget data j ^^^ (if flags.getD j false then delta else 0#128)) :
    ∃ w out, rotSend π delta seed data wires = some w ∧ rotRecv π seed flags result = some out ∧
      w.size = flags.size ∧ out.size = flags.size ∧
      ∀ j, j < flags.size → lget out j = if flags.getD j false then (wget w j).2 else (wget w j).1 :=
  Cot.rot_consistent π delta seed data result wires flags hw hr hcorr

open Mpc.Cot in
/-- COT end to end, both adversary modes (`mal`), on any in-step pair: the
IKNP phase (`runCall`) followed by the MITCCRH phase delivers the chosen label
at every position, and the pair is in step again afterwards — so the statement
applies to every later batch on the same initialised instance (shared mode
re-initialisation does not touch the streams). -/
theorem C06_cot_end_to_end (π : Label → Label → Label) (R0 R1 SS : Nat → Nat → Byte) (delta seed : Label)
    (hb : BaseOK R0 R1 SS delta) (rs : RecvSt) (ss : SendSt) (hs : InStep rs ss) (mal : Bool) (b0 b1 : Label)
    (wires : Array Cot.Wire) (flags : Array Bool) (hw : wires.size = flags.size) :
    ∃ rs' ss' o u, runCall R0 R1 SS delta rs ss (.labels mal flags b0 b1) = some (rs', ss', o, u) ∧ InStep rs' ss' ∧
      ∃ cts, cotSend π delta seed o.sentL.toArray wires = some cts ∧
        ∃ out, cotRecv π seed flags o.rcvdL.toArray cts = some out ∧ out.size = flags.size ∧
          ∀ j, j < flags.size → lget out j = if flags.getD j false then (wget wires j).2 else (wget wires j).1 := by
  obtain ⟨rs', ss', o, u, h1, h2, h3⟩ := call_ok R0 R1 SS delta hb rs ss hs (.labels mal flags b0 b1) trivial
  obtain ⟨_, hl, hc⟩ := h3
  refine ⟨rs', ss', o, u, h1, h2, ?_⟩
  apply Cot.cot_delivers π delta seed _ _ wires flags hw (by simpa using hl)
  intro j hj
  rw [lget_toArray, lget_toArray]
  exact hc j hj

open Mpc.Cot in
/-- ROT end to end, both adversary modes. -/
theorem C06_rot_end_to_end (π : Label → Label → Label) (R0 R1 SS : Nat → Nat → Byte) (delta seed : Label)
    (hb : BaseOK R0 R1 SS delta) (rs : RecvSt) (ss : SendSt) (hs : InStep rs ss) (mal : Bool) (b0 b1 : Label)
    (wires : Array Cot.Wire) (flags : Array Bool) (hw : wires.size = flags.size) :
    ∃ rs' ss' o u, runCall R0 R1 SS delta rs ss (.labels mal flags b0 b1) = some (rs', ss', o, u) ∧ InStep rs' ss' ∧
      ∃ w out, rotSend π delta seed o.sentL.toArray wires = some w ∧
        rotRecv π seed flags o.rcvdL.toArray = some out ∧ w.size = flags.size ∧ out.size = flags.size ∧
        ∀ j, j < flags.size → lget out j = if flags.getD j false then (wget w j).2 else (wget w j).1 := by
  obtain ⟨rs', ss', o, u, h1, h2, h3⟩ := call_ok R0 R1 SS delta hb rs ss hs (.labels mal flags b0 b1) trivial
  obtain ⟨_, hl, hc⟩ := h3
  refine ⟨rs', ss', o, u, h1, h2, ?_⟩
  apply Cot.rot_consistent π delta seed _ _ wires flags hw (by simpa using hl)
  intro j hj
  rw [lget_toArray, lget_toArray]
  exact hc j hj

/-- `co_delivers`, group part: for every commutative group with scalar action,
generator `g`, sender scalar `a`, receiver scalar `b` and choice bit `c`, the
sender's mask point for message `c` equals the receiver's:
`a•(b•g + c•A) − c•(a•A) = b•A` with `A = a•g`. -/
theorem C06_co_masks_agree {G : Type} (Γ : Co.Group G) (g : G) (a b : Nat) (bit : Bool) :
    (let s := Co.senderSetup Γ g a
     let B := Γ.smul s.a (Co.choicePoint Γ g s.A b bit)
     if bit then Γ.add B s.AaInv else B) = Γ.smul b (Co.senderSetup Γ g a).A :=
  Co.masks_agree Γ g a b bit

/-- `co_delivers`: `DecryptCOCiphertexts ∘ EncryptCOCiphertexts ∘ BuildCOChoices`
(the /repo HEAD helpers, `Co.encryptO`/`Co.decryptO`, which are also what the
driver executes on P-256 against the real `ot.CO` byte for byte) return the
chosen label at every index, for every group, every KDF (the mask of index `i`
is `kdf point i`: per-index domain separation), every `n`, all scalars and
choice bits, provided no point is rejected by the on-curve check (`valid`; on
P-256 this excludes only events such as `a = 0` or `b_i = 0` with choice 0, of
probability about 2⁻²⁵⁶, on which the real code returns `ErrPointNotOnCurve` —
exercised by the `co-bytes` correspondence). -/
theorem C06_co_delivers {G : Type} (Γ : Co.Group G) (valid : G → Bool) (kdf : G → Nat → Label) (g : G) (a n : Nat)
    (scalars : Nat → Nat) (bits : Nat → Bool) (wires : Nat → Co.Wire)
    (hA : valid (Co.senderSetupO Γ.ops g a).A = true)
    (hI : valid (Co.senderSetupO Γ.ops g a).AaInv = true)
    (hP : ∀ i, i < n →
      valid (Co.choicePointO Γ.ops g (Co.senderSetupO Γ.ops g a).A (scalars i) (bits i)) = true) :
    ∃ cts, Co.encryptO Γ.ops valid kdf (Co.senderSetupO Γ.ops g a) n
        (fun i => Co.choicePointO Γ.ops g (Co.senderSetupO Γ.ops g a).A (scalars i) (bits i)) wires = some cts ∧
      cts.length = n ∧
      ∃ out, Co.decryptO Γ.ops valid kdf (Co.senderSetupO Γ.ops g a).A n scalars bits cts = some out ∧
        out.length = n ∧
        ∀ i, i < n → out.getD i 0#128 = if bits i then (wires i).2 else (wires i).1 :=
  Co.deliversO Γ valid kdf g a n scalars bits wires hA hI hP

/-- Non-vacuity: the integers mod 7 under addition are such a group. -/
def zmod7 : Co.Group (Fin 7) where
  add a b := a + b
  neg a := -a
  zero := 0
  smul n a := Fin.ofNat 7 n * a
  add_assoc := by decide
  add_comm := by decide
  add_zero := by decide
  add_neg := by decide
  smul_add := by intro n a b; generalize Fin.ofNat 7 n = m; revert m a b; decide
  smul_comm := by intro m n a; generalize Fin.ofNat 7 n = x; generalize Fin.ofNat 7 m = y; revert x y a; decide

example : ∃ (Γ : Co.Group (Fin 7)) (valid : Fin 7 → Bool), valid (Co.senderSetupO Γ.ops 1 3).A = true ∧
    valid (Co.senderSetupO Γ.ops 1 3).AaInv = true ∧
    valid (Co.choicePointO Γ.ops 1 (Co.senderSetupO Γ.ops 1 3).A 2 true) = true :=
  ⟨zmod7, fun x => x != 0, by decide, by decide, by decide⟩

open Mpc.Cot in
/-- `iknp_over_co`: COT on top of IKNP whose 128 base OTs are Chou-Orlandi.

Roles (they are REVERSED in the base phase, as in `NewIKNPReceiver` /
`NewIKNPSender`): the party that will be the IKNP/COT *receiver* draws the 128
wire pairs `keys i = (k0_i, k1_i)` and acts as the CO **sender** (scalar `a`,
`base.Send(wires)`); the party that will be the IKNP/COT *sender* holds `Delta`
and acts as the CO **receiver** with choice bits `Delta.Bit(i)` and scalars
`scalars i` (`base.Receive(flags, k)`), obtaining `base_i`.  The PRG streams
are `prg` (any function of the key: every AES-CTR) applied to these labels.

For every group, KDF, PRG, block cipher, seed, adversary mode, batch size and
choice vector, if no CO point is rejected: the base phase delivers
`base_i = k_{Delta.Bit(i), i}`, hence `BaseOK`; and the COT batch run on the
freshly initialised pair delivers the sender's label selected by the choice
bit at every position, leaving the pair in step for later batches. -/
theorem C06_iknp_over_co {G : Type} (Γ : Co.Group G) (valid : G → Bool) (kdf : G → Nat → Label) (g : G) (a : Nat)
    (scalars : Nat → Nat) (keys : Nat → Co.Wire) (delta : Label)
    (hA : valid (Co.senderSetupO Γ.ops g a).A = true)
    (hI : valid (Co.senderSetupO Γ.ops g a).AaInv = true)
    (hP : ∀ i, i < K →
      valid (Co.choicePointO Γ.ops g (Co.senderSetupO Γ.ops g a).A (scalars i) (labelBit delta i)) = true)
    (prg : Label → Nat → Byte) (π : Label → Label → Label) (seed : Label) (mal : Bool) (b0 b1 : Label)
    (wires : Array Cot.Wire) (flags : Array Bool) (hw : wires.size = flags.size) :
    ∃ cts base,
      Co.encryptO Γ.ops valid kdf (Co.senderSetupO Γ.ops g a) K
        (fun i => Co.choicePointO Γ.ops g (Co.senderSetupO Γ.ops g a).A (scalars i) (labelBit delta i)) keys
        = some cts ∧
      Co.decryptO Γ.ops valid kdf (Co.senderSetupO Γ.ops g a).A K scalars (fun i => labelBit delta i) cts
        = some base ∧
      (∀ i, i < K → base.getD i 0#128 = if labelBit delta i then (keys i).2 else (keys i).1) ∧
      BaseOK (fun i => prg (keys i).1) (fun i => prg (keys i).2) (fun i => prg (base.getD i 0#128)) delta ∧
      ∃ rs' ss' o u,
        runCall (fun i => prg (keys i).1) (fun i => prg (keys i).2) (fun i => prg (base.getD i 0#128)) delta
          RecvSt.init SendSt.init (.labels mal flags b0 b1) = some (rs', ss', o, u) ∧
        InStep rs' ss' ∧
        ∃ cs, cotSend π delta seed o.sentL.toArray wires = some cs ∧
          ∃ out, cotRecv π seed flags o.rcvdL.toArray cs = some out ∧ out.size = flags.size ∧
            ∀ j, j < flags.size →
              lget out j = if flags.getD j false then (wget wires j).2 else (wget wires j).1 := by
  obtain ⟨cts, h1, _, base, h2, _, h3⟩ :=
    Co.deliversO Γ valid kdf g a K scalars (fun i => labelBit delta i) keys hA hI hP
  have hb : BaseOK (fun i => prg (keys i).1) (fun i => prg (keys i).2) (fun i => prg (base.getD i 0#128)) delta := by
    intro i hi p
    show prg (base.getD i 0#128) p = _
    rw [h3 i hi]
    split <;> rfl
  exact ⟨cts, base, h1, h2, h3, hb,
    C06_cot_end_to_end π _ _ _ delta seed hb RecvSt.init SendSt.init InStep.init mal b0 b1 wires flags hw⟩

/-- `rsa_delivers`, key part: with `v = (x_b + k^e mod N) mod N` the sender's
`k_b = ((v − x_b) mod N)^d mod N` is the receiver's blinding value `k`, for
every `x_b` (also `x_b ≥ N` and `v < x_b`), given the RSA key relation
`(c^e)^d ≡ c (mod N)` for all `c < N`. -/
theorem C06_rsa_key_recovered (N e d xb k : Nat) (hk : k < N)
    (hkey : ∀ c, c < N → (c ^ e % N) ^ d % N = c) :
    RsaOt.senderKey N d (RsaOt.receiverV N e xb k) xb = k :=
  RsaOt.key_recovered N e d xb k hk hkey

/-- `rsa_delivers`: one transfer returns the chosen message, given the key
relation and the pad/unpad round trip of the message framing (`dec ∘ enc = id`,
PKCS#1 block type 1 in the code); only the chosen blinded message is unpadded. -/
theorem C06_rsa_delivers {M : Type} (N e d : Nat) (enc : M → Nat) (dec : Int → Option M)
    (x0 x1 k : Nat) (bit : Bool) (m0 m1 : M) (hk : k < N)
    (hkey : ∀ c, c < N → (c ^ e % N) ^ d % N = c)
    (hround : ∀ m, dec (enc m : Int) = some m) :
    RsaOt.transfer N e d enc dec x0 x1 k bit m0 m1 = some (if bit then m1 else m0) :=
  RsaOt.delivers N e d enc dec x0 x1 k bit m0 m1 hk hkey hround

/-- Non-vacuity: N = 33 = 3·11, e = 3, d = 7 satisfies the key relation. -/
example : ∀ c, c < 33 → (c ^ 3 % 33) ^ 7 % 33 = c := by decide

/-! RSA OT as the code computes it (Model/RsaOtBytes.lean): integers, bytes, every
randomness.  The randomness of one transfer is the sender's `x0`,
`x1` (ANY `messageSize` bytes: they may exceed `N`, so `v − x_c` may be
negative) and the receiver's `k` (`rand.Int(rand, N)`: ANY value in `[0, N)`).
The transfer messages are sums over the integers (`pad(m_c) + k_c`, no
reduction) and the receiver subtracts over the integers: nowhere is `pad + k`
compared with `N`, so the statements below have no side condition on `k`
besides `k < N`.  The driver runs `xferX` (square-and-multiply) on the op
lines of the real `RSA.Send`/`RSA.Receive` and `SenderXfer`/`ReceiverXfer` and
must reproduce `v`, both transfer messages and the receiver's outcome byte for
byte. -/

/-- `big.Int.Exp` as square and multiply is the power residue. -/
theorem C06_rsa_powmod (a e N : Nat) : RsaOt.powMod a e N = a ^ e % N := RsaOt.powMod_eq a e N

example : RsaOt.powMod 7 13 33 = 7 ^ 13 % 33 := C06_rsa_powmod ..

/-- The executable transfer (what the driver runs) is the specification
transfer: same wire integers, same outcome. -/
theorem C06_rsa_exec_is_spec (N e d size : Nat) (t : RsaOt.XferIn) :
    RsaOt.xferX N e d size t = RsaOt.xferB N e d size t := RsaOt.xferX_eq N e d size t

example : (RsaOt.xferX 33 3 7 12 ⟨true, [1], [2], 40, 50, 32⟩).isSome := by decide

/-- The integer the receiver unpads is EXACTLY the integer of the chosen padded
block, for every `k < N`, every `x0`, `x1` and every pair of blocks — also
blocks `≥ N` and sums `p_b + k ≥ N` (the code never reduces them). -/
theorem C06_rsa_received_integer (N e d p0 p1 x0 x1 k : Nat) (bit : Bool) (hk : k < N)
    (hkey : ∀ c, c < N → (c ^ e % N) ^ d % N = c) :
    (RsaOt.wire N e d p0 p1 x0 x1 k bit).received k bit = ((if bit then p1 else p0 : Nat) : Int) :=
  RsaOt.received_wire N e d p0 p1 x0 x1 k bit hk hkey

/-- Non-vacuity at the boundary the statement is about: `k = N − 1` and a block
larger than `N`. -/
example : (RsaOt.wire 33 3 7 1000 5 70 2 32 false).received 32 false = 1000 := by decide

/-- The PKCS#1 block-type-1 framing round-trips through `SetBytes` / `Bytes` /
left-padding / `ParseEncryptionBlock` for every message that fits
(`len m + 11 ≤ messageSize`): the hypothesis `hround` of `C06_rsa_delivers`,
discharged for the framing of the code. -/
theorem C06_rsa_pkcs1_roundtrip (size : Nat) (m : RsaOt.Octets) (hm : ∀ b ∈ m, b < 256) (hs : m.length + 11 ≤ size) :
    RsaOt.decB size (RsaOt.encB size m : Int) = some m := RsaOt.decB_encB size m hm hs

example : RsaOt.decB 28 (RsaOt.encB 28 [0, 255, 0, 7] : Int) = some [0, 255, 0, 7] := by decide

/-- `rsa_delivers` at byte level, every randomness: for every key satisfying
the key relation, every block size, every pair of messages that fit, every
choice, every `x0`, `x1` and every `k < N`, one transfer ends with the
receiver holding exactly the chosen message. -/
theorem C06_rsa_delivers_bytes (N e d size : Nat) (hkey : ∀ c, c < N → (c ^ e % N) ^ d % N = c)
    (t : RsaOt.XferIn) (hwf : t.WF N size) :
    ∃ w, RsaOt.xferB N e d size t = some (w, .ok t.chosen) :=
  RsaOt.xferB_delivers N e d size hkey t hwf

example : (⟨true, [1], [2], 40, 50, 32⟩ : RsaOt.XferIn).WF 33 12 := by
  refine ⟨by decide, by decide, by decide, ?_, ?_⟩ <;> intro b hb <;> simp at hb <;> omega

/-- A batch (`RSA.Send(wires)` / `RSA.Receive(flags, result)`): every position
ends with the chosen message, for every list of transfers with every
randomness. -/
theorem C06_rsa_session_delivers (N e d size : Nat) (hkey : ∀ c, c < N → (c ^ e % N) ^ d % N = c)
    (ts : List RsaOt.XferIn) (hwf : ∀ t ∈ ts, t.WF N size) :
    RsaOt.sessionOut N e d size ts = some (ts.map RsaOt.XferIn.chosen) :=
  RsaOt.sessionOut_delivers N e d size hkey ts hwf

example : RsaOt.sessionOut 33 3 7 12 [⟨true, [1], [2], 40, 50, 32⟩, ⟨false, [9], [], 0, 33, 0⟩] = some [[2], [9]] := by
  decide

/-- The variant whose SENDER reduces the transfer messages mod `N` while the
receiver subtracts over the integers (`wireModN`; not the code of /repo): as
soon as `p_b < N ≤ p_b + k` the receiver unpads the NEGATIVE integer
`p_b − N`, for every key and every `x0`, `x1`. -/
theorem C06_rsa_modn_sender_negative (N e d p0 p1 x0 x1 k : Nat) (bit : Bool) (hk : k < N)
    (hkey : ∀ c, c < N → (c ^ e % N) ^ d % N = c)
    (hp : (if bit then p1 else p0) < N) (hov : N ≤ (if bit then p1 else p0) + k) :
    (RsaOt.wireModN N e d p0 p1 x0 x1 k bit).received k bit = (((if bit then p1 else p0) : Nat) : Int) - (N : Int) :=
  RsaOt.received_wireModN_neg N e d p0 p1 x0 x1 k bit hk hkey hp hov

example : (5 : Nat) < 33 ∧ 33 ≤ 5 + 32 ∧ (RsaOt.wireModN 33 3 7 5 6 70 2 32 false).received 32 false = -28 := by decide

/-- Negation witness at byte level for the mod-`N` sender, 89-bit modulus
(`messageSize = 12`), `k = N − 1`: the transfer of /repo delivers the chosen
byte, the mod-`N` sender makes the receiver's `ParseEncryptionBlock` fail; and
with `k = N − pad(m_b) − 1` (sum `N − 1`) both still deliver, with
`k = N − pad(m_b)` (sum `N`) only the code of /repo does. -/
theorem C06_rsa_modn_sender_witness :
    let N := 442416326796596274383945381
    let d := 10636637095335204624079313
    let pad := RsaOt.fromBytes ((RsaOt.pkcs1Pad 12 [0x2a]).getD [])
    let t (k : Nat) : RsaOt.XferIn := ⟨false, [0x2a], [0x07], 3, 5, k⟩
    (RsaOt.xferX N 65537 d 12 (t (N - 1))).map (·.2) = some (.ok [0x2a]) ∧
    (RsaOt.xferModNX N 65537 d 12 (t (N - 1))).map (·.2) = some .err ∧
    (RsaOt.xferX N 65537 d 12 (t (N - pad - 1))).map (·.2) = some (.ok [0x2a]) ∧
    (RsaOt.xferModNX N 65537 d 12 (t (N - pad - 1))).map (·.2) = some (.ok [0x2a]) ∧
    (RsaOt.xferX N 65537 d 12 (t (N - pad))).map (·.2) = some (.ok [0x2a]) ∧
    (RsaOt.xferModNX N 65537 d 12 (t (N - pad))).map (·.2) = some .err := by
  decide +kernel

/-- The executable forms in the witness are the specification forms. -/
example (N e d size : Nat) (t : RsaOt.XferIn) : RsaOt.xferModNX N e d size t = RsaOt.xferModN N e d size t :=
  RsaOt.xferModNX_eq N e d size t

end Mpc
