/-
C02 over the connection layer: composition of the message-level protocol
theorem (Props/C02.lean) with the byte-stream theorem of C11.

"... a garbler and an evaluator running the protocol over a connection ...
x arbitrary transport fragmentation": the typed messages of any flight, sent
through the model of `p2p.Conn` (the flush placement is fixed by the code; any
writer-goroutine schedule; any read fragmentation of the transport), are
received as exactly the same typed messages, so the message-level theorem
`C02_both_get_f` is independent of the transport.

Quantification added by this file: every flight of every total size (there is
no hypothesis relating a message or a flight to `writeBufSize = 64 KiB` or
`readBufSize = 1 MiB`: garbled tables of many MiB, more than 64 KiB of input
labels are instances), every writer schedule of every flight, every read
fragmentation of both directions (`Frag = Nat → Nat`, the size the transport
returns on its i-th `Read`: single bytes, reads ending any distance before the
end of the read window, whole flushes, ... are instances), every state of a
receive half that has nothing unread.  Domain guard: counts and payload lengths
below 2^32 (the Go code truncates with `uint32(val)` beyond).
-/
import MpcVerif.Props.C02
import MpcVerif.Props.C11
import MpcVerif.Proofs.Proto2Conn

namespace Mpc
open Conn

/-- **C02 over a connection.**  Any list of protocol messages (e.g. the
garbler's first flight, the evaluator's output labels), sent with the typed
sends and closed/flushed, under ANY writer schedule, and read back through a
transport with ANY read fragmentation by the matching typed receives, arrives
as exactly the same messages with nothing left over. -/
theorem C02_messages_over_conn (sch : Sched) (frag : Frag) (ms : List (Msg (BitVec 128)))
    (hfit : ∀ m ∈ ms, m.Fits) :
    let ops := ms.map (fun m => Op.send m.toVal)
    let s := (Sender.init.run sch ops).close sch
    ∃ r', (Recv.init (joinB s.wire)).recvAll frag (ms.map (fun m => m.toVal.kind)) =
        (ms.map Msg.toVal, r', none) ∧
      r'.unread = ByteArray.empty ∧
      (ms.map Msg.toVal).mapM Msg.ofVal = some ms := by
  intro ops s
  have hov : opsVals ops = ms.map Msg.toVal := opsVals_sends ms
  obtain ⟨r', h1, h2, _, _⟩ := C11_conn_roundtrip sch frag ops (hov ▸ Msg.map_toVal_valid ms hfit)
  refine ⟨r', ?_, h2, Msg.mapM_ofVal_toVal ms⟩
  rw [hov] at h1
  simp only [List.map_map, Function.comp_def] at h1
  exact h1

/-- **One flight, any size, any fragmentation.**  A flight of protocol
messages of any total size - no relation to the 64 KiB write buffer or the
1 MiB read window is assumed - sent with the typed sends and flushed under ANY
writer schedule, read from a transport with ANY read fragmentation by a receive
half in ANY state that has nothing unread (fresh, or after earlier flights of
the same session), arrives as exactly the same messages, no error branch is
taken and nothing is left unread. -/
theorem C02_flight_over_conn (sch : Sched) (frag : Frag) (r : Recv) (ms : List (Msg (BitVec 128)))
    (hfit : ∀ m ∈ ms, m.Fits)
    (hr : r.rs ≤ r.buf.size ∧ r.buf.size ≤ readBufSize ∧ r.pos ≤ r.pend.size)
    (hu : r.unread = ByteArray.empty) :
    ∃ r', recvFlight frag r (flightBytes sch ms) ms = .ok (ms, r') ∧
      (r'.rs ≤ r'.buf.size ∧ r'.buf.size ≤ readBufSize ∧ r'.pos ≤ r'.pend.size) ∧
      r'.unread = ByteArray.empty := by
  obtain ⟨r', e, i, u⟩ := recvFlight_ok sch frag r ms hfit ⟨hr.1, hr.2.1, hr.2.2⟩ hu
  exact ⟨r', e, ⟨i.rs_le, i.buf_le, i.pos_le⟩, u⟩

/-- Non-vacuity, and the size class explicitly: a flight of 70000 labels
(1 120 000 bytes - more than the 1 MiB read window, 18 write buffers) is inside
the theorem, for every schedule and every fragmentation. -/
example (sch : Sched) (frag : Frag) :
    16 * (List.replicate 70000 (Msg.label 5#128)).length > readBufSize ∧
    ∃ r', recvFlight frag (Recv.init ByteArray.empty)
        (flightBytes sch (List.replicate 70000 (Msg.label 5#128)))
        (List.replicate 70000 (Msg.label 5#128)) = .ok (List.replicate 70000 (Msg.label 5#128), r') := by
  refine ⟨by rw [List.length_replicate]; decide, ?_⟩
  obtain ⟨r', e, _, _⟩ := C02_flight_over_conn sch frag (Recv.init ByteArray.empty)
    (List.replicate 70000 (Msg.label 5#128))
    (fun m hm => by rw [List.eq_of_mem_replicate hm]; trivial)
    ⟨Nat.le_refl _, Nat.zero_le _, Nat.zero_le _⟩ (unread_init _)
  exact ⟨r', e⟩

/-- **C02 over two connections.**  For every well-formed two-party circuit,
inputs, key derivation, offset, label randomness and every OT satisfying
`OtSpec` (as in `C02_both_get_f`), and for EVERY connection environment - the
writer schedule of every flight, the read fragmentation of both directions -
the session in which every flight goes through `p2p.Conn` ends without error
at either party, both parties return the plain evaluation of the circuit split
per declared output, and both receive halves end with nothing unread.  No
hypothesis relates the size of any message or flight to the buffer sizes. -/
theorem C02_both_get_f_over_conn (p : Circuit2) (hwf : p.WF = true)
    (mkH : List UInt8 → Hash (BitVec 128)) (key : List UInt8) (r : BitVec 128)
    (hr : LabelAlg.sbit r = true) (inl : Nat → BitVec 128) (x y : List Bool) (hx : x.length = p.n0)
    (ot : OtFun (BitVec 128)) (hot : OtSpec ot)
    (hdom : key.length < 2 ^ 32 ∧ p.c.gates.length < 2 ^ 32 ∧ p.n0 < 2 ^ 32 ∧ p.n1 < 2 ^ 32 ∧
      p.c.nOut < 2 ^ 32)
    (env : ConnEnv) :
    ∃ rE rG, run2Conn p mkH key r inl x y ot env = .ok ((p.expected x y, p.expected x y), rE, rG) ∧
      rE.unread = ByteArray.empty ∧ rG.unread = ByteArray.empty := by
  obtain ⟨hk, hg, hn0, hn1, hno⟩ := hdom
  -- Stated here so that `Inhabited (WireL (BitVec 128))` is found as `run2Conn` finds it, through
  -- `BitVec.instInhabited`; `honest_session` instantiated as it stands carries `LabelAlg.toInhabited`,
  -- equal but not the same term, and nothing would rewrite.
  have hS : evaluatorEval p (mkH key) (p.c.garble (mkH key) r inl).rows
        (garblerInputLabels p (p.c.garble (mkH key) r inl) x)
        (ot ((List.range p.n1).map fun i => (p.c.garble (mkH key) r inl).wires.get (p.n0 + i))
          ((List.range p.n1).map fun i => y.getD i false)) =
        .ok (resultLabels p (p.c.garble (mkH key) r inl) (p.c.plainEval (x ++ y))) ∧
      garblerDecode p (p.c.garble (mkH key) r inl) 0
        (resultLabels p (p.c.garble (mkH key) r inl) (p.c.plainEval (x ++ y))) =
        .ok (p.c.compute (x ++ y)) := by
    exact honest_session p hwf (mkH key) r hr inl x y hx _ (hot.labels p _ y)
  obtain ⟨hE, hD⟩ := hS
  -- every flight is a known list of messages, so each passes the connection on its own
  obtain ⟨rE, e0, iE, uE⟩ := recvFlight_ok (env.sch 0) env.fragGE (Recv.init ByteArray.empty)
    (garblerFlight1 p key (p.c.garble (mkH key) r inl) x) (flight1_fits p key _ r inl x hk hg)
    (RInv_init _) (unread_init _)
  obtain ⟨rG, e1, iG, uG⟩ := recvFlight_ok (env.sch 1) env.fragEG (Recv.init ByteArray.empty)
    [.u32 p.n0, .u32 p.n1]
    (List.forall_mem_cons.mpr ⟨hn0, List.forall_mem_singleton.mpr hn1⟩) (RInv_init _) (unread_init _)
  obtain ⟨rG', e2, _, uG'⟩ := recvFlight_ok (env.sch 2) env.fragEG rG
    ((resultLabels p (p.c.garble (mkH key) r inl) (p.c.plainEval (x ++ y))).map .label)
    (by intro m hm; obtain ⟨l, _, rfl⟩ := List.mem_map.mp hm; trivial) iG uG
  have hrl := recvLabels_roundtrip (resultLabels p (p.c.garble (mkH key) r inl) (p.c.plainEval (x ++ y)))
    ([] : List (Msg (BitVec 128)))
  rw [List.append_nil, length_resultLabels] at hrl
  obtain ⟨rE', e3, _, uE'⟩ := recvFlight_ok (env.sch 3) env.fragGE rE
    [.data (natToBytesBE (packLE (p.c.compute (x ++ y))))]
    (List.forall_mem_singleton.mpr (by
      have h1 := natToBytesBE_length_le _ _ (packLE_lt (p.c.compute (x ++ y)))
      have h2 : (p.c.compute (x ++ y)).length = p.c.nOut := Circuit.compute_length _ _
      simp only [Msg.Fits]
      omega)) iE uE
  refine ⟨rE', rG', ?_, uE', uG'⟩
  simp only [run2Conn, e0, evaluatorRecv1_flight1, e1, Circuit2.acceptsOtRange, beq_self_eq_true,
    Bool.and_self, Bool.not_true, Bool.false_eq_true, if_false, hE, e2, hrl, hD, e3,
    bytes_roundtrip, splitNat_packLE, Circuit2.expected]

/-- **The result does not depend on the transport.**  Two runs of the same
session (same circuit, inputs, randomness, OT) over ANY two connection
environments - different writer schedules, different read fragmentations in
either direction, hence different positions of every message relative to the
64 KiB write buffers and the 1 MiB read window - give both parties the same
values, the plain evaluation; neither takes an error branch. -/
theorem C02_result_independent_of_transport (p : Circuit2) (hwf : p.WF = true)
    (mkH : List UInt8 → Hash (BitVec 128)) (key : List UInt8) (r : BitVec 128)
    (hr : LabelAlg.sbit r = true) (inl : Nat → BitVec 128) (x y : List Bool) (hx : x.length = p.n0)
    (ot : OtFun (BitVec 128)) (hot : OtSpec ot)
    (hdom : key.length < 2 ^ 32 ∧ p.c.gates.length < 2 ^ 32 ∧ p.n0 < 2 ^ 32 ∧ p.n1 < 2 ^ 32 ∧
      p.c.nOut < 2 ^ 32)
    (env env' : ConnEnv) :
    (run2Conn p mkH key r inl x y ot env).map (·.1) = .ok (p.expected x y, p.expected x y) ∧
    (run2Conn p mkH key r inl x y ot env').map (·.1) = .ok (p.expected x y, p.expected x y) := by
  obtain ⟨_, _, h, _⟩ := C02_both_get_f_over_conn p hwf mkH key r hr inl x y hx ot hot hdom env
  obtain ⟨_, _, h', _⟩ := C02_both_get_f_over_conn p hwf mkH key r hr inl x y hx ot hot hdom env'
  rw [h, h']
  exact ⟨rfl, rfl⟩

/-! Non-vacuity: the hypotheses hold for the example circuit (two outputs of
widths 1 and 2), a 32-byte key, an offset with the select bit set; the
environment is arbitrary - e.g. single-byte reads towards the evaluator, reads
of 1 MiB minus 3 bytes towards the garbler. -/
example : exampleCircuit2.WF = true := by decide
example : LabelAlg.sbit (setS 5#128) = true := setS_msb _
example : (List.replicate 32 (7 : UInt8)).length < 2 ^ 32 ∧ exampleCircuit2.c.gates.length < 2 ^ 32 ∧
    exampleCircuit2.n0 < 2 ^ 32 ∧ exampleCircuit2.n1 < 2 ^ 32 ∧ exampleCircuit2.c.nOut < 2 ^ 32 := by decide
example (mkH : List UInt8 → Hash (BitVec 128)) (inl : Nat → BitVec 128) (sch : Nat → Sched) :=
  C02_both_get_f_over_conn exampleCircuit2 (by decide) mkH (List.replicate 32 7) (setS 5#128) (setS_msb _) inl
    [true, false] [true] rfl _ idealOt_spec (by decide)
    { sch := sch, fragGE := fun _ => 1, fragEG := fun _ => readBufSize - 3 }

/-- The session over the connections on INTEGER inputs (`*big.Int` of any sign
and magnitude, per flattened member; Model/Proto2Int.lean): for every
connection environment both parties return `Circuit.Compute` of those
integers. -/
theorem C02_both_get_f_int_over_conn (p : Circuit2) (hwf : p.WF = true)
    (mkH : List UInt8 → Hash (BitVec 128)) (key : List UInt8) (r : BitVec 128)
    (hr : LabelAlg.sbit r = true) (inl : Nat → BitVec 128) (xs ys : ArgVals) (hx : argWidth xs = p.n0)
    (ot : OtFun (BitVec 128)) (hot : OtSpec ot)
    (hdom : key.length < 2 ^ 32 ∧ p.c.gates.length < 2 ^ 32 ∧ p.n0 < 2 ^ 32 ∧ p.n1 < 2 ^ 32 ∧
      p.c.nOut < 2 ^ 32)
    (env : ConnEnv) :
    ∃ rE rG, run2Conn p mkH key r inl (encodeArg xs) (encodeArg ys) ot env =
        .ok ((p.expectedInt xs ys, p.expectedInt xs ys), rE, rG) ∧
      rE.unread = ByteArray.empty ∧ rG.unread = ByteArray.empty := by
  have h := C02_both_get_f_over_conn p hwf mkH key r hr inl (encodeArg xs) (encodeArg ys)
    (by rw [encodeArg_length, hx]) ot hot hdom env
  rw [Circuit2.expected_encodeArg] at h
  exact h

example (mkH : List UInt8 → Hash (BitVec 128)) (inl : Nat → BitVec 128) (sch : Nat → Sched) :=
  C02_both_get_f_int_over_conn exampleCircuit2 (by decide) mkH (List.replicate 32 7) (setS 5#128) (setS_msb _) inl
    [(2, -3)] [(1, -1)] (by decide) _ idealOt_spec (by decide)
    { sch := sch, fragGE := fun _ => 1, fragEG := fun _ => readBufSize - 3 }

end Mpc
