/-
C04  Evaluator never receives both labels of a wire (offset stays secret).

Formalisation (DESIGN.md, C04): symbolic, with a free hash.  Literally "no two
transmitted values differ by R for all randomness" is false for degenerate
random tapes, so labels are formal GF(2)-combinations of atoms
(`R`, the input zero-labels `inp i`, and one atom per tweak and code of the
hash argument(s), `Proofs/Sym.lean`) and the point-and-permute bits are an
arbitrary valuation `σ` with `σ R = true`.
The SAME generic definitions (`garbleCore`, `Circuit.garble`,
`garblerFlight1`) that are executed byte-exactly against the Go code in C01 /
C02 are instantiated at this algebra.

Main theorem: for every well-formed two-party circuit, all inputs, every `σ`
and every hash model of the family (`code` separating x from x ⊕ R) there is a
GF(2)-linear functional that is 1 on R and 0 on every label in the evaluator's
view (all transmitted table rows, the garbler's input labels, the labels
obtained through OT).  Hence R is not in the linear span of the view: it is not
transmitted, no two transmitted values differ by R (never both labels of one
wire), and no XOR-combination of any number of them yields R.

Streaming mode: the gate loop is stated for an arbitrary per-kind tweak
accounting (`Model/TweakAcc.lean`); every SAFE accounting — the code's is one —
keeps the offset out of the span of the evaluator's view of any stream of
instruction circuits whose gate inputs are defined wires (`wfFrom`), and an
accounting that reserves no tweak for the unary gate leaks it.  Whole-circuit mode is the one-instruction stream under the
code's accounting (`evaluatorView_eq_streamView`): both modes (and the
Dolev-Yao closure of C16, Proofs/SymAuth.lean) take their functional from
`session`.

Process level: a garbler PROCESS that serves several overlapping sessions on one
shared circuit value, the garbling scratch of all of them drawn from that
circuit's pool (`Model/GarblerProc.lean` on top of the ownership model of C17 /
C01).  For the code as it is (`circuit.Garbler` never releases its garbling)
every session's OT and result loop read the session's OWN garbling on every
history, and then the union of everything all evaluators of the process obtain
does not span any session's offset; a garbler that returns its scratch to the
pool before its last use serves another session's wire pairs, and two
evaluators served from ONE garbling with different choice bits hold both labels
of a wire.
-/
import MpcVerif.Model.Proto2
import MpcVerif.Proofs.SymProc
import MpcVerif.Proofs.GarblerProc
import MpcVerif.Proofs.PoolGarble
import MpcVerif.Proofs.SymAcc
import MpcVerif.Proofs.StreamDef

namespace Mpc.Sym
open Mpc LabelAlg
variable {Code : Type}

/-- Input zero-labels are fresh atoms. -/
noncomputable def symInl (σ : Atom Code → Bool) : Nat → SymL Code := fun i => atom σ (.inp i)

def msgLabels {L : Type} : List (Msg L) → List L
  | [] => []
  | .label l :: ms => l :: msgLabels ms
  | _ :: ms => msgLabels ms

/-- The evaluator's view of a whole-circuit session (labels only; key and
counts are public): everything the garbler sends in its first flight
(`Model/Proto2.lean`: all table rows and the garbler's own input labels) and
the labels the evaluator obtains through an ideal OT for its input bits. -/
def evaluatorView {L : Type} [LabelAlg L] (p : Circuit2) (key : List UInt8) (G : Garbled L)
    (x y : List Bool) : List L :=
  msgLabels (garblerFlight1 p key G x) ++
    List.zipWith (fun (w : WireL L) b => w.labelFor b)
      ((List.range p.n1).map fun i => G.wires.get (p.n0 + i))
      ((List.range p.n1).map fun i => y.getD i false)

/-- `NewStreaming`: `makeLabels` per input wire.  `Circuit.garble` starts from the same store. -/
def streamStore {L : Type} [LabelAlg L] (n nIn : Nat) (r : L) (inl : Nat → L) : Store (WireL L) :=
  (Array.range n).map fun i => if i < nIn then ⟨inl i, inl i ^^^ r⟩ else default

/-- The evaluator's view of a streaming session (labels only): every
transmitted row of every streamed gate, and ONE label per input wire (the
garbler's own in the clear, the evaluator's through the OT) for the input bits
`xy`. -/
def streamView {L : Type} [LabelAlg L] (rows : List (List L)) (ws0 : Store (WireL L)) (nIn : Nat)
    (xy : List Bool) : List L :=
  rows.flatten ++ (List.range nIn).map fun i => (ws0.get i).labelFor (xy.getD i false)

def S0 (n : Nat) (xy : List Bool) : List (Atom Code) :=
  .R :: ((List.range n).filter (fun i => xy.getD i false)).map .inp

open Classical in
theorem phi_inputs (σ : Atom Code → Bool) (n : Nat) (q : Nat → Bool) (w : Nat) :
    phi (((List.range n).filter q).map Atom.inp) (atom σ (.inp w)) = (decide (w < n) && q w) := by
  induction n with
  | zero => rfl
  | succ n ih =>
    rw [List.range_succ, List.filter_append, List.map_append, phi_append, ih]
    by_cases hwn : w = n
    · subst hwn
      cases hq : q w <;> simp [hq, atom_f]
    · have hlt : w < n + 1 ↔ w < n := by omega
      cases hq : q n <;> simp [hq, atom_f, hlt, Ne.symm hwn]

open Classical in
theorem phi_S0_inl (σ : Atom Code → Bool) (n : Nat) (xy : List Bool) (w : Nat) :
    phi (S0 n xy) (symInl σ w) = (decide (w < n) && xy.getD w false) := by
  rw [S0, symInl, phi_cons, phi_inputs, atom_f, decide_eq_false (by nofun), Bool.false_bne]

open Classical in
theorem phi_S0_R (σ : Atom Code → Bool) (n : Nat) (xy : List Bool) : phi (S0 n xy) (symR σ) = true := by
  rw [S0, symR, phi_cons, phi_atom_notin _ _ _ (by simp), atom_f, decide_eq_true rfl]
  rfl

theorem S0_tweak (n : Nat) (xy : List Bool) : ∀ a ∈ (S0 n xy : List (Atom Code)), a.tweak = none := by
  intro a ha
  rcases List.mem_cons.1 ha with rfl | ha
  · rfl
  · obtain ⟨i, _, rfl⟩ := List.mem_map.1 ha
    rfl

theorem symInl_below (σ : Atom Code → Bool) (i : Nat) : Below 0 (symInl σ i) :=
  Below.atom σ _ 0 nofun

theorem streamStore_get_input {L : Type} [LabelAlg L] (n nIn : Nat) (r : L) (inl : Nat → L) (a : Nat)
    (ha : a < nIn) (hn : nIn ≤ n) : (streamStore n nIn r inl).get a = ⟨inl a, inl a ^^^ r⟩ := by
  rw [streamStore, get_range_map _ _ _ (by omega), if_pos ha]

theorem streamStore_get_other {L : Type} [LabelAlg L] (n nIn : Nat) (r : L) (inl : Nat → L) (u : Nat)
    (hu : nIn ≤ u) : (streamStore n nIn r inl).get u = default := by
  by_cases hun : u < n
  · rw [streamStore, get_range_map _ _ _ hun, if_neg (by omega)]
  · simp [streamStore, Store.get, Array.getD, hun]

theorem invS_start (σ : Atom Code → Bool) (n nIn : Nat) (hn : nIn ≤ n) (xy : List Bool) :
    InvS σ (fun w => decide (w < nIn)) (streamStore n nIn (symR σ) (symInl σ))
      (initStore n false (xy.take nIn)) 0 (S0 nIn xy) := by
  refine ⟨fun w hw => ?_, fun a ha t hat => ?_, phi_S0_R σ nIn xy⟩
  · have hw := of_decide_eq_true hw
    rw [streamStore_get_input n nIn _ _ w hw hn, get_initStore _ _ _ (by omega), phi_S0_inl,
      decide_eq_true hw, Bool.true_and]
    exact ⟨rfl, by simp [List.getD, hw], symInl_below σ w⟩
  · cases (S0_tweak nIn xy a ha).symm.trans hat

theorem storeFin_start (σ : Atom Code → Bool) (n nIn : Nat) (hn : nIn ≤ n) :
    StoreFin (streamStore n nIn (symR σ) (symInl σ)) := by
  intro w
  by_cases hw : w < nIn
  · rw [streamStore_get_input _ _ _ _ w hw hn]
    exact ⟨FinSupp.atom σ _, (FinSupp.atom σ _).xor (FinSupp.symR σ)⟩
  · rw [streamStore_get_other _ _ _ _ w (by omega)]
    exact ⟨FinSupp.zero, FinSupp.zero⟩

/-- The functional of a session, with what `Derivable.killed` (Proofs/SymAuth.lean) needs of it beyond
secrecy: `FinSupp` of the view, that it kills the input atoms the garbler never draws, and that its
hash atoms are all queries on a finitely supported label on which it is 1. -/
theorem session (σ : Atom Code → Bool) (hσ : σ .R = true) (code : SymL Code → Code)
    (hsep : Separates σ code) (tw : TweakAcc) (hs : tw.Safe) (n nIn : Nat) (hn : nIn ≤ n)
    (gs : List Gate) (hwf : wfFrom n gs (fun w => decide (w < nIn)) = true) (xy : List Bool) :
    let ws0 := streamStore n nIn (symR σ) (symInl σ)
    let G := garbleGatesAcc (symHash σ code) (symR σ) tw gs ws0 0
    ∃ S, phi S (symR σ) = true ∧
      (∀ w, definedAfter gs (fun w => decide (w < nIn)) w = true →
        (G.1.get w).l1 = (G.1.get w).l0 ^^^ symR σ ∧
        phi S (G.1.get w).l0 = (evalPlainGates gs (initStore n false (xy.take nIn))).get w) ∧
      (∀ t ∈ streamView G.2.2 ws0 nIn xy, FinSupp t ∧ phi S t = false) ∧
      (∀ j, nIn ≤ j → phi S (atom σ (.inp j)) = false) ∧
      ∀ a ∈ S, HotH code (fun y => FinSupp y ∧ phi S y = true) a ∨ a.tweak = none := by
  intro ws0 G
  have hF0 := storeFin_start σ n nIn hn
  obtain ⟨⟨hrows, hinv, hstab, _⟩, hfin⟩ := gates_session σ hσ code hsep tw
    (fun op => op.queries_eq_tweaks ▸ hs op) n gs _ _ _ 0 _
    (by simp [streamStore]) (initStore_size _ _ _) hwf (invS_start σ n nIn hn xy)
  obtain ⟨_, hFr, hhot⟩ := hfin hF0
  refine ⟨_, hinv.2.2, fun w hw => ⟨(hinv.1 w hw).1, (hinv.1 w hw).2.1⟩, fun t ht => ?_, fun j hj => ?_,
    fun a ha => (hhot a ha).symm.imp_right (S0_tweak _ _ a)⟩
  · rcases List.mem_append.1 ht with ht | ht
    · obtain ⟨rows, hr, htr⟩ := List.mem_flatten.1 ht
      exact ⟨hFr rows hr t htr, hrows rows hr t htr⟩
    · obtain ⟨i, hi, rfl⟩ := List.mem_map.1 ht
      have hi := List.mem_range.1 hi
      refine ⟨?_, ?_⟩
      · cases xy.getD i false
        · exact (hF0 i).1
        · exact (hF0 i).2
      · rw [streamStore_get_input n nIn _ _ i hi hn, phi_labelFor _ _ rfl hinv.2.2, hstab _ (symInl_below σ i),
          phi_S0_inl, decide_eq_true hi, Bool.true_and, bne_self_eq_false]
  · refine (hstab _ (symInl_below σ j)).trans ?_
    rw [phi_S0_inl, decide_eq_false (by omega)]
    rfl

theorem phi_excludes (V : SymL Code → Prop) (r : SymL Code)
    (h : ∃ S : List (Atom Code), phi S r = true ∧ ∀ t, V t → phi S t = false) :
    ¬ InSpan V r ∧ (∀ t, V t → t ≠ r) ∧ ∀ t, V t → ∀ u, V u → t ^^^ u ≠ r := by
  obtain ⟨S, hR, hV⟩ := h
  have hns : ¬ InSpan V r := fun h => by cases hR.symm.trans (phi_span S V hV r h)
  exact ⟨hns, fun t ht h => hns (h ▸ .mem ht), fun t ht u hu h => hns (h ▸ .xor (.mem ht) (.mem hu))⟩

theorem msgLabels_labels {L : Type} (ls : List L) : msgLabels (ls.map Msg.label) = ls := by
  induction ls with
  | nil => rfl
  | cons l ls ih => simp [msgLabels, ih]

theorem msgLabels_append {L : Type} (a b : List (Msg L)) :
    msgLabels (a ++ b) = msgLabels a ++ msgLabels b := by
  induction a with
  | nil => rfl
  | cons m a ih => cases m <;> simp [msgLabels, ih]

theorem msgLabels_flight1 {L : Type} [LabelAlg L] (p : Circuit2) (key : List UInt8)
    (G : Garbled L) (x : List Bool) :
    msgLabels (garblerFlight1 p key G x) = G.rows.flatten ++ garblerInputLabels p G x := by
  have hrows : ∀ (rows : List (List L)),
      msgLabels (rows.flatMap (fun row => Msg.u32 row.length :: row.map Msg.label)) = rows.flatten := by
    intro rows
    induction rows with
    | nil => rfl
    | cons r rs ih => simp [List.flatMap_cons, msgLabels_append, msgLabels, msgLabels_labels, ih]
  simp only [garblerFlight1, tablesMsgs, msgLabels, msgLabels_append, msgLabels_labels, hrows]

theorem _root_.Mpc.Circuit2.wf_parts {p : Circuit2} (hwf : p.WF = true) :
    p.c.WF = true ∧ p.c.nIn = p.n0 + p.n1 ∧ p.c.nIn ≤ p.c.numWires ∧
      wfFrom p.c.numWires p.c.gates (fun w => decide (w < p.c.nIn)) = true := by
  simp only [Circuit2.WF, Circuit.WF, Bool.and_eq_true, decide_eq_true_eq] at hwf ⊢
  exact ⟨hwf.1.1.1, hwf.1.1.2, hwf.1.1.1.1.1.1, hwf.1.1.1.1.2⟩

theorem evaluatorView_eq_streamView {L : Type} [LabelAlg L] (H : Hash L) (r : L) (inl : Nat → L)
    (p : Circuit2) (hwf : p.WF = true) (key : List UInt8) (x y : List Bool) (hx : x.length = p.n0) :
    evaluatorView p key (p.c.garble H r inl) x y =
      streamView (garbleGates H r p.c.gates (streamStore p.c.numWires p.c.nIn r inl) 0).2.2
        (streamStore p.c.numWires p.c.nIn r inl) p.c.nIn (x ++ y) := by
  obtain ⟨hcwf, hn, hnin, _⟩ := Circuit2.wf_parts hwf
  have hw : ∀ i, i < p.c.nIn → ((p.c.garble H r inl).wires.get i) =
      (streamStore p.c.numWires p.c.nIn r inl).get i := fun i hi => by
    rw [garble_input_wires _ p.c _ _ hcwf i hi, streamStore_get_input _ _ _ _ i hi hnin]
  have hr : List.range p.c.nIn = List.range p.n0 ++ (List.range p.n1).map (p.n0 + ·) := by
    rw [hn, List.range_add]
  rw [evaluatorView, msgLabels_flight1, zipWith_labelFor, streamView, hr, List.map_append, List.map_map,
    List.append_assoc]
  refine congrArg _ (congr (congrArg _ (List.map_congr_left fun i hi => ?_)) (List.map_congr_left fun i hi => ?_)) <;>
    have hi := List.mem_range.1 hi
  · rw [hw i (by omega), List.getD_eq_getElem?_getD, List.getD_eq_getElem?_getD,
      List.getElem?_append_left (by omega)]
  · rw [Function.comp_apply, hw _ (by omega), List.getD_eq_getElem?_getD, List.getD_eq_getElem?_getD,
      List.getElem?_append_right (by omega), hx, Nat.add_sub_cancel_left]

/-- **C04 (whole-circuit mode).**  A linear functional that is 1 on the
secret offset and 0 on every label the evaluator sees. -/
theorem C04_whole_circuit (σ : Atom Code → Bool) (hσ : σ .R = true) (code : SymL Code → Code)
    (hsep : Separates σ code) (p : Circuit2) (hwf : p.WF = true) (key : List UInt8)
    (x y : List Bool) (hx : x.length = p.n0) :
    ∃ S : List (Atom Code), phi S (symR σ) = true ∧
      ∀ t ∈ evaluatorView p key (p.c.garble (symHash σ code) (symR σ) (symInl σ)) x y,
        phi S t = false := by
  obtain ⟨_, _, hnin, hwfg⟩ := Circuit2.wf_parts hwf
  obtain ⟨S, hR, _, hV, _⟩ := session σ hσ code hsep codeAcc codeAcc_safe p.c.numWires p.c.nIn hnin
    p.c.gates hwfg (x ++ y)
  rw [garbleGatesAcc_code, ← evaluatorView_eq_streamView _ _ _ p hwf key x y hx] at hV
  exact ⟨S, hR, fun t ht => (hV t ht).2⟩

/-- The offset is not in the GF(2)-span of the evaluator's view: no XOR of any
number of transmitted labels equals R. -/
theorem C04_offset_not_in_span (σ : Atom Code → Bool) (hσ : σ .R = true)
    (code : SymL Code → Code) (hsep : Separates σ code) (p : Circuit2) (hwf : p.WF = true)
    (key : List UInt8) (x y : List Bool) (hx : x.length = p.n0) :
    ¬ InSpan (fun t => t ∈ evaluatorView p key
        (p.c.garble (symHash σ code) (symR σ) (symInl σ)) x y) (symR σ) :=
  (phi_excludes _ _ (C04_whole_circuit σ hσ code hsep p hwf key x y hx)).1

/-- The offset itself is never transmitted, and the evaluator never holds
both labels of a wire: no two labels of its view differ by R. -/
theorem C04_no_two_labels_of_a_wire (σ : Atom Code → Bool) (hσ : σ .R = true)
    (code : SymL Code → Code) (hsep : Separates σ code) (p : Circuit2) (hwf : p.WF = true)
    (key : List UInt8) (x y : List Bool) (hx : x.length = p.n0) :
    let V := evaluatorView p key (p.c.garble (symHash σ code) (symR σ) (symInl σ)) x y
    (∀ t ∈ V, t ≠ symR σ) ∧ (∀ t ∈ V, ∀ u ∈ V, t ^^^ u ≠ symR σ) :=
  (phi_excludes _ _ (C04_whole_circuit σ hσ code hsep p hwf key x y hx)).2

/-! ### Non-vacuity: the coarsest hash model of the family separates. -/

open Classical in
noncomputable def coarseCode : SymL Bool → Bool := fun x => x.f .R

theorem coarse_separates (σ : Atom Bool → Bool) : Separates σ coarseCode := by
  intro x h
  simp only [coarseCode, xor_f, symR, atom_f] at h
  cases hx : x.f Atom.R <;> simp [hx] at h

example : ∃ σ : Atom Bool → Bool, σ .R = true ∧ Separates σ coarseCode :=
  ⟨fun _ => true, rfl, coarse_separates _⟩

/-! ### Tweak reuse leaks the offset (streaming mode on the pinned tree)

In ANY label algebra and for ANY hash: if two AND gates with the same first
input wire are garbled with the same tweak (the streaming garbler restarted its
tweak counter at 0 for every instruction), the first rows of their tables XOR
to the offset whenever the permute bits of their second inputs differ. -/
theorem C04_tweak_reuse_leaks {L : Type} [LabelAlg L] (H : Hash L) (r : L) (a b c : WireL L) (id : Nat)
    (hp : sbit b.l0 ≠ sbit c.l0) (tg te tg' te' : L)
    (h1 : (garbleCore H r .and a b id).2 = [tg, te]) (h2 : (garbleCore H r .and a c id).2 = [tg', te']) :
    tg ^^^ tg' = r := by
  simp only [garbleCore_and_rows, List.cons.injEq, and_true] at h1 h2
  obtain ⟨h1, _⟩ := h1
  obtain ⟨h2, _⟩ := h2
  subst h1 h2
  cases hb : sbit b.l0 <;> cases hc : sbit c.l0 <;>
    simp_all [xor_comm', xor_left_comm']

/-- Restates `C04_offset_not_in_span` (whole-circuit mode: one gate list,
running counter).  Streaming mode proper is `C04_stream_safe_accounting` /
`C04_stream_no_two_labels_of_a_wire`. -/
theorem C04_stream_partial (σ : Atom Code → Bool) (hσ : σ .R = true) (code : SymL Code → Code)
    (hsep : Separates σ code) (p : Circuit2) (hwf : p.WF = true) (key : List UInt8)
    (x y : List Bool) (hx : x.length = p.n0) :
    ¬ InSpan (fun t => t ∈ evaluatorView p key
        (p.c.garble (symHash σ code) (symR σ) (symInl σ)) x y) (symR σ) :=
  C04_offset_not_in_span σ hσ code hsep p hwf key x y hx

/-- **Streaming mode on the pinned tree leaked the offset.**  Two streamed
instructions `w3 := w0 & w1` and `w4 := w0 & w2` (e.g. `a & b` and `a & c`),
garbled with the per-instruction tweak restart (`persistent = false`), in ANY
label algebra with ANY hash: the first rows of the two transmitted tables XOR
to the offset whenever the permute bits of `w1` and `w2` differ.  (Replayed on
the real code by `c04 stream`, case 0; repaired by fix 956e0fd.) -/
theorem C04_stream_restart_leaks {L : Type} [LabelAlg L] (H : Hash L) (r : L)
    (ws : Store (WireL L)) (id : Nat)
    (hp : sbit (ws.get 1).l0 ≠ sbit (ws.get 2).l0) (tg te tg' te' : L)
    (hrows : (streamGarble H r false [[⟨.and, 0, 1, 3⟩], [⟨.and, 0, 2, 4⟩]] ws id).2.2 =
        [[tg, te], [tg', te']]) :
    tg ^^^ tg' = r := by
  have h0 : (Store.set ws 3 (garbleCore H r .and (ws.get 0) (ws.get 1) 0).1).get 0 = ws.get 0 :=
    Store.get_set_ne _ _ _ _ (by decide)
  have h2 : (Store.set ws 3 (garbleCore H r .and (ws.get 0) (ws.get 1) 0).1).get 2 = ws.get 2 :=
    Store.get_set_ne _ _ _ _ (by decide)
  simp only [streamGarble, garbleGates, garbleGate, Bool.false_eq_true, if_false, h0, h2,
    List.append_nil, List.cons_append, List.nil_append, List.cons.injEq, and_true] at hrows
  obtain ⟨h1, h2'⟩ := hrows
  exact C04_tweak_reuse_leaks H r (ws.get 0) (ws.get 1) (ws.get 2) 0 hp tg te tg' te' h1 h2'

/-- The hypothesis of `C04_stream_restart_leaks` is satisfiable: the two
streamed AND gates always produce two rows each. -/
theorem C04_stream_restart_rows {L : Type} [LabelAlg L] (H : Hash L) (r : L)
    (ws : Store (WireL L)) (id : Nat) :
    ((streamGarble H r false [[⟨.and, 0, 1, 3⟩], [⟨.and, 0, 2, 4⟩]] ws id).2.2.map List.length) =
      [2, 2] := by
  simp [streamGarble, garbleGates, garbleGate, garbleCore]

/-- With the persistent counter the streamed instructions are one gate list
garbled with a running tweak, so `C04_whole_circuit` covers streaming mode. -/
theorem C04_stream_is_whole {L : Type} [LabelAlg L] (H : Hash L) (r : L)
    (steps : List (List Gate)) (ws : Store (WireL L)) (id : Nat) :
    streamGarble H r true steps ws id = garbleGates H r steps.flatten ws id :=
  streamGarble_persistent H r steps ws id

/-! ### Per-kind tweak accounting of the streamed gate loop

The code's accounting `codeAcc = Op.tweaks` (`Model/TweakAcc.lean`) is tied to the real
streaming garbler by the op line `c04acc` (the tweaks under which every
transmitted row of real sessions was hashed, re-derived from the stream by the
harness, against `tweakUses codeAcc`), and to `Streaming.garbleGate` byte for
byte by C05's stream correspondence (op line `codec` of `Driver/C05.lean`:
`Stream.streamGarbleGate` advances by the same `Op.tweaks`); for whole-circuit
mode `garbleGate` is tied byte for byte by the session op lines of C01 / C02.

What the property needs from the accounting is `TweakAcc.Safe`.  What happens otherwise is
exhibited for the unary gate: the pad of an INV gate is the half-gate hash of its input label
(`hashOf_unary`), so an INV gate that leaves the counter where it was shares its tweak with the
next gate. -/

/-- With the code's accounting the accounted stream is `streamGarble .. true`, the stream as the code
runs it. -/
theorem C04_code_accounting_is_garbleGates {L : Type} [LabelAlg L] (H : Hash L) (r : L)
    (steps : List (List Gate)) (ws : Store (WireL L)) (id : Nat) :
    streamGarbleAcc H r codeAcc steps ws id = streamGarble H r true steps ws id := by
  rw [streamGarbleAcc_flatten, garbleGatesAcc_code, streamGarble_persistent]

/-- **No tweak twice under a safe accounting**: the tweaks under which the
gates of ANY stream hash are strictly increasing in stream order; in
particular for the code's accounting. -/
theorem C04_safe_accounting_tweaks_distinct (tw : TweakAcc) (hs : tw.Safe) (ops : List Op) (id : Nat) :
    (tweakUses tw ops id).Pairwise (· < ·) ∧ (tweakUses codeAcc ops id).Pairwise (· < ·) :=
  ⟨tweakUses_sorted tw hs ops id, tweakUses_sorted codeAcc codeAcc_safe ops id⟩

/-- Non-vacuity / executed: the code's accounting is safe; the constant-wire
prologue of `circuits.Compiler.ZeroWire` (INV, then AND) uses three different
tweaks under it, and one tweak twice under an accounting that reserves nothing
for INV, which is not safe. -/
example : codeAcc.Safe ∧ tweakUses codeAcc [.inv, .and, .or] 7 = [7, 8, 9, 10] ∧
    tweakUses (fun op => if op = .inv then 0 else op.tweaks) [.inv, .and, .or] 7 = [7, 7, 8, 9] ∧
    ¬ TweakAcc.Safe (fun op => if op = .inv then 0 else op.tweaks) := by decide

theorem inv_row {L : Type} [LabelAlg L] (H : Hash L) (r : L) (hr : sbit r = true) (a b : WireL L)
    (id : Nat) (ha : a.l1 = a.l0 ^^^ r) :
    (garbleCore H r .inv a b id).2 =
      [H.h2 a.l0 LabelAlg.zero id ^^^ H.h2 a.l1 LabelAlg.zero id ^^^ r] := by
  obtain ⟨hanchor, hrows⟩ := garbleCore_inv_form H r hr a b id ha
  dsimp only at hanchor hrows
  -- the output label in the row is the other one of the pair: the anchor's pad XOR the offset
  have hc : (garbleCore H r .inv a b id).1.labelFor (sbit a.l0) =
      H.h2 (a.labelFor (sbit a.l0)) LabelAlg.zero id ^^^ r := by
    rw [← hanchor, ← WireL.labelFor_not (garbleCore_pair ..), Bool.not_not]
  rw [hrows, hc]
  cases sbit a.l0 <;> simp [WireL.labelFor, xor_assoc', xor_comm', xor_left_comm']

/-- **A shared tweak between an INV gate and an AND gate on the same wire.**
In ANY label algebra, for any hash whose unary pad is the half-gate hash (the
code's: `hashOf_unary`): the row of `INV(a)` and the first row of `AND(a, b)`
garbled under the SAME tweak XOR to the offset when the permute bit of `b` is 0
and are equal when it is 1. -/
theorem C04_unary_tweak_shared_leaks {L : Type} [LabelAlg L] (H : Hash L)
    (hu : ∀ x t, H.h2 x LabelAlg.zero t = H.h1 x t)
    (r : L) (hr : sbit r = true) (a b b' : WireL L) (ha : a.l1 = a.l0 ^^^ r) (id : Nat)
    (ri tg te : L) (hi : (garbleCore H r .inv a b' id).2 = [ri])
    (hg : (garbleCore H r .and a b id).2 = [tg, te]) :
    ri ^^^ tg = if sbit b.l0 then LabelAlg.zero else r := by
  rw [inv_row H r hr a b' id ha] at hi
  simp only [garbleCore_and_rows, List.cons.injEq, and_true] at hi hg
  obtain ⟨hg, _⟩ := hg
  subst hi hg
  simp only [hu]
  cases sbit b.l0 <;> simp [xor_comm', xor_left_comm']

/-- The same for the hash of the code (`circuit/garble.go`: `encrypt`,
`encryptHalf`) under ANY block function — AES under any session key — with all
hypotheses discharged: for every offset with the select bit set, every pair of
wires `a = (x, x ⊕ r)`, `b = (y, y ⊕ r)` and every tweak. -/
theorem C04_unary_tweak_shared_leaks_aes (π : BitVec 128 → BitVec 128) (r x y : BitVec 128)
    (hr : r.msb = true) (id : Nat) :
    ∃ ri tg te, (garbleCore (hashOf π) r .inv ⟨x, x ^^^ r⟩ ⟨y, y ^^^ r⟩ id).2 = [ri] ∧
      (garbleCore (hashOf π) r .and ⟨x, x ^^^ r⟩ ⟨y, y ^^^ r⟩ id).2 = [tg, te] ∧
      ri ^^^ tg = if y.msb then 0#128 else r := by
  have hi := inv_row (hashOf π) r hr ⟨x, x ^^^ r⟩ ⟨y, y ^^^ r⟩ id rfl
  exact ⟨_, _, _, hi, rfl,
    C04_unary_tweak_shared_leaks (hashOf π) (hashOf_unary π) r hr ⟨x, x ^^^ r⟩ ⟨y, y ^^^ r⟩ ⟨y, y ^^^ r⟩
      rfl id _ _ _ hi rfl⟩

/-- **An accounting that reserves no tweak for INV leaks in streaming mode.**
Any stream containing the instruction circuit `w := INV(a); z := AND(a, b)`
(the constant-wire prologue of `circuits.Compiler.ZeroWire` is this with
`b = w`): the INV row and the first AND row, both transmitted, XOR to the
offset whenever the permute bit of `b` is 0. -/
theorem C04_inv_zero_tweak_stream_leaks {L : Type} [LabelAlg L] (H : Hash L)
    (hu : ∀ x t, H.h2 x LabelAlg.zero t = H.h1 x t) (r : L) (hr : sbit r = true)
    (tw : TweakAcc) (htw : tw .inv = 0) (ws : Store (WireL L)) (id a w b z : Nat) (hwa : w ≠ a)
    (ha : (ws.get a).l1 = (ws.get a).l0 ^^^ r)
    (hpb : sbit ((ws.set w (garbleCore H r .inv (ws.get a) (ws.get 0) id).1).get b).l0 = false)
    (ri tg te : L)
    (hrows : (streamGarbleAcc H r tw [[⟨.inv, a, 0, w⟩, ⟨.and, a, b, z⟩]] ws id).2.2 = [[ri], [tg, te]]) :
    ri ^^^ tg = r := by
  have h0 : (ws.set w (garbleCore H r .inv (ws.get a) (ws.get 0) id).1).get a = ws.get a :=
    Store.get_set_ne _ _ _ _ hwa
  simp only [streamGarbleAcc, garbleGatesAcc, htw, Nat.add_zero, h0, List.append_nil,
    List.cons.injEq, and_true] at hrows
  obtain ⟨h1, h2⟩ := hrows
  have := C04_unary_tweak_shared_leaks H hu r hr (ws.get a) _ (ws.get 0) ha id ri tg te h1 h2
  rw [this, hpb]
  rfl

/-- Non-vacuity of `C04_inv_zero_tweak_stream_leaks` with the code's hash under
any block function: wires `0 = (x, x ⊕ r)`, `1 = (y, y ⊕ r)` with permute bit 0,
the stream `w2 := INV(w0); w3 := AND(w0, w1)`, no tweak reserved for INV: two
transmitted rows XOR to the offset. -/
example (π : BitVec 128 → BitVec 128) (r x y : BitVec 128) (hr : r.msb = true) (hy : y.msb = false) :
    ∃ ri tg te,
      (streamGarbleAcc (hashOf π) r (fun op => if op = .inv then 0 else op.tweaks)
        [[⟨.inv, 0, 0, 2⟩, ⟨.and, 0, 1, 3⟩]]
        #[⟨x, x ^^^ r⟩, ⟨y, y ^^^ r⟩, default, default] 0).2.2 = [[ri], [tg, te]] ∧ ri ^^^ tg = r := by
  -- the rows get names first: with the unfolded rows in their place the application below is slow to unify
  obtain ⟨ri, tg, te, h⟩ : ∃ ri tg te,
      (streamGarbleAcc (hashOf π) r (fun op => if op = .inv then 0 else op.tweaks)
        [[⟨.inv, 0, 0, 2⟩, ⟨.and, 0, 1, 3⟩]]
        #[⟨x, x ^^^ r⟩, ⟨y, y ^^^ r⟩, default, default] 0).2.2 = [[ri], [tg, te]] := ⟨_, _, _, rfl⟩
  exact ⟨ri, tg, te, h, C04_inv_zero_tweak_stream_leaks (hashOf π) (hashOf_unary π) r hr _ rfl
    #[⟨x, x ^^^ r⟩, ⟨y, y ^^^ r⟩, default, default] 0 0 2 1 3 (by decide) rfl hy ri tg te h⟩

/-- **C04 for streaming mode, for every safe accounting.**  Any stream of
instruction circuits over one wire store (`n` wires, the first `nIn` are the
two parties' input wires; wires may be overwritten, as the streaming allocator
does), all inputs, every `σ`, every hash model of the family, and EVERY
accounting that reserves for each gate kind at least the tweaks it uses: a
linear functional is 1 on the offset and 0 on every row of the stream and on
the one label per input wire the evaluator holds. -/
theorem C04_stream_safe_accounting (σ : Atom Code → Bool) (hσ : σ .R = true) (code : SymL Code → Code)
    (hsep : Separates σ code) (tw : TweakAcc) (hs : tw.Safe) (n nIn : Nat) (hn : nIn ≤ n)
    (steps : List (List Gate)) (hwf : wfFrom n steps.flatten (fun w => decide (w < nIn)) = true)
    (xy : List Bool) :
    let ws0 := streamStore n nIn (symR σ) (symInl σ)
    ∃ S : List (Atom Code), phi S (symR σ) = true ∧
      ∀ t ∈ streamView (streamGarbleAcc (symHash σ code) (symR σ) tw steps ws0 0).2.2 ws0 nIn xy,
        phi S t = false := by
  obtain ⟨S, hR, _, hV, _⟩ := session σ hσ code hsep tw hs n nIn hn steps.flatten hwf xy
  rw [← streamGarbleAcc_flatten] at hV
  exact ⟨S, hR, fun t ht => (hV t ht).2⟩

/-- Streaming mode as the code runs it (the code's accounting, the streamed
loop = `streamGarble … true`): the offset is not transmitted, no two values of
the evaluator's view differ by it, no XOR of any number of them is the offset. -/
theorem C04_stream_no_two_labels_of_a_wire (σ : Atom Code → Bool) (hσ : σ .R = true)
    (code : SymL Code → Code) (hsep : Separates σ code) (n nIn : Nat) (hn : nIn ≤ n)
    (steps : List (List Gate)) (hwf : wfFrom n steps.flatten (fun w => decide (w < nIn)) = true)
    (xy : List Bool) :
    let ws0 := streamStore n nIn (symR σ) (symInl σ)
    let V := streamView (streamGarble (symHash σ code) (symR σ) true steps ws0 0).2.2 ws0 nIn xy
    ¬ InSpan (fun t => t ∈ V) (symR σ) ∧ (∀ t ∈ V, t ≠ symR σ) ∧
      (∀ t ∈ V, ∀ u ∈ V, t ^^^ u ≠ symR σ) := by
  obtain ⟨S, hR, hT⟩ := C04_stream_safe_accounting σ hσ code hsep codeAcc codeAcc_safe n nIn hn steps hwf xy
  rw [C04_code_accounting_is_garbleGates] at hT
  exact phi_excludes _ _ ⟨S, hR, hT⟩

/-- Non-vacuity of the two theorems: a well-formed stream of two instruction
circuits on five wires (the constant-wire prologue on input wire 0, then an OR
that overwrites nothing), a safe accounting other than the code's. -/
example : wfFrom 5 [[⟨.inv, 0, 0, 2⟩, ⟨.and, 0, 2, 3⟩], [⟨.or, 3, 1, 4⟩]].flatten (fun w => decide (w < 2)) = true ∧
    TweakAcc.Safe (fun _ => 3) ∧ codeAcc.Safe := by decide

/-! ### A gate input that is not a defined wire

The two streaming theorems above assume `wfFrom`: every gate input of the stream
is a session input wire or the output of an earlier gate.  `Program.Stream`
establishes it when it builds the wire-id lists of each `Streaming.Garble` call
(operand padding; the `circ` arm pads every argument of a native circuit call
up to the width the circuit file declares, with the streamed zero wire).  The
check evaluates the hypothesis on the gate list of every analysed real session
(driver op `c04def`: `streamDefined`, proved equal to `wfFrom` by
`wfArr_eq_wfFrom`) against the verdict of the harness's shadow garbler, which
names every gate input that no gate wrote.  What the garbler transmits for a
gate that reads such a wire — the zero value of its wire table, both labels
zero — is stated here: the offset itself, or the raw zero-label of the other
input next to whose one-label the evaluator then holds both labels of a wire. -/

theorem sbit_zero' {L : Type} [LabelAlg L] : sbit (LabelAlg.zero : L) = false :=
  Bool.eq_false_iff.2 fun h => ne_zero_of_sbit _ h rfl

/-- **The rows of an AND gate one of whose inputs is an undefined wire** (both
labels zero: `default`), in ANY label algebra, for ANY hash, at any tweak.
First input undefined: the first row is the offset when the permute bit of the
other input is 1 (zero otherwise).  Second input undefined: the second row is
the zero-label of the first input, in the clear. -/
theorem C04_undefined_input_and_rows {L : Type} [LabelAlg L] (H : Hash L) (r : L) (x : WireL L) (id : Nat) :
    (garbleCore H r .and default x id).2 =
        [if sbit x.l0 then r else LabelAlg.zero, H.h1 x.l0 (id + 1) ^^^ H.h1 x.l1 (id + 1)] ∧
      (garbleCore H r .and x default id).2 = [H.h1 x.l0 id ^^^ H.h1 x.l1 id, x.l0] := by
  have hd : (default : WireL L) = ⟨LabelAlg.zero, LabelAlg.zero⟩ := by
    show (⟨default, default⟩ : WireL L) = _
    rw [LabelAlg.default_eq]
  constructor
  · rw [hd]
    cases hb : sbit x.l0 <;> simp [garbleCore_and_rows, hb, xor_comm']
  · rw [hd]
    simp [garbleCore_and_rows, sbit_zero', xor_comm']

/-- With the hash of the code under any block function: the offset in the clear; the raw
zero-label. -/
example (π : BitVec 128 → BitVec 128) (r x : BitVec 128) (hx : x.msb = true) (id : Nat) :
    (garbleCore (hashOf π) r .and default ⟨x, x ^^^ r⟩ id).2.head? = some r ∧
      (garbleCore (hashOf π) r .and ⟨x, x ^^^ r⟩ default id).2.getLast? = some x := by
  have h := C04_undefined_input_and_rows (hashOf π) r ⟨x, x ^^^ r⟩ id
  have hs : sbit x = true := hx
  have h1 : (garbleCore (hashOf π) r .and default ⟨x, x ^^^ r⟩ id).2 = _ := h.1
  have h2 : (garbleCore (hashOf π) r .and ⟨x, x ^^^ r⟩ default id).2 = _ := h.2
  rw [h1, h2]
  simp [hs]

/-- **A stream with an undefined gate input leaks the offset** — for ANY
accounting, hash and label algebra, on any wire store: the one-gate streams
`z := AND(u, a)` and `z := AND(a, u)` with `a` an input wire and `u` a wire
nothing wrote are exactly not `wfFrom`; the streaming evaluator's view of the
first contains the offset itself whenever the permute bit of `a` is 1, and the
view of the second contains two values that differ by the offset whenever the
value of `a` is 1 (the transmitted row is the zero-label of `a`, the evaluator
holds its one-label). -/
theorem C04_stream_undefined_input_leaks {L : Type} [LabelAlg L] (H : Hash L) (r : L) (inl : Nat → L)
    (tw : TweakAcc) (n nIn a u z : Nat) (ha : a < nIn) (hu : nIn ≤ u) (hn : u < n) (xy : List Bool) :
    let ws0 := streamStore n nIn r inl
    let V1 := streamView (streamGarbleAcc H r tw [[⟨.and, u, a, z⟩]] ws0 0).2.2 ws0 nIn xy
    let V2 := streamView (streamGarbleAcc H r tw [[⟨.and, a, u, z⟩]] ws0 0).2.2 ws0 nIn xy
    wfFrom n [[⟨.and, u, a, z⟩]].flatten (fun w => decide (w < nIn)) = false ∧
    wfFrom n [[⟨.and, a, u, z⟩]].flatten (fun w => decide (w < nIn)) = false ∧
    (sbit (inl a) = true → r ∈ V1) ∧
    (xy.getD a false = true → ∃ t ∈ V2, ∃ s ∈ V2, t ^^^ s = r) := by
  intro ws0 V1 V2
  have hnu : ¬ u < nIn := by omega
  have hga : ws0.get a = ⟨inl a, inl a ^^^ r⟩ := streamStore_get_input n nIn r inl a ha (by omega)
  have hgu : ws0.get u = default := streamStore_get_other n nIn r inl u hu
  obtain ⟨h1, h2⟩ := C04_undefined_input_and_rows H r (⟨inl a, inl a ^^^ r⟩ : WireL L) 0
  refine ⟨by simp [wfFrom, hnu], by simp [wfFrom, hnu, Op.binary], ?_, ?_⟩
  · intro hs
    simp only [V1, streamView, streamGarbleAcc, garbleGatesAcc, hga, hgu, h1, hs, if_true,
      List.append_nil, List.flatten_cons, List.flatten_nil]
    simp
  · intro hx
    refine ⟨inl a, ?_, inl a ^^^ r, ?_, xor_xor_cancel_left _ _⟩
    · simp only [V2, streamView, streamGarbleAcc, garbleGatesAcc, hga, hgu, h2,
        List.append_nil, List.flatten_cons, List.flatten_nil]
      simp
    · exact List.mem_append_right _ (List.mem_map.2 ⟨a, List.mem_range.2 ha, by rw [hga, hx]; rfl⟩)

/-- Non-vacuity, with the hash of the code under any block function and the
code's accounting: input wires 0, 1, the gate `w3 := AND(w2, w0)` reads wire 2
that nothing wrote; permute bit of wire 0 set: the offset is in the view. -/
example (π : BitVec 128 → BitVec 128) (r x y : BitVec 128) (hx : x.msb = true) :
    r ∈ streamView (streamGarbleAcc (hashOf π) r codeAcc [[⟨.and, 2, 0, 3⟩]]
      (streamStore 4 2 r (fun i => if i = 0 then x else y)) 0).2.2
      (streamStore 4 2 r (fun i => if i = 0 then x else y)) 2 [true, false] :=
  (C04_stream_undefined_input_leaks (hashOf π) r (fun i => if i = 0 then x else y) codeAcc 4 2 0 2 3
    (by decide) (by decide) (by decide) [true, false]).2.2.1 hx

/-- ... and `w3 := AND(w0, w2)` with input bit 1 on wire 0: two values of the
view differ by the offset. -/
example (π : BitVec 128 → BitVec 128) (r x y : BitVec 128) :
    ∃ t ∈ streamView (streamGarbleAcc (hashOf π) r codeAcc [[⟨.and, 0, 2, 3⟩]]
        (streamStore 4 2 r (fun i => if i = 0 then x else y)) 0).2.2
        (streamStore 4 2 r (fun i => if i = 0 then x else y)) 2 [true, false],
      ∃ s ∈ streamView (streamGarbleAcc (hashOf π) r codeAcc [[⟨.and, 0, 2, 3⟩]]
        (streamStore 4 2 r (fun i => if i = 0 then x else y)) 0).2.2
        (streamStore 4 2 r (fun i => if i = 0 then x else y)) 2 [true, false], t ^^^ s = r :=
  (C04_stream_undefined_input_leaks (hashOf π) r (fun i => if i = 0 then x else y) codeAcc 4 2 0 2 3
    (by decide) (by decide) (by decide) [true, false]).2.2.2 rfl

/-- **Streaming sessions whose gate list passes the executed check are
covered.**  `streamDefined` is what the driver op `c04def` evaluates on the gate
list of every analysed real session; by `wfArr_eq_wfFrom` it is the hypothesis
of `C04_stream_no_two_labels_of_a_wire`. -/
theorem C04_stream_defined_sessions_secret (σ : Atom Code → Bool) (hσ : σ .R = true)
    (code : SymL Code → Code) (hsep : Separates σ code) (n nIn : Nat) (hn : nIn ≤ n)
    (steps : List (List Gate)) (hdef : streamDefined n nIn steps.flatten = true) (xy : List Bool) :
    let ws0 := streamStore n nIn (symR σ) (symInl σ)
    let V := streamView (streamGarble (symHash σ code) (symR σ) true steps ws0 0).2.2 ws0 nIn xy
    ¬ InSpan (fun t => t ∈ V) (symR σ) ∧ (∀ t ∈ V, t ≠ symR σ) ∧
      (∀ t ∈ V, ∀ u ∈ V, t ^^^ u ≠ symR σ) := by
  rw [wfArr_eq_wfFrom] at hdef
  exact C04_stream_no_two_labels_of_a_wire σ hσ code hsep n nIn hn steps hdef xy

/-- Non-vacuity of the executed check: the stream of the earlier example passes,
the one-gate streams with an undefined input do not. -/
example : streamDefined 5 2 [[⟨.inv, 0, 0, 2⟩, ⟨.and, 0, 2, 3⟩], [⟨.or, 3, 1, 4⟩]].flatten = true ∧
    streamDefined 4 2 [[⟨.and, 2, 0, 3⟩]].flatten = false ∧
    streamDefined 4 2 [[⟨.and, 0, 2, 3⟩]].flatten = false := by decide +kernel

/-- sha2pc round 3 (`OutputHints`) transmits both labels of every output
wire: in any label algebra their XOR is the offset. -/
theorem C04_both_labels_leak {L : Type} [LabelAlg L] (r : L) (w : WireL L) (h : w.l1 = w.l0 ^^^ r) :
    w.l0 ^^^ w.l1 = r :=
  w.labelFor_xor h (u := false) (v := true) nofun

/-! ### The evaluator's OT request (a deviating evaluator)

The only message by which the evaluator influences what the garbler transmits
before the result phase is the wire range `(offset, count)` it asks labels for.
`circuit.Garbler` refuses everything but `(n0, n1)` (`Circuit2.acceptsOtRange`,
tied to the real code by the `range` sessions of the C04 harness). -/

/-- The evaluator's view when it asks the OT for the wires
`offset .. offset+count-1` with choice flags of its own. -/
def evaluatorViewReq {L : Type} [LabelAlg L] (p : Circuit2) (key : List UInt8) (G : Garbled L)
    (x : List Bool) (offset count : Nat) (flags : List Bool) : List L :=
  msgLabels (garblerFlight1 p key G x) ++
    List.zipWith (fun (w : WireL L) b => w.labelFor b)
      ((List.range count).map fun i => G.wires.get (offset + i))
      ((List.range count).map fun i => flags.getD i false)

/-- A request the garbler accepts gives the evaluator exactly the honest view
for the choice bits it used: the secrecy theorems above (`C04_whole_circuit`,
`C04_no_two_labels_of_a_wire`, quantified over every `y`) cover every
evaluator whose request passes the guard. -/
theorem C04_ot_range_guard {L : Type} [LabelAlg L] (p : Circuit2) (key : List UInt8) (G : Garbled L)
    (x : List Bool) (offset count : Nat) (flags : List Bool)
    (h : p.acceptsOtRange offset count = true) :
    evaluatorViewReq p key G x offset count flags = evaluatorView p key G x flags := by
  simp only [Circuit2.acceptsOtRange, Bool.and_eq_true, beq_iff_eq] at h
  obtain ⟨ho, hc⟩ := h
  subst ho; subst hc
  rfl

/-! Non-vacuity of the guard: the honest request passes, requests with the right end
but another start do not. -/
example : ({ c := default, n0 := 2, n1 := 3, outWidths := [] } : Circuit2).acceptsOtRange 2 3 = true := rfl
example : ({ c := default, n0 := 2, n1 := 3, outWidths := [] } : Circuit2).acceptsOtRange 0 5 = false := rfl
example : ({ c := default, n0 := 2, n1 := 3, outWidths := [] } : Circuit2).acceptsOtRange 1 4 = false := rfl

/-- Why the guard is needed: if a request reaching into the garbler's own
input wires were served (offset 0), then for every garbler input bit that is 1
the evaluator would hold the label sent in the clear and, by choosing 0 in the
OT, the other label of the same wire: their XOR is the offset. -/
theorem C04_ot_range_unguarded_leaks {L : Type} [LabelAlg L] (H : Hash L) (p : Circuit2)
    (hwf : p.WF = true) (key : List UInt8) (r : L) (inl : Nat → L) (x : List Bool)
    (i : Nat) (hi : i < p.n0) (hx : x.getD i false = true) (count : Nat) (hic : i < count) :
    let G := p.c.garble H r inl
    let V := evaluatorViewReq p key G x 0 count []
    ∃ t ∈ V, ∃ u ∈ V, t ^^^ u = r := by
  intro G V
  obtain ⟨hcwf, hnin, _, _⟩ := Circuit2.wf_parts hwf
  have hwire : G.wires.get i = ⟨inl i, inl i ^^^ r⟩ :=
    garble_input_wires H p.c r inl hcwf i (by omega)
  refine ⟨(G.wires.get i).labelFor true, ?_, (G.wires.get i).labelFor false, ?_,
    WireL.labelFor_xor _ (by rw [hwire]) (by decide)⟩
  · rw [← hx]
    exact List.mem_append_left _ <| msgLabels_flight1 p key G x ▸ List.mem_append_right _
      (List.mem_map.2 ⟨i, List.mem_range.2 hi, rfl⟩)
  · apply List.mem_append_right
    rw [zipWith_labelFor]
    exact List.mem_map.2 ⟨i, List.mem_range.2 hic, by simp⟩

/-- The labels an OT that reads the wire table `served` delivers for the
choice bits `y` (evaluator input wires `n0 .. n0+n1-1`). -/
def otLabels {L : Type} [LabelAlg L] (p : Circuit2) (served : Store (WireL L)) (y : List Bool) : List L :=
  List.zipWith (fun (w : WireL L) b => w.labelFor b)
    ((List.range p.n1).map fun i => served.get (p.n0 + i))
    ((List.range p.n1).map fun i => y.getD i false)

/-- The evaluator's view of a session whose first flight is that of garbling
`G` and whose OT read the wire table `served` (the memory `garbled.Wires`
points to at the time the OT reads it). -/
def servedView {L : Type} [LabelAlg L] (p : Circuit2) (key : List UInt8) (G : Garbled L)
    (served : Store (WireL L)) (x y : List Bool) : List L :=
  msgLabels (garblerFlight1 p key G x) ++ otLabels p served y

/-- Served from its own garbling, a session's view is the honest view. -/
theorem servedView_own {L : Type} [LabelAlg L] (p : Circuit2) (key : List UInt8) (G : Garbled L)
    (x y : List Bool) : servedView p key G G.wires x y = evaluatorView p key G x y := rfl

theorem otLabels_congr {L : Type} [LabelAlg L] (p : Circuit2) (a b : Store (WireL L)) (y : List Bool)
    (h : ∀ i, i < p.n1 → a.get (p.n0 + i) = b.get (p.n0 + i)) : otLabels p a y = otLabels p b y := by
  simp only [otLabels]
  congr 1
  apply List.map_congr_left
  intro i hi
  exact h i (List.mem_range.mp hi)

theorem evaluatorView_eq {L : Type} [LabelAlg L] (p : Circuit2) (key : List UInt8) (G : Garbled L)
    (x y : List Bool) :
    evaluatorView p key G x y = G.rows.flatten ++ garblerInputLabels p G x ++ otLabels p G.wires y := by
  simp only [evaluatorView, msgLabels_flight1, otLabels]

theorem mem_view_of_row {L : Type} [LabelAlg L] (p : Circuit2) (key : List UInt8) (G : Garbled L)
    (x y : List Bool) {row : List L} {r : L} (hrow : row ∈ G.rows) (hr : r ∈ row) :
    r ∈ evaluatorView p key G x y := by
  rw [evaluatorView_eq]
  exact List.mem_append_left _ (List.mem_append_left _ (List.mem_flatten.2 ⟨row, hrow, hr⟩))

theorem mem_view_of_input {L : Type} [LabelAlg L] (p : Circuit2) (key : List UInt8) (G : Garbled L)
    (x y : List Bool) {l : L} (hl : l ∈ garblerInputLabels p G x ++ otLabels p G.wires y) :
    l ∈ evaluatorView p key G x y := by
  rw [evaluatorView_eq, List.append_assoc]
  exact List.mem_append_right _ hl

/-- One session of the process in the symbolic model: its own valuation of the
permute bits (own tape), its own hash model (own key), key bytes and inputs. -/
structure SymSession (Code : Type) where
  σ    : Atom Code → Bool
  code : SymL Code → Code
  key  : List UInt8
  x    : List Bool
  y    : List Bool

def SymSession.Honest (p : Circuit2) (S : SymSession Code) : Prop :=
  S.σ .R = true ∧ Separates S.σ S.code ∧ S.x.length = p.n0

noncomputable def SymSession.job (S : SymSession Code) : Pool.GJob (SymL Code) :=
  ⟨symHash S.σ S.code, symR S.σ, symInl S.σ⟩

noncomputable def SymSession.garbling (p : Circuit2) (S : SymSession Code) : Garbled (SymL Code) :=
  p.c.garble (symHash S.σ S.code) (symR S.σ) (symInl S.σ)

/-- Everything the evaluators of a process obtain, as process values: for every
session in `live` its first flight, and the labels its OT delivered from the
wire table `served s`. -/
def processView (p : Circuit2) (ss : Nat → SymSession Code) (live : Nat → Prop)
    (served : Nat → Store (WireL (SymL Code)) → Prop) : PSym Code → Prop :=
  fun v => ∃ s, live s ∧ ∃ t,
    (t ∈ msgLabels (garblerFlight1 p (ss s).key ((ss s).garbling p) (ss s).x) ∨
      ∃ d, served s d ∧ t ∈ otLabels p d (ss s).y) ∧ v = lift s t

/-- **C04 for a process.**  Any number of sessions on one circuit, each with
its own tape, key, inputs and OT choices.  If every session's OT serves the
wire pairs of ITS OWN garbling (on the evaluator's input wires), then the union
of everything all evaluators obtain does not span the offset of ANY session:
for each session `k` there is a linear functional that is 1 on `R_k` and 0 on
every value any evaluator of the process holds. -/
theorem C04_process_offset_not_in_span (p : Circuit2) (hwf : p.WF = true)
    (ss : Nat → SymSession Code) (hh : ∀ s, (ss s).Honest p) (live : Nat → Prop)
    (served : Nat → Store (WireL (SymL Code)) → Prop)
    (hown : ∀ s d, live s → served s d →
      ∀ i, i < p.n1 → d.get (p.n0 + i) = ((ss s).garbling p).wires.get (p.n0 + i))
    (k : Nat) :
    ¬ PSpan (processView p ss live served) (lift k (symR (ss k).σ)) := by
  obtain ⟨hσ, hsep, hx⟩ := hh k
  obtain ⟨S, hR, hT⟩ := C04_whole_circuit (ss k).σ hσ (ss k).code hsep p hwf (ss k).key (ss k).x (ss k).y hx
  intro hspan
  have hz : ∀ v, processView p ss live served v → pphi k S v = false := by
    intro v hv
    obtain ⟨s, hl, t, ht, rfl⟩ := hv
    by_cases hsk : s = k
    · subst hsk
      rw [pphi_lift_same]
      refine hT _ (List.mem_append.2 (ht.imp_right fun ⟨d, hd, ht⟩ => ?_))
      rwa [otLabels_congr p d _ _ (hown s d hl hd)] at ht
    · exact pphi_lift_ne k s S t hsk
  have := pphi_span k S _ hz _ hspan
  rw [pphi_lift_same, hR] at this
  cases this

/-- In a process whose OTs serve their own garblings, no value any evaluator
obtains is a session's offset and no two of them — obtained in the same or in
different sessions — differ by a session's offset: never both labels of a wire. -/
theorem C04_process_no_two_labels_of_a_wire (p : Circuit2) (hwf : p.WF = true)
    (ss : Nat → SymSession Code) (hh : ∀ s, (ss s).Honest p) (live : Nat → Prop)
    (served : Nat → Store (WireL (SymL Code)) → Prop)
    (hown : ∀ s d, live s → served s d →
      ∀ i, i < p.n1 → d.get (p.n0 + i) = ((ss s).garbling p).wires.get (p.n0 + i))
    (k : Nat) :
    let V := processView p ss live served
    (∀ v, V v → v ≠ lift k (symR (ss k).σ)) ∧
    (∀ v u, V v → V u → v.xor u ≠ lift k (symR (ss k).σ)) := by
  have hns := C04_process_offset_not_in_span p hwf ss hh live served hown k
  exact ⟨fun v hv heq => hns (heq ▸ .mem hv), fun v u hv hu heq => hns (heq ▸ .xor (.mem hv) (.mem hu))⟩

/-- Non-vacuity: honest sessions exist for every circuit (coarsest hash model). -/
example (p : Circuit2) : ∃ ss : Nat → SymSession Bool, ∀ s, (ss s).Honest p :=
  ⟨fun _ => ⟨fun _ => true, coarseCode, [], List.replicate p.n0 false, []⟩,
    fun _ => ⟨rfl, coarse_separates _, by simp⟩⟩

/-- Non-vacuity of the ownership hypothesis: all sessions live, every OT reading
its own session's wire table. -/
example (p : Circuit2) (ss : Nat → SymSession Bool) :
    ∀ s d, (fun _ : Nat => True) s → (fun s d => d = ((ss s).garbling p).wires) s d →
      ∀ i, i < p.n1 → d.get (p.n0 + i) = ((ss s).garbling p).wires.get (p.n0 + i) := by
  intro s d _ hd i _; rw [hd]

/-- **Two evaluators served from ONE garbling hold both labels of a wire.**
In any label algebra: session A's OT reads the wire table of session B's
garbling (the scratch behind A's `garbled.Wires` was handed to B), session B's
OT reads it too; if the two evaluators choose differently on evaluator-input
wire `i`, the union of the two views contains both labels of wire `n0 + i` of
session B: their XOR is B's offset. -/
theorem C04_foreign_wires_two_labels {L : Type} [LabelAlg L] (H : Hash L) (p : Circuit2)
    (hwf : p.WF = true) (keyA keyB : List UInt8) (GA : Garbled L) (r : L) (inl : Nat → L)
    (xA xB yA yB : List Bool) (i : Nat) (hi : i < p.n1) (hne : yA.getD i false ≠ yB.getD i false) :
    let GB := p.c.garble H r inl
    ∃ t ∈ servedView p keyA GA GB.wires xA yA, ∃ u ∈ evaluatorView p keyB GB xB yB, t ^^^ u = r := by
  intro GB
  obtain ⟨hcwf, hnin, _, _⟩ := Circuit2.wf_parts hwf
  have hwire : GB.wires.get (p.n0 + i) = ⟨inl (p.n0 + i), inl (p.n0 + i) ^^^ r⟩ :=
    garble_input_wires H p.c r inl hcwf (p.n0 + i) (by omega)
  have hmem : ∀ y : List Bool, (GB.wires.get (p.n0 + i)).labelFor (y.getD i false) ∈ otLabels p GB.wires y := by
    intro y
    rw [otLabels, zipWith_labelFor]
    exact List.mem_map.2 ⟨i, List.mem_range.2 hi, rfl⟩
  exact ⟨_, List.mem_append_right _ (hmem yA), _, List.mem_append_right _ (hmem yB),
    WireL.labelFor_xor _ (by rw [hwire]) hne⟩

/-- Non-vacuity: a well-formed two-party circuit with an evaluator input wire. -/
def procExample : Circuit2 :=
  { c := { numWires := 3, nIn := 2, nOut := 1, gates := [⟨.and, 0, 1, 2⟩] }, n0 := 1, n1 := 1, outWidths := [1] }

example : procExample.WF = true ∧ 0 < procExample.n1 := by decide

end Mpc.Sym

namespace Mpc.GProc
open Mpc Mpc.Pool Mpc.Sym LabelAlg

/-- **Ownership until the session ends** (the code as it is: `circuit.Garbler`
never calls `garbled.Release()`).  For every history of a garbler process on one
circuit value — sessions starting while others stall before their OT, between
its messages or before the result, `Garble` calls failing part-way and putting
their scratch back, any scratch re-use — in every notion of scratch contents
and for every assignment of (tape, key) to sessions: each session's `*Garbled`
is still a live handle that owns the memory its `Wires` slice points to, and
EVERYTHING the session's OT (at the call and at the return) and its result loop
read there is the single-goroutine result of the session's own `Garble` call. -/
theorem C04_proc_serves_own {Mem Job : Type} (P : Params Mem Job) (job : Nat → Job) (evs : List PEv)
    (st : PState Mem Job) (hrun : runProc false P job (initP P) evs = some st) :
    ∀ e ∈ st.sess, ∃ H, st.σ.handle e.handle = some H ∧ H.owned = some e.scratch ∧ H.job = job e.id ∧
      ∀ d, d ∈ e.otSeen ∨ d ∈ e.decSeen → d = seqGarble P (job e.id) H.init :=
  (pinv_run P job evs _ st (pinv_init P job) hrun).sess

/-- The executed instance (`Driver/C04.lean`): on every history the model of the
code as it is answers "served by itself, decoded" for every session — this is
what the real sessions of the `overlap` harness are compared with, line by line. -/
theorem C04_proc_digest_serves_own (evs : List PEv) (st : DState) (hrun : runDigest false evs = some st) :
    ∀ e ∈ st.sess, (e.otSeen ≠ [] → servedBy e = some e.id) ∧ decodesOk e = true := by
  intro e he
  obtain ⟨H, _, _, _, hd⟩ := C04_proc_serves_own traceParams digestOf evs st hrun e he
  have hseq : ∀ m0, seqGarble traceParams (digestOf e.id) m0 = digestOf e.id := by
    intro m0; simp [seqGarble, traceParams]
  have hot : ∀ d ∈ e.otSeen, d = digestOf e.id := fun d h => (hd d (Or.inl h)).trans (hseq _)
  have hdec : ∀ d ∈ e.decSeen, d = digestOf e.id := fun d h => (hd d (Or.inr h)).trans (hseq _)
  refine ⟨fun hne => ?_, by
    simpa only [decodesOk, Bool.and_eq_true, List.all_eq_true, beq_iff_eq] using ⟨hot, hdec⟩⟩
  cases hl : e.otSeen with
  | nil => exact absurd hl hne
  | cons d ds =>
    rw [hl] at hot
    cases hot d List.mem_cons_self
    have h0 : digestOf e.id ≠ 0 ∧ (ds.all fun x => x == digestOf e.id) = true :=
      ⟨Nat.succ_ne_zero _, List.all_eq_true.2 fun x hx => beq_iff_eq.2 (hot x (List.mem_cons_of_mem _ hx))⟩
    simp only [servedBy, hl, if_pos h0]
    rfl

/-- Non-vacuity (and what the driver prints): session 0 stalls before its OT,
session 1 runs from start to end in the gap, a third Garble fails after one
write and puts its scratch back, session 3 draws that scratch; session 0
continues.  Every OT and result loop read their own session's digest. -/
example :
    (match runDigest false [.start 0, .start 1, .otBegin 1, .otEnd 1, .decode 1, .fail 2 1, .start 3,
        .otBegin 0, .otBegin 3, .otEnd 0, .otEnd 3, .decode 0, .decode 3] with
     | some st => (st.sess.map fun e => (e.id, e.scratch, e.otSeen, e.decSeen)) ==
         [(3, 2, [4, 4], [4]), (1, 1, [2, 2], [2]), (0, 0, [1, 1], [1])]
     | none => false) = true := by decide

/-- **The same with the real writes of `Circuit.Garble`.**  Pool model with the
actual write sequence (`garbleParams c`), well-formed circuit, any history:
the wire table a session's OT or result loop reads carries, on every defined
wire, the pair that `Circuit.garble` computes from the session's own key and
tape — the garbling the secrecy theorems above are about. -/
theorem C04_proc_ot_serves_own_wires {L : Type} [LabelAlg L] (c : Circuit) (hwf : c.WF = true)
    (job : Nat → GJob L) (evs : List PEv) (st : PState (GMem L) (GJob L))
    (hrun : runProc false (garbleParams c) job (initP (garbleParams c)) evs = some st) :
    ∀ e ∈ st.sess, ∀ d, d ∈ e.otSeen ∨ d ∈ e.decSeen → ∀ w, c.defined w = true →
      d.wires.get w = (c.garble (job e.id).H (job e.id).r (job e.id).inl).wires.get w := by
  intro e he d hd w hw
  have hi := pinv_run (garbleParams c) job evs _ st (pinv_init _ job) hrun
  obtain ⟨H, hH, _, _, hall⟩ := hi.sess e he
  have hgood := (good_reachable (garbleParams c) (fun m => m.wires.size = c.numWires)
    (by simp [garbleParams]) (fun j f hf m hm => garbleProg_size c j f hf m hm) true st.σ hi.reach).2.2
      e.handle H hH
  rw [hall d hd]
  exact (seqGarble_eq_garble c hwf (job e.id) H.init hgood).1 w hw

/-- **C04 over process histories, end to end.**  Symbolic sessions (own tape,
own key, own inputs and OT choices each), the real write sequence of
`Circuit.Garble` on pooled scratch, ANY history of the process as the code runs
it: the union of everything the evaluators obtain — every started session's
tables and garbler input labels, and the labels delivered by its OT from
whatever the wire table held at the call or at the return — does not span the
offset of any session. -/
theorem C04_process_secrecy {Code : Type} (p : Circuit2) (hwf : p.WF = true)
    (ss : Nat → SymSession Code) (hh : ∀ s, (ss s).Honest p) (evs : List PEv)
    (st : PState (GMem (SymL Code)) (GJob (SymL Code)))
    (hrun : runProc false (garbleParams p.c) (fun s => (ss s).job) (initP (garbleParams p.c)) evs = some st)
    (k : Nat) :
    ¬ PSpan (processView p ss (fun s => ∃ e ∈ st.sess, e.id = s)
        (fun s d => ∃ e ∈ st.sess, e.id = s ∧ ∃ m ∈ e.otSeen, d = m.wires))
      (lift k (symR (ss k).σ)) := by
  apply C04_process_offset_not_in_span p hwf ss hh
  intro s d _ hd i hi
  obtain ⟨e, he, rfl, m, hm, rfl⟩ := hd
  obtain ⟨hcwf, hnin, _, _⟩ := Circuit2.wf_parts hwf
  exact C04_proc_ot_serves_own_wires p.c hcwf (fun s => (ss s).job) evs st hrun e he m (Or.inl hm)
    (p.n0 + i) (input_defined p.c _ (by omega))

/-- Non-vacuity of `C04_process_secrecy` / `C04_proc_ot_serves_own_wires`: for
the example circuit and ANY jobs, the history "session 0 starts and stalls,
session 1 starts, its OT runs, session 0's OT runs" is a run of the model, and
both sessions have OT reads recorded. -/
example {L : Type} [LabelAlg L] (job : Nat → GJob L) :
    ∃ st, runProc false (garbleParams procExample.c) job (initP (garbleParams procExample.c))
        [.start 0, .start 1, .otBegin 1, .otEnd 1, .otBegin 0, .otEnd 0] = some st ∧
      st.sess.map (fun e => (e.id, e.otSeen.length)) = [(1, 2), (0, 2)] :=
  ⟨_, rfl, rfl⟩

/-- **What the property excludes: the scratch goes back to the pool before its
last use.**  `early = true`: the garbler calls `garbled.Release()` once the
tables and its own input labels are sent and keeps reading through the slice it
copied out.  (1) Session 0 stalls before its OT, session 1 garbles in the gap:
it draws session 0's scratch, and session 0's OT, when it resumes, reads
session 1's wire pairs (digest 2), so does its result loop.  (2) Session 0
stalls between two OT messages: the wire table changes under the OT.  (3) The
code as it is (`early = false`) reads its own garbling on both histories. -/
theorem C04_proc_early_release_serves_foreign :
    (match runDigest true [.start 0, .start 1, .otBegin 0, .otEnd 0, .decode 0, .otBegin 1, .otEnd 1] with
     | some st => (st.sess.map fun e => (e.id, e.scratch, e.otSeen, e.decSeen, servedBy e)) ==
         [(1, 0, [2, 2], [], some 1), (0, 0, [2, 2], [2], some 1)]
     | none => false) = true ∧
    (match runDigest true [.start 0, .otBegin 0, .start 1, .otEnd 0] with
     | some st => (st.sess.map fun e => (e.id, e.otSeen, servedBy e)) == [(1, [], none), (0, [1, 2], none)]
     | none => false) = true ∧
    (match runDigest false [.start 0, .start 1, .otBegin 0, .otEnd 0, .decode 0, .otBegin 1, .otEnd 1] with
     | some st => (st.sess.map fun e => (e.id, e.scratch, e.otSeen, e.decSeen, servedBy e)) ==
         [(1, 1, [2, 2], [], some 1), (0, 0, [1, 1], [1], some 0)]
     | none => false) = true := by decide

end Mpc.GProc
