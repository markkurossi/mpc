/-
C10  GMW: every party outputs f(inputs); dealt triples are valid.

Statement (properties.jsonl): for every number of parties ≥ 2, every circuit
compiled for the GMW target and all inputs, all parties complete the protocol
and each returns outputs equal to the plain evaluation of the circuit on all
parties' inputs.  Every multiplication triple dealt by the offline phase
satisfies (xor of all a-shares) AND (xor of all b-shares) = xor of all
c-shares, bit for bit.

Model: `Model/Gmw.lean` (gmw/{bitvec,triples,network,peer}.go), levels from
`Model/Levels.lean` (`Circuit.AssignLevels(TargetGMW)`).  Quantification of the
theorems: every number of parties (`sizes.length ≥ 1`; 2..5 are run), every
HISTORY of `Run` calls on one connected Network (`Model/GmwHist.lean`: pool
position, `nw.triples` and the never-reset `nw.wires` carried from call to
call; `C10_history`), every
single-assignment circuit without OR gates (the compiler emits XOR/XNOR/AND/INV
only; `run` returns `gate OR not supported` otherwise), every input, every
input-sharing randomness, every local triple randomness and all bit-COT
outputs satisfying the correlation of property C06, every arrival schedule of
triple batches at the pool.

What the theorems do not carry (stated in the check's assumptions): the TCP
connection set-up of `gmw.Network` and goroutine scheduling are exercised by
the harness, not modelled; privacy is not claimed; `Outputs.Split` (the
presentation of the output bits as values, the same function in `Network.Run`
and `Circuit.Compute`) is C02/C13's.

Inputs: `x : Nat → Nat` in the theorems up to `C10_history`; the section `Inputs as the
integers the API accepts` (`Model/GmwInt.lean`) puts the integers the API accepts in front - every
`*big.Int` of any sign and magnitude, read by `Int.Xor` / `Int.Bit`
(`C10_outputs_int`, `C10_outputs_args`, `C10_history_int`).
Message counts of a run (`Model/GmwMsgs.lean`): `C10_input_share_one_message_per_pair`, `C10_transcript_matched`.
-/
import MpcVerif.Proofs.GmwInt
import MpcVerif.Proofs.GmwMsgs
import MpcVerif.Proofs.LevelsMod
import MpcVerif.Model.Iknp

namespace Mpc
open Mpc.Gmw

/-- `gmw_triple_valid`.  For every number of parties `n`, all local random
shares `a`, `b`, all sender outputs `s`, all `Delta.Bit(0)` and all receiver
outputs `r` satisfying the bit-COT correlation `r = s ⊕ Δ₀·b` (`CotCorr`,
property C06): in every word of the batch `tripleBatch` deals,
`(⊕ₚ aₚ) & (⊕ₚ bₚ) = ⊕ₚ cₚ`, bit for bit. -/
theorem C10_triples_valid (n words : Nat) (I : BatchIn) (h : CotCorr n words I) (w : Nat) (hw : w < words) :
    xorW ((List.range n).map fun p => wget (tripleBatch n words I p).a w) &&&
    xorW ((List.range n).map fun p => wget (tripleBatch n words I p).b w) =
    xorW ((List.range n).map fun p => wget (tripleBatch n words I p).c w) :=
  gmw_triple_valid n words I h w hw

/-- a correlated instance exists for arbitrary `a`, `b`, `s`, `delta`: take
`r q p := s p q ⊕ Δ(p,q)·b q` -/
example (a b : Nat → Words) (s : Nat → Nat → Words) (delta : Nat → Nat → Bool) (n words : Nat) :
    CotCorr n words
      { a := a, b := b, s := s, delta := delta
        r := fun q p => mkA words fun w => wget (s p q) w ^^^ (if delta p q then wget (b q) w else 0#64) } := by
  intro p q _ _ _ w hw
  simp only []
  rw [wget_mkA _ _ _ hw]

/-- The word form of the correlation follows from the packed-bit form in
which property C06 states it for the IKNP model (`∀ j < n, bitAt received j =
(bitAt sent j ^^ (Delta.Bit(0) && bitAt choices j))`, Props/C06.lean: the
positions `j < n`, which are all `64 * words` positions of the words when
`n % 64 = 0`; `tripleSenderLoop` only uses 4096 and 8192 – checked as a
structural fact on every run): `bitAt` of the IKNP model is `Gmw.bit`. -/
theorem C10_cot_from_bits (rw sw ch : Words) (d : Bool) (words : Nat)
    (h : ∀ j, j < 64 * words → Iknp.bitAt rw j = (Iknp.bitAt sw j ^^ (d && Iknp.bitAt ch j))) :
    ∀ w, w < words → wget rw w = wget sw w ^^^ (if d then wget ch w else 0#64) := by
  intro w hw
  apply BitVec.eq_of_getLsbD_eq
  intro i hi
  have := h (64 * w + i) (Nat.lt_of_lt_of_le (Nat.add_lt_add_left hi _) (Nat.mul_le_mul_left 64 hw))
  simp only [Iknp.bitAt] at this
  rw [Nat.mul_add_div (by decide), Nat.mul_add_mod, Nat.div_eq_of_lt hi, Nat.mod_eq_of_lt hi, Nat.add_zero] at this
  show (rw.getD w 0#64).getLsbD i = _
  rw [this, BitVec.getLsbD_xor]
  cases d
  · simp only [wget, Bool.false_and, Bool.xor_false, Bool.false_eq_true, if_false, BitVec.getLsbD_zero]
  · rfl

example : (4096 % 64 = 0 ∧ 8192 % 64 = 0) ∧ Iknp.bitAt = Gmw.bit := ⟨by decide, rfl⟩

/-- The pools filled by the offline phase: every party appends its
`tripleBatch` output of every batch, in order (`Pool.triples.Append`). -/
def dealt (n : Nat) (bs : List (Nat × BatchIn)) (p : Nat) : Triples :=
  bs.foldl (fun pool b => poolArrive pool (tripleBatch n b.1 b.2 p)) Triples.empty

theorem poolsValid_foldl (n : Nat) : ∀ (bs : List (Nat × BatchIn)) (pools : Nat → Triples) (L : Nat),
    PoolsValid n L pools → (∀ b ∈ bs, CotCorr n b.1 b.2) →
    PoolsValid n (L + (bs.map (·.1)).sum)
      (fun p => bs.foldl (fun pool b => poolArrive pool (tripleBatch n b.1 b.2 p)) (pools p)) := by
  intro bs
  induction bs with
  | nil => intro pools L h _; simpa using h
  | cons b bs ih =>
    intro pools L h hb
    have h1 := poolsValid_arrive n L b.1 pools (fun p => tripleBatch n b.1 b.2 p) h
      (poolsValid_tripleBatch n b.1 b.2 (hb b List.mem_cons_self))
    have := ih _ _ h1 (fun b' hb' => hb b' (List.mem_cons_of_mem _ hb'))
    simp only [List.foldl_cons, List.map_cons, List.sum_cons]
    rw [← Nat.add_assoc]
    exact this

/-- Every word of every party's pool is a valid triple after any number of
batches (all pools hold the same number of words, the sum of the batch sizes). -/
theorem C10_triples_valid_pool (n : Nat) (bs : List (Nat × BatchIn)) (h : ∀ b ∈ bs, CotCorr n b.1 b.2) :
    PoolsValid n (bs.map (·.1)).sum (dealt n bs) := by
  have := poolsValid_foldl n bs (fun _ => Triples.empty) 0 (poolsValid_empty n) h
  rw [Nat.zero_add] at this
  exact this

/-- `gmw_pool_lockstep`.  Whatever the arrival schedule of batches, a
`TriplePool.Get(count)` that returns has moved exactly the next `⌈count/64⌉`
words of the stream (pool content followed by all arriving batches) to the
destination, in order, and left the rest: all parties consume identical triple
indices. -/
theorem C10_pool_lockstep (count : Nat) (ticks : List (List Triples)) (pool dst pool' dst' : Triples)
    (rest : List (List Triples)) (hp : pool.WF) (hd : dst.WF) (hb : ∀ t ∈ ticks, ∀ b ∈ t, b.WF)
    (h : poolGet count ticks 0 pool dst = some (pool', dst', rest)) :
    dst'.view = dst.view ++ (stream pool ticks).take ((count + 63) / 64) ∧
    stream pool' rest = (stream pool ticks).drop ((count + 63) / 64) ∧
    (count + 63) / 64 ≤ (stream pool ticks).length ∧ pool'.WF ∧ dst'.WF :=
  gmw_pool_lockstep count ticks pool dst pool' dst' rest hp hd hb h

/-- Two schedules carrying the same stream give the same result. -/
theorem C10_pool_timing_independent (count : Nat) (t1 t2 : List (List Triples)) (pool dst p1 d1 p2 d2 : Triples)
    (r1 r2 : List (List Triples)) (hp : pool.WF) (hd : dst.WF)
    (hb1 : ∀ t ∈ t1, ∀ b ∈ t, b.WF) (hb2 : ∀ t ∈ t2, ∀ b ∈ t, b.WF)
    (hs : stream pool t1 = stream pool t2)
    (h1 : poolGet count t1 0 pool dst = some (p1, d1, r1)) (h2 : poolGet count t2 0 pool dst = some (p2, d2, r2)) :
    d1.view = d2.view ∧ stream p1 r1 = stream p2 r2 := by
  obtain ⟨a1, b1, _⟩ := gmw_pool_lockstep count t1 pool dst p1 d1 r1 hp hd hb1 h1
  obtain ⟨a2, b2, _⟩ := gmw_pool_lockstep count t2 pool dst p2 d2 r2 hp hd hb2 h2
  rw [a1, a2, b1, b2, hs]
  exact ⟨rfl, rfl⟩

/-- Progress: once the stream holds enough words, `Get` returns (after
finitely many more loop iterations). -/
theorem C10_pool_get_returns (count : Nat) (ticks : List (List Triples)) (pool dst : Triples)
    (hp : pool.WF) (hd : dst.WF) (hb : ∀ t ∈ ticks, ∀ b ∈ t, b.WF)
    (henough : (count + 63) / 64 ≤ (stream pool ticks).length) :
    ∃ pad, (poolGet count (ticks ++ List.replicate pad []) 0 pool dst).isSome = true :=
  pool_poolGet_returns count ticks 0 pool dst hp henough

/-- a batch arriving while `Get(100)` waits on an empty pool: two words move -/
example : (poolGet 100 [[], [Triples.ofList [(1#64, 2#64, 3#64)]], [Triples.ofList [(4#64, 5#64, 6#64), (7#64, 8#64, 9#64)]], []]
      0 Triples.empty Triples.empty).map (fun r => (r.1.view, r.2.1.view)) =
    some ([(7#64, 8#64, 9#64)], [(1#64, 2#64, 3#64), (4#64, 5#64, 6#64)]) := by decide +kernel

/-- `and_words_opened` (Beaver).  With valid triples in the pools, for every
word `k` of an AND batch the XOR over all parties of the `z` words computed by
`andBatchFlush` (masked differences `d = x ⊕ a`, `e = y ⊕ b` opened by
`broadcastXORs`, `z = c ⊕ d&b ⊕ e&a`, party 0 adds `d&e`) equals the AND of the
reconstructed packed inputs. -/
theorem C10_and_correct {n L : Nat} {ps : List Party} (hst : St n L ps) (hn : 0 < n) (batch : List Gate)
    (hW : (batch.length + 63) / 64 ≤ L) (k : Nat) (hk : k < (batch.length + 63) / 64) :
    let W := (batch.length + 63) / 64
    let ps1 := ps.map (getT batch.length)
    let ds := ps1.map fun q => (q.id, (maskedDE q batch.toArray W).1)
    let es := ps1.map fun q => (q.id, (maskedDE q batch.toArray W).2)
    xorW (ps1.map fun q => wget (andZ q (openAt q.id (maskedDE q batch.toArray W).1 ds)
        (openAt q.id (maskedDE q batch.toArray W).2 es) W) k) =
      xorW (ps.map fun p => wget (packIn p.wires batch.toArray W false) k) &&&
      xorW (ps.map fun p => wget (packIn p.wires batch.toArray W true) k) := by
  intro W ps1 ds es
  -- `Get` moves valid triple words to `nw.triples` and leaves the wires alone
  exact (and_words_opened (getT_ids _ hst.ids) hn batch.toArray W k hk (getT_valid hst _ hW k hk)).trans
    (by rw [List.map_map, List.map_map]; rfl)

/-- One level of `Network.run` keeps the invariant: if the shares reconstruct
to the plain store `S` then after the AND batch they reconstruct to the plain
store after these gates (batch sizes that are not multiples of 64 included:
the tail lanes of the last word are never read back). -/
theorem C10_and_step {n N L : Nat} {ps : List Party} {S : Store Bool} (hst : St n L ps) (hn : 0 < n)
    (hsim : Sim N ps S) (batch : List Gate) (hne : batch ≠ []) (hop : ∀ g ∈ batch, g.op = .and)
    (hout : ∀ g ∈ batch, g.out < N) (hnd : (batch.map (·.out)).Nodup)
    (hind : ∀ g ∈ batch, ∀ h ∈ batch, h.out ≠ g.in0 ∧ h.out ≠ g.in1)
    (hW : (batch.length + 63) / 64 ≤ L) :
    ∃ ps', andStep batch ps = some ps' ∧ St n (L - (batch.length + 63) / 64) ps' ∧
      Sim N ps' (evalPlainGates batch S) :=
  let ⟨ps', h1, h2, h3, _⟩ := andStep_spec hst hn hsim batch hop hout hind hW
  ⟨ps', h1, h2, h3⟩

/-- `gmw_level_schedule`.  For a single-assignment circuit the order of
`Network.run` – per `AssignLevels(TargetGMW)` level the non-AND gates in circuit
order, then the AND batch – is a permutation of the gates in which every gate
comes after the producers of its inputs; evaluating in that order gives every
wire the value of `plainEval`; the AND gates of one level do not feed each
other. -/
theorem C10_level_schedule (c : Circuit) (hssa : SSA c.numWires c.gates c.inputDefined) (x : List Bool) :
    (schedule c).Perm c.gates ∧ wfFrom c.numWires (schedule c) c.inputDefined = true ∧
    (∀ w, (evalPlainGates (schedule c) (initStore c.numWires false (x.take c.nIn))).get w = (c.plainEval x).get w) ∧
    (∀ b ∈ blocks c, ∀ g ∈ b.2, ∀ h ∈ b.2, h.out ≠ g.in0 ∧ h.out ≠ g.in1) :=
  ⟨schedule_perm c, schedule_wf c hssa, gmw_level_schedule c hssa x, blocks_indep c hssa⟩

/-- `run_correct`.  After the run, on EVERY wire the XOR of all
parties' shares equals the plain value; the run takes no error branch and
every party's pool has lost exactly `needW` words. -/
theorem C10_share_invariant (c : Circuit) (sizes : List Nat) (x : Nat → Nat) (rnd : Nat → Nat → Nat)
    (pools : Nat → Triples) (L : Nat) (hok : RunOK c sizes) (hpools : PoolsValid sizes.length L pools)
    (hL : needW (blocks c) ≤ L) :
    ∃ ps outs, run c sizes x rnd pools = .ok ps outs ∧ ps.length = sizes.length ∧
      (∀ w, recon ps w = (c.plainEval (inputBits sizes x)).get w) ∧
      (∀ p ∈ ps, p.pool.words = L - needW (blocks c)) := by
  obtain ⟨ps, outs, h1, h2, _, h4, _, h6⟩ :=
    run_correct c sizes x rnd pools (inputBits sizes x) L hok (inputsOf_inputBits sizes x) hpools hL
  exact ⟨ps, outs, h1, h2, h4, h6⟩

/-- **C10_outputs.**  For every number of parties, every single-assignment
circuit without OR gates whose inputs are the parties' arguments, all inputs
`x`, all sharing randomness `rnd`, and pools holding at least `needW` valid
triple words each: the run returns `ok` and EVERY party's output equals
`Circuit.compute` on all parties' inputs. -/
theorem C10_outputs (c : Circuit) (sizes : List Nat) (x : Nat → Nat) (rnd : Nat → Nat → Nat)
    (pools : Nat → Triples) (L : Nat) (hok : RunOK c sizes) (hpools : PoolsValid sizes.length L pools)
    (hL : needW (blocks c) ≤ L) :
    ∃ ps outs, run c sizes x rnd pools = .ok ps outs ∧ outs.length = sizes.length ∧
      ∀ o ∈ outs, o = c.compute (inputBits sizes x) := by
  obtain ⟨ps, outs, h1, _, h3, _, h5, _⟩ :=
    run_correct c sizes x rnd pools (inputBits sizes x) L hok (inputsOf_inputBits sizes x) hpools hL
  exact ⟨ps, outs, h1, h3, h5⟩

/-- Offline and online phase composed: pools dealt by `tripleBatch` from
correlated COT outputs, enough of them, any circuit as above: every party
outputs `f(inputs)`. -/
theorem C10_offline_online (c : Circuit) (sizes : List Nat) (x : Nat → Nat) (rnd : Nat → Nat → Nat)
    (bs : List (Nat × BatchIn)) (hok : RunOK c sizes) (hcot : ∀ b ∈ bs, CotCorr sizes.length b.1 b.2)
    (hL : needW (blocks c) ≤ (bs.map (·.1)).sum) :
    ∃ ps outs, run c sizes x rnd (dealt sizes.length bs) = .ok ps outs ∧ outs.length = sizes.length ∧
      ∀ o ∈ outs, o = c.compute (inputBits sizes x) :=
  C10_outputs c sizes x rnd _ _ hok (C10_triples_valid_pool sizes.length bs hcot) hL

/-- `w3 = a & b; w4 = w3 xnor c; w5 = !w4; w6 = w5 & a`; outputs `w5, w6`. -/
def exGmw : Circuit :=
  { numWires := 7, nIn := 3, nOut := 2,
    gates := [⟨.and, 0, 1, 3⟩, ⟨.xnor, 3, 2, 4⟩, ⟨.inv, 4, 0, 5⟩, ⟨.and, 5, 0, 6⟩] }

def exPools (p : Nat) : Triples :=
  match p with
  | 0 => Triples.ofList [(5#64, 9#64, 7#64), (1#64, 0#64, 0#64)]
  | 1 => Triples.ofList [(3#64, 12#64, 0#64), (1#64, 1#64, 1#64)]
  | _ => Triples.ofList [(1#64, 10#64, 0#64), (1#64, 0#64, 0#64)]

def exX (p : Nat) : Nat := if p = 2 then 0 else 1
def exRnd (p q : Nat) : Nat := p + 2 * q + 1

def runOuts : RunResult → Option (List (List Bool))
  | .ok _ outs => some outs
  | _ => none

theorem runOuts_of_outputs {r : RunResult} {n : Nat} {v : List Bool}
    (h : ∃ ps outs, r = .ok ps outs ∧ outs.length = n ∧ ∀ o ∈ outs, o = v) :
    runOuts r = some (List.replicate n v) := by
  obtain ⟨ps, outs, rfl, hlen, hall⟩ := h
  rw [← List.eq_replicate_iff.mpr ⟨hlen, hall⟩]
  rfl

theorem exGmw_ok : RunOK exGmw [1, 1, 1] :=
  ⟨⟨by decide, by decide, by decide⟩, by decide, by decide, by decide, by decide⟩

example : RunOK exGmw [1, 1, 1] := exGmw_ok

theorem exPools_valid : PoolsValid 3 2 exPools := ⟨by decide +kernel, by decide +kernel⟩

example : PoolsValid 3 2 exPools := exPools_valid

theorem exGmw_need : needW (blocks exGmw) = 2 ∧ schedule exGmw = exGmw.gates := by decide +kernel

example : needW (blocks exGmw) = 2 ∧ schedule exGmw = exGmw.gates := exGmw_need

/-- the executed model on this instance: all three parties return
`compute [1,1,0] = [1,1]` -/
theorem C10_concrete :
    runOuts (run exGmw [1, 1, 1] exX exRnd exPools) = some [[true, true], [true, true], [true, true]] ∧
    exGmw.compute (inputBits [1, 1, 1] exX) = [true, true] := by
  have hc : exGmw.compute (inputBits [1, 1, 1] exX) = [true, true] := by decide +kernel
  refine ⟨?_, hc⟩
  rw [runOuts_of_outputs (C10_outputs exGmw [1, 1, 1] exX exRnd exPools 2 exGmw_ok exPools_valid
    (Nat.le_of_eq exGmw_need.1)), hc]
  rfl

/-! ### The boundary of "every circuit": the width of the level counter

`C10_level_schedule` and everything built on it count levels in `Nat`.
`Circuit.AssignLevels` counts them in `Level = uint32` (gate field, scratch
table `levels []Level`, `level++`), and Go arithmetic wraps silently: the
theorems describe the code for circuits whose AND depth fits the counter.
`Model/LevelsMod.lean` has the loop with a `k`-bit counter
(`assignLevelsMod k`), the linear-time check `topoCheck` of the predicate "the
level table is a topological schedule of `Network.run`" (`TopoLevels`,
Proofs/LevelsMod.lean), which the harness evaluates on the REAL levels of
generated and extreme circuits (AND depth 255 … 65537 and beyond), and the
chain family. -/

/-- The `Nat` levels of `AssignLevels(TargetGMW)` are a topological schedule:
a gate's level is at least the level of the producer of each input, and
strictly larger when that producer is an AND gate; the linear check
`topoCheck` (the harness's level oracle) accepts them – for every circuit. -/
theorem C10_levels_topological (c : Circuit) (hssa : SSA c.numWires c.gates c.inputDefined) :
    TopoLevels (glv c) ∧ topoCheck c.numWires (glv c) = true :=
  ⟨levels_topological c hssa, topoGo_assignLevelsGo c.gates _ 0⟩

example : SSA exGmw.numWires exGmw.gates exGmw.inputDefined := ⟨by decide, by decide, by decide⟩
example : glv exGmw = [(⟨.and, 0, 1, 3⟩, 0), (⟨.xnor, 3, 2, 4⟩, 1), (⟨.inv, 4, 0, 5⟩, 1), (⟨.and, 5, 0, 6⟩, 1)] := by
  decide +kernel

/-- What the level oracle decides: a level table (ANY table – the one read
back from the real gates) that `topoCheck` accepts is a topological schedule,
for single-assignment gate lists. -/
theorem C10_topo_check_sound (n : Nat) (gl : List (Gate × Nat)) (hnd : (gl.map (·.1.out)).Nodup)
    (hsz : ∀ a ∈ gl, a.1.out < n) (h : topoCheck n gl = true) : TopoLevels gl :=
  topoCheck_sound n gl hnd hsz h

example : topoCheck 7 (glv exGmw) = true ∧ topoCheck 7 (exGmw.gates.zip [0, 1, 1, 0]) = false := by decide +kernel
example : TopoLevels (glv exGmw) :=
  C10_topo_check_sound 7 (glv exGmw) (by decide +kernel) (by decide +kernel) (by decide +kernel)

/-- **No-overflow side condition, explicit.**  With the levels held in a
`k`-bit counter the loop computes exactly the `Nat` levels as long as the AND
depth (`Stats[NumLevels]`, the largest wire level) is below `2^k`. -/
theorem C10_levels_counter_exact (c : Circuit) (k : Nat) (h : (c.assignLevels true).2 < 2 ^ k) :
    c.assignLevelsMod k = c.assignLevels true :=
  assignLevelsModGo_eq k c.gates _ 0 h

example : (exGmw.assignLevels true).2 < 2 ^ 2 ∧ exGmw.assignLevelsMod 2 = ([0, 1, 1, 1], 2) := by decide +kernel

/-- **Where the model meets the code** (`type Level uint32`): for AND depth
below `2^32` the 32-bit computation of `AssignLevels` IS `assignLevels true`,
its level table is a topological schedule and the evaluation order of
`Network.run` built from it is `Gmw.schedule` – so `C10_level_schedule`,
`C10_outputs`, `C10_history` speak about the code.  Beyond that depth they do
not (`C10_levels_mod_not_topological`). -/
theorem C10_levels_u32 (c : Circuit) (hssa : SSA c.numWires c.gates c.inputDefined)
    (hdepth : (c.assignLevels true).2 < 2 ^ 32) :
    c.assignLevelsMod 32 = c.assignLevels true ∧
    TopoLevels (c.gates.zip (c.assignLevelsMod 32).1) ∧
    scheduleWith c (c.assignLevelsMod 32) = schedule c := by
  have e := C10_levels_counter_exact c 32 hdepth
  refine ⟨e, ?_, ?_⟩
  · rw [e]; exact levels_topological c hssa
  · rw [e, schedule_eq_scheduleWith]

example : (exGmw.assignLevels true).2 < 2 ^ 32 := by decide +kernel

/-- No level table whose entries all fit `k` bits is a topological schedule of
the dependent AND chain of depth `2^k + 1` (levels must grow by one per AND). -/
theorem C10_bounded_levels_not_topological (k : Nat) (lv : List Nat) (hl : lv.length = 2 ^ k + 1)
    (hb : ∀ l ∈ lv, l < 2 ^ k) : ¬ TopoLevels ((chain (2 ^ k + 1)).gates.zip lv) :=
  chain_bounded_not_topo k lv hl hb

example : ([0, 1, 0] : List Nat).length = 2 ^ 1 + 1 ∧ ∀ l ∈ ([0, 1, 0] : List Nat), l < 2 ^ 1 := by decide

/-- **Negation witness, as a family.**  For EVERY counter width `k` the
schedule computed modulo `2^k` is NOT topological once the AND depth reaches
`2^k`: on the chain of depth `2^k + 1` the last gate gets level `0` and is
evaluated in the first round, before the gate feeding it; the level oracle
rejects that table.  (`k = 32`: the code, at a depth no run reaches; `k = 16`,
`k = 8`: depths 65537 and 257, which the harness runs.) -/
theorem C10_levels_mod_not_topological (k : Nat) :
    ¬ TopoLevels ((chain (2 ^ k + 1)).gates.zip ((chain (2 ^ k + 1)).assignLevelsMod k).1) ∧
    topoCheck (chain (2 ^ k + 1)).numWires
      ((chain (2 ^ k + 1)).gates.zip ((chain (2 ^ k + 1)).assignLevelsMod k).1) = false := by
  have hlen : ((chain (2 ^ k + 1)).assignLevelsMod k).1.length = (chainGates (2 ^ k + 1)).length :=
    assignLevelsModGo_length k _ _ 0
  have hnt := chain_bounded_not_topo k _ (hlen.trans (chainGates_length _))
    (assignLevelsMod_lt _ k)
  refine ⟨hnt, Bool.eq_false_iff.mpr fun h => hnt (topoCheck_sound _ _ ?_ (fun a ha => ?_) h)⟩
  · rw [show (fun x : Gate × Nat => x.1.out) = (·.out) ∘ Prod.fst from rfl, ← List.map_map,
      List.map_fst_zip (Nat.le_of_eq hlen.symm)]
    exact chain_out_nodup _
  · exact chain_out_lt _ a.1 (List.of_mem_zip (a := a.1) (b := a.2) ha).1

example : (chain 3).assignLevelsMod 1 = ([0, 1, 0], 1) ∧ (chain 3).assignLevels true = ([0, 1, 2], 3) := by
  decide +kernel

/-- … and the outputs are wrong: evaluating the chain in the order
`Network.run` derives from the wrapped levels gives `0` where `compute` gives
`1` on the all-ones input (`k = 1, 2, 3`: depths 3, 5, 9), while the order of
the exact levels gives `compute`. -/
theorem C10_levels_mod_wrong_output :
    ∀ k ∈ [1, 2, 3],
      let c := chain (2 ^ k + 1)
      let st := initStore c.numWires false [true, true]
      c.outputs (evalPlainGates (scheduleWith c (c.assignLevelsMod k)) st) = [false] ∧
      c.outputs (evalPlainGates (scheduleWith c (c.assignLevels true)) st) = [true] ∧
      c.compute [true, true] = [true] := by
  decide +kernel

example : scheduleWith (chain 3) ((chain 3).assignLevelsMod 1) =
    [chainGate 0, chainGate 2, chainGate 1] := by decide +kernel

/-- The `lvl` op of the driver evaluates `Circuit.compute` through
`computeFast` (initial store built without the per-wire list walk, needed for
inputs of 2^16 and more bits): the same function. -/
theorem C10_driver_compute (c : Circuit) (x : List Bool) : c.computeFast x = c.compute x :=
  computeFast_eq c x

example : exGmw.computeFast [true, true, false] = [true, true] := by decide +kernel

/-! ### Histories: consecutive `Run` calls on one connected Network

A `gmw.Network` is made to be reused (the triple pool persists over runs).
"Every circuit, all inputs" therefore quantifies over every call of every
history of calls on one Network, not only over the first call of a fresh
one.  `Model/GmwHist.lean` carries what the Network keeps between two calls
(pool position, `nw.triples`, the wire store that is never reset). -/

/-- The first call on a fresh Network is `Gmw.run`: the history model
extends the single-run model. -/
theorem C10_run_is_first_call (c : Circuit) (sizes : List Nat) (x : Nat → Nat) (rnd : Nat → Nat → Nat)
    (pools : Nat → Triples) :
    run c sizes x rnd pools = runFrom c sizes x rnd (fresh sizes.length pools) ∧
    runHist [⟨c, sizes, x, rnd⟩] (fresh sizes.length pools) =
      (match run c sizes x rnd pools with
       | .ok ps outs => [.ok ps outs]
       | r => [r]) := by
  have h := run_eq_runFrom c sizes x rnd pools
  refine ⟨h, ?_⟩
  rw [runHist_cons, ← h]
  cases run c sizes x rnd pools <;> rfl

example : runOuts (run exGmw [1, 1, 1] exX exRnd exPools) =
    runOuts (runFrom exGmw [1, 1, 1] exX exRnd (fresh 3 exPools)) := by
  rw [(C10_run_is_first_call exGmw [1, 1, 1] exX exRnd exPools).1]; rfl

/-- **One `Run` from ANY state a Network can be in between two calls**: ids
in order, `nw.triples` cleared, `L` valid triple words in every pool,
ARBITRARY stale wire stores (of one common size `M`, whatever the earlier
circuits were).  For every single-assignment circuit without OR gates, all
inputs, all sharing randomness, `needW ≤ L`: the call returns; the state after
it is again such a state, with `needW` words fewer – the FIRST `needW` words of
every pool, in stream order; on every wire the circuit defines the shares
reconstruct to `plainEval` (stale bits do not leak into defined wires); when
the output wires are defined, every party's output is `Circuit.compute` of
THIS circuit on THIS call's inputs. -/
theorem C10_run_from_state (c : Circuit) (sizes : List Nat) (x : Nat → Nat) (rnd : Nat → Nat → Nat)
    (ps : List Party) (L M : Nat) (hok : RunOK c sizes) (hb : Between sizes.length L M ps)
    (hL : needW (blocks c) ≤ L) :
    ∃ ps' outs, runFrom c sizes x rnd ps = .ok ps' outs ∧
      Between sizes.length (L - needW (blocks c)) (max M c.numWires) ps' ∧ outs.length = sizes.length ∧
      (∀ w, c.defined w = true → recon ps' w = (c.plainEval (inputBits sizes x)).get w) ∧
      (c.outputsDefined = true → ∀ o ∈ outs, o = c.compute (inputBits sizes x)) ∧
      poolViews ps' = (poolViews ps).map (·.drop (needW (blocks c))) := by
  obtain ⟨ps', outs, h1, h2, h3, h4, h5, h6, h7⟩ :=
    runFrom_correct c sizes x rnd ps (inputBits sizes x) L M hok (inputsOf_inputBits sizes x) hb.st hb.wsz hL
  exact ⟨ps', outs, h1, ⟨h2, h3⟩, h4, h5, h6, h7⟩

/-- **C10_history.**  For every number of parties `n`, every list of calls
`(circuit, inputs, sharing randomness)` – no relation between consecutive
circuits is assumed – each a single-assignment `n`-party circuit without OR gates whose
output wires are defined, and pools holding at least the words of the whole
history: EVERY call returns and EVERY party's output of call `i` is
`compute` of circuit `i` on the inputs of call `i`; the share invariant holds
on all wires circuit `i` defines; after call `i` every party's pool is the
initial pool minus the first `Σ_{j ≤ i} needW` words (lock-step over the fold
of runs).  By induction over the history with `runFrom_correct` (`hist_correct`). -/
theorem C10_history (n : Nat) (ks : List Call) (pools : Nat → Triples) (L : Nat)
    (hks : ∀ k ∈ ks, CallOK n k) (hpools : PoolsValid n L pools) (hL : needHist ks ≤ L) :
    HistOK n ks L ((List.range n).map fun p => (pools p).view) (runHist ks (fresh n pools)) := by
  have h := hist_correct n ks (fresh n pools) L 0 hks (between_fresh n L pools hpools) hL
  have e : poolViews (fresh n pools) = (List.range n).map fun p => (pools p).view := poolViews_map ..
  rw [e] at h
  exact h

/-- Offline phase and a whole history composed. -/
theorem C10_history_offline_online (n : Nat) (ks : List Call) (bs : List (Nat × BatchIn))
    (hks : ∀ k ∈ ks, CallOK n k) (hcot : ∀ b ∈ bs, CotCorr n b.1 b.2) (hL : needHist ks ≤ (bs.map (·.1)).sum) :
    HistOK n ks (bs.map (·.1)).sum ((List.range n).map fun p => (dealt n bs p).view)
      (runHist ks (fresh n (dealt n bs))) :=
  C10_history n ks _ _ hks (C10_triples_valid_pool n bs hcot) hL

/-- same I/O, same number of gates, same AND depth and level widths as
`exGmw`, other wiring: `w3 = b & c; w4 = w3 ^ a; w5 = !w4; w6 = w5 & b` -/
def exGmw2 : Circuit :=
  { numWires := 7, nIn := 3, nOut := 2,
    gates := [⟨.and, 1, 2, 3⟩, ⟨.xor, 3, 0, 4⟩, ⟨.inv, 4, 0, 5⟩, ⟨.and, 5, 1, 6⟩] }

/-- no AND gate, two parties' worth of wires fewer: `w3 = a xnor b; w4 = w3 ^ c` -/
def exGmw0 : Circuit :=
  { numWires := 5, nIn := 3, nOut := 1, gates := [⟨.xnor, 0, 1, 3⟩, ⟨.xor, 3, 2, 4⟩] }

def exPools6 (p : Nat) : Triples :=
  match p with
  | 0 => Triples.ofList [(20#64, 27#64, 36#64), (60#64, 26#64, 37#64), (9#64, 4#64, 25#64), (25#64, 15#64, 3#64),
      (41#64, 5#64, 62#64), (3#64, 35#64, 14#64)]
  | 1 => Triples.ofList [(4#64, 27#64, 2#64), (52#64, 3#64, 35#64), (34#64, 52#64, 54#64), (6#64, 36#64, 8#64),
      (23#64, 7#64, 18#64), (37#64, 60#64, 26#64)]
  | _ => Triples.ofList [(3#64, 14#64, 36#64), (58#64, 40#64, 54#64), (32#64, 40#64, 39#64), (13#64, 37#64, 9#64),
      (2#64, 60#64, 16#64), (5#64, 3#64, 20#64)]

def exX2 (p : Nat) : Nat := if p = 0 then 0 else 1

/-- `exGmw`, then `exGmw2` (same shape, other gates) on other inputs, then the
AND-free `exGmw0`, then `exGmw` again -/
def exHist : List Call :=
  [⟨exGmw, [1, 1, 1], exX, exRnd⟩, ⟨exGmw2, [1, 1, 1], exX2, fun p q => exRnd q p⟩,
   ⟨exGmw0, [1, 1, 1], exX, exRnd⟩, ⟨exGmw, [1, 1, 1], exX2, exRnd⟩]

def histOuts (rs : List RunResult) : List (Option (List (List Bool))) := rs.map runOuts

theorem histOuts_of_histOK (n : Nat) : ∀ (ks : List Call) (L : Nat) (views : List (List (Word × Word × Word)))
    (rs : List RunResult), HistOK n ks L views rs →
    histOuts rs = (ks.map fun k => k.c.compute (inputBits k.sizes k.x)).map fun v => some (List.replicate n v) := by
  intro ks
  induction ks with
  | nil => intro L views rs h; cases h; rfl
  | cons k ks ih =>
    intro L views rs h
    obtain ⟨ps, outs, rest, rfl, hlen, hall, _, _, _, hrest⟩ := h
    have e := ih _ _ _ hrest
    unfold histOuts at e ⊢
    rw [List.map_cons, List.map_cons, List.map_cons, e, runOuts_of_outputs ⟨ps, outs, rfl, hlen, hall⟩]

theorem exHist_ok : ∀ k ∈ exHist, CallOK 3 k := by
  intro k hk
  simp only [exHist, List.mem_cons, List.mem_nil_iff, or_false] at hk
  rcases hk with rfl | rfl | rfl | rfl <;>
    exact ⟨⟨⟨by decide, by decide, by decide⟩, by decide, by decide, by decide, by decide⟩, rfl, by decide⟩

example : ∀ k ∈ exHist, CallOK 3 k := exHist_ok

theorem exPools6_valid : PoolsValid 3 6 exPools6 := ⟨by decide +kernel, by decide +kernel⟩

example : PoolsValid 3 6 exPools6 := exPools6_valid

theorem exHist_need : needHist exHist = 6 := by decide +kernel

example : needHist exHist = 6 := exHist_need

/-- the executed history model: every call gives every party `compute` of ITS
circuit on ITS inputs – and that is not what the first circuit's gates give on
the second call's inputs (`exGmw` and `exGmw2` differ there), so a Network that
kept evaluating the gates of its first circuit is excluded by the theorem -/
theorem C10_history_concrete :
    histOuts (runHist exHist (fresh 3 exPools6)) =
      [some [[true, true], [true, true], [true, true]], some [[false, false], [false, false], [false, false]],
       some [[true], [true], [true]], some [[true, false], [true, false], [true, false]]] ∧
    exHist.map (fun k => k.c.compute (inputBits k.sizes k.x)) =
      [[true, true], [false, false], [true], [true, false]] ∧
    exGmw.compute (inputBits [1, 1, 1] exX2) ≠ exGmw2.compute (inputBits [1, 1, 1] exX2) := by
  have hc : exHist.map (fun k => k.c.compute (inputBits k.sizes k.x)) =
      [[true, true], [false, false], [true], [true, false]] := by decide +kernel
  refine ⟨?_, hc, by decide +kernel⟩
  rw [histOuts_of_histOK 3 _ _ _ _ (C10_history 3 exHist exPools6 6 exHist_ok exPools6_valid (Nat.le_of_eq exHist_need)), hc]
  rfl

/-! ### Inputs as the integers the API accepts (`Model/GmwInt.lean`)

"All inputs" of the statement ranges over the `*big.Int` values a party can
hand to `Network.Run`: what `IOArg.Parse` makes of the user's text - a NEGATIVE
value for "-5" (signed and unsigned scalar arguments alike), a value wider
than the declared width for a long literal, zero - not over bit lists.  The
own share is `Xor(shares sent, input)` read with `Bit(i)`; both are
two's-complement operations of `math/big` defined on every integer. -/

/-- **The bits a party shares are the two's complement of its input at the
declared width, for EVERY integer**: `Xor` then `Bit` is the XOR of the
`Bit`s; what `setWires(self, shared.Xor(shared, input))` stores is what the
natural-number model stores for the residue `input mod 2^Bits`; the `Bits`
wire bits of `input` are the binary digits of that residue. -/
theorem C10_input_share_twos_complement (w : Store Bool) (ofs bits s : Nat) (v : Int) :
    (∀ a b : Int, ∀ i, bigIntBit (bigIntXor a b) i = (bigIntBit a i != bigIntBit b i)) ∧
    setWiresInt w ofs bits (bigIntXor (Int.ofNat s) v) = setWires w ofs bits (s ^^^ residue bits v) ∧
    bitsOfInt bits v = natBits bits (residue bits v) ∧
    packLE (bitsOfInt bits v) = residue bits v ∧ (residue bits v : Int) = v % 2 ^ bits :=
  ⟨bigIntBit_xor, setWiresInt_xor w ofs bits s v, bitsOfInt_eq_natBits bits v, packLE_bitsOfInt bits v,
    Int.toNat_of_nonneg (Int.emod_nonneg v (Int.ne_of_gt (Int.pow_pos (by decide))))⟩

example : residue 8 (-5) = 251 ∧ bitsOfInt 8 (-5) = [true, true, false, true, true, true, true, true] ∧
    bigIntXor 6 (-5) = -3 ∧ bigIntXor (-6) (-5) = 1 ∧ residue 4 (2 ^ 64 + 3) = 3 := by decide

/-- The integer-input model is the natural-number model on the residues:
single run, run from any state, whole histories. -/
theorem C10_int_run_is_residue_run (c : Circuit) (sizes : List Nat) (x : Nat → Int) (rnd : Nat → Nat → Nat)
    (pools : Nat → Triples) (ps : List Party) (ks : List CallInt) :
    runInt c sizes x rnd pools = run c sizes (natInputs sizes x) rnd pools ∧
    runFromInt c sizes x rnd ps = runFrom c sizes (natInputs sizes x) rnd ps ∧
    runHistInt ks ps = runHist (ks.map CallInt.toCall) ps ∧
    inputBits sizes (natInputs sizes x) = inputBitsInt sizes x :=
  ⟨runInt_eq c sizes x rnd pools, runFromInt_eq c sizes x rnd ps, runHistInt_eq ks ps, inputBits_natInputs sizes x⟩

/-- **C10_outputs_int.**  `C10_outputs` for the inputs the API accepts: for
every number of parties, every circuit as there, EVERY integer input of every
party (any sign, any magnitude), all sharing randomness and valid pools: the
run returns and every party's output is `Circuit.compute` on the bits
`(x p).Bit(i)`, `i < Bits_p` - what `Circuit.Compute` evaluates for the same
`*big.Int` values. -/
theorem C10_outputs_int (c : Circuit) (sizes : List Nat) (x : Nat → Int) (rnd : Nat → Nat → Nat)
    (pools : Nat → Triples) (L : Nat) (hok : RunOK c sizes) (hpools : PoolsValid sizes.length L pools)
    (hL : needW (blocks c) ≤ L) :
    ∃ ps outs, runInt c sizes x rnd pools = .ok ps outs ∧ outs.length = sizes.length ∧
      ∀ o ∈ outs, o = c.compute (inputBitsInt sizes x) := by
  rw [runInt_eq, ← inputBits_natInputs]
  exact C10_outputs c sizes (natInputs sizes x) rnd pools L hok hpools hL

/-- The same with every party's argument given member by member (scalar: the
parsed integer itself; struct: `IOArg.Parse` packs the members with
`SetBit(offset+i, member.Bit(i))`): every party's output is `compute` on the
flattened members of all parties, each read with `Bit` - the wire assignment
of `Circuit.Compute(inputs)`. -/
theorem C10_outputs_args (c : Circuit) (n : Nat) (args : Nat → ArgVals) (rnd : Nat → Nat → Nat)
    (pools : Nat → Triples) (L : Nat) (hok : RunOK c (argSizes n args)) (hpools : PoolsValid n L pools)
    (hL : needW (blocks c) ≤ L) :
    ∃ ps outs, runArgs c n args rnd pools = .ok ps outs ∧ outs.length = n ∧
      ∀ o ∈ outs, o = c.compute (encodeArg ((List.range n).flatMap args)) := by
  have h := C10_outputs_int c (argSizes n args) (fun p => partyValue (args p)) rnd pools L hok
    (by rw [argSizes_length]; exact hpools) hL
  rw [argSizes_length, inputBitsInt_args] at h
  exact h

/-- **C10_history_int.**  `C10_history` for integer inputs: every call of
every history returns `compute` of ITS circuit on the `Bit`s of ITS integer
inputs. -/
theorem C10_history_int (n : Nat) (ks : List CallInt) (pools : Nat → Triples) (L : Nat)
    (hks : ∀ k ∈ ks, CallOK n k.toCall) (hpools : PoolsValid n L pools)
    (hL : needHist (ks.map CallInt.toCall) ≤ L) :
    HistOK n (ks.map CallInt.toCall) L ((List.range n).map fun p => (pools p).view) (runHistInt ks (fresh n pools)) ∧
    ∀ k ∈ ks, inputBits k.toCall.sizes k.toCall.x = inputBitsInt k.sizes k.x := by
  refine ⟨?_, fun k _ => inputBits_natInputs k.sizes k.x⟩
  rw [runHistInt_eq]
  exact C10_history n _ pools L (by simpa using hks) hpools hL

/-- `w4 = a0 ^ b; w5 = a1 ^ b; w6 = a2 ^ b`: party 0 has a 3-bit argument,
party 1 one bit; every input bit reaches an output. -/
def exIntC : Circuit :=
  { numWires := 7, nIn := 4, nOut := 3, gates := [⟨.xor, 0, 3, 4⟩, ⟨.xor, 1, 3, 5⟩, ⟨.xor, 2, 3, 6⟩] }

/-- party 0: `-3` (what `Parse("-3")` returns for `int3` and `uint3` alike),
party 1: `2^64` (wider than its one-bit argument: bit 0 is 0) -/
def exIntX (p : Nat) : Int := if p = 0 then -3 else 2 ^ 64

def noPools (_ : Nat) : Triples := Triples.empty

example : RunOK exIntC [3, 1] :=
  ⟨⟨by decide, by decide, by decide⟩, by decide, by decide, by decide, by decide⟩
example : PoolsValid 2 0 noPools :=
  ⟨fun _ _ => ⟨empty_WF, rfl⟩, fun k hk => absurd hk (Nat.not_lt_zero k)⟩
example : needW (blocks exIntC) = 0 := by decide +kernel
example : argSizes 2 (fun p => if p = 0 then [(3, -3)] else [(1, 2 ^ 64)]) = [3, 1] := by decide

example : ∀ k ∈ [(⟨exIntC, [3, 1], exIntX, exRnd⟩ : CallInt), ⟨exIntC, [3, 1], fun _ => -1, exRnd⟩], CallOK 2 k.toCall := by
  intro k hk
  simp only [List.mem_cons, List.mem_nil_iff, or_false] at hk
  rcases hk with rfl | rfl <;>
    exact ⟨⟨⟨by decide, by decide, by decide⟩, by decide, by decide, by decide, by decide⟩, rfl, by decide⟩

/-- On non-negative inputs a reader of the magnitude words (`big.Int.Bits()`)
computes the same run: inputs built with `SetBit` cannot tell the two apart. -/
theorem C10_abs_words_agree_nonneg (c : Circuit) (sizes : List Nat) (x : Nat → Nat) (rnd : Nat → Nat → Nat)
    (pools : Nat → Triples) :
    runAbs c sizes (fun p => Int.ofNat (x p)) rnd pools = runInt c sizes (fun p => Int.ofNat (x p)) rnd pools := by
  rfl

/-- **Negation witness for the magnitude-words reading.**  On the executed
model of the code every party returns `compute` of the two's-complement bits
of `-3` (`101`); the variant that reads the machine words of the XORed own
share (`Xor(3, -3) = -2`, magnitude `2`) makes every party return another value. -/
theorem C10_abs_words_run_wrong :
    exIntC.compute (inputBitsInt [3, 1] exIntX) = [true, false, true] ∧
    runOuts (runInt exIntC [3, 1] exIntX exRnd noPools) = some [[true, false, true], [true, false, true]] ∧
    runOuts (runAbs exIntC [3, 1] exIntX exRnd noPools) = some [[true, false, false], [true, false, false]] := by
  decide +kernel

/-! ### degenerate session shapes: the message transcript of a run (`Model/GmwMsgs.lean`)

The quantifier "every circuit, all inputs" includes arguments of 0 bits (a party that only receives the result),
circuits without AND gates, without gates, without outputs.  `Network.run` posts one `receiveInput` per peer
unconditionally; the run completes only if the peer's `shareInput` puts a message on the connection whatever
the width of its argument.  The harness ties `sentBytes (transcript ..)` to `Stats().Sent` of every party of
the degenerate sessions (`msgs` op). -/

/-- **Message-count invariant of the input sharing.**  For every list of argument widths - 0 included - every
party sends exactly one input-share message to every peer, and every such message is on the wire: its 4-byte
length and `ceil(bits/8)` share bytes (for a 0-bit argument the length alone). -/
theorem C10_input_share_one_message_per_pair (sizes : List Nat) (p q : Nat) (hp : p < sizes.length)
    (hq : q < sizes.length) (hpq : p ≠ q) :
    (inputMsgs sizes).countP (fun m => m.src == p && m.dst == q) = 1 ∧
    ∀ m ∈ inputMsgs sizes, m.bytes = 4 + (sizes.getD m.src 0 + 7) / 8 ∧ 4 ≤ m.bytes := by
  refine ⟨round_one_per_pair _ _ _ p q hp hq hpq, ?_⟩
  intro m hm
  have h := (mem_round hm).2.2.2.2
  rw [h]; unfold inputBytes; exact ⟨rfl, by omega⟩

example : (inputMsgs [32, 32, 0]).countP (fun m => m.src == 2 && m.dst == 0) = 1 := by decide
example : ((inputMsgs [32, 32, 0]).filter fun m => m.src == 2).map (·.bytes) = [4, 4] := by decide

/-- **Every receive is matched.**  Over a whole run (input shares, one opening per AND batch, output shares) the
number of messages `p → q` equals the number of messages `q → p` equals `#batches + 2`, for every pair of distinct
parties, all argument widths, all batch lists (the empty one included) and all output-share lengths: no party
waits for a message its peer does not send. -/
theorem C10_transcript_matched (sizes ws : List Nat) (outLen : Nat → Nat) (p q : Nat) (hp : p < sizes.length)
    (hq : q < sizes.length) (hpq : p ≠ q) :
    (transcript sizes ws outLen).countP (fun m => m.src == p && m.dst == q) = ws.length + 2 ∧
    (transcript sizes ws outLen).countP (fun m => m.src == q && m.dst == p) = ws.length + 2 :=
  ⟨transcript_count sizes ws outLen p q hp hq hpq, transcript_count sizes ws outLen q p hq hp (Ne.symm hpq)⟩

example : (transcript [0, 0] [] (fun _ => 0)).countP (fun m => m.src == 1 && m.dst == 0) = 2 := by decide
example : (List.range 3).map (sentBytes (transcript [32, 32, 0] [1, 2, 1] (fun _ => 4))) = [248, 248, 240] := by
  decide +kernel

end Mpc
