/-
C01 over garbling HISTORIES on one circuit value.

The property quantifies over "every garbling key and randomness": a random
source may fail or run short at any byte, and a caller garbles the same
`*Circuit` many times, keeps several garblings live at the same time and
releases them in any order.  `Props/C01.lean` is about one garbling in
isolation; here the statement is lifted to every history
(`Model/GarbleHist.lean`): any sequence of successful Garble calls, Garble
calls that FAIL after any number `k` of writes into the scratch they drew
(`HEv.fail`: before `R`, after `R`, inside the k-th input label, a refused
key), evaluations of live garblings and Releases, with every choice
`sync.Pool.Get` can make.  A history is a schedule of the ownership model of
C17 (`Model/Pool.lean`; the theorems of `Props/C17.lean` apply as they stand), in
which the error return of Garble puts the scratch back exactly once.
`checks/C01.py` runs the history of the negation witness
`C01_history_double_put_breaks` (and every generated one) on the real code.
-/
import MpcVerif.Props.C17
import MpcVerif.Proofs.GarbleHist

namespace Mpc.Pool
variable {Mem Job : Type}

/-- **No double ownership after any history.**  (1) no scratch is cached twice
in the pool; (2) a cached scratch is not behind any live garbling; (3) two
live garblings never share a scratch; (4) every scratch ever allocated is
somewhere (in the pool or behind a live garbling: none is lost by a failed
Garble). -/
theorem C01_history_pool_invariant (P : Params Mem Job) (evs : List (HEv Job)) (σ : State Mem Job)
    (hrun : runHist P (init P) evs = some σ) :
    (∀ q x, (σ.free q).count x ≤ 1) ∧
    (∀ q x h H, x ∈ σ.free q → σ.handle h = some H → H.owned ≠ some x) ∧
    (∀ h h' H H' x, σ.handle h = some H → σ.handle h' = some H' →
        H.owned = some x → H'.owned = some x → h = h') ∧
    (∀ x, x < σ.nScratch → ∃ o, Owns σ x o) := by
  have hr := reachable_runHist P _ σ evs .init hrun
  have hi := inv_reachable P σ hr
  refine ⟨fun q x => (List.nodup_iff_count.mp (hi.freeNodup q)) x, hi.freeH, hi.ownHH, ?_⟩
  intro x hx
  exact (C17_scratch_owned_once P σ hr x hx).1

/-- **A garbling that stays live is not changed by the rest of the history**
(successful or failing Garble calls, evaluations, Releases of other handles):
it is backed by the same scratch, whose contents are the same, and it is the
result of the same call. -/
theorem C01_history_live_garbling_stable (P : Params Mem Job) (evs evs' : List (HEv Job))
    (σ σ' : State Mem Job) (hrun : runHist P (init P) evs = some σ) (hrun' : runHist P σ evs' = some σ')
    (h : HandleId) (H H' : Handle Mem Job) (x : ScratchId)
    (hH : σ.handle h = some H) (hH' : σ'.handle h = some H') (ho' : H'.owned = some x) :
    H.owned = some x ∧ σ'.mem x = σ.mem x ∧ H'.job = H.job ∧ H'.init = H.init := by
  have hr := reachable_runHist P _ σ evs .init hrun
  exact (C17_garble_isolated P σ hr).2.2.2 σ' h H H' x (steps_runHist P σ σ' evs' hrun') hH hH' ho'

/-- **A failed Garble only touches the pool.**  From any state a history
reaches: the call adds no handle, every handle record is unchanged, the
contents behind every live garbling are unchanged, and the scratch the call
drew is cached exactly once afterwards. -/
theorem C01_history_failed_garble_only_puts (P : Params Mem Job) (evs : List (HEv Job))
    (σ σ' : State Mem Job) (hrun : runHist P (init P) evs = some σ)
    (j : Job) (k : Nat) (s : Option ScratchId) (hf : runEv P σ (.fail j k s) = some σ') :
    σ'.nHandles = σ.nHandles ∧
    (∀ h H x, σ.handle h = some H → H.owned = some x →
        σ'.handle h = some H ∧ σ'.mem x = σ.mem x) ∧
    (∃ p x, σ'.poolPtr = some p ∧ (σ'.free p).head? = some x ∧ (σ'.free p).count x = 1) := by
  have hr := reachable_runHist P _ σ evs .init hrun
  have hrun2 : runHist P σ [.fail j k s] = some σ' := (runHist_singleton P σ _).trans hf
  have hi' := inv_reachable P σ' (reachable_runHist P σ σ' _ hr hrun2)
  have hsteps := steps_runHist P σ σ' _ hrun2
  obtain ⟨_, _, _, rfl⟩ := fail_iff.mp hf
  refine ⟨rfl, fun h H y hH ho => ⟨hH, ((C17_garble_isolated P σ hr).2.2.2 _ h H H y hsteps hH hH ho).2.1⟩,
    _, _, rfl, congrArg List.head? (upd_same ..), (hi'.freeNodup _).count.trans (if_pos ?_)⟩
  rw [show (failed P σ j s k).free _ = _ from upd_same ..]
  exact List.mem_cons_self

/-- **Progress: after ANY history the next call is possible.**  Whatever the
history did (failures at any point included), at its end (1) every goroutine is
idle (each call has returned); (2) a Garble with any key and tape runs, with
the `Get` choice of the executed model, and yields one more handle, which is
live; (3) so does a Garble failing after any number `k` of its writes; (4)
every live garbling can be evaluated (which changes nothing) and released
(after which it is not live).  So the hypothesis `runHist … = some σ` of the
other history theorems is satisfiable step by step: histories are not cut
short by the model. -/
theorem C01_history_next_call_enabled (P : Params Mem Job) (evs : List (HEv Job)) (σ : State Mem Job)
    (hrun : runHist P (init P) evs = some σ) :
    (∀ t, σ.pc t = .idle) ∧
    (∀ j, ∃ σ', runEv P σ (.garble j (pickFree σ)) = some σ' ∧ σ'.nHandles = σ.nHandles + 1 ∧
        liveHandle σ' σ.nHandles = true) ∧
    (∀ j k, k ≤ (P.prog j).length → ∃ σ', runEv P σ (.fail j k (pickFree σ)) = some σ') ∧
    (∀ h, liveHandle σ h = true →
        runEv P σ (.eval h) = some σ ∧
        ∃ σ', runEv P σ (.release h) = some σ' ∧ liveHandle σ' h = false) := by
  have hidle : ∀ t, σ.pc t = .idle := congrFun (runHist_pc hrun)
  have hr := reachable_runHist P _ σ evs .init hrun
  refine ⟨hidle, fun j => ⟨_, garble_iff.mpr ⟨hidle 0, canGet_pickFree σ, rfl⟩, rfl, ?_⟩,
    fun j k hk => ⟨_, fail_iff.mpr ⟨hidle 0, canGet_pickFree σ, hk, rfl⟩⟩, ?_⟩
  · rw [liveHandle, show (garbled P σ j _).handle σ.nHandles = _ from upd_same ..]; rfl
  · intro h hl
    simp only [liveHandle] at hl
    split at hl
    · rename_i H hH
      obtain ⟨p, hp⟩ := Option.isSome_iff_exists.mp hl
      have hu : H.user = none := Option.eq_none_iff_forall_ne_some.mpr fun t hu' => by
        simpa [hidle t] using (inv_reachable P σ hr).userOk h H t hH hu'
      constructor
      · rw [runEv_eq_runSched, evSched, runSched_singleton]
        simp [step?, hidle 0, hH, hu, hp]
      · obtain ⟨σ3, _, H3, _, e3, _, hH3, hp3, _⟩ :=
          C17_release_idempotent P σ hr 0 h H p (hidle 0) hH hu hp
        refine ⟨σ3, ?_, by simp [liveHandle, hH3, hp3]⟩
        rw [runEv_eq_runSched]
        simp only [evSched, hH, hp, Option.isSome_some, if_true]
        exact e3
    · simp at hl

/-- Non-vacuity: the statement instantiated after a history with a failure. -/
example : ∃ σ, runHist traceParams (init traceParams) [.fail 7 1 none, .garble 11 (some 0)] = some σ ∧
    pickFree σ = none ∧ liveHandle σ 0 = true := ⟨_, rfl, rfl, rfl⟩

section C01link
open Mpc LabelAlg
variable {L : Type} [LabelAlg L]

/-- **Main statement over histories.**  Pool model with the actual writes of
`Circuit.Garble` (`garbleParams c`), well-formed circuit, ANY history on that
one circuit value — successful garblings, garblings failing at any point,
evaluations, releases, any `Get` choices — and ANY handle that is live at its
end (several may be): (1) the wire pairs behind it are those of
`Circuit.garble` of that call's own key and tape, (2) so are its tables;
(3) evaluating those tables on the labels of any input takes no error branch
and the label on every defined wire is one of that wire's two labels and
decodes (`BitFromLabel`) to exactly the plain-evaluation bit. -/
theorem C01_history_live_garblings_evaluate_correctly [DecidableEq L] (c : Circuit) (hwf : c.WF = true)
    (evs : List (HEv (GJob L))) (σ : State (GMem L) (GJob L))
    (hrun : runHist (garbleParams c) (init (garbleParams c)) evs = some σ)
    (h : HandleId) (H : Handle (GMem L) (GJob L)) (x : ScratchId)
    (hH : σ.handle h = some H) (ho : H.owned = some x) (hsel : sbit H.job.r = true)
    (inp : List Bool) :
    (∀ w, c.defined w = true →
        (σ.mem x).wires.get w = (c.garble H.job.H H.job.r H.job.inl).wires.get w) ∧
    (garbledOf c H.job (σ.mem x)).rows = (c.garble H.job.H H.job.r H.job.inl).rows ∧
    ∃ out, c.evalGarbled H.job.H (garbledOf c H.job (σ.mem x)).rows
        (encodeInputs c (garbledOf c H.job (σ.mem x)) inp) = .ok out ∧
      ∀ w, c.defined w = true →
        ((σ.mem x).wires.get w).bitFrom (out.get w) = some ((c.plainEval inp).get w) := by
  have hr := reachable_runHist (garbleParams c) _ σ evs .init hrun
  obtain ⟨e1, e2⟩ := C17_garble_equals_C01 c hwf σ hr h H x hH ho
  obtain ⟨out, h1, h2⟩ := C17_concurrent_garbling_evaluates_correctly c hwf σ hr h H x hH ho hsel inp
  obtain ⟨_, _, h3⟩ := C01_label_is_one_of_two H.job.H c H.job.r hsel H.job.inl inp hwf
  refine ⟨e1, e2, out, h1, fun w hw => ?_⟩
  have hne := (h3 w hw).2
  rw [← e1 w hw] at hne
  rw [h2 w hw]
  exact WireL.bitFrom_labelFor hne _

/-- Non-vacuity of the main statement: for the C01 example circuit (every gate
kind, fan-out, `in0 = in1`; `WF` by `decide` in Props/C01.lean) and ANY three
jobs, the history "Garble failing after the first input label, Garble A,
Garble B" runs, and at its end both garblings are live — A on the scratch the
failed call had drawn and put back, B on a new one — each produced by its own
job. -/
example (jf ja jb : GJob L) : ∃ σ : State (GMem L) (GJob L),
    runHist (garbleParams exampleCircuit) (init (garbleParams exampleCircuit))
      [.fail jf 1 none, .garble ja (some 0), .garble jb none] = some σ ∧
    ∃ Ha Hb, σ.handle 0 = some Ha ∧ Ha.owned = some 0 ∧ Ha.job = ja ∧
      σ.handle 1 = some Hb ∧ Hb.owned = some 1 ∧ Hb.job = jb ∧ σ.free 0 = [] :=
  ⟨_, rfl, _, _, rfl, rfl, rfl, rfl, rfl, rfl, rfl⟩

example : exampleCircuit.WF = true := by decide

end C01link

/-- The history "Garble that fails after `k` writes; Garble A; Garble B" with
the `Get` choices of the executed model (`pickFree`). -/
def failThenTwo (k a b : Nat) : List (HEv Nat) :=
  [.fail 7 k none, .garble a (some 0), .garble b none]

/-- **Progress / non-vacuity.**  In the digest instance (a call clears, then
writes its digest: 2 writes) the history "fail after `k` writes, Garble A,
Garble B" runs for every failure point `k ≤ 2`; at its end both garblings are
live, on different scratches, each showing its own data, and the pool is
empty. -/
theorem C01_history_garble_enabled_after_failure (k a b : Nat) (hk : k ≤ 2) :
    ∃ σ, runHist traceParams (init traceParams) (failThenTwo k a b) = some σ ∧
      liveHandle σ 0 = true ∧ liveHandle σ 1 = true ∧
      readVal σ 0 = some a ∧ readVal σ 1 = some b ∧
      ownersOf σ 0 = 1 ∧ ownersOf σ 1 = 1 ∧ σ.free 0 = [] := by
  have hk' : k = 0 ∨ k = 1 ∨ k = 2 := by omega
  rcases hk' with rfl | rfl | rfl <;> exact ⟨_, rfl, rfl, rfl, rfl, rfl, rfl, rfl, rfl⟩

/-- **Negation witness for a double Put.**  With the error return putting the
scratch twice (`dbl = true`): after the failed Garble scratch 0 is cached
twice; Garble A and Garble B both draw it; at the end of the history both
handles are live on scratch 0 and handle A shows B's data (`22`, not `11`).
With the single Put (`dbl = false`) the same `Get` choices are not possible
(B cannot draw scratch 0 while A is live). -/
theorem C01_history_double_put_breaks :
    (∃ σ1, runHistWith true traceParams (init traceParams) [.fail 7 1 none] = some σ1 ∧
        (σ1.free 0).count 0 = 2) ∧
    (∃ σ, runHistWith true traceParams (init traceParams)
          [.fail 7 1 none, .garble 11 (some 0), .garble 22 (some 0)] = some σ ∧
        liveHandle σ 0 = true ∧ liveHandle σ 1 = true ∧ ownersOf σ 0 = 2 ∧
        readVal σ 0 = some 22 ∧ readVal σ 1 = some 22) ∧
    runHistWith false traceParams (init traceParams)
        [.fail 7 1 none, .garble 11 (some 0), .garble 22 (some 0)] = none := by
  refine ⟨⟨_, rfl, rfl⟩, ⟨_, rfl, rfl, rfl, rfl, rfl, rfl⟩, rfl⟩

/-- Non-vacuity of the history theorems: a history with a failure at every
kind of point, three garblings live at the same time, evaluations of live
garblings out of order, a release and a reuse of the released scratch, a
second release of the same handle. -/
example :
    (match runHist traceParams (init traceParams)
        [.fail 1 0 none, .garble 11 (some 0), .fail 2 1 none, .garble 22 (some 1), .fail 3 2 none,
         .garble 33 (some 2), .eval 2, .eval 0, .eval 1, .release 1, .eval 0, .fail 4 1 (some 1),
         .garble 44 (some 1), .eval 3, .eval 2, .release 1, .release 0, .release 3, .release 2] with
     | some σ => σ.nHandles == 4 && σ.nScratch == 3 && (σ.free 0).length == 3 &&
         !liveHandle σ 0 && !liveHandle σ 3
     | none => false) = true := by decide

/-- Evaluating a released garbling is not a call of a history. -/
example : runHist traceParams (init traceParams) [.garble 5 none, .release 0, .eval 0] = none := by decide

end Mpc.Pool
