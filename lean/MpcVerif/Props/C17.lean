/-
C17  A circuit value is safe to share between goroutines.

Property theorems about the ownership protocol of the per-circuit scratch pool
(`Model/Pool.lean`).

Quantification: `Reachable P true σ` ranges over every state reachable by any
interleaving of atomic steps of any number of goroutines doing any number of
Garble / Release / read (Eval on a handle's tables) / Compute calls on one
circuit, with every order of first use (the lazy pool creation race: several
goroutines may have loaded nil and allocated a pool object before any
CompareAndSwap), every choice `sync.Pool.Get` can make (any cached scratch or a
new one), every early-return path of Garble, and every reuse history.
`P : Params Mem Job` is arbitrary: the theorems hold for every notion of
scratch contents and every deterministic write sequence per (tape, key).

The flag `true` is the usage contract of a `*Garbled` handle, as the doc
comment of `Garbled.Release` scopes it ("Idempotent; the Garbled must not be
used afterwards"): one goroutine at a time is inside a method of a given
handle, a released handle is not read, a `Garbled` is not copied by value.
LIMIT (stated, not proved away): without that contract the code double-`Put`s —
two goroutines calling `Release` on the same handle concurrently both pass the
`g.pool == nil` test, and a by-value copy `g2 := *g` released separately puts
the same scratch twice; a later pair of Garble calls then shares one scratch.
`C17_contract_needed_concurrent_release` and `C17_contract_needed_value_copy`
exhibit both on the model, and `checks/C17.py` replays the second one on the
real code on every run (informational).  So the reading of "releasing twice
is harmless" as "any two Release calls that reach one garbling" is FALSE for
the code; what is proved (`C17_release_idempotent`) is the reading the doc
comment gives: a second `Release` through the same handle, after the first has
returned, is a no-op.

Link to C01: `C17_garble_equals_C01` instantiates the model with the actual
write sequence of `Circuit.Garble` and shows that behind every live handle of
every concurrent run there is `Circuit.garble` of that call's own tape and key
(the function the C01 theorems are about); with C01,
`C17_concurrent_garbling_evaluates_correctly`.

GC histories.  "A garbling stays valid until it is released" is about the DATA
of a garbling (`g.Wires`, `g.Gates`, slices into the pooled scratch), whoever
holds the `*Garbled` header; the repository's own callers keep the slices and
drop the header.  `Model/PoolGC.lean` extends the histories by `dropHeader` and
by a collector that may run every registered finalizer;
`C17_gc_put_only_by_release_or_error_path` (the code registers none: the only
transitions that `Put` are `Release` and the error path of `Garble`),
`C17_retained_garbling_valid` (retained data = the single-goroutine result, along
every further history) and the negation witness
`C17_autorelease_breaks_retained_validity` (a finalizer whose effect is `Release`
breaks it: the theorems need "no Put without an explicit Release by the owner").
`checks/C17.py` generates such histories on the real code (mode `gchist`, stress
kind `gcmix`) and replays their event logs (`D`, `K` events) on this model.

Results of `Compute` (`Model/PoolResult.lean`): no later call on the circuit
value writes a returned result (`C17_compute_result_memory_never_written`,
`C17_compute_result_retained`); witness for a result aliasing pooled scratch:
`C17_pooled_result_alias_breaks_retention`.

What is modelled rather than proved: `atomic.Pointer` and `sync.Pool` are
linearizable objects (one step per operation) and establish happens-before
between a `Put` and the `Get` that returns the item; Go-memory-model data races
are observed only at run time (race detector in `checks/C17.py`).
-/
import MpcVerif.Proofs.PoolGarble
import MpcVerif.Proofs.PoolGC
import MpcVerif.Proofs.PoolResult
import MpcVerif.Props.C01

namespace Mpc.Pool
variable {Mem Job : Type}

/-- **pool_unique.**  At most one pool object is ever installed on the circuit
and every caller uses it: (1) once `c.garblePool` is non-nil no step of any
goroutine changes it (along any run); (2) every goroutine that is past
`garbleScratchPool` — about to `Get`, or garbling — uses the installed object;
(3) so does every unreleased handle (`g.pool`); (4) scratch buffers are cached
only in the installed object; (5) a goroutine that lost the CompareAndSwap
re-loads a non-nil pointer (the `return c.garblePool.Load()` is never nil). -/
theorem C17_pool_unique (P : Params Mem Job) (σ : State Mem Job) (hr : Reachable P true σ) :
    (∀ σ' p, Steps P true σ σ' → σ.poolPtr = some p → σ'.poolPtr = some p) ∧
    (∀ t j p, σ.pc t = .gGet j p → σ.poolPtr = some p) ∧
    (∀ t j p x m0 k, σ.pc t = .gRun j p x m0 k → σ.poolPtr = some p) ∧
    (∀ h H p, σ.handle h = some H → H.pool = some p → σ.poolPtr = some p) ∧
    (∀ q x, x ∈ σ.free q → σ.poolPtr = some q) ∧
    (∀ t j, σ.pc t = .gReload j → ∃ σ', step? P true σ t .reload = some σ') := by
  have hi := inv_reachable P σ hr
  refine ⟨?_, hi.getPool, hi.runPool, hi.hPool, hi.freePool, ?_⟩
  · intro σ' p hs hp
    induction hs with
    | refl => exact hp
    | tail t a _ h ih => exact poolPtr_step P true _ _ t a p h ih
  · intro t j hpc
    obtain ⟨p, hp⟩ := Option.isSome_iff_exists.mp (hi.reloadOk t j hpc)
    exact ⟨{ σ with pc := upd σ.pc t (.gGet j p) }, by simp only [step?, hpc, hp]⟩

/-- Non-vacuity: two goroutines race on first use; both load nil, both build a
pool object, one CompareAndSwap wins, the loser reloads; both end up on pool
object 1 and pool object 0 is garbage. -/
example :
    (match runSched (Mem := Unit) (Job := Unit) ⟨(), fun _ => []⟩ true (init ⟨(), fun _ => []⟩)
        [(0, .callGarble ()), (1, .callGarble ()), (0, .load), (1, .load), (1, .cas), (0, .cas),
         (0, .reload)] with
     | some σ => σ.poolPtr == some 1 && σ.nPools == 2 &&
         (match σ.pc 0, σ.pc 1 with | .gGet _ 1, .gGet _ 1 => true | _, _ => false)
     | none => false) = true := by decide

/-- **scratch_owned_once.**  Every scratch buffer ever allocated is in exactly
one place: the free list of a pool object (and there at most once), one
in-progress Garble, or one live handle. -/
theorem C17_scratch_owned_once (P : Params Mem Job) (σ : State Mem Job) (hr : Reachable P true σ)
    (x : ScratchId) (hx : x < σ.nScratch) :
    (∃ o, Owns σ x o) ∧ (∀ o o', Owns σ x o → Owns σ x o' → o = o') ∧
    (∀ q, (σ.free q).count x ≤ 1) := by
  obtain ⟨w, hp⟩ := parts_reachable hr
  have hT := hp.tracks
  obtain ⟨o, ho⟩ := hT.somewhere hx
  exact ⟨⟨o, (owns_iff o).mpr ho⟩, fun o o' h h' => hT.unique ((owns_iff o).mp h) ((owns_iff o').mp h'),
    fun q => List.nodup_iff_count.mp (hT.nodup q) x⟩

/-- Non-vacuity: a state with three scratch buffers, one in each kind of place
(goroutine 0 published a handle on scratch 0; goroutine 1 garbled on scratch 1
and released it; goroutine 2 is garbling on scratch 2). -/
example :
    (match runSched (Mem := Nat) (Job := Nat) traceParams true (init traceParams)
        [(0, .callGarble 7), (0, .load), (0, .cas), (0, .getNew),
         (1, .callGarble 8), (1, .load), (1, .getNew), (2, .callGarble 9), (2, .load), (2, .getNew),
         (0, .write), (1, .write), (2, .write), (0, .write), (1, .write), (0, .publish), (1, .publish),
         (1, .relBegin 1), (1, .relPut), (1, .relClear)] with
     | some σ => σ.nScratch == 3 && σ.free 0 == [1] &&
         (match σ.pc 2 with | .gRun _ _ 2 _ 1 => true | _ => false) &&
         (match σ.handle 0 with | some H => H.scratch == some 0 && H.pool == some 0 | none => false) &&
         readVal σ 0 == some 7
     | none => false) = true := by decide

/-- **garble_isolated.**  No other goroutine writes a scratch while it is held:
(1) the contents of the scratch an in-progress Garble holds are exactly the
sequential prefix of its own writes, whatever the others did in between;
(2) a step of any other goroutine leaves those contents (and this goroutine)
untouched; (3) the data behind every live handle equals the single-goroutine
result `seqGarble` of the call that produced it (same tape, same key, same
scratch history `init`); (4) and it stays so along every further run for as long
as the handle is not released. -/
theorem C17_garble_isolated (P : Params Mem Job) (σ : State Mem Job) (hr : Reachable P true σ) :
    (∀ t j p x m0 k, σ.pc t = .gRun j p x m0 k → σ.mem x = runFrom P j k m0) ∧
    (∀ t t' a σ' j p x m0 k, σ.pc t = .gRun j p x m0 k → t' ≠ t → step? P true σ t' a = some σ' →
        σ'.mem x = σ.mem x ∧ σ'.pc t = .gRun j p x m0 k) ∧
    (∀ h H x, σ.handle h = some H → H.owned = some x → σ.mem x = seqGarble P H.job H.init) ∧
    (∀ σ' h H H' x, Steps P true σ σ' → σ.handle h = some H → σ'.handle h = some H' →
        H'.owned = some x →
        H.owned = some x ∧ σ'.mem x = σ.mem x ∧ H'.job = H.job ∧ H'.init = H.init) := by
  have hi := inv_reachable P σ hr
  refine ⟨fun t j p x m0 k h => (hi.runMem t j p x m0 k h).1, ?_, hi.ownMem, ?_⟩
  · intro t t' a σ' j p x m0 k hpc hne hs
    exact other_step_frame P σ σ' hi t t' a j p x m0 k hpc hne hs
  · -- the record at the end is a later one of the record at the start; the contents are `seqGarble`
    -- of the record's call and initial contents at both ends
    intro σ' h H H' x hs hH hH' ho
    obtain ⟨_, e, hl⟩ := handle_steps P hr hs hH
    cases e.symm.trans hH'
    refine ⟨hl.owned x ho, ?_, hl.job, hl.init⟩
    rw [(inv_reachable P σ' (reachable_steps P true σ σ' hr hs)).ownMem h H' x hH' ho,
      hi.ownMem h H x hH (hl.owned x ho), hl.job, hl.init]

/-- If the result of a call does not depend on the stale contents of the
scratch it happens to get (C01: for a well-formed circuit every wire and table
slot that is read is written first), then what a live handle shows is the
result of that call on a brand-new scratch, whatever the reuse history. -/
theorem C17_garble_result_history_free {View : Type} (view : Mem → View)
    (P : Params Mem Job) (hstale : ∀ j m m', view (seqGarble P j m) = view (seqGarble P j m'))
    (σ : State Mem Job) (hr : Reachable P true σ) (h : HandleId) (H : Handle Mem Job) (x : ScratchId)
    (hH : σ.handle h = some H) (ho : H.owned = some x) :
    view (σ.mem x) = view (seqGarble P H.job P.fresh) := by
  rw [(C17_garble_isolated P σ hr).2.2.1 h H x hH ho]
  exact hstale _ _ _

/-- **release_idempotent.**  From any reachable state in which goroutine `t` is
idle and nobody is inside a method of handle `h`: `Release` runs to completion
(here its three steps run back to back; that they stay enabled whatever other
goroutines do in between follows from `inv_step`), leaves the handle cleared, has
put the scratch into the free list exactly once, and a second `Release` on the
same handle is a no-op: the state after `Release; Release` is the state after
one `Release`. -/
theorem C17_release_idempotent (P : Params Mem Job) (σ : State Mem Job) (hr : Reachable P true σ)
    (t : Tid) (h : HandleId) (H : Handle Mem Job) (p : PoolId)
    (hpc : σ.pc t = .idle) (hH : σ.handle h = some H) (hu : H.user = none) (hp : H.pool = some p) :
    ∃ σ3 x H3, H.scratch = some x ∧
      runSched P true σ [(t, .relBegin h), (t, .relPut), (t, .relClear)] = some σ3 ∧
      runSched P true σ [(t, .relBegin h), (t, .relPut), (t, .relClear), (t, .relBegin h)] = some σ3 ∧
      σ3.handle h = some H3 ∧ H3.pool = none ∧ H3.scratch = none ∧ σ3.pc t = .idle ∧
      (σ3.free p).count x = 1 ∧ Reachable P true σ3 := by
  have hi := inv_reachable P σ hr
  obtain ⟨x, hx⟩ := Option.isSome_iff_exists.mp
    (show H.scratch.isSome = true by rw [← hi.hFields h H hH, hp]; rfl)
  obtain ⟨e3, e4⟩ := release_runs P σ t h H p x hpc hH hu hp hx
  have hr3 : Reachable P true (released σ t h H p x) := reachable_runSched P true σ _ _ hr e3
  have hmem : x ∈ (released σ t h H p x).free p := by simp [released]
  refine ⟨released σ t h H p x, x,
    { H with scratch := none, pool := none, user := none, putDone := false }, hx, e3,
    (runSched_snoc_iff (l := [_, _, _])).mpr ⟨_, e3, e4⟩,
    by simp [released], rfl, rfl, by simp [released], ?_, hr3⟩
  exact ((inv_reachable P _ hr3).freeNodup p).count.trans (if_pos hmem)

/-- Non-vacuity of `release_idempotent`: a reachable state with an idle
goroutine and an unreleased handle nobody is using. -/
example : ∃ σ : State Nat Nat, Reachable traceParams true σ ∧ σ.pc 0 = .idle ∧
    ∃ H, σ.handle 0 = some H ∧ H.user = none ∧ H.pool = some 0 := by
  refine ⟨_, .step 0 .publish (.step 0 .write (.step 0 .write (.step 0 .getNew (.step 0 .cas
    (.step 0 .load (.step 0 (.callGarble 5) .init rfl) rfl) rfl) rfl) rfl) rfl) rfl, rfl, _, rfl, rfl, rfl⟩

section C01link
open Mpc LabelAlg
variable {L : Type} [LabelAlg L]

/-- The garbling seen through a handle: `R`, `g.Wires`, `g.Gates`. -/
def garbledOf (c : Circuit) (j : GJob L) (m : GMem L) : Garbled L :=
  { r := j.r, wires := m.wires, rows := (List.range c.gates.length).map m.tables }

/-- **garble_isolated, instantiated.**  Pool model with the actual writes of
`Circuit.Garble` (input-wire loop, gate loop; `garbleParams c`), well-formed
circuit: in every reachable state of every concurrent run, behind every live
handle there is exactly the garbling that `Circuit.garble` (the function the
C01 theorems are about) computes from that call's own tape and key — on every
defined wire and for every gate's rows — whatever scratch the call got and
whatever that scratch held before. -/
theorem C17_garble_equals_C01 (c : Circuit) (hwf : c.WF = true)
    (σ : State (GMem L) (GJob L)) (hr : Reachable (garbleParams c) true σ)
    (h : HandleId) (H : Handle (GMem L) (GJob L)) (x : ScratchId)
    (hH : σ.handle h = some H) (ho : H.owned = some x) :
    (∀ w, c.defined w = true →
        (σ.mem x).wires.get w = (c.garble H.job.H H.job.r H.job.inl).wires.get w) ∧
    (garbledOf c H.job (σ.mem x)).rows = (c.garble H.job.H H.job.r H.job.inl).rows := by
  have hmem := (C17_garble_isolated (garbleParams c) σ hr).2.2.1 h H x hH ho
  have hgood := (good_reachable (garbleParams c) (fun m => m.wires.size = c.numWires)
    (by simp [garbleParams]) (fun j f hf m hm => garbleProg_size c j f hf m hm) true σ hr).2.2 h H hH
  obtain ⟨e1, e2⟩ := seqGarble_eq_garble c hwf H.job H.init hgood
  rw [hmem]
  refine ⟨e1, ?_⟩
  have hlen := garble_rows_count c H.job.H H.job.r H.job.inl
  apply List.ext_getElem
  · simp [garbledOf, hlen]
  · intro k h1 h2
    simp only [garbledOf, List.getElem_map, List.getElem_range]
    rw [e2 k (by simpa [garbledOf] using h1)]
    simp [List.getD, h2]

/-- End to end ("each call returns the same correct result it returns when run
alone"): evaluating the tables of any live handle of any concurrent run, with
input labels taken from that handle's wire pairs, takes no error branch and
yields on every defined wire the label of the plain-evaluation bit. -/
theorem C17_concurrent_garbling_evaluates_correctly (c : Circuit) (hwf : c.WF = true)
    (σ : State (GMem L) (GJob L)) (hr : Reachable (garbleParams c) true σ)
    (h : HandleId) (H : Handle (GMem L) (GJob L)) (x : ScratchId)
    (hH : σ.handle h = some H) (ho : H.owned = some x) (hsel : sbit H.job.r = true)
    (inp : List Bool) :
    ∃ out, c.evalGarbled H.job.H (garbledOf c H.job (σ.mem x)).rows
        (encodeInputs c (garbledOf c H.job (σ.mem x)) inp) = .ok out ∧
      ∀ w, c.defined w = true →
        out.get w = ((σ.mem x).wires.get w).labelFor ((c.plainEval inp).get w) := by
  obtain ⟨e1, e2⟩ := C17_garble_equals_C01 c hwf σ hr h H x hH ho
  obtain ⟨out, h1, h2⟩ := C01_garbled_eq_plain H.job.H c H.job.r hsel H.job.inl inp hwf
  have henc : encodeInputs c (garbledOf c H.job (σ.mem x)) inp =
      encodeInputs c (c.garble H.job.H H.job.r H.job.inl) inp := by
    unfold encodeInputs
    congr 1; funext i
    by_cases hlt : i < c.nIn
    · rw [if_pos hlt, if_pos hlt, ← e1 i (input_defined c i hlt)]; rfl
    · rw [if_neg hlt, if_neg hlt]
  refine ⟨out, ?_, fun w hw => ?_⟩
  · rw [e2, henc]; exact h1
  · rw [(h2 w hw).2, e1 w hw]

/-- Non-vacuity of the two link theorems: for the C01 example circuit (every
gate kind, fan-out, `in0 = in1`; `WF` by `decide` in Props/C01.lean) and any
job there is a reachable state with a live handle produced by that job. -/
example (j : GJob L) : ∃ σ : State (GMem L) (GJob L),
    Reachable (garbleParams exampleCircuit) true σ ∧
    ∃ H, σ.handle 0 = some H ∧ H.owned = some 0 ∧ H.job = j :=
  ⟨_, reachable_runSched _ true _ _ ([(0, .callGarble j), (0, .load), (0, .cas), (0, .getNew)] ++
    List.replicate 8 (0, .write) ++ [(0, .publish)]) .init rfl, _, rfl, rfl, rfl⟩

end C01link

/-! `GReachable P false γ` ranges over every history with `dropHeader h` events (the caller keeps
only the slices; no method can be called on `h` any more) of the code as it is: `Circuit.Garble`
attaches no finalizer, so the collector has NO transition
(`C17_gc_put_only_by_release_or_error_path`, first part) — the fact `checks/C17.py` re-extracts on
every run as the effect sets of `Garble` and `Release` (no escape into `runtime.SetFinalizer` /
`AddCleanup`) and the Put-path count of `Garble`. -/

/-- **The only transitions that `Put`.**  In a GC history of the code as it is
(1) the collector never runs anything of a garbling; (2) the free list of a pool
object grows only by the `Put` of an explicit `Release` (`relPut`) and by the
error path of `Garble` (`abort`); (3) dropping a header changes nothing in the
pool state. -/
theorem C17_gc_put_only_by_release_or_error_path (P : Params Mem Job) (γ γ' : GState Mem Job)
    (t : Tid) (a : GAction Job) (hs : gstep? P false γ t a = some γ') :
    (∀ h, a ≠ .finalize h) ∧
    ((∃ q, (γ.σ.free q).length < (γ'.σ.free q).length) → a = .base .relPut ∨ a = .base .abort) ∧
    (∀ h, a = .dropHeader h → γ'.σ = γ.σ) := by
  cases GStep.of_gstep? hs with
  | @base b _ hb _ =>
    refine ⟨nofun, fun ⟨q, hq⟩ => ?_, nofun⟩
    rcases free_grows_only_by_put P _ _ t b hb q hq with rfl | rfl
    · exact .inl rfl
    · exact .inr rfl
  | drop => exact ⟨nofun, fun ⟨q, hq⟩ => absurd hq (Nat.lt_irrefl _), fun _ _ => rfl⟩

/-- Non-vacuity: a history in which all three kinds of step that touch a free
list occur (an aborted Garble, a Release, a reuse) around a dropped header. -/
example :
    (match grunSched (Mem := Nat) (Job := Nat) traceParams false (ginit traceParams)
        [(0, .base (.callGarble 7)), (0, .base .load), (0, .base .cas), (0, .base .getNew),
         (0, .base .write), (0, .base .write), (0, .base .publish), (0, .dropHeader 0),
         (1, .base (.callGarble 8)), (1, .base .load), (1, .base .getNew), (1, .base .write),
         (1, .base .abort),
         (1, .base (.callGarble 9)), (1, .base .load), (1, .base (.getFree 1)), (1, .base .write),
         (1, .base .write), (1, .base .publish),
         (1, .base (.relBegin 1)), (1, .base .relPut), (1, .base .relClear)] with
     | some γ => γ.retained 0 == some 0 && γ.σ.free 0 == [1] && retainedVal γ 0 == some 7
     | none => false) = true := by decide

/-- **A garbling whose header was dropped stays valid, for every GC history.**
In every state of every history with header drops and collections:
(1) the slices retained from a dropped garbling `h` show exactly the
single-goroutine result `seqGarble` of the call that produced it, and `h` still
owns the scratch they alias; (2) along EVERY further history — any number of
collections, Garble / Release calls of other sessions on the same circuit, reuse
of every released scratch — the garbling stays dropped-but-owned, the retained
data does not change, and its scratch is never in a free list, never held by an
in-progress Garble, never behind another handle (it is stranded: "skipping
Release just forgoes reuse"); (3) for garblings whose header is kept the
statement of `C17_garble_isolated` carries over unchanged to GC histories. -/
theorem C17_retained_garbling_valid (P : Params Mem Job) (γ : GState Mem Job)
    (hr : GReachable P false γ) :
    (∀ h x, γ.retained h = some x → ∃ H, γ.σ.handle h = some H ∧ H.owned = some x ∧
        retainedVal γ h = some (seqGarble P H.job H.init)) ∧
    (∀ γ' h x, GSteps P false γ γ' → γ.retained h = some x →
        γ'.retained h = some x ∧ retainedVal γ' h = retainedVal γ h ∧
        (∀ q, x ∉ γ'.σ.free q) ∧ (∀ t, ¬ HeldBy γ'.σ t x) ∧ (∀ h', OwnedBy γ'.σ h' x → h' = h)) ∧
    (∀ h H x, γ.σ.handle h = some H → H.owned = some x → γ.σ.mem x = seqGarble P H.job H.init) := by
  have valid : ∀ {δ : GState Mem Job}, GReachable P false δ → ∀ {h x}, δ.retained h = some x →
      ∃ H, δ.σ.handle h = some H ∧ H.owned = some x ∧
        retainedVal δ h = some (seqGarble P H.job H.init) := by
    intro δ hδ h x hx
    obtain ⟨H, hH, ho, _⟩ := rinv_reachable P δ hδ h x hx
    refine ⟨H, hH, ho, ?_⟩
    rw [retainedVal, hx, Option.map_some, (inv_reachable P _ (greachable_proj P δ hδ)).ownMem h H x hH ho]
  refine ⟨fun h x => valid hr, ?_, (inv_reachable P _ (greachable_proj P γ hr)).ownMem⟩
  intro γ' h x hs hx
  obtain ⟨hsσ, hmono⟩ := gsteps_proj P hs
  have hr' := greachable_gsteps P false γ γ' hr hs
  obtain ⟨H, hH, _, hv⟩ := valid hr hx
  obtain ⟨H', hH', ho', hv'⟩ := valid hr' (hmono h x hx)
  -- the record at the end is a later one of the record at the start: the same call, the same data
  obtain ⟨_, e, hl⟩ := handle_steps P (greachable_proj P γ hr) hsσ hH
  cases e.symm.trans hH'
  obtain ⟨w', hp'⟩ := parts_reachable (greachable_proj P γ' hr')
  have hT' := hp'.tracks
  -- the scratch is behind handle `h`, so it is nowhere else
  have hat := At.handle hH' ho'
  exact ⟨hmono h x hx, by rw [hv, hv', hl.job, hl.init],
    fun q hq => (nomatch hT'.unique (o := .pool q) hq hat),
    fun t ht => (nomatch hT'.unique ((owns_iff (.thread t)).mp ht) hat),
    fun h' ho'' => Owner.handle.inj (hT'.unique ((owns_iff (.handle h')).mp ho'') hat)⟩

/-- Non-vacuity: a reachable GC state with a dropped, unreleased garbling. -/
example : ∃ γ : GState Nat Nat, GReachable traceParams false γ ∧ γ.retained 0 = some 0 :=
  ⟨_, greachable_grunSched traceParams false _ _
    [(0, .base (.callGarble 7)), (0, .base .load), (0, .base .cas), (0, .base .getNew),
     (0, .base .write), (0, .base .write), (0, .base .publish), (0, .dropHeader 0)] .init rfl, rfl⟩

/-- The history of the witness below: garbling 0 (job 7) is published, its header
dropped; the collector runs its finalizer (= `Release`, by the runtime's
goroutine 9); another session's Garble (job 8) gets the scratch back from the
pool and garbles into it. -/
def autoReleaseSched : List (Tid × GAction Nat) :=
  [(0, .base (.callGarble 7)), (0, .base .load), (0, .base .cas), (0, .base .getNew),
   (0, .base .write), (0, .base .write), (0, .base .publish), (0, .dropHeader 0),
   (9, .finalize 0),
   (1, .base (.callGarble 8)), (1, .base .load), (1, .base (.getFree 0)),
   (1, .base .write), (1, .base .write), (1, .base .publish)]

/-- **Why the theorems need "no Put without an explicit Release by the owner".**
Add an auto-release transition (`fin = true`: a finalizer on the header whose
effect is `Release`) and `C17_retained_garbling_valid` / the validity part of
`C17_garble_isolated` fail: after the history `autoReleaseSched` the slices
retained from garbling 0, which was never released by its owner, show the result
of ANOTHER call (8, not `seqGarble … 7 = 7`), and the scratch they alias is
owned by handle 1.  The step that broke it is a `Put` that is neither `relPut`
of an owner's `Release` nor `abort`: right after `finalize 0` scratch 0 is in the
free list while the retained slices still alias it. -/
theorem C17_autorelease_breaks_retained_validity :
    (∃ γ : GState Nat Nat, GReachable traceParams true γ ∧ γ.retained 0 = some 0 ∧
      retainedVal γ 0 = some 8 ∧ seqGarble traceParams 7 traceParams.fresh = 7 ∧
      OwnedBy γ.σ 1 0) ∧
    (∃ γ : GState Nat Nat, GReachable traceParams true γ ∧ γ.retained 0 = some 0 ∧
      0 ∈ γ.σ.free 0) :=
  ⟨⟨_, greachable_grunSched traceParams true _ _ autoReleaseSched .init rfl, rfl, rfl, rfl, _, rfl, rfl⟩,
    _, greachable_grunSched traceParams true _ _ (autoReleaseSched.take 9) .init rfl, rfl, by decide⟩

/-- With the code as it is the same history is not a run: the collector step
does not exist. -/
example : grunSched traceParams false (ginit traceParams) autoReleaseSched = none := by decide
/-- … and without the collector step the other session cannot get scratch 0. -/
example : grunSched traceParams false (ginit traceParams)
    (autoReleaseSched.take 8 ++ autoReleaseSched.drop 9) = none := by decide

def unitParams : Params Unit Unit := ⟨(), fun _ => []⟩

/-- Two goroutines call `Release` on the *same* handle concurrently: both pass
the `g.pool == nil` test before either clears it, both `Put` — scratch 0 is in
the free list twice, and two later Garble calls hold it at the same time.
(`scratch_owned_once` fails outside the contract.) -/
def racyReleaseSched : List (Tid × Action Unit) :=
  [(0, .callGarble ()), (0, .load), (0, .cas), (0, .getNew), (0, .publish),
   (0, .relBegin 0), (1, .relBegin 0), (0, .relPut), (1, .relPut), (0, .relClear), (1, .relClear),
   (0, .callGarble ()), (0, .load), (0, .getFree 0), (1, .callGarble ()), (1, .load), (1, .getFree 0)]

theorem C17_contract_needed_concurrent_release :
    ∃ σ : State Unit Unit, Reachable unitParams false σ ∧ HeldBy σ 0 0 ∧ HeldBy σ 1 0 ∧
      (σ.free 0).count 0 = 0 :=
  ⟨_, reachable_runSched unitParams false _ _ racyReleaseSched .init rfl,
    ⟨(), 0, (), 0, rfl⟩, ⟨(), 0, (), 0, rfl⟩, rfl⟩

/-- The intermediate state of the same run: the free list holds scratch 0 twice. -/
example :
    (match runSched unitParams false (init unitParams) (racyReleaseSched.take 11) with
     | some σ => σ.free 0 == [0, 0]
     | none => false) = true := by decide

/-- A `Garbled` copied by value and released through both copies, sequentially:
each copy has its own `pool` field, so the second `Release` is not a no-op and
the scratch is `Put` twice. -/
def valueCopySched : List (Tid × Action Unit) :=
  [(0, .callGarble ()), (0, .load), (0, .cas), (0, .getNew), (0, .publish),
   (0, .copyHandle 0),
   (0, .relBegin 0), (0, .relPut), (0, .relClear),
   (0, .relBegin 1), (0, .relPut), (0, .relClear)]

theorem C17_contract_needed_value_copy :
    ∃ σ : State Unit Unit, Reachable unitParams false σ ∧ (σ.free 0).count 0 = 2 :=
  ⟨_, reachable_runSched unitParams false _ _ valueCopySched .init rfl, rfl⟩

/-- Under the contract the same two schedules are not runs of the model (the
second `relBegin` on a handle in use, and `copyHandle`, are refused). -/
example : runSched unitParams true (init unitParams) racyReleaseSched = none := by decide
example : runSched unitParams true (init unitParams) valueCopySched = none := by decide

section Results
open Mpc.Pool.Res

/-- **Ownership of results**: along every history of `Compute` calls on one
circuit value, starting from any state, no object that already exists -- in
particular nothing reachable from a result an earlier call returned -- is
written: the heap cell keeps its content. -/
theorem C17_compute_result_memory_never_written (c : Circuit) (widths : List Nat) (st : St)
    (later : List (List Bool)) (a : Nat) (ha : a < st.heap.length) :
    (run .fresh c widths st later).heap[a]? = st.heap[a]? := by
  rw [run_fresh]; exact List.getElem?_append_left ha

example : (run .fresh ⟨3, 2, 1, [⟨.xor, 0, 1, 2⟩]⟩ [1] {} [[true, false]]).heap.length = 1 := by decide

/-- **Result retention**: for every history `before ++ x :: later` of calls
(any number of earlier and later calls, any inputs; whole calls in any serial
order = every interleaving, `Compute` writing no shared state), the result the
call on `x` returned, read by its keeper after all the later calls, is the value
`Compute` returns on `x` when run alone. -/
theorem C17_compute_result_retained (c : Circuit) (widths : List Nat)
    (before later : List (List Bool)) (x : List Bool) :
    readRes (run .fresh c widths {} (before ++ x :: later)) before.length =
      some (computeVal c widths x) ∧
    readRes (run .fresh c widths {} [x]) 0 = some (computeVal c widths x) := by
  simp [readRes, run_fresh]

/-- Executed instance: three calls on a 2-output circuit, the first result read at the end. -/
example : readRes (run .fresh ⟨4, 2, 2, [⟨.xor, 0, 1, 2⟩, ⟨.and, 0, 1, 3⟩]⟩ [1, 1] {}
    [[true, false], [true, true], [false, false]]) 0 = some [1, 0] := by decide +kernel

/-- **Witness** (the statement needs freshness): when the returned object aliases
scratch that goes back to a pool at the end of the call, a later call on the
same circuit value changes the earlier call's result. -/
theorem C17_pooled_result_alias_breaks_retention :
    ∃ (c : Circuit) (widths : List Nat) (x y : List Bool),
      readRes (run .pooled c widths {} [x]) 0 = some (computeVal c widths x) ∧
      readRes (run .pooled c widths {} [x, y]) 0 ≠ some (computeVal c widths x) :=
  ⟨⟨3, 2, 1, [⟨.xor, 0, 1, 2⟩]⟩, [1], [true, false], [false, false], by decide +kernel, by decide +kernel⟩

end Results

end Mpc.Pool
