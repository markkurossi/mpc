/-
C05  Streaming mode agrees with whole-circuit mode.

Statement (properties.jsonl): for every two-party MPCL program and every pair
of inputs, streaming mode terminates with both parties returning identical
output values and types, equal to evaluating the whole compiled circuit.

What is proved here are the two halves the statement splits into; that the
streamed circuits compose to the program's meaning, and the builders of the
instruction circuits, are carried by the implementation-side oracle and the
correspondence runs of checks/C05.py.

  wire side     the gate record codec of `Streaming.garbleGate` /
                `StreamEvaluator` is lossless (`C05_stream_step`), and a stream
                of circuits keeps the C01 relation (garbler pair, evaluator
                label, plain bit) on the GLOBAL wire store, for every hash
                pair, offset, id maps and start value of the stream-wide tweak
                counter, up to the decoded result (`C05_stream_program`,
                `C05_stream_session`);
  compile side  `Program.GC` never frees an id range that a later-read value
                points into, for EVERY well-formed step list (`C05_gc_safe`),
                and the same with any implementation of its `aliasLive` query
                that answers against the current live set (`C05_gc_query_safe`);
                `C05_walloc_*`: the bucket chains of `WireAllocator`.

The other theorems belong to findings: a negation witness on the model of the
code before a fix (0c2f851, 73f8795, b2bd1e4, dbcfe09 in /repo) or of a variant
of it (`C05_gcMemo_*`: `aliasLive` with a memo table that lives for the whole
pass), its id collision in the allocator model, and the same input on the code
as it is.
-/
import MpcVerif.Proofs.GcQuery
import MpcVerif.Proofs.Stream
import MpcVerif.Model.LabelBV
import MpcVerif.Model.Proto2

namespace Mpc

section wire
open LabelAlg Mpc.Stream

/-- Encode then decode of one streamed gate record is the identity, whatever
follows it on the wire: both id encodings (`short` or not), all eight
temporary-flag combinations, all five operations. -/
theorem C05_stream_step {L : Type} [LabelBytes L] (g : GateRec L) (rest : List Nat) (h : RecWF g) :
    decodeRec (encodeRec g ++ rest) = some (g, rest) := by
  obtain ⟨wa, wb, wc⟩ := h.lt_width
  obtain ⟨h1, h2, h3, h4, h5⟩ := opByte_spec g.op g.aTmp g.bTmp g.cTmp g.short
  have hrows := takeRows_append g.rows
  rw [h.hrows] at hrows
  simp only [encodeRec, List.cons_append, decodeRec, h1, h2, h3, h4, h5]
  -- from here on the id width is just a number
  generalize (if g.short = true then 2 else 4) = w at wa wb wc
  by_cases hop : g.op = .inv
  · have hb := h.hinv hop
    obtain ⟨op, aT, bT, cT, a, b, c, rows⟩ := g
    subst hop hb
    simp only [if_true, List.append_assoc, takeN_beBytes, hrows, beVal_beBytes _ _ wa, beVal_beBytes _ _ wc]
  · simp only [hop, if_false, List.append_assoc, takeN_beBytes, hrows, beVal_beBytes _ _ wa,
      beVal_beBytes _ _ wb, beVal_beBytes _ _ wc]

/-- The same for a whole circuit's records. -/
theorem C05_stream_steps {L : Type} [LabelBytes L] (gs : List (GateRec L)) (rest : List Nat)
    (h : ∀ g ∈ gs, RecWF g) :
    decodeRecs gs.length (encodeRecs gs ++ rest) = some (gs, rest) := by
  induction gs with
  | nil => simp [decodeRecs, encodeRecs]
  | cons g gs ih =>
    have ih' := ih fun x hx => h x (List.mem_cons_of_mem _ hx)
    simp only [encodeRecs, List.flatMap_cons, List.append_assoc, List.length_cons, decodeRecs] at *
    rw [C05_stream_step g _ (h g List.mem_cons_self)]
    simp only [ih']

/-- The records the garbler emits are well formed as long as wire ids fit in
32 bits (they are `uint32` in Go). -/
theorem C05_stream_records_wf {L : Type} [LabelAlg L] (H : Hash L) (r : L) (cx : SCtx) (g : Gate)
    (gs : SStore (WireL L)) (id : Nat) (hin : ∀ w, (cx.locate w).2 < 2 ^ 32) :
    RecWF (streamGarbleGate H r cx g gs id).2.2 := by
  refine { ha := hin _, hb := ?_, hc := hin _, hrows := ?_, hinv := ?_ }
  · simp only [streamGarbleGate]
    split
    · exact hin _
    · decide
  · simp only [streamGarbleGate]
    exact garbleCore_rows_length H r g.op _ _ id
  · intro hop
    simp only [streamGarbleGate] at hop ⊢
    simp [hop, Op.binary]

/-! Non-vacuity: an INV record with a 32-bit id and an AND record at the
16/32-bit boundary. -/
def exRecInv : GateRec (BitVec 128) :=
  { op := .inv, aTmp := true, bTmp := false, cTmp := false, a := 70000, b := 0, c := 3, rows := [0#128] }

def exRecAnd : GateRec (BitVec 128) :=
  { op := .and, aTmp := false, bTmp := true, cTmp := false, a := 65536, b := 2, c := 65535,
    rows := [1#128, 2#128] }

example : RecWF exRecInv := ⟨by decide, by decide, by decide, by decide, by intro _; rfl⟩
example : RecWF exRecAnd := ⟨by decide, by decide, by decide, by decide, by intro h; cases h⟩
example : (encodeRec exRecAnd).length = 1 + 12 + 32 ∧ (encodeRec exRecInv).length = 1 + 8 + 16 := by
  decide +kernel

variable {L : Type} [LabelAlg L]

/-- One streamed gate maintains the C01 relation on the two-level store. -/
theorem C05_stream_gate (H : Hash L) (r : L) (hr : sbit r = true) (cx : SCtx) (g : Gate)
    (gs : SStore (WireL L)) (es : SStore L) (ps : SStore Bool) (id : Nat) (D : Loc → Prop)
    (hinv : SInv r D gs es ps)
    (ha : D (cx.locate g.in0)) (hb : g.op.binary = true → D (cx.locate g.in1)) :
    ∃ es', streamEvalGate H (streamGarbleGate H r cx g gs id).2.2 es id =
        .ok (es', (streamGarbleGate H r cx g gs id).2.1) ∧
      (streamGarbleGate H r cx g gs id).2.1 = id + g.op.tweaks ∧
      SInv r (fun l => l = cx.locate g.out ∨ D l) (streamGarbleGate H r cx g gs id).1 es'
        (streamPlainGate cx g ps) := by
  have hA := hinv _ ha
  cases hbin : g.op.binary
  · obtain ⟨e, he, hrel⟩ := core_correct H r hr g.op (gs.get (cx.locate g.in0)) default
      (es.get (cx.locate g.in0)) default (ps.get (cx.locate g.in0)) false id hA
      (by intro h; rw [hbin] at h; cases h)
    refine ⟨es.set (cx.locate g.out) e, ?_, rfl, ?_⟩
    · simp only [streamEvalGate, streamGarbleGate, GateRec.la, GateRec.lb, GateRec.lc, hbin,
        Bool.false_eq_true, if_false, he]
    · simpa only [streamGarbleGate, streamPlainGate, hbin, Bool.false_eq_true, if_false] using hinv.set _ hrel
  · obtain ⟨e, he, hrel⟩ := core_correct H r hr g.op (gs.get (cx.locate g.in0)) (gs.get (cx.locate g.in1))
      (es.get (cx.locate g.in0)) (es.get (cx.locate g.in1)) (ps.get (cx.locate g.in0))
      (ps.get (cx.locate g.in1)) id hA (fun _ => hinv _ (hb hbin))
    refine ⟨es.set (cx.locate g.out) e, ?_, rfl, ?_⟩
    · simp only [streamEvalGate, streamGarbleGate, GateRec.la, GateRec.lb, GateRec.lc, hbin,
        if_true, he]
    · simpa only [streamGarbleGate, streamPlainGate, hbin, if_true] using hinv.set _ hrel

/-- The induction behind `C05_stream_circuit`, from any value `id` of the
stream-wide tweak counter. -/
theorem stream_lockstep (H : Hash L) (r : L) (hr : sbit r = true) (cx : SCtx) (gates : List Gate) :
    ∀ (gs : SStore (WireL L)) (es : SStore L) (ps : SStore Bool) (id : Nat) (D : Loc → Prop),
      SInv r D gs es ps → sWf cx gates D →
      ∃ es', streamEvalFrom H (streamGarbleFrom H r cx gates gs id).2 es id =
          .ok (es', id + (gates.map (fun g => g.op.tweaks)).sum) ∧
        SInv r (sDefinedAfter cx gates D) (streamGarbleFrom H r cx gates gs id).1 es'
          (streamPlain cx gates ps) := by
  induction gates with
  | nil =>
    intro gs es ps id D hinv _
    exact ⟨es, by simp [streamEvalFrom, streamGarbleFrom], by simpa [sDefinedAfter, streamGarbleFrom, streamPlain] using hinv⟩
  | cons g rest ih =>
    intro gs es ps id D hinv hwf
    obtain ⟨ha, hb, hwf'⟩ := hwf
    obtain ⟨es1, hev, hid, hinv1⟩ := C05_stream_gate H r hr cx g gs es ps id D hinv ha hb
    obtain ⟨es2, hev2, hinv2⟩ := ih (streamGarbleGate H r cx g gs id).1 es1 (streamPlainGate cx g ps)
      (streamGarbleGate H r cx g gs id).2.1 _ hinv1 hwf'
    refine ⟨es2, ?_, ?_⟩
    · simp only [streamGarbleFrom, streamEvalFrom, hev]
      rw [hev2, hid]
      simp [Nat.add_assoc]
    · simpa [streamGarbleFrom, sDefinedAfter, streamPlain_cons] using hinv2

/-- One streamed circuit (`Streaming.Garble` / one `OpCircuit` block of
`StreamEvaluator`): no error branch, both tweak counters advance by the same
amount, and on every location defined before or by the circuit the evaluator
holds the label of the plain value. -/
theorem C05_stream_circuit (H : Hash L) (r : L) (hr : sbit r = true) (cx : SCtx) (gates : List Gate)
    (gs : SStore (WireL L)) (es : SStore L) (ps : SStore Bool) (id : Nat) (D : Loc → Prop)
    (hinv : SInv r D gs es ps) (hwf : sWf cx gates D) :
    ∃ es', streamEval H (Stream.streamGarble H r cx gates gs id).2.2 es id =
        .ok (es', (Stream.streamGarble H r cx gates gs id).2.1) ∧
      SInv r (sDefinedAfter cx gates D) (Stream.streamGarble H r cx gates gs id).1 es'
        (streamPlain cx gates ps) := by
  obtain ⟨es', h1, h2⟩ := stream_lockstep H r hr cx gates gs es ps id D hinv hwf
  exact ⟨es', by simpa [streamEval, Stream.streamGarble] using h1, by simpa [Stream.streamGarble] using h2⟩

/-- A streamed program: a sequence of circuits, each with its own id maps. -/
abbrev SProg := List (SCtx × List Gate)

def garbleAll (H : Hash L) (r : L) : SProg → SStore (WireL L) → Nat →
    SStore (WireL L) × Nat × List (List (GateRec L))
  | [], st, id => (st, id, [])
  | (cx, gates) :: rest, st, id =>
    let res := Stream.streamGarble H r cx gates st id
    let more := garbleAll H r rest res.1 res.2.1
    (more.1, more.2.1, res.2.2 :: more.2.2)

def evalAll (H : Hash L) : List (List (GateRec L)) → SStore L → Nat → Except EvalErr (SStore L × Nat)
  | [], st, id => .ok (st, id)
  | recs :: rest, st, id =>
    match streamEval H recs st id with
    | .error e => .error e
    | .ok (st1, id1) => evalAll H rest st1 id1

def plainAll : SProg → SStore Bool → SStore Bool
  | [], st => st
  | (cx, gates) :: rest, st => plainAll rest (streamPlain cx gates st)

def definedAll : SProg → (Loc → Prop) → (Loc → Prop)
  | [], D => D
  | (cx, gates) :: rest, D => definedAll rest (sDefinedAfter cx gates D)

def wfAll : SProg → (Loc → Prop) → Prop
  | [], _ => True
  | (cx, gates) :: rest, D => sWf cx gates D ∧ wfAll rest (sDefinedAfter cx gates D)

/-- The whole stream: if every circuit only reads locations that hold related
values (program inputs, outputs of earlier circuits, its own temporaries
after they were written), then the evaluator runs through without an error
and ends, on every defined location -- in particular on the return wires --
with the label of the bit that the composition of the circuits' plain
semantics on the global store gives.  Whether that composition is the
program's meaning is exactly the soundness of the id maps, i.e. of
`Program.GC` + `WireAllocator` (below). -/
theorem C05_stream_program (H : Hash L) (r : L) (hr : sbit r = true) (p : SProg) :
    ∀ (gs : SStore (WireL L)) (es : SStore L) (ps : SStore Bool) (id : Nat) (D : Loc → Prop),
      SInv r D gs es ps → wfAll p D →
      ∃ es', evalAll H (garbleAll H r p gs id).2.2 es id = .ok (es', (garbleAll H r p gs id).2.1) ∧
        SInv r (definedAll p D) (garbleAll H r p gs id).1 es' (plainAll p ps) := by
  induction p with
  | nil =>
    intro gs es ps id D hinv _
    exact ⟨es, rfl, hinv⟩
  | cons c rest ih =>
    obtain ⟨cx, gates⟩ := c
    intro gs es ps id D hinv hwf
    obtain ⟨es1, h1, hinv1⟩ := C05_stream_circuit H r hr cx gates gs es ps id D hinv hwf.1
    obtain ⟨es2, h2, hinv2⟩ := ih _ es1 _ (Stream.streamGarble H r cx gates gs id).2.1 _ hinv1 hwf.2
    refine ⟨es2, ?_, ?_⟩
    · simp only [garbleAll, evalAll, h1]
      exact h2
    · simpa [garbleAll, definedAll, plainAll] using hinv2

/-- Decoding the evaluator's label on a related location gives the plain bit
(what the garbler does with the returned labels at the end of
`Program.Stream`). -/
theorem C05_stream_decode [DecidableEq L] (r : L) (hr : sbit r = true) (gw : WireL L) (e : L) (v : Bool)
    (h : Rel r gw e v) : gw.bitFrom e = some v :=
  h.bitFrom hr

/-! ### The whole streaming session: circuits, `OpReturn`, result decoding

The tail of `Program.Stream` / `StreamEvaluator`: on `ret` the garbler sends
`OpReturn` and the wire ids of the return values (`retIds`, in result bit
order); the evaluator answers `OpResult` with the labels it holds on those
ids; the garbler compares the i-th label with the two labels of wire
`retIds[i]` (`L0` gives 0, `L1` gives 1, anything else is the error "unknown
label") -- `Mpc.decodeLabels` of Model/Proto2.lean, the same decoding as in
whole-circuit mode -- and sends the bits back, so both parties return the
same value. -/

/-- One streaming session after the input phase: `gs0` / `es0` are the two
parties' wire stores once the garbler's own input labels and the OT'd labels
of the evaluator's input are in place. -/
def streamSession [DecidableEq L] (H : Hash L) (r : L) (p : SProg) (retIds : List Nat)
    (gs0 : SStore (WireL L)) (es0 : SStore L) : Except ProtoErr (List Bool) :=
  let g := garbleAll H r p gs0 0
  match evalAll H g.2.2 es0 0 with
  | .error e => .error (.eval e)
  | .ok (es, _) => decodeLabels (retIds.map g.1.getGlob) (retIds.map es.getGlob)

theorem decodeLabels_rel [DecidableEq L] (r : L) (hr : sbit r = true) (gs : SStore (WireL L)) (es : SStore L)
    (ps : SStore Bool) (ids : List Nat)
    (h : ∀ w ∈ ids, Rel r (gs.getGlob w) (es.getGlob w) (ps.getGlob w)) :
    decodeLabels (ids.map gs.getGlob) (ids.map es.getGlob) = .ok (ids.map ps.getGlob) := by
  induction ids with
  | nil => rfl
  | cons w ws ih =>
    simp only [List.map_cons, decodeLabels]
    rw [C05_stream_decode r hr _ _ _ (h w List.mem_cons_self)]
    simp only [ih (fun x hx => h x (List.mem_cons_of_mem _ hx))]

/-- Streaming-mode counterpart of `C02_both_get_f`: for every hash pair, offset
with select bit, id maps and streamed program that only reads related
locations (`wfAll`), with the return wires among the defined global wires, the
session takes no error branch and the garbler decodes exactly the bits that
the composition of the circuits' plain semantics puts on the return wires
(which it then sends to the evaluator: both parties return them). -/
theorem C05_stream_session [DecidableEq L] (H : Hash L) (r : L) (hr : sbit r = true) (p : SProg)
    (retIds : List Nat) (gs0 : SStore (WireL L)) (es0 : SStore L) (ps0 : SStore Bool) (D : Loc → Prop)
    (hinv : SInv r D gs0 es0 ps0) (hwf : wfAll p D)
    (hret : ∀ w ∈ retIds, definedAll p D (false, w)) :
    streamSession H r p retIds gs0 es0 = .ok (retIds.map (plainAll p ps0).getGlob) := by
  obtain ⟨es', hev, hfin⟩ := C05_stream_program H r hr p gs0 es0 ps0 0 D hinv hwf
  unfold streamSession
  simp only [hev]
  exact decodeLabels_rel r hr _ es' _ retIds (fun w hw => hfin (false, w) (hret w hw))

/-! Non-vacuity: a two-circuit stream with ids on both sides of 65535, a
temporary wire, and a circuit that reads the previous circuit's output. -/
def exProg : SProg :=
  [({ ins := [3, 70000], outs := [70001], numWires := 4 }, [⟨.and, 0, 1, 2⟩, ⟨.inv, 2, 0, 3⟩]),
   ({ ins := [70001, 3], outs := [5], numWires := 3 }, [⟨.or, 0, 1, 2⟩])]

example : wfAll exProg (fun l => l = (false, 3) ∨ l = (false, 70000)) := by
  simp [exProg, wfAll, sWf, sDefinedAfter, SCtx.locate, SCtx.firstTmp, SCtx.firstOut, Op.binary]

example : ∀ w ∈ [5, 70001], definedAll exProg (fun l => l = (false, 3) ∨ l = (false, 70000)) (false, w) := by
  simp [exProg, definedAll, sDefinedAfter, SCtx.locate, SCtx.firstTmp, SCtx.firstOut]

/-! ### A circuit output that no gate drives

`C05_stream_session` needs `hret`: every return wire is DEFINED by the streamed
circuits.  Whether the instruction circuits that `Program.Stream` builds drive
all their outputs is not modelled (the builders of compiler/circuits are
validated by the oracle); the two lemmas say what the wire side does when one
does not.  Before dbcfe09 the circuit built for `builtin uint4 uint4 uint4`
(`native("hamming", a, b)`) did not: `circuits.NewAdder` REPLACED the leftover
slot 3 of the result slice with the constant-zero wire instead of driving the
wire in it, `Program.Stream` used that slice as the circuit's output wires (it
flagged them before the builder ran), the zero wire was pruned and got a fresh
id as an "output": 15 gates, 24 wires, no gate writes wire 23.  With two or
more replaced slots (operands of 6 bits or more) `circuits.Compiler.Compile`
panicked "Output already assigned" instead.
Findings C05-stream-builder-result-slots-{panic,stale}, fixed by dbcfe09; both
stay in the harness corpus. -/

/-- A streamed circuit leaves every location that none of its gates writes as
it was: the value (at the parties: the labels) of whatever had the id before. -/
theorem C05_stream_undriven_output_keeps (cx : SCtx) (gates : List Gate) (l : Loc)
    (h : ∀ g ∈ gates, cx.locate g.out ≠ l) (ps : SStore Bool) :
    (streamPlain cx gates ps).get l = ps.get l := by
  induction gates generalizing ps with
  | nil => rfl
  | cons g gs ih =>
    rw [streamPlain_cons, ih (fun g' hg' => h g' (List.mem_cons_of_mem _ hg'))]
    unfold streamPlainGate
    rw [SStore.get_set]
    simp [h g List.mem_cons_self]

/-- ... and such a location is not among those the circuit defines: `hret` of
`C05_stream_session` cannot be established for it. -/
theorem C05_stream_undriven_output_undefined (cx : SCtx) (gates : List Gate) (l : Loc)
    (h : ∀ g ∈ gates, cx.locate g.out ≠ l) (D : Loc → Prop) (hD : ¬ D l) :
    ¬ sDefinedAfter cx gates D l := by
  induction gates generalizing D with
  | nil => exact hD
  | cons g gs ih =>
    apply ih (fun g' hg' => h g' (List.mem_cons_of_mem _ hg'))
    intro hc
    rcases hc with hc | hc
    · exact h g List.mem_cons_self hc.symm
    · exact hD hc

/-- The instruction circuit `Program.Stream` compiled for a 4-bit Hamming
distance before dbcfe09 (circuit-local wire numbers: inputs 0..7, outputs
20..23). -/
def hamming4Streamed : List Gate :=
  [⟨.xor, 0, 4, 8⟩, ⟨.xor, 1, 5, 9⟩, ⟨.xor, 2, 6, 10⟩, ⟨.xor, 3, 7, 11⟩, ⟨.xor, 8, 9, 12⟩, ⟨.and, 8, 9, 13⟩,
   ⟨.xor, 10, 11, 14⟩, ⟨.and, 10, 11, 15⟩, ⟨.xor, 12, 14, 20⟩, ⟨.and, 12, 14, 16⟩, ⟨.xor, 15, 16, 17⟩,
   ⟨.xor, 13, 16, 18⟩, ⟨.xor, 13, 17, 21⟩, ⟨.and, 17, 18, 19⟩, ⟨.xor, 16, 19, 22⟩]

/-- `a` on ids 20..23, `b` on ids 30..33, the result on the recycled ids 10..13. -/
def hamming4Ctx : SCtx := { ins := [20, 21, 22, 23, 30, 31, 32, 33], outs := [10, 11, 12, 13], numWires := 24 }

/-- a = 8, b = 0; id 13 still holds bit 3 (= 1) of a dead 4-bit value. -/
def hamming4Stale : SStore Bool := (SStore.empty.setGlob 23 true).setGlob 13 true
def hamming4Fresh : SStore Bool := SStore.empty.setGlob 23 true

/-- Negation witness for "streaming = whole circuit" at the instruction-circuit
stage: no gate drives result bit 3, so the streamed Hamming distance of 8 and 0
is 9 when id 13 was used before (whole circuit: 1) and 1 only when it was not. -/
theorem C05_stream_output_slot_stale_witness :
    (∀ g ∈ hamming4Streamed, hamming4Ctx.locate g.out ≠ (false, 13)) ∧
    [10, 11, 12, 13].map (streamPlain hamming4Ctx hamming4Streamed hamming4Stale).getGlob =
      [true, false, false, true] ∧
    [10, 11, 12, 13].map (streamPlain hamming4Ctx hamming4Streamed hamming4Fresh).getGlob =
      [true, false, false, false] := by
  refine ⟨by decide +kernel, by decide +kernel, by decide +kernel⟩

example : ¬ sDefinedAfter hamming4Ctx hamming4Streamed (fun l => l.1 = false ∧ l.2 ∈ hamming4Ctx.ins) (false, 13) :=
  C05_stream_undriven_output_undefined _ _ _ C05_stream_output_slot_stale_witness.1 _ (by decide)

/-- The wire-side theorem applies to the executed instance (`BitVec 128`, any
block function, offset after `SetS(true)`). -/
theorem C05_stream_concrete (π : BitVec 128 → BitVec 128) (r0 : BitVec 128) (p : SProg)
    (gs : SStore (WireL (BitVec 128))) (es : SStore (BitVec 128)) (ps : SStore Bool) (id : Nat)
    (D : Loc → Prop) (hinv : SInv (setS r0) D gs es ps) (hwf : wfAll p D) :
    ∃ es', evalAll (hashOf π) (garbleAll (hashOf π) (setS r0) p gs id).2.2 es id =
        .ok (es', (garbleAll (hashOf π) (setS r0) p gs id).2.1) ∧
      SInv (setS r0) (definedAll p D) (garbleAll (hashOf π) (setS r0) p gs id).1 es' (plainAll p ps) :=
  C05_stream_program (hashOf π) (setS r0) (setS_msb r0) p gs es ps id D hinv hwf

end wire

open Mpc.Gc

-- The bound of a literal such as `chainProg[1]` is decided at once: the default bound tactic is slow on it.
local macro_rules | `(tactic| get_elem_tactic_extensible) => `(tactic| decide)

/-- The general statement: if the alias table consulted by the backward pass
lists, for every value `v`, every value that points into `v` (transitively,
through all eight rewiring operands), the inserted `gc`s are safe for EVERY
well-formed program. -/
theorem C05_gc_safe_transitive (prog out : List Step) (al : Nat → List Nat) (hwf : WF prog)
    (hal : ∀ w v, PointsInto prog w v → w ≠ v → w ∈ al v)
    (hgc : gcPassWith al prog = some out) : Safe prog out :=
  safe_of_pairwise _ _ (gcPassQ_pairwise (tableQuery al) () prog out hwf (tableQuery_currentSound prog al hal)
    (by rw [gcPassQ_table]; exact hgc))

/-- The pass BEFORE 0c2f851 (`gcPassOld`) was safe only for programs in which
every rewired value (cast, constant shift, slice, move, array update) is
rewired directly from a value that owns its wires, and `concat` is applied to
constants only; for alias-of-alias chains and `concat` it was not (witnesses
below). -/
theorem C05_gcOld_safe_partial (prog out : List Step) (hwf : WF prog) (hnc : NoChain prog)
    (hcc : NoConcat prog) (hgc : gcPassOld prog = some out) : Safe prog out :=
  C05_gc_safe_transitive prog out (aliasesOfOld prog) hwf (aliasesOfOld_covers prog hnc hcc) hgc

/-- The gc insertion of `Program.GC` as it is (`C05_gc_safe` puts
`defineBeforeUse` in front): no id range is returned to a free list while a
value whose ids point into it (transitively, through mov / smov / slice /
lshift / rshift / srshift / amov / concat rewiring) is still read later.  No
restriction on aliasing. -/
theorem C05_gcInsert_safe (prog out : List Step) (hwf : WF prog) (hgc : gcInsert prog = some out) :
    Safe prog out :=
  C05_gc_safe_transitive prog out (aliasClosure (aliasesOf prog) prog.length) hwf
    (fun w v h hne => closure_covers prog hwf.dbu w v h hne) hgc

/-- `Program.GC` = `defineBeforeUse` + gc insertion, on a well-formed list. -/
theorem C05_gc_safe (prog out : List Step) (hwf : WF prog) (hgc : gcPass prog = some out) :
    Safe prog out := by
  unfold gcPass at hgc
  rw [defineBeforeUse_id prog hwf.dbu] at hgc
  exact C05_gcInsert_safe prog out hwf hgc

/-- ... and on any list whose reordering is well formed (`wfSteps` of the real
step list is evaluated on every compilation by the check). -/
theorem C05_gc_safe_reordered (prog out : List Step) (hwf : WF (defineBeforeUse prog))
    (hgc : gcPass prog = some out) : Safe (defineBeforeUse prog) out :=
  C05_gcInsert_safe (defineBeforeUse prog) out hwf hgc

def mkV (id bits : Nat) : Arg := { const := false, id := id, key := id, bits := bits, signed := false, cint := 0 }
def mkC (id bits n : Nat) : Arg := { const := true, id := id, key := id, bits := bits, signed := false, cint := n }

/-- Non-vacuity: `t0 := a >> 1; t2 := t0 + b; t3 := b + 3; return t2, t3` --
a rewired value, computed values, two `gc`s inserted. -/
def okProg : List Step :=
  [⟨.rshift, [mkV 0 8, mkC 10 32 1], some (mkV 2 8)⟩,
   ⟨.circ, [mkV 2 8, mkV 1 8], some (mkV 4 8)⟩,
   ⟨.circ, [mkV 1 8, mkC 11 8 3], some (mkV 5 8)⟩,
   ⟨.ret, [mkV 4 8, mkV 5 8], none⟩]

example : WF okProg := ⟨by decide, by decide, by decide⟩
example : NoChain okProg := by unfold NoChain; decide
example : NoConcat okProg := by unfold NoConcat; decide
example : gcPass okProg = some
    [okProg[0], okProg[1], gcStep (mkV 2 8), okProg[2], gcStep (mkV 1 8), okProg[3]] := by decide +kernel

/-- The 5-step alias-chain witness (DESIGN.md section 0):
`t0 := a >> 1; t1 := t0 >> 1; t2 := a + b; t3 := b + 3; return t1, t2, t3`. -/
def chainProg : List Step :=
  [⟨.rshift, [mkV 0 8, mkC 10 32 1], some (mkV 2 8)⟩,
   ⟨.rshift, [mkV 2 8, mkC 10 32 1], some (mkV 3 8)⟩,
   ⟨.circ, [mkV 0 8, mkV 1 8], some (mkV 4 8)⟩,
   ⟨.circ, [mkV 1 8, mkC 11 8 3], some (mkV 5 8)⟩,
   ⟨.ret, [mkV 3 8, mkV 4 8, mkV 5 8], none⟩]

/-- What the model of the OLD `Program.GC` made of it: `gc a` right after `a + b`,
although `t1` (returned at the end) is wired to `a`'s ids through `t0`. -/
def chainOut : List Step :=
  [chainProg[0], chainProg[1], chainProg[2], gcStep (mkV 0 8), chainProg[3], gcStep (mkV 1 8), chainProg[4]]

theorem C05_gcOld_chain_pass : gcPassOld chainProg = some chainOut := by decide +kernel

/-- Negation witness 1 (old pass): safety failed on a well-formed program with
an alias-of-alias chain. -/
theorem C05_gcOld_unsafe_alias_chain :
    WF chainProg ∧ gcPassOld chainProg = some chainOut ∧ ¬ Safe chainProg chainOut := by
  refine ⟨⟨by decide +kernel, by decide +kernel, by decide +kernel⟩, C05_gcOld_chain_pass,
    not_safe 3 6 (a := mkV 0 8) (b := mkV 3 8) (by decide) rfl rfl (by decide) (by decide) rfl ?_⟩
  -- t1 -> t0 -> a
  refine PointsInto.step chainProg[1] (mkV 2 8) 3 0 (by decide) rfl rfl (by decide) rfl ?_
  refine PointsInto.step chainProg[0] (mkV 0 8) 2 0 (by decide) rfl rfl (by decide) rfl ?_
  exact PointsInto.self 0 (by decide)

/-- ... and in the allocator model the freed range is handed to the very next
8-bit value: the ids returned for `t1` (first 8) and for `t3 = b + 3` (last 8)
overlap, so the evaluator reads bits of `b + 3` where bits of `a >> 2` are
meant.  Go: `[20 24 80]` instead of `[50 24 80]` for a=203, b=77. -/
theorem C05_gcOld_chain_ids_collide :
    let tr := (streamTrace [⟨0, 8, 0⟩, ⟨1, 8, 0⟩]
      [⟨10, 0, [true, false, false, false]⟩, ⟨11, 0, [true, true, false, false, false, false, false, false]⟩]
      chainOut).2
    tr.retIds.length = 24 ∧
    ((tr.retIds.take 8).filter fun i => (tr.retIds.drop 16).contains i) = [2, 3, 4, 5, 6, 7] := by
  -- evaluated through the list form of the trace (`ByList`, Proofs/Gc.lean): arrays are slow in the kernel
  simp only [ByList.streamTrace_eq]
  decide +kernel

/-- The `concat` witness: `y := b * 3; e := a ++ K; x := y + 5; return e, x`
(`a` a 32-bit array, `concat` is rewired by the streamer but was not in GC's
alias list before 0c2f851). -/
def concatProg : List Step :=
  [⟨.circ, [mkV 1 32, mkC 10 32 3], some (mkV 2 32)⟩,
   ⟨.concat, [mkV 0 32, mkC 11 32 0], some (mkV 3 64)⟩,
   ⟨.circ, [mkV 2 32, mkC 12 32 5], some (mkV 4 32)⟩,
   ⟨.ret, [mkV 3 64, mkV 4 32], none⟩]

def concatOut : List Step :=
  [concatProg[0], gcStep (mkV 1 32), concatProg[1], gcStep (mkV 0 32), concatProg[2], gcStep (mkV 2 32),
   concatProg[3]]

/-- Negation witness 2 (old pass): a direct `concat` alias was enough. -/
theorem C05_gcOld_unsafe_concat :
    WF concatProg ∧ gcPassOld concatProg = some concatOut ∧ ¬ Safe concatProg concatOut := by
  refine ⟨⟨by decide +kernel, by decide +kernel, by decide +kernel⟩, by decide +kernel,
    not_safe 3 6 (a := mkV 0 32) (b := mkV 3 64) (by decide) rfl rfl (by decide) (by decide) rfl ?_⟩
  refine PointsInto.step concatProg[1] (mkV 0 32) 3 0 (by decide) rfl rfl (by decide) rfl ?_
  exact PointsInto.self 0 (by decide)

theorem C05_gcOld_concat_ids_collide :
    let tr := (streamTrace [⟨0, 32, 0⟩, ⟨1, 32, 0⟩]
      [⟨10, 0, [true, true]⟩, ⟨11, 0, List.replicate 32 false⟩, ⟨12, 0, [true, false, true]⟩] concatOut).2
    tr.retIds.length = 96 ∧ tr.retIds.take 32 = (tr.retIds.drop 64) := by
  simp only [ByList.streamTrace_eq]
  decide +kernel

/-- `Program.GC` as it is on the two witnesses: no `gc a` is emitted (the output
is safe by `C05_gc_safe`). -/
theorem C05_gc_witnesses_now_safe :
    gcPass chainProg =
      some [chainProg[0], chainProg[1], chainProg[2], chainProg[3], gcStep (mkV 1 8), chainProg[4]] ∧
    gcPass concatProg =
      some [concatProg[0], gcStep (mkV 1 32), concatProg[1], concatProg[2], gcStep (mkV 2 32), concatProg[3]] := by
  decide +kernel

/-! ### Definition before use (finding C05-ssa-use-before-def)

`C05_gc_safe` assumes `WF prog`, in particular `dbu`: a value read by a step is
not defined by that step or a later one.  `wfSteps` is evaluated on every real
step list by the correspondence run.  Before 73f8795 it FAILED for programs
with an early return: a lazily resolved phi is emitted into the else block
while the continuation that reads it is serialised earlier.  Witness: the step
list of

    func main(a, b uint8) uint8 {
        if a > 5 { b = 31 }
        if a > 2 { a = a + 1 } else { b = 7; return b }
        return b + a }

(values: a=0 b=1 t0=2 t1=3 t2=4 t3=5 (the phi of b) t4=6 r2=7 b1=8 a1=9 b2=10
r1=11 t5=12). -/
def ubdProg : List Step :=
  [⟨.circ, [mkV 0 8, mkC 20 8 5], some (mkV 2 1)⟩,
   ⟨.mov, [mkC 21 8 31], some (mkV 8 8)⟩,
   ⟨.circ, [mkV 0 8, mkC 22 8 2], some (mkV 3 1)⟩,
   ⟨.circ, [mkV 0 8, mkC 23 8 1], some (mkV 4 8)⟩,
   ⟨.mov, [mkV 4 8], some (mkV 9 8)⟩,
   ⟨.circ, [mkV 5 8, mkV 4 8], some (mkV 6 8)⟩,          -- uadd reads the phi value t3 ...
   ⟨.mov, [mkV 6 8], some (mkV 7 8)⟩,
   ⟨.circ, [mkV 2 1, mkC 21 8 31, mkV 1 8], some (mkV 5 8)⟩,  -- ... which is defined here
   ⟨.mov, [mkC 24 8 7], some (mkV 10 8)⟩,
   ⟨.mov, [mkC 24 8 7], some (mkV 11 8)⟩,
   ⟨.circ, [mkV 3 1, mkV 7 8, mkV 11 8], some (mkV 12 8)⟩,
   ⟨.ret, [mkV 12 8], none⟩]

/-- `defineBeforeUse` (73f8795) is the identity on step lists that are already
in definition-before-use order: every other program's steps (and circuit) are
unchanged by the fix. -/
theorem C05_defineBeforeUse_id (prog : List Step) (h : dbu prog = true) : defineBeforeUse prog = prog :=
  defineBeforeUse_id prog h

/-- A decidable property of the result of a partial function, read off one
evaluation of the function. -/
theorem exists_some_of_any {α : Type} {o : Option α} {P : α → Prop} [DecidablePred P]
    (h : o.any (fun a => decide (P a)) = true) : ∃ a, o = some a ∧ P a := by
  cases o with
  | none => cases h
  | some a => exact ⟨a, rfl, of_decide_eq_true h⟩

/-- Old behaviour (before 73f8795, no reordering: `gcInsert` directly on the
serialised steps): the witness list is not in definition-before-use order and
the gc insertion frees the phi value `t3` -- after what it takes for its last
use -- BEFORE the step that defines it; the streaming walker had by then
allocated fresh, never garbled wires for it (Go: streamed 0x0a for a=9, b=100;
whole circuit 0x29).  With the fix the list is reordered: a permutation in
definition-before-use order, and `t3` is freed after its definition and use. -/
theorem C05_old_use_before_def_witness :
    wfSteps ubdProg = false ∧ dbu ubdProg = false ∧
    (∃ out, gcInsert ubdProg = some out ∧
      out.findIdx? (· == gcStep (mkV 5 8)) = some 8 ∧ out.findIdx? (fun s => s.outId == some 5) = some 10) ∧
    wfSteps (defineBeforeUse ubdProg) = true ∧
    (defineBeforeUse ubdProg).length = ubdProg.length ∧
    (∀ s ∈ ubdProg, s ∈ defineBeforeUse ubdProg) ∧
    (∃ out, gcPass ubdProg = some out ∧
      out.findIdx? (fun s => s.outId == some 5) = some 6 ∧ out.findIdx? (· == gcStep (mkV 5 8)) = some 11) := by
  refine ⟨by decide +kernel, by decide +kernel, exists_some_of_any (by decide +kernel), by decide +kernel,
    by decide +kernel, by decide +kernel, exists_some_of_any (by decide +kernel)⟩

/-! ### The allocator's hash buckets

`WireAllocator` finds a value's header by walking the chain of its hash
bucket (`Value.HashCode() % 10240`); `lookup` moves a header found at depth 3
or deeper to the head, `remove` (used by `GCWires`) unlinks the header it
finds.  Several live values can share a bucket. -/

/-- `remove v` returns `v`'s header, deletes exactly it, and every other
value's header stays findable and unchanged, at any position of `v` in the
chain. -/
theorem C05_walloc_remove_exact (c : List Entry) (k : Nat) (hn : KeysNodup c) :
    (chainRemove c k).1 = c.find? (·.key == k) ∧
    (chainRemove c k).2.find? (·.key == k) = none ∧
    (∀ k', k' ≠ k → (chainRemove c k).2.find? (·.key == k') = c.find? (·.key == k')) ∧
    KeysNodup (chainRemove c k).2 :=
  ⟨rfl, find_eraseP_self c k hn, fun k' h => find_eraseP_ne c k k' h, keysNodup_eraseP c k hn⟩

/-- `lookup v` finds `v`'s header iff the chain has one; its move-to-front
changes the result of no lookup. -/
theorem C05_walloc_lookup_exact (c : List Entry) (k : Nat) (hn : KeysNodup c) :
    (chainLookup c k).1 = c.find? (·.key == k) ∧
    (∀ k', (chainLookup c k).2.find? (·.key == k') = c.find? (·.key == k')) ∧
    KeysNodup (chainLookup c k).2 := by
  unfold chainLookup
  cases hf : c.find? (·.key == k) with
  | none => cases c.findIdx? (·.key == k) <;> exact ⟨rfl, fun _ => rfl, hn⟩
  | some e =>
    have hek : e.key = k := by simpa using List.find?_some hf
    cases hi : c.findIdx? (·.key == k) with
    | none =>
      have := List.findIdx?_eq_none_iff.mp hi e (List.mem_of_find?_eq_some hf)
      simp [hek] at this
    | some i =>
      simp only
      split
      · -- moved to the front: `e` is found first under its own key and skipped under any other
        refine ⟨rfl, fun k' => ?_, keysNodup_insert _ e (keysNodup_eraseP c k hn) (hek ▸ find_eraseP_self c k hn)⟩
        by_cases hk' : k' = k
        · subst hk'
          simp [hek, hf]
        · rw [List.find?_cons_of_neg (by simpa [hek] using Ne.symm hk')]
          exact find_eraseP_ne c k k' hk'
      · exact ⟨rfl, fun _ => rfl, hn⟩

/-- Non-vacuity: a bucket shared by three live values; looking up the oldest
moves it to the front, removing the middle one keeps the other two. -/
def exChain : List Entry :=
  [⟨7, some 30, none, none⟩, ⟨5, some 20, none, none⟩, ⟨3, some 10, none, none⟩]

example : KeysNodup exChain := by unfold KeysNodup; decide
example : ((chainLookup exChain 3).2.map (·.key)) = [3, 7, 5] := by decide
example : ((chainRemove exChain 5).2.map (·.key)) = [7, 3] := by decide

/-! ### Constants used at a second width (finding C05-stream-const-second-width,
fixed by b2bd1e4)

Between 3c18dfa and b2bd1e4 `Program.Circuit` took the bits of a constant used
at a second width from the constant's own value while `Program.Stream` still
adapted the first instance's wires (`padFromFirst`); the oracle found the
disagreement.  Since b2bd1e4 both do the same (`padFromOwn`; the model of the
streamer's wire ids, `inputWires`, uses exactly that formula). -/

/-- The two modes agree whenever the first instance of the constant was
allocated at the constant's own width and the use is at least that wide. -/
theorem C05_const_pad_partial (v : List Bool) (own bits : Nat) (signed : Bool) (h1 : 0 < own)
    (h2 : own ≤ v.length) (h3 : own ≤ bits) :
    padFromFirst (v.take own) signed bits = padFromOwn v own signed bits := by
  unfold padFromFirst padFromOwn
  apply List.map_congr_left
  intro b _
  rw [List.length_take, Nat.min_eq_left h2, Nat.min_eq_left h3, getD_take, getD_take]
  by_cases hb : b < own
  · simp only [hb, if_true, Nat.not_le.mpr hb, decide_false, Bool.false_and, Bool.false_eq_true, if_false,
      decide_true, Bool.true_and]
  · have hlt : own - 1 < own := Nat.sub_lt h1 Nat.one_pos
    cases signed <;> simp [hb, Nat.le_of_not_lt hb, h1, hlt]

/-- Negation witness: the constant `-4` (own size 32, bits of 0xfffffffc) first
used as `int53` -- `DefineConstants` gives it 53 wires, the upper 21 zero --
and then as `int40`: streaming truncates the 53 wires (bits 32..39 = 0,
value 0x00fffffffc), whole-circuit mode sign-extends from bit 31
(0xfffffffffc).  Go: `int53(-4)` ... `return int40(-4)`. -/
theorem C05_const_second_width_witness :
    let v := (List.range 32).map fun i => decide (2 ≤ i)        -- 0xfffffffc, LSB first
    let first := v ++ List.replicate 21 false                   -- the int53 instance
    padFromFirst first true 40 ≠ padFromOwn v 32 true 40 ∧
    (padFromFirst first true 40).getD 35 false = false ∧ (padFromOwn v 32 true 40).getD 35 false = true := by
  decide +kernel

example : padFromFirst ([false, false, true].take 3) true 5 = padFromOwn [false, false, true] 3 true 5 :=
  C05_const_pad_partial _ 3 5 true (by decide) (by decide) (by decide)


/-! ### The liveness query must be answered against the CURRENT set

The backward pass of `Program.GC` asks `aliasLive(v)` for inputs at many
instructions; the set it consults changes from instruction to instruction.
`gcPassQ` (Model/GcQuery.lean) is the pass with the query as a parameter that
may keep ANY state between queries. -/

/-- Safety of the gc insertion for every implementation of the liveness query
and every initial state of it, as long as an answer "no alias live" is sound
for the set it was asked about. -/
theorem C05_gc_query_safe {σ : Type} (q : Query σ) (st0 : σ) (prog out : List Step) (hwf : WF prog)
    (hq : CurrentSound prog q) (hgc : gcPassQ q st0 prog = some out) : Safe prog out :=
  safe_of_pairwise _ _ (gcPassQ_pairwise q st0 prog out hwf hq hgc)

/-- `Program.GC` as it is is the stateless instance of the parametrised pass
(the model the correspondence runs compare with the real step lists). -/
theorem C05_gc_query_table (prog : List Step) :
    gcPassQ (tableQuery (aliasClosure (aliasesOf prog) prog.length)) () prog = gcInsert prog :=
  gcPassQ_table _ prog

/-- ... and its closure is sound for the current set, for every well-formed
step list: `C05_gcInsert_safe` is an instance of `C05_gc_query_safe`. -/
theorem C05_gc_current_set_sound (prog : List Step) (hwf : WF prog) :
    CurrentSound prog (tableQuery (aliasClosure (aliasesOf prog) prog.length)) :=
  tableQuery_currentSound prog _ (closure_covers prog hwf.dbu)

example (prog out : List Step) (hwf : WF prog) (hgc : gcInsert prog = some out) : Safe prog out :=
  C05_gc_query_safe _ () prog out hwf (C05_gc_current_set_sound prog hwf) (by rw [C05_gc_query_table]; exact hgc)

/-- Non-vacuity: the parametrised pass on `okProg`. -/
example : gcPassQ (tableQuery (aliasClosure (aliasesOf okProg) okProg.length)) () okProg = some
    [okProg[0], okProg[1], gcStep (mkV 2 8), okProg[2], gcStep (mkV 1 8), okProg[3]] := by decide +kernel

/-- Witness against a memo table that lives for the whole pass.  The step list
of

    func main(a [4]uint32, b uint32) ([4]uint32, uint32) {
        var r uint32
        if a[0] == 7 { r = 1 } else { a[1] = b; a[2] = 5; r = (b + 1) * 3 }
        return a, r }

(values: a=0 b=1; t0 = a[0] (2); t1 = t0 == 7 (3); t2 = amov b into a (4);
t3 = amov 5 into t2 (5); t4 = b + 1 (6); t5 = t4 * 3 (7); t6 = phi t1 a t3 (8);
t7 = phi t1 1 t5 (9)). -/
def memoProg : List Step :=
  [⟨.slice, [mkV 0 128, mkC 10 32 0, mkC 11 32 32], some (mkV 2 32)⟩,
   ⟨.circ, [mkV 2 32, mkC 12 32 7], some (mkV 3 1)⟩,
   ⟨.amov, [mkV 1 32, mkV 0 128, mkC 11 32 32, mkC 13 32 64], some (mkV 4 128)⟩,
   ⟨.amov, [mkC 14 32 5, mkV 4 128, mkC 13 32 64, mkC 15 32 96], some (mkV 5 128)⟩,
   ⟨.circ, [mkV 1 32, mkC 16 32 1], some (mkV 6 32)⟩,
   ⟨.circ, [mkV 6 32, mkC 17 32 3], some (mkV 7 32)⟩,
   ⟨.circ, [mkV 3 1, mkV 0 128, mkV 5 128], some (mkV 8 128)⟩,
   ⟨.circ, [mkV 3 1, mkC 16 32 1, mkV 7 32], some (mkV 9 32)⟩,
   ⟨.ret, [mkV 8 128, mkV 9 32], none⟩]

/-- What the pass with the pass-long memo table makes of it.  At the phi `t6`
(processed first: the pass runs backwards) `a` is queried while `t3` is not yet
marked; the walk a -> t2 -> t3 caches `t2 ↦ false`.  At `t4 = b + 1` the query
for `b` finds its only alias `t2` in the table -- although `t3`, which holds
`b`'s wire ids as element 1, is live there (read by the phi): `gc b`. -/
def memoOut : List Step :=
  [memoProg[0], memoProg[1], gcStep (mkV 2 32), memoProg[2], memoProg[3], gcStep (mkV 4 128), memoProg[4],
   gcStep (mkV 1 32), memoProg[5], gcStep (mkV 6 32), memoProg[6], gcStep (mkV 5 128), gcStep (mkV 0 128),
   memoProg[7], gcStep (mkV 7 32), gcStep (mkV 3 1), memoProg[8]]

theorem C05_gcMemo_pass : gcPassMemo memoProg = some memoOut := by decide +kernel

/-- Negation witness: with a memo table across instructions the gc insertion
is unsafe on a well-formed program. -/
theorem C05_gcMemo_unsafe :
    WF memoProg ∧ gcPassMemo memoProg = some memoOut ∧ ¬ Safe memoProg memoOut := by
  refine ⟨⟨by decide +kernel, by decide +kernel, by decide +kernel⟩, C05_gcMemo_pass,
    not_safe 7 10 (a := mkV 1 32) (b := mkV 5 128) (by decide) rfl rfl (by decide) (by decide) rfl ?_⟩
  -- t3 -> t2 -> b
  refine PointsInto.step memoProg[3] (mkV 4 128) 5 1 (by decide) rfl rfl (by decide) rfl ?_
  refine PointsInto.step memoProg[2] (mkV 1 32) 4 1 (by decide) rfl rfl (by decide) rfl ?_
  exact PointsInto.self 1 (by decide)

/-- ... so the memoised query is not sound for the set it is asked about (by
`C05_gc_query_safe`; concretely: state `[t2 ↦ false]`, set `{t3}`, value `b`). -/
theorem C05_gcMemo_not_current_sound :
    ¬ CurrentSound memoProg (memoQuery (aliasesOf memoProg) (memoProg.length + 1)) := by
  intro hq
  have hwf : WF memoProg := C05_gcMemo_unsafe.1
  have hgc : gcPassQ (memoQuery (aliasesOf memoProg) (memoProg.length + 1)) [] memoProg = some memoOut := by
    have h := C05_gcMemo_pass
    unfold gcPassMemo at h
    rw [defineBeforeUse_id memoProg hwf.dbu] at h
    exact h
  exact C05_gcMemo_unsafe.2.2 (C05_gc_query_safe _ [] memoProg memoOut hwf hq hgc)

example : (memoQuery (aliasesOf memoProg) (memoProg.length + 1) [(4, false)] [5] 1).1 = false ∧
    (tableQuery (aliasClosure (aliasesOf memoProg) memoProg.length) () [5] 1).1 = true := by decide

def bitsOf (n w : Nat) : List Bool := (List.range w).map fun i => n.testBit i

def memoConsts : List ConstDef :=
  [⟨10, 0, bitsOf 0 32⟩, ⟨11, 0, bitsOf 32 32⟩, ⟨12, 0, bitsOf 7 32⟩, ⟨13, 0, bitsOf 64 32⟩,
   ⟨14, 0, bitsOf 5 32⟩, ⟨15, 0, bitsOf 96 32⟩, ⟨16, 0, bitsOf 1 32⟩, ⟨17, 0, bitsOf 3 32⟩]

/-- The id slice the allocator model holds for the value with key `k` after
the first `n` steps of the GC'd list. -/
def memoIdsAt (out : List Step) (n k : Nat) : Option (Array Nat) :=
  (((streamTrace [⟨0, 128, 0⟩, ⟨1, 32, 0⟩] memoConsts (out.take n)).1.chain 0).find? (·.key == k)).bind (·.ids)

/-- In the allocator model the freed range of `b` (wire ids 128..159) is handed
to `t5 = t4 * 3` while element 1 of `t3` still consists of exactly these ids:
right before the phi, `t3[32..63]` and `t5` are the same wires, so the phi reads
`(b + 1) * 3` where `b` is meant.  Go: a[1] = 0x12f instead of 0x64 for b = 100. -/
theorem C05_gcMemo_ids_collide :
    (memoIdsAt memoOut 10 5).map (·.extract 32 64) = memoIdsAt memoOut 10 7 ∧
    memoIdsAt memoOut 10 7 = some (idRange 128 32) := by
  simp only [memoIdsAt, ByList.streamTrace_eq, ByList.idRange_eq, ByList.extract_eq]
  decide +kernel

/-- `Program.GC` as it is on the witness: no `gc b` (and no `gc t2`); the table
emptied before every query gives the same list; in the allocator model `t5`
gets fresh ids.  The output is safe by `C05_gc_safe`. -/
theorem C05_gcMemo_witness_now_safe :
    gcPass memoProg = some
      [memoProg[0], memoProg[1], gcStep (mkV 2 32), memoProg[2], memoProg[3], memoProg[4], memoProg[5],
       gcStep (mkV 6 32), memoProg[6], gcStep (mkV 5 128), gcStep (mkV 0 128), memoProg[7], gcStep (mkV 7 32),
       gcStep (mkV 3 1), memoProg[8]] ∧
    gcPassQ (freshMemoQuery (aliasesOf memoProg) (memoProg.length + 1)) () memoProg = gcPass memoProg ∧
    (∀ out, gcPass memoProg = some out →
      ((memoIdsAt out 8 5).map (·.extract 32 64) = some (idRange 128 32) ∧
       (memoIdsAt out 8 7).map (fun ids => ids.toList.all (fun i => decide (i ≥ 160 + 2))) = some true)) := by
  -- the first conjunct serves the other two
  refine (fun h0 => ⟨h0, ?_, fun out h => ?_⟩) (by decide +kernel)
  · rw [h0]
    decide +kernel
  · cases h0.symm.trans h
    simp only [memoIdsAt, ByList.streamTrace_eq, ByList.idRange_eq, ByList.extract_eq]
    decide +kernel

end Mpc
