/-
C15  Malicious-mode OT extension detects a deviating receiver — the
UNCONDITIONAL negation of the full statement (dimension counting).

Props/C15.lean proves the acceptance condition for a set of altered matrix
positions (`C15_kos_set_accept_iff`) and, GIVEN a set `S` of rows whose
challenge coefficients XOR to zero, that flipping one column at all rows of
`S` is accepted whatever `Delta` is (`C15_kos_dependent_rows_forgery_witness`).
There the existence of `S` is a hypothesis (the harness finds one per session
by Gaussian elimination); here it is a theorem, `C15_dependent_rows_exist`
(pigeonhole: 2^129 subsets of 129 rows, 2^128 XOR values), for every challenge
generator `X` and seed: the coefficients `chi_r = X seed2 r` are an arbitrary
function of `seed2` (AES-CTR in the code, nothing is assumed about it).  Hence
for `n ≥ 129` and `Delta ≠ 0` the FULL STATEMENT of Props/C15.lean is false for
every session (`C15_kos_full_statement_false`) — not a probabilistic statement
and not a per-session computation.

For `n < 129` the set of `C15_dependent_rows_exist` lies in the first 129
rows, which include check-batch rows; whether a dependent set can contain a
payload row depends on the coefficients (it can iff some payload coefficient
is in the span of the other rows — for the 256 check rows of a real session
practically always; the harness exhibits such a set for every session, class
dep-generic).  An accepted alteration confined to the check batch leaves the
outputs intact.

The reason is structural: the receiver fixes the coefficients (its own
`seed2`) BEFORE the matrix has to be final, and the coefficients are 128-bit
vectors while the matrix has more than 128 rows.  See known_findings.json,
C15-kos-dependent-rows-forgery.
-/
import MpcVerif.Props.C15
import MpcVerif.Proofs.KosCount

namespace Mpc
open Mpc.Iknp Mpc.Clmul Mpc.Kos

/-- Dimension counting.  Every vector of `m ≥ 129` coefficients has a
non-empty set of (at most 129, pairwise different) rows `< m` — in fact among
the first 129 — whose coefficients XOR to zero. -/
theorem C15_dependent_rows_exist (chi : Nat → Label) (m : Nat) (hm : 129 ≤ m) :
    ∃ S : List Nat, S ≠ [] ∧ S.Nodup ∧ S.length ≤ 129 ∧ (∀ r, r ∈ S → r < 129 ∧ r < m) ∧
      rowXor chi S = 0#128 := by
  obtain ⟨S, h1, h2, h3, h4, h5⟩ := dependent_rows_exist chi
  exact ⟨S, h1, h2, h3, fun r hr => ⟨h4 r hr, Nat.lt_of_lt_of_le (h4 r hr) hm⟩, h5⟩

/-- Non-vacuity: the matrix of a malicious-mode call of `n` transfers has
`n + 256 ≥ 129` rows, for every `n`; and an instance. -/
example (n : Nat) : 129 ≤ n + 256 := by omega

example : ∃ S : List Nat, S ≠ [] ∧ S.Nodup ∧ S.length ≤ 129 ∧ (∀ r, r ∈ S → r < 129 ∧ r < 1 + 256) ∧
    rowXor (fun r => BitVec.ofNat 128 (r * r + 1)) S = 0#128 :=
  C15_dependent_rows_exist _ (1 + 256) (by omega)

/-- The same inside any window of 129 consecutive rows `base .. base + 128`
(e.g. `base = n`: inside the check batch; `base = 0`, `n ≥ 129`: inside the
payload rows). -/
theorem C15_dependent_rows_exist_in_window (chi : Nat → Label) (base : Nat) :
    ∃ S : List Nat, S ≠ [] ∧ S.Nodup ∧ S.length ≤ 129 ∧ (∀ r, r ∈ S → base ≤ r ∧ r < base + 129) ∧
      rowXor chi S = 0#128 :=
  dependent_rows_window chi base

/-- 129 is exact: the 128 unit vectors `X^0 .. X^127` (as coefficients of the
rows `0 .. 127`) have no non-empty dependent subset.  (The code always has
`n + 256 > 128` rows, so this never helps it.) -/
theorem C15_dependent_rows_bound_sharp :
    ∃ chi : Nat → Label, ∀ S : List Nat, S ≠ [] → S.Nodup → (∀ r, r ∈ S → r < 128) → rowXor chi S ≠ 0#128 :=
  ⟨bitLabel, unit_rows_independent⟩

example : ([0, 5, 127] : List Nat) ≠ [] ∧ [0, 5, 127].Nodup ∧ ∀ r, r ∈ [0, 5, 127] → r < 128 := by decide

/-- For EVERY challenge (every generator `X`, every `seed2`), every `n`, every
window of 129 rows of the `n + 256`-row matrix: a non-empty set `S` of rows of
the window with `XOR_{r ∈ S} chi_r = 0` exists (it depends on the coefficients
only), and for every column `i`, every `Delta` and sender in step the
alteration "flip column `i` at every row of `S`" of the transmitted matrix —
response untouched — is realised by error masks `E1`, `E2` of the shape of the
chunks and is ACCEPTED by `Send(n, true)`; if `Delta` selects column `i`,
every payload row of `S` ends with inconsistent outputs. -/
theorem C15_kos_forgery_exists_for_every_challenge (X : Label → Nat → Label) (R0 R1 : Nat → Nat → Byte)
    (rs : RecvSt) (b : Array Bool) (b0 b1 seed2 : Label) (base : Nat) (hbase : base + 129 ≤ b.size + 256) :
    ∃ S : List Nat,
      S ≠ [] ∧ S.Nodup ∧ S.length ≤ 129 ∧ (∀ r, r ∈ S → base ≤ r ∧ r < base + 129 ∧ r < b.size + 256) ∧
      rowXor (X seed2) S = 0#128 ∧
      ∀ (i : Nat), i < 128 →
      ∀ (SS : Nat → Nat → Byte) (delta : Label), BaseOK R0 R1 SS delta →
      ∀ (ss : SendSt), InStep rs ss →
      ∀ (moreD : List Bytes) (moreL : List Label),
      ∃ (E1 E2 : List Bytes) (out : SendOut),
        Shape (receive R0 R1 rs b).2.2 E1 ∧
        Shape (receive R0 R1 (receive R0 R1 rs b).1 (bcvOf b0 b1)).2.2 E2 ∧
        (∀ q, q < b.size + 256 → errRow b.size E1 E2 q = posRow (colAt S i) q) ∧
        (∀ q, q < b.size + 256 → errRow b.size E1 E2 q = if q ∈ S then bitLabel i else 0#128) ∧
        sendKos X SS delta ss b.size
            (xorMsgs (receive R0 R1 rs b).2.2 E1 ++
              (xorMsgs (receive R0 R1 (receive R0 R1 rs b).1 (bcvOf b0 b1)).2.2 E2 ++ moreD))
            ((receiveKos X R0 R1 rs b b0 b1 seed2).resp ++ moreL) = some out ∧
        (labelBit delta i = true → ∀ r, r ∈ S → r < b.size →
          (receiveKos X R0 R1 rs b b0 b1 seed2).labels.getD r 0#128 ≠
            out.labels.getD r 0#128 ^^^ (if b.getD r false then delta else 0#128)) := by
  obtain ⟨S, hne, hnd, hlen, hwin, hdep⟩ := dependent_rows_window (X seed2) base
  have hS : ∀ r, r ∈ S → r < b.size + 256 := fun r hr => by have := hwin r hr; omega
  refine ⟨S, hne, hnd, hlen, fun r hr => ⟨(hwin r hr).1, (hwin r hr).2, hS r hr⟩, hdep, ?_⟩
  intro i hi SS delta hb ss hs moreD moreL
  obtain ⟨E1, E2, h1, h2, hE⟩ := kos_rows_realisable R0 R1 SS delta hb rs ss hs b b0 b1 (posRow (colAt S i))
  obtain ⟨out, hacc, hbad⟩ := C15_kos_dependent_rows_forgery_witness X R0 R1 SS delta hb rs ss hs b b0 b1 seed2
    E1 E2 moreD moreL h1 h2 S i hnd hS hi hdep hE
  exact ⟨E1, E2, out, h1, h2, hE, fun q hq => by rw [hE q hq, posRow_colAt S i q hnd], hacc, hbad⟩

/-- Non-vacuity: the hypotheses are jointly satisfiable — any receiver streams,
any `Delta` with the sender streams the base OTs deliver, freshly initialised
parties, one transfer, the window of the first 129 rows (payload row 0 and 128
rows of the check batch) resp. a window inside the check batch. -/
example (X : Label → Nat → Label) (R0 R1 : Nat → Nat → Byte) (delta seed2 : Label) :
    ∃ S : List Nat, S ≠ [] ∧ rowXor (X seed2) S = 0#128 ∧
      ∃ (E1 E2 : List Bytes) (out : SendOut),
        sendKos X (fun i p => if labelBit delta i then R1 i p else R0 i p) delta SendSt.init 1
            (xorMsgs (receive R0 R1 RecvSt.init #[true]).2.2 E1 ++
              (xorMsgs (receive R0 R1 (receive R0 R1 RecvSt.init #[true]).1 (bcvOf 0#128 0#128)).2.2 E2 ++ []))
            ((receiveKos X R0 R1 RecvSt.init #[true] 0#128 0#128 seed2).resp ++ []) = some out := by
  obtain ⟨S, hne, _, _, _, hdep, h⟩ :=
    C15_kos_forgery_exists_for_every_challenge X R0 R1 RecvSt.init #[true] 0#128 0#128 seed2 0 (by decide)
  obtain ⟨E1, E2, out, _, _, _, _, hacc, _⟩ :=
    h 0 (by decide) (fun i p => if labelBit delta i then R1 i p else R0 i p) delta (fun _ _ _ => rfl) SendSt.init
      InStep.init [] []
  exact ⟨S, hne, hdep, E1, E2, out, hacc⟩

example : 1 + 129 ≤ (#[true] : Array Bool).size + 256 := by decide

/-- The FULL STATEMENT of Props/C15.lean is false for the code as it is, for
every session with `n ≥ 129` transfers and `Delta ≠ 0`, whatever the challenge
generator and the seed are: there is an alteration of the transmitted matrix
alone (response untouched; error masks of the shape of the chunks, all flips in
one column at payload rows) that `Send(n, true)` accepts although some payload
row `r` violates `received_r = sent_r xor choice_r*Delta`. -/
theorem C15_kos_full_statement_false (X : Label → Nat → Label) (R0 R1 SS : Nat → Nat → Byte) (delta : Label)
    (hb : BaseOK R0 R1 SS delta) (rs : RecvSt) (ss : SendSt) (hs : InStep rs ss) (b : Array Bool)
    (b0 b1 seed2 : Label) (moreD : List Bytes) (moreL : List Label) (hn : 129 ≤ b.size) (hd : delta ≠ 0#128) :
    ∃ (E1 E2 : List Bytes) (out : SendOut) (r : Nat),
      Shape (receive R0 R1 rs b).2.2 E1 ∧
      Shape (receive R0 R1 (receive R0 R1 rs b).1 (bcvOf b0 b1)).2.2 E2 ∧
      sendKos X SS delta ss b.size
          (xorMsgs (receive R0 R1 rs b).2.2 E1 ++
            (xorMsgs (receive R0 R1 (receive R0 R1 rs b).1 (bcvOf b0 b1)).2.2 E2 ++ moreD))
          ((receiveKos X R0 R1 rs b b0 b1 seed2).resp ++ moreL) = some out ∧
      r < b.size ∧
      (receiveKos X R0 R1 rs b b0 b1 seed2).labels.getD r 0#128 ≠
        out.labels.getD r 0#128 ^^^ (if b.getD r false then delta else 0#128) := by
  obtain ⟨S, hne, _, _, hwin, _, h⟩ :=
    C15_kos_forgery_exists_for_every_challenge X R0 R1 rs b b0 b1 seed2 0 (by omega)
  obtain ⟨i, hi, hsel⟩ := exists_labelBit_of_ne_zero delta hd
  obtain ⟨E1, E2, out, h1, h2, _, _, hacc, hbad⟩ := h i hi SS delta hb ss hs moreD moreL
  obtain ⟨r, hr⟩ := List.exists_mem_of_ne_nil S hne
  have hrn : r < b.size := by have := hwin r hr; omega
  exact ⟨E1, E2, out, r, h1, h2, hacc, hrn, hbad hsel r hr hrn⟩

/-- Non-vacuity: a choice vector of 129 transfers and a non-zero `Delta`. -/
example : 129 ≤ (Array.replicate 129 true : Array Bool).size ∧ (1#128 <<< 64 : Label) ≠ 0#128 := by
  refine ⟨by simp, by decide⟩

end Mpc
