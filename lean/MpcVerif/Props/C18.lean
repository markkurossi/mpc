/-
C18  SHA256(XOR) protocol: correct, resumable, canonical encodings.

Model: Model/Sha2pc.lean (the five encoders/decoders of sha2pc/encoding.go at byte level; executed by `drv_c18` and
compared with the Go code on every run, including all mutation outcomes) and Model/Sha2pcRounds.lean (the four round
functions over an abstract curve group, the Chou-Orlandi model of C06 and the garbling model of C01).  It is /repo
with the five repairs 0e7671a (round 4 checks the stored sender point), 68f93f2 (round 3 checks the stored A^{-a}),
d9a1171 (decoders reject trailing bytes), 2eb87d5 (bit field read with io.ReadFull), 217fb4c (readChunk rejects padded
length prefixes); the check requires these repairs as source facts.

The statement (properties.jsonl), clause by clause:

 (A) "encode-then-decode is the identity with the documented fixed sizes" --
     `C18_enc_dec_id_{Round1,Round2,Round3,GarblerSession,EvaluatorSession}`, `C18_doc_len_concrete`.  Full strength
     (every curve name below 128 bytes, every width up to 1000, every well-formed payload; point decompression
     abstract).
 (B) "malformed bytes are rejected with an error, never a crash" --
       `C18_dec_total_*`: no decoder crashes on ANY bytes (every Go slice/index expression is a checked operation of
         the model).  Full strength.
       `C18_dec_canonical_*` (all five decoders): decode b = ok m implies that m is well formed and encode m = b.  So
         the decoders accept EXACTLY the image of the encoders: nothing malformed is accepted, no two byte strings
         decode to the same value.  Full strength (Round2 under the stated soundness of decompression).
       `C18_accepted_has_doc_len`, `C18_chunk_canonical`, `C18_rounds_no_crash`, `C18_offcurve_state_rejected`.
 (C) "messages of another session or curve ... are rejected with an error" --
     `C18_session_mismatch_rejected`, `C18_curve_mismatch_rejected`.
 (D) "Serialising any round message or either party's session state and continuing from the decoded copy ... gives
     the same result" -- `C18_resume_eq` (every round boundary, either party), with `C18_round3_output_wf` for the
     message that is produced, not given.
 (E) "the four-round protocol makes the evaluator output SHA-256(a xor b)" --
     `C18_sha2pc_correct_given_circuit_partial` (composition of `Mpc.C01_decode` and `Mpc.C06_co_delivers`).  PARTIAL:
     that the embedded 127806-gate circuit's function is SHA-256(a xor b) is validated on every run (Go
     `Circuit.Compute`, the harness's evaluator and the Lean `Circuit.compute` on the parsed file against
     crypto/sha256), not proved.
 (F) "for all inputs ... every supported curve ... as after a process restart between any two rounds": the
     quantifier is over EVERY session, and one garbler / evaluator process serves many.  Model/Sha2pcProc.lean: a
     process holding the messages and states of several sessions (same or different curves), a HISTORY = any
     interleaving of the sessions' round steps, every input of every step consumed in memory or through bytes.  Steps
     may FAIL for reasons outside the session, and every other session -- and the failed one, on a retry -- must still
     be correct: an event carries an optional disturbance (`Dist`).
     `C18_hist_frame`, `C18_hist_failures_erased`, `C18_hist_isolation`, `C18_hist_complete_session`,
     `C18_hist_faults_rejected`, `C18_hist_correct_partial` (PARTIAL in the same sense as (E)).
     The real process is tied to this model by the `hist` correspondence: the status of every step and the whole
     process state (deep hash of every live message / session object) after every step of a history executed on the
     real code equal `Proc.runD` of the model on the same schedule.
 (G) "for all inputs ... every supported curve": the quantifier is over every EXECUTION, and an execution has a hidden
     parameter, the environment of the Go runtime (number of CPUs / GOMAXPROCS, collector setting, word size); a
     process restarted between two rounds may come up in another one.  Model/Sha2pcEnv.lean: an implementation =
     round functions indexed by the environment, a history assigns an environment to every step.
     `C18_env_model_has_no_parameter`, `C18_env_hist_eq`, `C18_env_correct_partial` (GIVEN that the implementation
     agrees with the model in the environments of the history: the ASSUMPTION about the real code),
     `C18_env_dependence_witness` (the assumption is needed).
     The tie of the assumption is the `env` mode of the harness (obligation of the check): the same sessions /
     histories on the real code with GOMAXPROCS in {1,2,3,5,7,12,16,24,61,...} and the collector off / 100 / 1 set
     around every step, compared with `Proc.runE` of the constant family (op `histe`).  The word size cannot be
     varied: /repo does not compile for a 32-bit GOARCH (p2p/network.go).
-/
import MpcVerif.Proofs.Sha2pcEnv
import MpcVerif.Proofs.Sha2pcProc

namespace Mpc
open Mpc.Sha2pc

theorem C18_enc_dec_id_Round1 (c : Curve) (hc : c.WF) (m : Round1) (hm : m.WF c) :
    ∃ enc, encodeRound1 c m = .ok enc ∧ decodeRound1 c enc = .ok m ∧
      enc.length = 2 + 8 + 1 + c.name.length + 2 * c.byteLen :=
  ⟨_, encodeRound1_eq c m hm.name, decodeRound1_bytes c hc m hm, m.bytes_length c hc⟩

theorem C18_enc_dec_id_Round2 (c : Curve) (hc : c.WF) (m : Round2) (hm : m.WF c) :
    ∃ enc, encodeRound2 c m = .ok enc ∧ decodeRound2 c enc = .ok m ∧
      enc.length = 2 + 8 + 1 + c.name.length + nBits * c.byteLen + signBytes :=
  ⟨_, encodeRound2_eq c m hm.count, decodeRound2_bytes c hc m hm,
    m.bytes_length c hc hm.count⟩

theorem C18_enc_dec_id_Round3 (counts : List Nat) (m : Round3) (hm : m.WF counts) :
    ∃ enc, encodeRound3 counts m = .ok enc ∧ decodeRound3 counts enc = .ok m ∧ enc.length = round3Len counts :=
  ⟨_, encodeRound3_eq counts m hm, decodeRound3_bytes counts m hm,
    m.bytes_length counts hm⟩

theorem C18_enc_dec_id_GarblerSession (c : Curve) (hc : c.WF) (s : GarblerSession) (hs : s.WF c) :
    ∃ enc, encodeGarblerSession c s = .ok enc ∧ decodeGarblerSession c enc = .ok s ∧
      enc.length = 2 + 8 + (putUvarint (1 + c.name.length + 5 * c.byteLen)).length +
        (1 + c.name.length + 5 * c.byteLen) :=
  ⟨_, encodeGarblerSession_eq c s hs.name, decodeGarblerSession_bytes c hc s hs,
    s.bytes_length c hc⟩

theorem C18_enc_dec_id_EvaluatorSession (c : Curve) (hc : c.WF) (s : EvaluatorSession) (hs : s.WF c) :
    ∃ enc, encodeEvaluatorSession c s = .ok enc ∧ decodeEvaluatorSession c enc = .ok s ∧
      enc.length = 2 + 8 + (putUvarint (1 + c.name.length + 2 * c.byteLen + nBits * c.byteLen + signBytes)).length +
        (1 + c.name.length + 2 * c.byteLen + nBits * c.byteLen + signBytes) :=
  ⟨_, encodeEvaluatorSession_eq c s hs, decodeEvaluatorSession_bytes c hc s hs,
    s.bytes_length c hc hs.count hs.bits⟩

/-- The sizes pinned by sha2pc_test.go (`TestPayloadSizesByCurve`: 80 / 8240 /
178 / 8306 bytes on P-256, 72 / 7216 / 158 / 7274 on P-224, 707146 for round 3)
and measured by the harness on P-384 and P-521 are the model's formulas for a
5-byte curve name and field widths 32, 28, 48, 66 and 42914 table labels. -/
theorem C18_doc_len_concrete :
    (2 + 8 + 1 + 5 + 2 * 32 = 80 ∧ 2 + 8 + 1 + 5 + nBits * 32 + signBytes = 8240 ∧
      2 + 8 + (putUvarint (1 + 5 + 5 * 32)).length + (1 + 5 + 5 * 32) = 178 ∧
      2 + 8 + (putUvarint (1 + 5 + 2 * 32 + nBits * 32 + signBytes)).length + (1 + 5 + 2 * 32 + nBits * 32 + signBytes) = 8306) ∧
    (2 + 8 + 1 + 5 + 2 * 28 = 72 ∧ 2 + 8 + 1 + 5 + nBits * 28 + signBytes = 7216 ∧
      2 + 8 + (putUvarint (1 + 5 + 5 * 28)).length + (1 + 5 + 5 * 28) = 158 ∧
      2 + 8 + (putUvarint (1 + 5 + 2 * 28 + nBits * 28 + signBytes)).length + (1 + 5 + 2 * 28 + nBits * 28 + signBytes) = 7274) ∧
    (2 + 8 + 1 + 5 + 2 * 48 = 112 ∧ 2 + 8 + (putUvarint (1 + 5 + 5 * 48)).length + (1 + 5 + 5 * 48) = 258 ∧
      2 + 8 + (putUvarint (1 + 5 + 2 * 48 + nBits * 48 + signBytes)).length + (1 + 5 + 2 * 48 + nBits * 48 + signBytes) = 12434) ∧
    (2 + 8 + 1 + 5 + 2 * 66 = 148 ∧ 2 + 8 + (putUvarint (1 + 5 + 5 * 66)).length + (1 + 5 + 5 * 66) = 348 ∧
      2 + 8 + (putUvarint (1 + 5 + 2 * 66 + nBits * 66 + signBytes)).length + (1 + 5 + 2 * 66 + nBits * 66 + signBytes) = 17079) ∧
    (∀ counts : List Nat, counts.sum = 42914 → round3Len counts = 707146) := by
  refine ⟨?_, ?_, ?_, ?_, ?_⟩
  · simp [nBits, signBytes, putUvarint_length_two, putUvarint_length_two 8294 (by omega) (by omega)]
  · simp [nBits, signBytes, putUvarint_length_two]
  · simp [nBits, signBytes, putUvarint_length_two]
  · simp [nBits, signBytes, putUvarint_length_two, putUvarint_length_three]
  · intro counts h; simp [round3Len, h, keyLen, labelLen, nBits]

theorem C18_dec_total_Round1 (c : Curve) (data : Bytes) : decodeRound1 c data ≠ .panic :=
  decodeRound1_noPanic c data
theorem C18_dec_total_Round2 (c : Curve) (data : Bytes) : decodeRound2 c data ≠ .panic :=
  decodeRound2_noPanic c data
theorem C18_dec_total_Round3 (counts : List Nat) (data : Bytes) : decodeRound3 counts data ≠ .panic :=
  decodeRound3_noPanic counts data
theorem C18_dec_total_GarblerSession (c : Curve) (data : Bytes) : decodeGarblerSession c data ≠ .panic :=
  decodeGarblerSession_noPanic c data
theorem C18_dec_total_EvaluatorSession (c : Curve) (data : Bytes) : decodeEvaluatorSession c data ≠ .panic :=
  decodeEvaluatorSession_noPanic c data

theorem C18_dec_canonical_Round1 (c : Curve) (data : Bytes) (m : Round1) (h : decodeRound1 c data = .ok m) :
    encodeRound1 c m = .ok data ∧ m.WF c := by
  obtain ⟨rfl, hm⟩ := decodeRound1_ok h
  exact ⟨encodeRound1_eq c m hm.name, hm⟩

/-- `hp`: `elliptic.UnmarshalCompressed` returns the ordinate with the requested
parity (the driver's instance does; the Go function selects the root by its low
bit). -/
theorem C18_dec_canonical_Round2 (c : Curve) (hp : c.ParitySound) (data : Bytes) (m : Round2)
    (h : decodeRound2 c data = .ok m) : encodeRound2 c m = .ok data ∧ m.WF c := by
  obtain ⟨rfl, hm⟩ := decodeRound2_ok hp h
  exact ⟨encodeRound2_eq c m hm.count, hm⟩

theorem C18_dec_canonical_Round3 (counts : List Nat) (data : Bytes) (m : Round3)
    (h : decodeRound3 counts data = .ok m) : encodeRound3 counts m = .ok data ∧ m.WF counts := by
  obtain ⟨rfl, hm⟩ := decodeRound3_ok h
  exact ⟨encodeRound3_eq counts m hm, hm⟩

theorem C18_dec_canonical_GarblerSession (c : Curve) (data : Bytes) (s : GarblerSession)
    (h : decodeGarblerSession c data = .ok s) : encodeGarblerSession c s = .ok data ∧ s.WF c := by
  obtain ⟨rfl, hs⟩ := decodeGarblerSession_ok h
  exact ⟨encodeGarblerSession_eq c s hs.name, hs⟩

theorem C18_dec_canonical_EvaluatorSession (c : Curve) (data : Bytes) (s : EvaluatorSession)
    (h : decodeEvaluatorSession c data = .ok s) : encodeEvaluatorSession c s = .ok data ∧ s.WF c := by
  obtain ⟨rfl, hs⟩ := decodeEvaluatorSession_ok h
  exact ⟨encodeEvaluatorSession_eq c s hs, hs⟩

/-- Every accepted input has exactly the documented size: trailing bytes,
truncations and padded length prefixes are all rejected. -/
theorem C18_accepted_has_doc_len (c : Curve) (hc : c.WF) (counts : List Nat) (data : Bytes) :
    (∀ m, decodeRound1 c data = .ok m → data.length = 2 + 8 + 1 + c.name.length + 2 * c.byteLen) ∧
    (∀ m, c.ParitySound → decodeRound2 c data = .ok m →
        data.length = 2 + 8 + 1 + c.name.length + nBits * c.byteLen + signBytes) ∧
    (∀ m, decodeRound3 counts data = .ok m → data.length = round3Len counts) ∧
    (∀ s, decodeGarblerSession c data = .ok s →
        data.length = 2 + 8 + (putUvarint (1 + c.name.length + 5 * c.byteLen)).length +
          (1 + c.name.length + 5 * c.byteLen)) ∧
    (∀ s, decodeEvaluatorSession c data = .ok s →
        data.length = 2 + 8 + (putUvarint (1 + c.name.length + 2 * c.byteLen + nBits * c.byteLen + signBytes)).length +
          (1 + c.name.length + 2 * c.byteLen + nBits * c.byteLen + signBytes)) :=
  ⟨fun m h => (decodeRound1_ok h).1 ▸ m.bytes_length c hc,
   fun m hp h => (decodeRound2_ok hp h).1 ▸ m.bytes_length c hc (decodeRound2_ok hp h).2.count,
   decodeRound3_length counts data,
   fun s h => (decodeGarblerSession_ok h).1 ▸ s.bytes_length c hc,
   fun s h => have hs := (decodeEvaluatorSession_ok h).2; (decodeEvaluatorSession_ok h).1 ▸ s.bytes_length c hc hs.count hs.bits⟩

/-- `readChunk` accepts a length prefix in its minimal (`PutUvarint`) form only;
e.g. the two-byte form `85 00` of 5 is an error. -/
theorem C18_chunk_canonical :
    (∀ r d r', readChunk r = .ok (d, r') → r = writeChunk d ++ r') ∧
    (∀ rest, readChunk (0x85 :: 0x00 :: rest) = .error) := by
  refine ⟨fun r d r' h => ((readChunk_eq_ok r d r').mp h).1, ?_⟩
  intro rest
  have hu : readUvarint (0x85 :: 0x00 :: rest) = .ok (5, rest) := by simp [readUvarint, readUvarintGo]
  have hp : putUvarint 5 = [5] := putUvarint_lt (by decide)
  unfold readChunk
  rw [hu]
  simp only [Res.ok_bind]
  rw [if_pos (by rw [hp]; simp only [List.length_cons, List.length_nil]; omega)]

/-- Rounds 2, 3 and 4 never crash: every use of a stored or received point is
preceded by `ensureOnCurve`. -/
theorem C18_rounds_no_crash {G : Type} (P : Params G) :
    (∀ (msg : Round1) (b : Bytes) (scalars : List Nat), round2 P msg b scalars ≠ .panic) ∧
    (∀ (st : GarblerSession) (a : Bytes) (req : Round2) (key : Bytes) (r0 : Label) (inl : Nat → Label),
        round3 P st a req key r0 inl ≠ .panic) ∧
    (∀ (st : EvaluatorSession) (msg : Round3), round4 P st msg ≠ .panic) :=
  ⟨round2_noPanic P, round3_noPanic P, round4_noPanic P⟩

/-- A stored sender point (evaluator) or `A^{-a}` (garbler) that is not on the
curve makes the round return an error. -/
theorem C18_offcurve_state_rejected {G : Type} (P : Params G) :
    (∀ (st : EvaluatorSession) (msg : Round3), P.crypto.ofPt ⟨st.ax, st.ay⟩ = none → round4 P st msg = .error) ∧
    (∀ (st : GarblerSession) (choices : List Point) (wires : Nat → Label × Label) (n : Nat),
        P.crypto.ofPt ⟨st.ainvx, st.ainvy⟩ = none → encryptCO P.crypto st choices wires n = .error) :=
  ⟨round4_offcurve_error P, encryptCO_offcurve_error P.crypto⟩

/-- A round-2 message of another session is rejected by `GarblerRound3`, a
round-3 message of another session by `EvaluatorRound4`, whatever else they
contain; and the session id the evaluator checks against, like the one in its
round-2 message, is the one of the round-1 message (`round2_sid`). -/
theorem C18_session_mismatch_rejected {G : Type} (P : Params G) :
    (∀ (st : GarblerSession) (a : Bytes) (req : Round2) (key : Bytes) (r0 : Label) (inl : Nat → Label),
        req.sid ≠ st.sid → round3 P st a req key r0 inl = .error) ∧
    (∀ (st : EvaluatorSession) (msg : Round3), msg.sid ≠ st.sid → round4 P st msg = .error) ∧
    (∀ (msg : Round1) (b : Bytes) (scalars : List Nat) (m2 : Round2) (es : EvaluatorSession),
        round2 P msg b scalars = .ok (m2, es) → m2.sid = msg.sid ∧ es.sid = msg.sid) :=
  ⟨round3_sid_mismatch P, round4_sid_mismatch P, round2_sid P⟩

/-- Every encoding that carries a curve name (round 1, round 2, both session
states) is rejected by the decoder of a curve with a different name.  (Round 3 carries no curve name: a round-3
message of another session, on whichever curve, is recognised by its session id only, see above.) -/
theorem C18_curve_mismatch_rejected (c c' : Curve) (hc' : c'.WF) (hne : c'.name ≠ c.name) :
    (∀ (m : Round1) (enc extra : Bytes), m.sid < 2 ^ 64 → encodeRound1 c' m = .ok enc →
        decodeRound1 c (enc ++ extra) = .error) ∧
    (∀ (m : Round2) (enc : Bytes), m.sid < 2 ^ 64 → encodeRound2 c' m = .ok enc → decodeRound2 c enc = .error) ∧
    (∀ (s : GarblerSession) (enc : Bytes), s.sid < 2 ^ 64 → encodeGarblerSession c' s = .ok enc →
        decodeGarblerSession c enc = .error) ∧
    (∀ (s : EvaluatorSession) (enc : Bytes), s.WF c' → encodeEvaluatorSession c' s = .ok enc →
        decodeEvaluatorSession c enc = .error) :=
  ⟨decodeRound1_other_curve c c' hc' hne, decodeRound2_other_curve c c' hc' hne,
   decodeGarblerSession_other_curve c c' hc' hne, decodeEvaluatorSession_other_curve c c' hc' hne⟩

/-- Every round boundary, either party: the round run from the BYTES of the
stored session and of the received message (`round2B`, `round3B`, `round4B`
decode first) equals the round run from the in-memory values, for all inputs
and all randomness.  Garbler between rounds 1 and 3; evaluator before round 2
and between rounds 2 and 4. -/
theorem C18_resume_eq {G : Type} (P : Params G) (hc : P.curve.WF) :
    (∀ (msg : Round1) (r1b : Bytes) (b : Bytes) (scalars : List Nat), msg.WF P.curve →
        encodeRound1 P.curve msg = .ok r1b →
        round2B P r1b b scalars = (round2 P msg b scalars >>= fun r =>
          encodeRound2 P.curve r.1 >>= fun r2b => encodeEvaluatorSession P.curve r.2 >>= fun esb => pure (r2b, esb))) ∧
    (∀ (st : GarblerSession) (req : Round2) (gsb r2b a key : Bytes) (r0 : Label) (inl : Nat → Label),
        st.WF P.curve → req.WF P.curve → encodeGarblerSession P.curve st = .ok gsb →
        encodeRound2 P.curve req = .ok r2b →
        round3B P gsb a r2b key r0 inl = (round3 P st a req key r0 inl >>= encodeRound3 (countsOf P.circ))) ∧
    (∀ (st : EvaluatorSession) (msg : Round3) (esb r3b : Bytes), st.WF P.curve → msg.WF (countsOf P.circ) →
        encodeEvaluatorSession P.curve st = .ok esb → encodeRound3 (countsOf P.circ) msg = .ok r3b →
        round4B P esb r3b = round4 P st msg) :=
  ⟨round2B_eq P hc, round3B_eq P hc, round4B_eq P hc⟩

/-- The round-3 message the garbler produces is well formed for the circuit's
row counts (so `C18_enc_dec_id_Round3` and `C18_resume_eq` apply to it). -/
theorem C18_round3_output_wf {G : Type} (P : Params G) (st : GarblerSession) (a : Bytes) (req : Round2) (key : Bytes)
    (r0 : Label) (inl : Nat → Label) (m3 : Round3) (hsid : st.sid < 2 ^ 64) (hkey : key.length = keyLen)
    (hout : P.circ.nOut = nBits) (h : round3 P st a req key r0 inl = .ok m3) : m3.WF (countsOf P.circ) :=
  round3_WF P st a req key r0 inl m3 hsid hkey hout h

/-- FULL STATEMENT (not proved): `... round4 P es m3 = .ok (SHA-256 (a xor b))`.
PROVED: the evaluator's output is the little-endian packing of the plain
evaluation of the embedded circuit on `bits a ++ bits b`; for every curve
group, KDF, key-to-hash map, well-formed circuit with 256+256 inputs and 256
defined outputs, all inputs, all randomness for which no point is the point
at infinity (probability about 2⁻²⁵⁶ per point on the real curves; the real
code returns `ErrPointNotOnCurve` then).  MISSING: `circ.compute` = SHA-256 ∘ xor
for the embedded circuit (validated by evaluation on every run). -/
theorem C18_sha2pc_correct_given_circuit_partial {G : Type} (P : Params G) (a b : Bytes) (aS sid : Nat)
    (scalars : List Nat) (key : Bytes) (r0 : Label) (inl : Nat → Label)
    (hwf : P.circ.WF = true) (hnin : P.circ.nIn = nBits + nBits) (hnout : P.circ.nOut = nBits)
    (hod : P.circ.outputsDefined = true) (ha : a.length = 32) (hb : b.length = 32)
    (hA : P.crypto.onCurve (Co.senderSetup P.crypto.Γ P.crypto.g aS).A)
    (hI : P.crypto.onCurve (Co.senderSetup P.crypto.Γ P.crypto.g aS).AaInv)
    (hP : ∀ i, i < nBits → P.crypto.onCurve (Co.choicePoint P.crypto.Γ P.crypto.g
      (Co.senderSetup P.crypto.Γ P.crypto.g aS).A (scalars.getD i 0) ((bytesToBits b).getD i false))) :
    ∃ m2 es m3, round2 P (round1 P aS sid).1 b scalars = .ok (m2, es) ∧
      round3 P (round1 P aS sid).2 a m2 key r0 inl = .ok m3 ∧
      round4 P es m3 = .ok (bitsToBytes (P.circ.compute (bytesToBits a ++ bytesToBits b))) :=
  correct_given_circuit P a b aS sid scalars key r0 inl hwf hnin hnout hod ha hb hA hI hP

/-- FRAME.  A step of session `e.sess` -- undisturbed or run with a failing
random source, a mutated or a foreign message -- leaves all slots of every
other session unchanged; a whole history in which session `j` does not step
leaves all slots of session `j` unchanged; a step that does NOT SUCCEED
(error, crash, missing input) leaves the WHOLE process unchanged, the session
that failed included: it can be retried.  Any round functions. -/
theorem C18_hist_frame {T : Ty} (cfg : Cfg T) :
    (∀ (st : Proc T) (e : Ev) (j : Nat), j ≠ e.sess → Proc.stepD cfg st e j = st j) ∧
    (∀ (st : Proc T) (sched : List Ev) (j : Nat), (∀ e ∈ sched, e.sess ≠ j) → Proc.runD cfg st sched j = st j) ∧
    (∀ (st : Proc T) (e : Ev), Proc.okAt cfg st e = false → Proc.stepD cfg st e = st) :=
  ⟨Proc.stepD_other cfg, Proc.runD_frame cfg, Proc.stepD_failed cfg⟩

/-- FAILURES ARE ERASED.  Every history (any schedule, any disturbances, any
round functions) ends in the state of the history of its SUCCESSFUL events;
and when every disturbed event fails where it runs (`Proc.DistFail`) that is
the failure-free history of the undisturbed events. -/
theorem C18_hist_failures_erased {T : Ty} (cfg : Cfg T) (st : Proc T) (sched : List Ev) :
    Proc.runD cfg st sched = Proc.runD cfg st (Proc.effective cfg st sched) ∧
    (Proc.DistFail cfg st sched → Proc.runD cfg st sched = Proc.run cfg st (cleanSched sched)) :=
  ⟨Proc.runD_effective cfg sched st, Proc.runD_erase cfg sched st⟩

/-- ISOLATION.  After every history in which the disturbed events fail (`hf`; every schedule, every
number of sessions, failures of whichever session at whichever point) the
state of session `j` is what its own UNDISTURBED steps, in their order,
produce from its own initial state: neither a step of another session nor a
failed step of any session contributes. -/
theorem C18_hist_isolation {T : Ty} (cfg : Cfg T) (st : Proc T) (sched : List Ev) (j : Nat)
    (hf : Proc.DistFail cfg st sched) :
    Proc.runD cfg st sched j = (st j).run (cfg j) (proj j (cleanSched sched)) := by
  rw [Proc.runD_erase cfg sched st hf]
  exact Proc.run_proj cfg (cleanSched sched) st j

/-- A complete session inside ANY history with failures: if the undisturbed
steps of session `j` are round 1, round 2, round 3 and then round 4 one or
more times -- whatever the consumption modes, whatever the other sessions do in
between, however many steps (of `j` too: a failed round is retried) fail and
wherever, whatever the process held before -- session `j` ends with exactly the
values of its isolated run (`Rounds.Sound`) in every slot. -/
theorem C18_hist_complete_session {T : Ty} (cfg : Cfg T) (st : Proc T) (sched : List Ev) (j : Nat)
    (hf : Proc.DistFail cfg st sched)
    (m2 : T.M2) (es : T.ES) (m3 : T.M3) (d : T.D) (hs : (cfg j).Sound m2 es m3 d)
    (x y z : Bool) (e4s : List Act) (hall : ∀ a ∈ e4s, a.isE4 = true) (hne : e4s ≠ [])
    (hproj : proj j (cleanSched sched) = .g1 :: .e2 x :: .g3 y z :: e4s) :
    Proc.runD cfg st sched j =
      { m1 := some (cfg j).r1.1, gs := some (cfg j).r1.2, m2 := some m2, es := some es, m3 := some m3, out := some d } := by
  rw [C18_hist_isolation cfg st sched j hf, hproj]
  exact Sess.run_complete (cfg j) m2 es m3 d hs (st j) x y z e4s hall hne

/-- WHICH steps fail, for the sha2pc rounds.  (1) In EVERY process state a
round given a failing random source and a round given a message whose bytes
were cut or extended in transit do not succeed (the decoders accept the
documented length only), so every history whose disturbances are of these two
kinds satisfies `Proc.DistFail`.  (2) The message (round 3, round 4) or the
evaluator state (round 4) of ANOTHER session of the process is answered with an
error as soon as the session ids differ. -/
theorem C18_hist_faults_rejected (cfg : Nat → SessCfg) (hc : ∀ i, (cfg i).P.curve.WF)
    (hp : ∀ i, (cfg i).P.curve.ParitySound) :
    (∀ (st : Proc sha2pcTy) (sched : List Ev), (∀ e ∈ sched, e.unconditional = true) →
        Proc.DistFail (fun i => (cfg i).rounds) st sched) ∧
    (∀ (st : Proc sha2pcTy) (i src : Nat) (gs : GarblerSession) (m2 : Round2), (st i).gs = some gs →
        (st src).m2 = some m2 → m2.sid ≠ gs.sid →
        Proc.stepResD (fun i => (cfg i).rounds) st ⟨i, .g3 false false, some (.foreignMsg src)⟩ = some .error) ∧
    (∀ (st : Proc sha2pcTy) (i src : Nat) (es : EvaluatorSession) (m3 : Round3), m3.sid ≠ es.sid →
        ((st i).es = some es → (st src).m3 = some m3 →
          Proc.stepResD (fun i => (cfg i).rounds) st ⟨i, .e4 false false, some (.foreignMsg src)⟩ = some .error) ∧
        ((st src).es = some es → (st i).m3 = some m3 →
          Proc.stepResD (fun i => (cfg i).rounds) st ⟨i, .e4 false false, some (.foreignState src)⟩ = some .error)) :=
  ⟨Proc.distFail_of_unconditional _ fun i => (cfg i).rounds_rejecting (hc i) (hp i),
   fun st i => (cfg i).foreign_g3_fails st (st i),
   fun st i => (cfg i).foreign_e4_fails st (st i)⟩

/-- FULL STATEMENT (not proved): `... .out = some (SHA-256 (a_j xor b_j))`.
PROVED: in every history of a process serving any number of sessions (each
with its own curve group, inputs and randomness) in which steps may FAIL
(failing random source, mutated message, foreign message: every disturbed
event fails where it runs), every session `j` that satisfies `SessCfg.Good`
and whose own undisturbed steps are rounds 1, 2, 3 and then round 4 one or
more times ends with the round messages and session states of its isolated run
and with the embedded circuit's function of its own inputs as result.
MISSING: as in `C18_sha2pc_correct_given_circuit_partial`. -/
theorem C18_hist_correct_partial (cfg : Nat → SessCfg) (st : Proc sha2pcTy) (sched : List Ev) (j : Nat)
    (hf : Proc.DistFail (fun i => (cfg i).rounds) st sched)
    (hg : (cfg j).Good) (x y z : Bool) (e4s : List Act) (hall : ∀ a ∈ e4s, a.isE4 = true) (hne : e4s ≠ [])
    (hproj : proj j (cleanSched sched) = .g1 :: .e2 x :: .g3 y z :: e4s) :
    ∃ m2 es m3,
      round2 (cfg j).P (round1 (cfg j).P (cfg j).aS (cfg j).sid).1 (cfg j).b (cfg j).scalars = .ok (m2, es) ∧
      round3 (cfg j).P (round1 (cfg j).P (cfg j).aS (cfg j).sid).2 (cfg j).a m2 (cfg j).key (cfg j).r0 (cfg j).inl = .ok m3 ∧
      Proc.runD (fun i => (cfg i).rounds) st sched j =
        { m1 := some (round1 (cfg j).P (cfg j).aS (cfg j).sid).1, gs := some (round1 (cfg j).P (cfg j).aS (cfg j).sid).2,
          m2 := some m2, es := some es, m3 := some m3,
          out := some (bitsToBytes ((cfg j).P.circ.compute (bytesToBits (cfg j).a ++ bytesToBits (cfg j).b))) } := by
  obtain ⟨m2, es, m3, hs⟩ := (cfg j).rounds_sound hg
  exact ⟨m2, es, m3, hs.h2, hs.h3,
    C18_hist_complete_session (fun i => (cfg i).rounds) st sched j hf m2 es m3 _ hs x y z e4s hall hne hproj⟩

/-- THE MODEL HAS NO ENVIRONMENT PARAMETER.  The round functions of the model
(`SessCfg.rounds`: pure functions of inputs, randomness and messages), seen as
an implementation indexed by the environment, are the constant family: they
compute the same in every two environments, and a history in which every step
runs in its own environment (GOMAXPROCS, collector setting, word size --
changing between any two rounds of any session) is, for the model, the history
without environments: same final process state, same status of every step. -/
theorem C18_env_model_has_no_parameter (cfg : Nat → SessCfg) :
    (EnvCfg.const fun i => (cfg i).rounds).Indep ∧
    (∀ (st : Proc sha2pcTy) (sched : List EvE),
      Proc.runE (EnvCfg.const fun i => (cfg i).rounds) st sched =
        Proc.runD (fun i => (cfg i).rounds) st (eraseEnv sched)) ∧
    (∀ (st : Proc sha2pcTy) (pre : List EvE) (e : EvE),
      Proc.stepResE (EnvCfg.const fun i => (cfg i).rounds) (Proc.runE (EnvCfg.const fun i => (cfg i).rounds) st pre) e =
        Proc.stepResD (fun i => (cfg i).rounds) (Proc.runD (fun i => (cfg i).rounds) st (eraseEnv pre)) e.ev) :=
  ⟨EnvCfg.const_indep _,
   fun st sched => Proc.runE_eq_runD _ _ sched st (EnvCfg.const_agrees _ sched),
   fun st pre e => Proc.statusE_eq _ _ st pre e [] (EnvCfg.const_agrees _ _)⟩

/-- TRANSFER.  For ANY implementation (a family of round functions indexed by
the environment, any value types) that computes what the model `cfg` computes
in every environment occurring in the history: the history with per-step
environments ends in the state of the environment-free history `Proc.runD`,
and every step has the status `Proc.stepResD` gives it.  Everything proved
about `Proc.runD` (frame, failures erased, isolation, complete sessions) then
holds for the implementation under every such environment assignment.  An
environment-independent implementation (`EnvCfg.Indep`) satisfies the
hypothesis with `cfg` = what it computes in one reference environment. -/
theorem C18_env_hist_eq {T : Ty} (impl : EnvCfg T) (cfg : Cfg T) (st : Proc T) (sched : List EvE)
    (hag : impl.AgreesOn cfg sched) :
    Proc.runE impl st sched = Proc.runD cfg st (eraseEnv sched) ∧
    (∀ (pre : List EvE) (e : EvE) (post : List EvE), sched = pre ++ e :: post →
      Proc.stepResE impl (Proc.runE impl st pre) e = Proc.stepResD cfg (Proc.runD cfg st (eraseEnv pre)) e.ev) ∧
    (∀ e0 : Env, impl.Indep → impl.AgreesOn (impl e0) sched) :=
  ⟨Proc.runE_eq_runD impl cfg sched st hag,
   fun pre e post h => Proc.statusE_eq impl cfg st pre e post (h ▸ hag),
   fun e0 h => h.agrees e0 sched⟩

/-- FULL STATEMENT (not proved): `... .out = some (SHA-256 (a_j xor b_j))` for
the real implementation in every environment.
PROVED: for every implementation of the sha2pc rounds indexed by the
environment that agrees with the model in the environments of the history
(ASSUMPTION about the real code: its round functions do not depend on
GOMAXPROCS / collector / word size; tied by the `env` mode of the harness on
the swept environments), every history with failing steps whose steps run in
ARBITRARY, per-step different environments leaves every complete session `j`
(`SessCfg.Good`, own undisturbed steps = rounds 1, 2, 3, 4+) with the values
of its isolated run and the embedded circuit's function of its own inputs.
MISSING: as in `C18_hist_correct_partial`, and the assumption itself. -/
theorem C18_env_correct_partial (impl : EnvCfg sha2pcTy) (cfg : Nat → SessCfg) (st : Proc sha2pcTy)
    (sched : List EvE) (j : Nat)
    (hag : impl.AgreesOn (fun i => (cfg i).rounds) sched)
    (hf : Proc.DistFail (fun i => (cfg i).rounds) st (eraseEnv sched))
    (hg : (cfg j).Good) (x y z : Bool) (e4s : List Act) (hall : ∀ a ∈ e4s, a.isE4 = true) (hne : e4s ≠ [])
    (hproj : proj j (cleanSched (eraseEnv sched)) = .g1 :: .e2 x :: .g3 y z :: e4s) :
    ∃ m2 es m3,
      Proc.runE impl st sched j =
        { m1 := some (round1 (cfg j).P (cfg j).aS (cfg j).sid).1, gs := some (round1 (cfg j).P (cfg j).aS (cfg j).sid).2,
          m2 := some m2, es := some es, m3 := some m3,
          out := some (bitsToBytes ((cfg j).P.circ.compute (bytesToBits (cfg j).a ++ bytesToBits (cfg j).b))) } := by
  obtain ⟨m2, es, m3, _, _, h⟩ := C18_hist_correct_partial cfg st (eraseEnv sched) j hf hg x y z e4s hall hne hproj
  exact ⟨m2, es, m3, by rw [Proc.runE_eq_runD impl _ sched st hag]; exact h⟩

/-! An implementation for which the assumption FAILS: round 3 computes its
per-item results with the work split over `procs` workers (`splitMap`), items
no worker takes stay zero; round 4 accepts only the complete message. -/

abbrev splitTy : Ty := { M1 := Nat, GS := Nat, M2 := List Nat, ES := Nat, M3 := List Nat, D := Nat }

/-- the batch always has 4 items (sha2pc: always 256 transfers) -/
def fix4 (m2 : List Nat) : List Nat := (m2 ++ [0, 0, 0, 0]).take 4

theorem fix4_length (m2 : List Nat) : (fix4 m2).length = 4 := by
  simp only [fix4, List.length_take, List.length_append, List.length_cons, List.length_nil]
  omega

def splitRounds (w : Nat) : Rounds splitTy where
  r1 := (1, 2)
  r2 := fun _ => .ok ([10, 20, 30, 40], 3)
  r3 := fun _ m2 => .ok (splitMap w (· + 1) 0 (fix4 m2))
  r4 := fun _ m3 => if m3 = [11, 21, 31, 41] then .ok 7 else .error
  t1 := .ok
  tg := .ok
  t2 := .ok
  te := .ok
  t3 := .ok
  x1 := fun _ _ => .error
  x2 := fun _ _ _ => .error
  x3 := fun _ _ _ _ => .error
  u1 := fun _ _ => .error
  u2 := fun _ _ => .error
  u3 := fun _ _ => .error

theorem splitRounds_of_dvd (w : Nat) (h : w ∣ 4) : splitRounds w = splitRounds 1 := by
  have e : ∀ m2, splitMap w (· + 1) 0 (fix4 m2) = splitMap 1 (· + 1) 0 (fix4 m2) := fun m2 => by
    rw [splitMap_of_dvd _ _ _ _ (by rw [fix4_length]; exact h), splitMap_of_dvd _ _ _ _ (Nat.one_dvd _)]
  simp only [splitRounds, e]

def splitImpl : EnvCfg splitTy := fun env _ => splitRounds env.procs

theorem splitImpl_agrees (sched : List EvE) (h : ∀ e ∈ sched, e.env.procs ∣ 4) :
    splitImpl.AgreesOn (fun _ => splitRounds 1) sched :=
  fun e he => funext fun _ => splitRounds_of_dvd _ (h e he)

def envP (p : Nat) : Env := { procs := p, gc := some 100, wordBits := 64 }

def splitSched (p q : Nat) : List EvE :=
  [⟨⟨0, .g1, none⟩, envP p⟩, ⟨⟨0, .e2 false, none⟩, envP p⟩, ⟨⟨0, .g3 false false, none⟩, envP q⟩,
   ⟨⟨0, .e4 false false, none⟩, envP p⟩]

/-- THE ASSUMPTION IS NEEDED, and environments in which an implementation is
right say nothing about the others.  `splitImpl` computes the model
(`splitRounds 1`) in every environment whose worker count divides the number
of items (4; `splitMap_of_dvd`), so every history
run entirely in such environments is correct; it is not environment
independent, and the same session with round 3 alone run under procs = 3 (a
restart in a container with another CPU limit) ends WITHOUT a result: round 3
succeeds with an incomplete message (last item zero: `splitMap_getLast_of_not_dvd`)
and round 4 rejects it. -/
theorem C18_env_dependence_witness :
    (∀ (st : Proc splitTy) (sched : List EvE), (∀ e ∈ sched, e.env.procs ∣ 4) →
      Proc.runE splitImpl st sched = Proc.runD (fun _ => splitRounds 1) st (eraseEnv sched)) ∧
    (Proc.runE splitImpl (fun _ => {}) (splitSched 2 4) 0).out = some 7 ∧
    ¬ splitImpl.Indep ∧
    (Proc.runE splitImpl (fun _ => {}) (splitSched 2 3) 0).m3 = some [11, 21, 31, 0] ∧
    (Proc.runE splitImpl (fun _ => {}) (splitSched 2 3) 0).out = none ∧
    (Proc.runD (fun _ => splitRounds 1) (fun _ => {}) (eraseEnv (splitSched 2 3)) 0).out = some 7 := by
  refine ⟨fun st sched hs => Proc.runE_eq_runD _ _ sched st (splitImpl_agrees sched hs), by decide, fun h => ?_,
    by decide, by decide, by decide⟩
  exact absurd (congrArg (fun R : Rounds splitTy => R.r3 0 [10, 20, 30, 40]) (congrFun (h (envP 3) (envP 1)) 0))
    (by decide)

def toyCurve : Curve := { name := [0x54], byteLen := 1, decompress := fun _ odd => some (if odd then 1 else 2) }

example : toyCurve.WF := ⟨by decide, by decide, by decide, by decide⟩

def toyR1 : Round1 := { sid := 7, curveName := [0x54], ax := 200, ay := 3 }
instance (c : Curve) (v : Nat) : Decidable (fits c v) := by unfold fits; infer_instance

example : toyR1.WF toyCurve := ⟨by decide, rfl, by decide, by decide⟩
/-- the documented encoding; the same with a trailing byte, with the two-byte
length prefix `81 00`, and one byte short are all errors. -/
example : encodeRound1 toyCurve toyR1 = .ok [0x52, 0x31, 0, 0, 0, 0, 0, 0, 0, 7, 1, 0x54, 200, 3] := by decide +kernel
example : decodeRound1 toyCurve [0x52, 0x31, 0, 0, 0, 0, 0, 0, 0, 7, 1, 0x54, 200, 3] = .ok toyR1 := by
  decide +kernel
example : decodeRound1 toyCurve [0x52, 0x31, 0, 0, 0, 0, 0, 0, 0, 7, 1, 0x54, 200, 3, 0xff] = .error := by
  decide +kernel
example : decodeRound1 toyCurve [0x52, 0x31, 0, 0, 0, 0, 0, 0, 0, 7, 0x81, 0, 0x54, 200, 3] = .error := by
  decide +kernel
example : toyCurve.ParitySound := by
  intro x odd y h
  simp only [toyCurve, Option.some.injEq] at h
  subst h
  cases odd <;> decide
example : decodeRound1 toyCurve [0x52, 0x31, 0, 0, 0, 0, 0, 0, 0, 7, 1, 0x54, 200] = .error := by decide +kernel

def toyGS : GarblerSession := { sid := 9, curveName := [0x54], scalar := 5, ax := 1, ay := 2, ainvx := 3, ainvy := 4 }
example : toyGS.WF toyCurve := ⟨by decide, rfl, by decide, by decide, by decide, by decide, by decide⟩

def toyR2 : Round2 := { sid := 1, curveName := [0x54], choices := List.replicate 256 ⟨9, 1⟩ }
example : toyR2.WF toyCurve :=
  ⟨by decide, rfl, List.length_replicate ..,
   fun p hp => by rw [List.eq_of_mem_replicate hp]; decide,
   fun p hp => by rw [List.eq_of_mem_replicate hp]; rfl⟩

def toyES : EvaluatorSession :=
  { sid := 2, curveName := [0x54], ax := 1, ay := 2, scalars := List.replicate 256 77, bits := List.replicate 256 true }
example : toyES.WF toyCurve :=
  ⟨by decide, rfl, by decide, by decide, List.length_replicate ..,
   fun v hv => by rw [List.eq_of_mem_replicate hv]; decide, List.length_replicate ..⟩

/-- A round-3 payload for a two-gate circuit (AND, XOR: counts 2, 0). -/
def toyR3 : Round3 :=
  { sid := 3, key := List.replicate 32 0xAB, tables := [[1#128, 2#128], []], inputs := List.replicate 256 5#128,
    hints := List.replicate 256 (6#128, 7#128), cts := List.replicate 256 (8#128, 9#128) }
example : toyR3.WF [2, 0] :=
  ⟨by decide, List.length_replicate .., rfl, List.length_replicate .., List.length_replicate .., List.length_replicate ..⟩

def toyCrypto : Crypto (Fin 7) where
  Γ := zmod7
  g := 1
  kdf := fun p i => BitVec.ofNat 128 (p.val * 1000 + i)
  toPt := fun p => ⟨p.val, 0⟩
  ofPt := fun q => if h : q.x < 7 ∧ q.y = 0 then some ⟨q.x, h.1⟩ else none
  ofPt_some := by
    intro q p h
    split at h
    · rename_i hq
      cases h
      cases q
      simp only at hq
      simp [hq.2]
    · cases h

theorem toyCrypto_onCurve (p : Fin 7) : toyCrypto.onCurve p := by
  unfold Crypto.onCurve toyCrypto
  simp

def toyCircuit : Circuit :=
  { numWires := 768, nIn := 512, nOut := 256,
    gates := (List.range 256).map fun i => ⟨.xor, i, 256 + i, 512 + i⟩ }

def toyParams : Params (Fin 7) :=
  { curve := toyCurve, crypto := toyCrypto, circ := toyCircuit, hashOf := fun _ => hashOf id }

theorem mem_toyCircuit_gates {g : Gate} :
    g ∈ toyCircuit.gates ↔ ∃ i < 256, g = ⟨.xor, i, 256 + i, 512 + i⟩ := by
  unfold toyCircuit
  rw [List.mem_map]
  exact ⟨fun ⟨i, hi, h⟩ => ⟨i, List.mem_range.mp hi, h.symm⟩, fun ⟨i, hi, h⟩ => ⟨i, List.mem_range.mpr hi, h.symm⟩⟩

theorem toyCircuit_wf : toyCircuit.WF = true := by
  refine toyCircuit.WF_iff.mpr ⟨by decide, by decide, wfFrom_of_forall _ _ _ fun g hg => ?_, fun g hg => ?_⟩
  · obtain ⟨i, hi, rfl⟩ := mem_toyCircuit_gates.mp hg
    simp only [Circuit.inputDefined, toyCircuit]
    refine ⟨decide_eq_true ?_, decide_eq_true ?_, ?_, ?_, ?_⟩ <;> omega
  · obtain ⟨i, hi, rfl⟩ := mem_toyCircuit_gates.mp hg
    exact Nat.le_add_right ..

theorem toyCircuit_outputsDefined : toyCircuit.outputsDefined = true := by
  simp only [Circuit.outputsDefined, Circuit.defined, List.all_eq_true, List.mem_range]
  intro i hi
  exact (definedAfter_iff _ _ _).mpr (.inr ⟨_, mem_toyCircuit_gates.mpr ⟨i, hi, rfl⟩, rfl⟩)

example : toyCircuit.WF = true := toyCircuit_wf
example : toyCircuit.outputsDefined = true := toyCircuit_outputsDefined

/-- The hypotheses of the composition theorem are satisfiable; its conclusion
for the toy instance. -/
example (a b : Bytes) (ha : a.length = 32) (hb : b.length = 32) (key : Bytes) (r0 : Label) (inl : Nat → Label) :
    ∃ m2 es m3, round2 toyParams (round1 toyParams 3 42).1 b [] = .ok (m2, es) ∧
      round3 toyParams (round1 toyParams 3 42).2 a m2 key r0 inl = .ok m3 ∧
      round4 toyParams es m3 = .ok (bitsToBytes (toyCircuit.compute (bytesToBits a ++ bytesToBits b))) :=
  C18_sha2pc_correct_given_circuit_partial toyParams a b 3 42 [] key r0 inl toyCircuit_wf rfl rfl
    toyCircuit_outputsDefined ha hb (toyCrypto_onCurve _) (toyCrypto_onCurve _) (fun _ _ => toyCrypto_onCurve _)

/-- Unlike `toyCurve`, decompression returns the ordinate 0 of `toyCrypto`'s points `(k, 0)`, which `Round2.WF.onCurve`
asks of the choice points of a session. -/
def toyCurveZ (name : Bytes) (bl : Nat) : Curve :=
  { name := name, byteLen := bl, decompress := fun _ odd => some (if odd then 1 else 0) }

theorem toyCurveZ_parity (name : Bytes) (bl : Nat) : (toyCurveZ name bl).ParitySound := by
  intro x odd y h
  simp only [toyCurveZ, Option.some.injEq] at h
  subst h
  cases odd <;> decide

def toySess (name : Bytes) (bl : Nat) (a b : Bytes) (aS sid : Nat) : SessCfg :=
  { G := Fin 7,
    P := { curve := toyCurveZ name bl, crypto := toyCrypto, circ := toyCircuit, hashOf := fun _ => hashOf id },
    a := a, b := b, aS := aS, sid := sid, scalars := [], key := List.replicate 32 0, r0 := 0#128, inl := fun _ => 0#128 }

theorem toy_fits (name : Bytes) (bl : Nat) (hbl : 0 < bl) (v : Nat) (hv : v < 7) : fits (toyCurveZ name bl) v := by
  unfold fits toyCurveZ
  simp only
  calc v < 256 ^ 1 := by omega
    _ ≤ 256 ^ bl := Nat.pow_le_pow_right (by decide) hbl

theorem toyPt_x (p : Fin 7) : (toyCrypto.toPt p).x < 7 := Fin.isLt p

/-- `SessCfg.Good` is satisfiable (for every name/width, all inputs, every
session id, scalars below 7). -/
theorem toySess_good (name : Bytes) (bl : Nat) (a b : Bytes) (aS sid : Nat) (hn0 : 0 < name.length)
    (hn : name.length < 128) (hbl : 0 < bl) (hbl' : bl ≤ 1000) (ha : a.length = 32) (hb : b.length = 32)
    (hsid : sid < 2 ^ 64) (haS : aS < 7) : (toySess name bl a b aS sid).Good where
  hwf := toyCircuit_wf
  hnin := rfl
  hnout := rfl
  hod := toyCircuit_outputsDefined
  ha := ha
  hb := hb
  hA := toyCrypto_onCurve _
  hI := toyCrypto_onCurve _
  hP := fun _ _ => toyCrypto_onCurve _
  curve := ⟨hn0, hn, hbl, hbl'⟩
  key := List.length_replicate ..
  m1wf := ⟨hsid, rfl, toy_fits name bl hbl _ (Fin.isLt _), toy_fits name bl hbl 0 (by decide)⟩
  gswf := {
    sid := hsid, name := rfl, scalar := toy_fits name bl hbl _ haS, ax := toy_fits name bl hbl _ (Fin.isLt _),
    ay := toy_fits name bl hbl 0 (by decide), ainvx := toy_fits name bl hbl _ (Fin.isLt _),
    ainvy := toy_fits name bl hbl 0 (by decide) }
  r2wf := by
    intro m2 es h
    obtain ⟨_, hbits, A, _, hr⟩ := round2_eq_ok.mp h
    cases hr
    refine ⟨{
        sid := hsid, name := rfl, count := by simp
        xs := List.forall_mem_map.mpr fun i _ => toy_fits name bl hbl _ (toyPt_x _)
        onCurve := List.forall_mem_map.mpr fun i _ => ?_ }, {
        sid := hsid, name := rfl, ax := toy_fits name bl hbl _ (toyPt_x _), ay := toy_fits name bl hbl 0 (by decide)
        count := by simp
        scalars := List.forall_mem_map.mpr fun _ _ => toy_fits name bl hbl 0 (by decide)
        bits := hbits }⟩
    simp [toySess, toyCurveZ, toyCrypto, yOdd]

/-- Three toy sessions in one process: two on the "curve" T (one-byte field),
one on the "curve" UU (two-byte field); different inputs, scalars, session ids. -/
def toyCfg : Nat → SessCfg
  | 0 => toySess [0x54] 1 (List.replicate 32 0x0f) (List.replicate 32 0x35) 3 42
  | 1 => toySess [0x55, 0x55] 2 (List.replicate 32 0xff) (List.replicate 32 0x01) 5 43
  | _ => toySess [0x54] 1 (List.replicate 32 0) (List.replicate 32 0) 2 44

theorem toyCfg_good : ∀ j, (toyCfg j).Good
  | 0 => toySess_good _ _ _ _ _ _ (by decide) (by decide) (by decide) (by decide) rfl rfl (by decide) (by decide)
  | 1 => toySess_good _ _ _ _ _ _ (by decide) (by decide) (by decide) (by decide) rfl rfl (by decide) (by decide)
  | _ + 2 => toySess_good _ _ _ _ _ _ (by decide) (by decide) (by decide) (by decide) rfl rfl (by decide) (by decide)

theorem toyCfg_curve (j : Nat) : (toyCfg j).P.curve.WF := (toyCfg_good j).curve
theorem toyCfg_parity : ∀ j, (toyCfg j).P.curve.ParitySound
  | 0 => toyCurveZ_parity _ _
  | 1 => toyCurveZ_parity _ _
  | _ + 2 => toyCurveZ_parity _ _

/-- A history of the three sessions in the shape of a batching garbler: rounds
1-2 of every session, then all three round 3, then the evaluators in reverse
order, session 0 consuming its round-3 message in memory and, later again,
through bytes, session 1 consuming its own (produced BEFORE the round 3 of
sessions 2 and 0) after them -- with FAILING
steps in between: the random source fails in round 1 of session 1 (retried), in
round 2 of session 0, in round 3 of session 0 while the input labels are drawn
(byte 128 of 8240; sessions 1 and 2 garble next, session 0 retries last), the
round-2 message of session 1 arrives cut to no bytes at all (`mutate 0`), the round-3 message of
session 2 with an extra byte, and round 3 of session 2 is run once more with a
failing source after its message was produced. -/
def toySched : List Ev :=
  [⟨0, .g1, none⟩, ⟨1, .g1, some (.rng 3 0)⟩, ⟨1, .g1, none⟩, ⟨0, .e2 false, some (.rng 40 2)⟩, ⟨0, .e2 false, none⟩,
   ⟨2, .g1, none⟩, ⟨1, .e2 true, none⟩, ⟨2, .e2 false, none⟩,
   ⟨0, .g3 false true, some (.rng 128 1)⟩, ⟨1, .g3 true true, some (.malformed 0)⟩,
   ⟨1, .g3 true false, none⟩, ⟨2, .g3 false false, none⟩, ⟨0, .g3 false true, none⟩,
   ⟨2, .g3 true true, some (.rng 8239 0)⟩, ⟨2, .e4 false true, some (.malformed 1)⟩,
   ⟨2, .e4 true true, none⟩, ⟨1, .e4 false true, none⟩, ⟨0, .e4 false false, none⟩, ⟨0, .e4 true true, none⟩,
   ⟨1, .e4 false false, none⟩]

example : proj 0 (cleanSched toySched) = [.g1, .e2 false, .g3 false true, .e4 false false, .e4 true true] := by decide
example : proj 1 (cleanSched toySched) = [.g1, .e2 true, .g3 true false, .e4 false true, .e4 false false] := by decide
example : proj 2 (cleanSched toySched) = [.g1, .e2 false, .g3 false false, .e4 true true] := by decide

/-- `Proc.DistFail` holds for the toy history from EVERY process state (the
hypotheses of `C18_hist_faults_rejected` are satisfiable). -/
theorem toySched_distFail (st : Proc sha2pcTy) : Proc.DistFail (fun i => (toyCfg i).rounds) st toySched :=
  (C18_hist_faults_rejected toyCfg toyCfg_curve toyCfg_parity).1 st toySched (by decide)

/-- The hypotheses of the history theorem are satisfiable, for every session of
the toy history (failing steps included), from ANY earlier process state; its
conclusion for session 0: the result is the toy circuit's function (bitwise
xor) of session 0's inputs. -/
example (st : Proc sha2pcTy) :
    (Proc.runD (fun i => (toyCfg i).rounds) st toySched 0).out =
      some (bitsToBytes (toyCircuit.compute (bytesToBits (List.replicate 32 0x0f) ++ bytesToBits (List.replicate 32 0x35)))) := by
  obtain ⟨m2, es, m3, _, _, h⟩ := C18_hist_correct_partial toyCfg st toySched 0 (toySched_distFail st) (toyCfg_good 0)
    false false true [.e4 false false, .e4 true true] (by decide) (by decide) (by decide)
  rw [h]
  rfl
example (st : Proc sha2pcTy) : ∃ d, (Proc.runD (fun i => (toyCfg i).rounds) st toySched 1).out = some d := by
  obtain ⟨m2, es, m3, _, _, h⟩ := C18_hist_correct_partial toyCfg st toySched 1 (toySched_distFail st) (toyCfg_good 1)
    true true false [.e4 false true, .e4 false false] (by decide) (by decide) (by decide)
  exact ⟨_, by rw [h]⟩
example (st : Proc sha2pcTy) : ∃ d, (Proc.runD (fun i => (toyCfg i).rounds) st toySched 2).out = some d := by
  obtain ⟨m2, es, m3, _, _, h⟩ := C18_hist_correct_partial toyCfg st toySched 2 (toySched_distFail st) (toyCfg_good 2)
    false false false [.e4 true true] (by decide) (by decide) (by decide)
  exact ⟨_, by rw [h]⟩

/-- `Rounds.Sound` (hypothesis of `C18_hist_complete_session`) is satisfiable:
the sha2pc rounds of a toy session. -/
example : ∃ m2 es m3, (toyCfg 1).rounds.Sound (T := sha2pcTy) m2 es m3 (toyCfg 1).result :=
  (toyCfg 1).rounds_sound (toyCfg_good 1)
example (st : Proc sha2pcTy) : ∃ d : Round2 × EvaluatorSession × Round3,
    Proc.runD (fun i => (toyCfg i).rounds) st toySched 1 =
      { m1 := some (toyCfg 1).rounds.r1.1, gs := some (toyCfg 1).rounds.r1.2, m2 := some d.1, es := some d.2.1,
        m3 := some d.2.2, out := some (toyCfg 1).result } := by
  obtain ⟨m2, es, m3, hs⟩ := (toyCfg 1).rounds_sound (toyCfg_good 1)
  exact ⟨(m2, es, m3), C18_hist_complete_session (fun i => (toyCfg i).rounds) st toySched 1 (toySched_distFail st)
    m2 es m3 _ hs true true false [.e4 false true, .e4 false false] (by decide) (by decide) (by decide)⟩

/-- Frame / isolation on the toy history: after round 4 of session 2 nothing
sessions 0 and 1 do afterwards changes its slots; a failed step changes
nothing at all (here: the random source of session 0's round 3 fails inside
the input labels); the state of session 2 is what its undisturbed steps give. -/
example (st : Proc sha2pcTy) :
    Proc.runD (fun i => (toyCfg i).rounds) st
      [⟨1, .e4 false true, none⟩, ⟨0, .g3 true true, some (.rng 99 0)⟩, ⟨0, .e4 true true, none⟩] 2 = st 2 :=
  (C18_hist_frame _).2.1 st _ 2 (by decide)
example (st : Proc sha2pcTy) :
    Proc.stepD (fun i => (toyCfg i).rounds) st ⟨0, .g3 false true, some (.rng 128 1)⟩ = st :=
  (C18_hist_frame _).2.2 st _
    (Proc.unconditional_fails _ (fun i => (toyCfg i).rounds_rejecting (toyCfg_curve i) (toyCfg_parity i)) st _
      (by decide) (by decide))
example (st : Proc sha2pcTy) :
    Proc.runD (fun i => (toyCfg i).rounds) st toySched 2 =
      (st 2).run (toyCfg 2).rounds [.g1, .e2 false, .g3 false false, .e4 true true] :=
  C18_hist_isolation _ st toySched 2 (toySched_distFail st)
example (st : Proc sha2pcTy) :
    Proc.runD (fun i => (toyCfg i).rounds) st toySched =
      Proc.run (fun i => (toyCfg i).rounds) st (cleanSched toySched) :=
  (C18_hist_failures_erased _ st toySched).2 (toySched_distFail st)

/-- Foreign messages: a process holding a garbler state (id 9) for session 0
and a round-2 message of another session (id 1 ≠ 9) for session 1; round 3 of session 0 on that
message is an error. -/
example (st : Proc sha2pcTy) (h0 : (st 0).gs = some toyGS) (h1 : (st 1).m2 = some toyR2) :
    Proc.stepResD (fun i => (toyCfg i).rounds) st ⟨0, .g3 false false, some (.foreignMsg 1)⟩ = some .error :=
  (C18_hist_faults_rejected toyCfg toyCfg_curve toyCfg_parity).2.1 st 0 1 toyGS toyR2 h0 h1 (by decide)
example (st : Proc sha2pcTy) (h0 : (st 0).es = some toyES) (h1 : (st 1).m3 = some toyR3) :
    Proc.stepResD (fun i => (toyCfg i).rounds) st ⟨0, .e4 false false, some (.foreignMsg 1)⟩ = some .error :=
  ((C18_hist_faults_rejected toyCfg toyCfg_curve toyCfg_parity).2.2 st 0 1 toyES toyR3 (by decide)).1 h0 h1

def toyEnvOf (e : Ev) : Env :=
  { procs := [1, 3, 61].getD e.sess 7, gc := if e.dist.isSome then none else some 100, wordBits := 64 }
def toySchedE : List EvE := toySched.map fun e => ⟨e, toyEnvOf e⟩
theorem toySchedE_erase : eraseEnv toySchedE = toySched := eraseEnv_attach _ _

/-- the environment changes between steps of the toy history -/
example : (toySchedE.map (·.env.procs)).take 6 = [1, 3, 3, 1, 1, 61] := by decide

/-- `C18_env_correct_partial`: its hypotheses are satisfiable (the model's own
family on the toy history with per-step environments), conclusion for session 0. -/
example (st : Proc sha2pcTy) :
    (Proc.runE (EnvCfg.const fun i => (toyCfg i).rounds) st toySchedE 0).out =
      some (bitsToBytes (toyCircuit.compute (bytesToBits (List.replicate 32 0x0f) ++ bytesToBits (List.replicate 32 0x35)))) := by
  obtain ⟨m2, es, m3, h⟩ := C18_env_correct_partial (EnvCfg.const fun i => (toyCfg i).rounds) toyCfg st toySchedE 0
    (EnvCfg.const_agrees _ _) (by rw [toySchedE_erase]; exact toySched_distFail st) (toyCfg_good 0)
    false false true [.e4 false false, .e4 true true] (by decide) (by decide) (by rw [toySchedE_erase]; decide)
  rw [h]
  rfl

example (st : Proc sha2pcTy) :
    Proc.runE (EnvCfg.const fun i => (toyCfg i).rounds) st toySchedE = Proc.runD (fun i => (toyCfg i).rounds) st toySched := by
  rw [(C18_env_model_has_no_parameter toyCfg).2.1 st toySchedE, toySchedE_erase]

/-- `C18_env_hist_eq`: the hypothesis is satisfiable by an implementation that
is NOT constant (`splitImpl` in environments whose worker count divides the
batch), and not by every implementation (the same with round 3 under 3 CPUs). -/
example : splitImpl.AgreesOn (fun _ => splitRounds 1) (splitSched 2 4) := splitImpl_agrees _ (by decide)
example : ¬ splitImpl.AgreesOn (fun _ => splitRounds 1) (splitSched 2 3) := by
  intro h
  have h' := (C18_env_hist_eq splitImpl _ (fun _ => {}) _ h).1
  have h3 := C18_env_dependence_witness.2.2.2.2.1
  have h1 := C18_env_dependence_witness.2.2.2.2.2
  rw [h'] at h3
  rw [h1] at h3
  cases h3

/-- Off-curve coordinates exist in the toy group: `(1, 1)` is not a curve point. -/
example : toyCrypto.ofPt ⟨1, 1⟩ = none ∧ (toyCrypto.ofPt ⟨1, 0⟩).isSome := by decide

end Mpc
