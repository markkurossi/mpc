/-
Property C03 — package-level declarations (`var`, `const`, named types of
package `main`) and their shadowing by parameters, named results and locals.

The quantifier of C03 names shadowing; the program class judged by the
translation validation (checks/C03.py, harness/cmd/c03/gen_pkg.go) includes
package-level names used directly in `main` and in callees, shadowed by
parameters and function-level locals of a different or the same type, read and
assigned before / inside / after data-dependent branches and unrolled loops.
The oracle for that class is `Mpcl.runPkgRaw` (`Model/MpclPkg.lean`): every
function body starts by declaring the package-level names its parameters do not
hide, with their start values; the theorems below say what that means for
lookups, shadowing and assignment.
-/
import MpcVerif.Proofs.MpclPkg

namespace Mpc
open Mpcl

/-- No package-level declarations: the package means what its function list
means (conservative extension; every theorem about `run` applies). -/
theorem C03_pkg_conservative (P : Prog) (fuel main : Nat) (args : List Nat) (vs : List Val) :
    runPkgRaw ⟨[], P⟩ fuel main args = runRaw P fuel main args ∧
    runPkg ⟨[], P⟩ fuel main vs = run P fuel main vs := by
  simp [runPkgRaw, runPkg, elab_nil]

example : runPkgRaw ⟨[], [⟨[("a", .uint 8)], 1, [.ret [.bin .add (.var "a") (.var "a")]]⟩]⟩ 9 0 [200] =
    some [(144, 8)] := by decide +kernel

/-- Every function body of a package with well-formed declarations runs in the
scope `globalScope`: the visible package-level names bound to their start
values, then the parameters.  (Left: what `runPkg` executes, from the parameter
scope `sc`; the prelude consumes one unit of fuel per visible declaration.) -/
theorem C03_pkg_prelude_env (P : Prog) (gs : List GDecl) (fn : Func) (sc : Scope) (f : Nat)
    (hok : ∀ g ∈ gs, g.ok = true) :
    ∃ gsc, globalScope (visibleGlobals gs fn.params) sc = some gsc ∧
      execB P (f + 2 + (visibleGlobals gs fn.params).length) (elabFunc gs fn).body [sc] =
        execB P (f + 2) fn.body [gsc] := by
  obtain ⟨gsc, h1, h2⟩ := exec_prelude P fn.body f (visibleGlobals gs fn.params) sc
    fun g hg => hok g (List.mem_filter.1 hg).1
  exact ⟨gsc, h1, Nat.add_right_comm f 2 _ ▸ h2⟩

example : (∀ g ∈ [(⟨"base", .uint 32, some 42, false⟩ : GDecl)], g.ok = true) := by decide

/-- A parameter name (`visibleGlobals` filters the declarations of that name) keeps its binding. -/
theorem C03_pkg_param_shadows (gs : List GDecl) (ps : List (String × Ty)) (sc gsc : Scope) (x : String)
    (hx : (ps.map (·.1)).contains x = true)
    (h : globalScope (visibleGlobals gs ps) sc = some gsc) :
    Scope.lookup gsc x = Scope.lookup sc x := by
  refine globalScope_lookup_other _ _ _ _ h fun g hg e => ?_
  have h2 := (List.mem_filter.1 hg).2
  rw [e, hx] at h2
  cases h2

example : globalScope (visibleGlobals [⟨"a", .uint 8, some 7, false⟩] [("a", .int 4)]) [("a", .num true 4 3)] =
    some [("a", .num true 4 3)] := rfl

/-- A visible package-level name is bound to its declared start value. -/
theorem C03_pkg_global_value (gs : List GDecl) (sc gsc : Scope) (g : GDecl)
    (hd : distinctNames (gs.map (·.x)) = true) (hg : g ∈ gs)
    (h : globalScope gs sc = some gsc) :
    Scope.lookup gsc g.x = g.val := by
  induction gs generalizing sc with
  | nil => cases hg
  | cons g0 gs ih =>
    simp only [List.map_cons, distinctNames, Bool.and_eq_true, Bool.not_eq_true', List.contains_eq_mem,
      List.mem_map, decide_eq_false_iff_not, not_exists, not_and] at hd
    obtain ⟨v, hv, h⟩ := globalScope_cons g0 gs sc gsc h
    rcases List.mem_cons.1 hg with rfl | hin
    · -- no later declaration has the name of `g`, so its binding stays on top of `sc`
      rw [globalScope_lookup_other gs _ gsc g.x h hd.1, hv]
      exact if_pos rfl
    · exact ih _ hd.2 hin h

example : globalScope [⟨"k", .int 8, some 5, true⟩, ⟨"z", .arr 2 (.uint 4), none, false⟩] [("a", .bool true)] =
    some [("z", .agg [.num false 4 0, .num false 4 0]), ("k", .num true 8 5), ("a", .bool true)] := rfl

/-- Lookup order: the local scopes (innermost first) are consulted before the
package-level scope `g`. -/
theorem C03_pkg_lookup_order (locals : Env) (g : Scope) (x : String) :
    Env.lookup (locals ++ [g]) x = match Env.lookup locals x with
      | some v => some v
      | none => Scope.lookup g x := by
  rw [env_lookup_append]
  cases Env.lookup locals x with
  | some v => rfl
  | none =>
    simp only [Env.lookup]
    cases Scope.lookup g x <;> rfl

example : Env.lookup ([[("v", .bool true)]] ++ [[("v", .bool false), ("w", .bool false)]]) "w" = some (.bool false) ∧
    Env.lookup ([[("v", .bool true)]] ++ [[("v", .bool false), ("w", .bool false)]]) "v" = some (.bool true) :=
  ⟨rfl, rfl⟩

/-- A local `var x` declared after (= in front of) a package-level `x`: reads
see the local, an assignment updates the local and nothing else - in
particular the package-level binding below keeps its value, whatever
statements (branches, loops) follow: no merge may select it. -/
theorem C03_pkg_local_shadows (env : Env) (x : String) (v v' : Val) :
    (env.declare x v).lookup x = some v ∧
    (env.declare x v).set x v' = some (env.declare x v') ∧
    ∀ y, y ≠ x → (env.declare x v).lookup y = env.lookup y :=
  ⟨lookup_declare_same env x v, set_declare_same env x v v', fun y h => lookup_declare_other env x y v h⟩

/-- testsuite/lang/var3.mpcl: `var base uint32 = 42; main(a, b uint32) = base + a + b`. -/
def pVar3 : Pkg :=
  ⟨[⟨"base", .uint 32, some 42, false⟩],
   [⟨[("a", .uint 32), ("b", .uint 32)], 1, [.ret [.bin .add (.bin .add (.var "base") (.var "a")) (.var "b")]]⟩]⟩

/-- A package-level `lim` used by the callee, shadowed in `main` by a local of
the same name; an `if` that does not touch it follows; the local is read after
the `if`:

    var lim int8 = 100
    const step = 3
    func clamp(v int8) int8 { if v > lim { return lim }; return v }
    func main(a, b int8) (int8, int8, int8) {
        t := lim                 // the package-level one
        var lim int8 = a + step  // shadows
        r := b
        if a > b { r = a; lim = lim + 1 }
        return lim + r, clamp(b), t
    }
-/
def pShadow : Pkg :=
  ⟨[⟨"lim", .int 8, some 100, false⟩, ⟨"step", .int 8, some 3, true⟩],
   [⟨[("v", .int 8)], 1,
      [.ifte (.bin .gt (.var "v") (.var "lim")) [.ret [.var "lim"]] [], .ret [.var "v"]]⟩,
    ⟨[("a", .int 8), ("b", .int 8)], 3,
      [.define ["t"] (.var "lim"),
       .decl "lim" (.int 8) (some (.bin .add (.var "a") (.var "step"))),
       .define ["r"] (.var "b"),
       .ifte (.bin .gt (.var "a") (.var "b"))
         [.assign [⟨"r", []⟩] (.var "a"), .assign [⟨"lim", []⟩] (.bin .add (.var "lim") (.lit (.int 8) 1))] [],
       .ret [.bin .add (.var "lim") (.var "r"), .call 0 [.var "b"], .var "t"]]⟩]⟩

theorem C03_pkg_shipped_vectors :
    runPkgRaw pVar3 9 0 [0, 0] = some [(42, 32)] ∧
    runPkgRaw pVar3 9 0 [1, 2] = some [(45, 32)] ∧
    -- a = 7 > b = 3: lim = 7 + 3 + 1 = 11, r = 7; clamp(3) = 3; t = 100
    runPkgRaw pShadow 20 1 [7, 3] = some [(18, 8), (3, 8), (100, 8)] ∧
    -- a = 2 <= b = 5: lim = 5, r = 5
    runPkgRaw pShadow 20 1 [2, 5] = some [(10, 8), (5, 8), (100, 8)] ∧
    -- clamp reads the package-level lim: clamp(120) = 100
    runPkgRaw pShadow 20 1 [1, 120] = some [(124, 8), (100, 8), (100, 8)] := by
  decide +kernel

example : pShadow.ok 1 = true ∧ pVar3.ok 0 = true := by decide +kernel

/-- The class `Pkg.ok` (on which per-activation copies of the package-level
variables are Go's shared store): accepted - `main` assigning a package-level
variable no callee refers to; rejected - a callee assigning one, an assignment
to a constant, a callee referring to a variable `main` assigns.  A local of the
same name does not count (the analysis follows the scoping). -/
theorem C03_pkg_ok_class :
    let g : List GDecl := [⟨"g", .uint 8, some 1, false⟩, ⟨"k", .uint 8, some 2, true⟩]
    let ret : Stmt := .ret [.var "a"]
    let setg : Stmt := .assign [⟨"g", []⟩] (.var "a")
    -- main assigns g, the callee does not mention it
    Pkg.ok ⟨g, [⟨[("a", .uint 8)], 1, [ret]⟩, ⟨[("a", .uint 8)], 1, [setg, .ret [.call 0 [.var "g"]]]⟩]⟩ 1 = true ∧
    -- the callee assigns its own local g
    Pkg.ok ⟨g, [⟨[("a", .uint 8)], 1, [.decl "g" (.uint 8) none, setg, ret]⟩,
                ⟨[("a", .uint 8)], 1, [setg, .ret [.call 0 [.var "g"]]]⟩]⟩ 1 = true ∧
    -- the callee assigns the package-level g
    Pkg.ok ⟨g, [⟨[("a", .uint 8)], 1, [setg, ret]⟩, ⟨[("a", .uint 8)], 1, [.ret [.call 0 [.var "a"]]]⟩]⟩ 1 = false ∧
    -- the callee reads the g that main assigns
    Pkg.ok ⟨g, [⟨[("a", .uint 8)], 1, [.ret [.var "g"]]⟩,
                ⟨[("a", .uint 8)], 1, [setg, .ret [.call 0 [.var "a"]]]⟩]⟩ 1 = false ∧
    -- assignment to a constant
    Pkg.ok ⟨g, [⟨[("a", .uint 8)], 1, [.assign [⟨"k", []⟩] (.var "a"), ret]⟩]⟩ 0 = false ∧
    -- a shadowing declaration inside a block ends with the block
    Pkg.ok ⟨g, [⟨[("a", .uint 8)], 1, [.ifte (.lit .bool 1) [.decl "g" (.uint 8) none] [], setg, ret]⟩,
                ⟨[("a", .uint 8)], 1, [.ret [.call 0 [.var "a"]]]⟩]⟩ 1 = false := by
  decide +kernel

end Mpc
