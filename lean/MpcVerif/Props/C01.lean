/-
C01  Garbled evaluation equals plain evaluation for every circuit.

Quantification: every hash-function pair `H` (hence every AES key of every
size, AES being one particular function), every offset `r` with the select
bit set (Garble forces it with `SetS(true)`), every choice `inl` of input
zero-labels (all label randomness, hence every combination of
point-and-permute bits), every well-formed circuit, every input.
-/
import MpcVerif.Proofs.GarbleTape

namespace Mpc
open LabelAlg

variable {L : Type} [LabelAlg L]

/-- Main statement.  For a well-formed circuit the evaluator takes no error
branch and on every defined wire `w` (inputs and all gate outputs, hence all
output wires) the garbler's pair satisfies `l1 = l0 ⊕ r` and the evaluated
label is the label of the bit that plain gate-by-gate evaluation gives. -/
theorem C01_garbled_eq_plain (H : Hash L) (c : Circuit) (r : L) (hr : sbit r = true)
    (inl : Nat → L) (x : List Bool) (hwf : c.WF = true) :
    ∃ out, c.evalGarbled H (c.garble H r inl).rows (encodeInputs c (c.garble H r inl) x) = .ok out ∧
      ∀ w, c.defined w = true →
        ((c.garble H r inl).wires.get w).l1 = ((c.garble H r inl).wires.get w).l0 ^^^ r ∧
        out.get w = ((c.garble H r inl).wires.get w).labelFor ((c.plainEval x).get w) := by
  have hin := garble_input_wires H c r inl hwf
  obtain ⟨hnin, _, hwfg, _⟩ := c.WF_iff.mp hwf
  have hinv0 : Inv r c.inputDefined
      ((Array.range c.numWires).map fun i => if i < c.nIn then ⟨inl i, inl i ^^^ r⟩ else default)
      (encodeInputs c (c.garble H r inl) x) (initStore c.numWires false (x.take c.nIn)) := by
    intro w hw
    have hw : w < c.nIn := of_decide_eq_true hw
    have hwn : w < c.numWires := Nat.lt_of_lt_of_le hw hnin
    rw [encodeInputs, initStore, get_range_map _ _ _ hwn, get_range_map _ _ _ hwn,
      get_range_map _ _ _ hwn, hin w hw, if_pos hw, if_pos hw, getD_take_lt _ _ _ _ hw]
    exact ⟨rfl, rfl⟩
  obtain ⟨ew', hev, _, hinv⟩ := gates_lockstep H r hr c.numWires c.gates c.inputDefined _ _ _ 0
    (by simp) (by simp [encodeInputs]) (by simp [initStore]) hwfg hinv0
  have hev' : evalGates H c.gates (c.garble H r inl).rows (encodeInputs c (c.garble H r inl) x) 0 =
      .ok (ew', _) := hev
  exact ⟨ew', by rw [Circuit.evalGarbled, hev'], hinv⟩

/-- Every evaluated label on a defined wire is one of that wire's two labels
and the two are distinct. -/
theorem C01_label_is_one_of_two (H : Hash L) (c : Circuit) (r : L) (hr : sbit r = true)
    (inl : Nat → L) (x : List Bool) (hwf : c.WF = true) :
    ∃ out, c.evalGarbled H (c.garble H r inl).rows (encodeInputs c (c.garble H r inl) x) = .ok out ∧
      ∀ w, c.defined w = true →
        (out.get w = ((c.garble H r inl).wires.get w).l0 ∨
         out.get w = ((c.garble H r inl).wires.get w).l1) ∧
        ((c.garble H r inl).wires.get w).l0 ≠ ((c.garble H r inl).wires.get w).l1 := by
  obtain ⟨out, h1, h2⟩ := C01_garbled_eq_plain H c r hr inl x hwf
  exact ⟨out, h1, fun w hw => ⟨Rel.one_of (h2 w hw), Rel.ne (h2 w hw) hr⟩⟩

/-- `BitFromLabel` on the evaluated label of any defined wire never fails and
returns exactly the plain-evaluation bit. -/
theorem C01_decode [DecidableEq L] (H : Hash L) (c : Circuit) (r : L) (hr : sbit r = true)
    (inl : Nat → L) (x : List Bool) (hwf : c.WF = true) :
    ∃ out, c.evalGarbled H (c.garble H r inl).rows (encodeInputs c (c.garble H r inl) x) = .ok out ∧
      ∀ w, c.defined w = true →
        ((c.garble H r inl).wires.get w).bitFrom (out.get w) = some ((c.plainEval x).get w) := by
  obtain ⟨out, h1, h2⟩ := C01_garbled_eq_plain H c r hr inl x hwf
  exact ⟨out, h1, fun w hw => Rel.bitFrom (h2 w hw) hr⟩

/-- The output bits the library's plain evaluator returns are the plain
gate-by-gate values of the output wires (the last `nOut` wires), which by
`C01_decode` are the bits the garbled evaluation decodes to. -/
theorem C01_compute_eq_plain (c : Circuit) (x : List Bool) (i : Nat) (hi : i < c.nOut) :
    (c.compute x)[i]? = some ((c.plainEval x).get (c.numWires - c.nOut + i)) := by
  simp [Circuit.compute, Circuit.outputs, hi]

/-- The garbler's final tweak counter is the sum of the gates' tweak counts
(= `tweakTotal gs`, Model/GarbleBig.lean), whatever the gate mix; that the
evaluator's counter ends at the same value is the first conjunct of
`gates_lockstep`. -/
theorem C01_tweaks_in_step (H : Hash L) (r : L) (gs : List Gate) (ws : Store (WireL L)) :
    (garbleGates H r gs ws 0).2.1 = (gs.map (fun g => g.op.tweaks)).sum := by
  simpa using garbleGates_id H r gs ws 0

/-- The theorem applies to the executed instance: `BitVec 128`, any block
function `π` (AES under any key of any size is one), `r` after `SetS(true)`. -/
theorem C01_concrete (π : BitVec 128 → BitVec 128) (c : Circuit) (r0 : BitVec 128)
    (inl : Nat → BitVec 128) (x : List Bool) (hwf : c.WF = true) :
    ∃ out, c.evalGarbled (hashOf π) (c.garble (hashOf π) (setS r0) inl).rows
        (encodeInputs c (c.garble (hashOf π) (setS r0) inl) x) = .ok out ∧
      ∀ w, c.defined w = true →
        ((c.garble (hashOf π) (setS r0) inl).wires.get w).bitFrom (out.get w) =
          some ((c.plainEval x).get w) :=
  C01_decode (hashOf π) c (setS r0) (setS_msb r0) inl x hwf

/-! Non-vacuity: a well-formed circuit that uses every gate kind, reuses a
wire as both inputs of one gate, and has fan-out. -/
def exampleCircuit : Circuit :=
  { numWires := 8, nIn := 2, nOut := 2,
    gates := [⟨.and, 0, 1, 2⟩, ⟨.or, 0, 2, 3⟩, ⟨.inv, 3, 0, 4⟩, ⟨.xor, 4, 4, 5⟩,
              ⟨.xnor, 5, 1, 6⟩, ⟨.and, 6, 6, 7⟩] }

example : exampleCircuit.WF = true := by decide
example : exampleCircuit.outputsDefined = true := by decide
example : exampleCircuit.compute [true, false] = [true, true] := by decide +kernel

/-! ## The boundaries of "every circuit"

The theorems above hold for every circuit: no size occurs in them.  The code
has sizes: the `[4]ot.Label` stack table and its `(start, count)` slice, the
table slab (`garbleScratchPool`) with its running offset, the wire slice, the
`uint32` tweak counter.  This section states, for every circuit, where the list
model meets those buffers and counters (Model/GarbleBig.lean), and that the
constant-stack loops which the driver executes on big circuits are the model.
The examples below are small (`decide +kernel` does not reach 10^6 gates); the
instances around 2^16 and 2^20 table labels / gates / wires are run by the
compiled driver against the real code (harness/cmd/c01/ext.go). -/

/-- The loops the driver executes on big circuits are the model: the
tail-recursive gate loop, the array-based input encoding and plain evaluation. -/
theorem C01_driver_paths (H : Hash L) (c : Circuit) (r : L) (inl : Nat → L) (x : List Bool) :
    c.garbleTR H r inl = c.garble H r inl ∧
    encodeInputsFast c (c.garble H r inl) x = encodeInputs c (c.garble H r inl) x ∧
    c.computeFast x = c.compute x :=
  ⟨garbleTR_eq c H r inl, encodeInputsFast_eq c _ x, computeFast_eq c x⟩

example : exampleCircuit.computeFast [true, false] = [true, true] := by decide +kernel

/-- The rows of a gate are the slice `table[start : start+count]` of the stack
table that `garbleInto` fills, with `start = 1` for the row-reduced OR / INV
tables, whose slot 0 - the row that is not transmitted - is all zero. -/
theorem C01_rows_are_table_slice (H : Hash L) (r : L) (op : Op) (a b : WireL L) (id : Nat) :
    (garbleCore H r op a b id).2 = tabSlice (garbleSlots H r op a b id) op.start op.rows ∧
    ((op = .or ∨ op = .inv) → garbleSlots H r op a b id 0 = (LabelAlg.zero : L)) :=
  ⟨garbleCore_rows_slice H r op a b id, garbleSlots_row0_zero H r op a b id⟩

example : Op.or.start = 1 ∧ Op.or.rows = 3 ∧ Op.inv.start = 1 ∧ Op.inv.rows = 1 ∧
    Op.and.start = 0 ∧ Op.and.rows = 2 := by decide

/-- The table slab: for every circuit the gate loop writes exactly `slabSize`
labels (no overflow, no unused tail), gate `i` owns the view
`slab[slabOff i : slabOff i + rows(op i)]`, the views follow one another, and
reading a view back gives the gate's table - wherever in the slab it lies. -/
theorem C01_slab_exact (H : Hash L) (c : Circuit) (r : L) (inl : Nat → L) :
    (c.garble H r inl).slab.length = slabSize c.gates ∧
    slabOff c.gates c.gates.length = slabSize c.gates ∧
    ∀ i (h : i < c.gates.length),
      slabOff c.gates (i + 1) = slabOff c.gates i + (c.gates[i]).op.rows ∧
      (c.garble H r inl).rows[i]? =
        some (slabView (c.garble H r inl).slab (slabOff c.gates i) (c.gates[i]).op.rows) := by
  refine ⟨garble_slab_length c H r inl, slabOff_length c.gates, fun i h => ⟨slabOff_succ c.gates i h, ?_⟩⟩
  rw [garble_slab_view c H r inl i h]
  exact List.getElem?_eq_getElem _

example : slabSize exampleCircuit.gates = 8 ∧ slabOff exampleCircuit.gates 2 = 5 := by decide

/-- Structural self-check of a garbling: the number of transmitted rows per
gate kind (and hence their total) is fixed by the circuit alone. -/
theorem C01_rows_per_kind (H : Hash L) (c : Circuit) (r : L) (inl : Nat → L) (k : Op) :
    rowsOfKind k c.gates (c.garble H r inl).rows = rowsOfKindSpec k c.gates ∧
    rowsOfKindSpec .and c.gates + rowsOfKindSpec .or c.gates + rowsOfKindSpec .inv c.gates +
      rowsOfKindSpec .xor c.gates + rowsOfKindSpec .xnor c.gates = slabSize c.gates :=
  ⟨rowsOfKind_of_lengths k _ _ (garble_rows_lengths c H r inl), rowsOfKindSpec_total c.gates⟩

example : rowsOfKindSpec .and exampleCircuit.gates = 4 ∧ rowsOfKindSpec .or exampleCircuit.gates = 3 ∧
    rowsOfKindSpec .inv exampleCircuit.gates = 1 ∧ rowsOfKindSpec .xor exampleCircuit.gates = 0 := by decide

/-- The tweak counter.  The model counts tweaks in `Nat`, the code in a
`uint32`: at every gate of every circuit the `uint32` counter is the `Nat`
counter mod 2^32, and as long as the circuit consumes fewer than 2^32 tweaks
(fewer than 2^31 AND gates) the two are equal at every gate. -/
theorem C01_tweak_counter_u32 (gs : List Gate) :
    (∀ i, tweaksU32 (gs.take i) 0 = tweakTotal (gs.take i) % 2 ^ 32) ∧
    (tweakTotal gs < 2 ^ 32 → ∀ i, tweaksU32 (gs.take i) 0 = tweakTotal (gs.take i)) := by
  constructor
  · intro i
    simpa using tweaksU32_mod (gs.take i) 0
  · intro h i
    have := tweakTotal_take_le gs i
    exact (tweaksU32_exact (gs.take i) 0 (by omega)).trans (by simp)

example : tweakTotal exampleCircuit.gates = 6 ∧ tweaksU32 exampleCircuit.gates 0 = 6 := by decide

theorem hashOf_congr_tweak (π : BitVec 128 → BitVec 128) (x a b : BitVec 128) {t t' : Nat}
    (h : tweak t = tweak t') :
    (hashOf π).h1 x t = (hashOf π).h1 x t' ∧ (hashOf π).h2 a b t = (hashOf π).h2 a b t' := by
  simp only [hashOf, makeKHalf, makeK, h, and_self]

/-- The executed hash functions see the counter only mod 2^32 (`ot.NewTweak`
takes a `uint32`), so garbling with the `Nat` counter is garbling with the
wrapping counter of the code, for every circuit. -/
theorem C01_tweak_hash_mod (π : BitVec 128 → BitVec 128) (x a b : BitVec 128) (t : Nat) :
    (hashOf π).h1 x (t % 2 ^ 32) = (hashOf π).h1 x t ∧
    (hashOf π).h2 a b (t % 2 ^ 32) = (hashOf π).h2 a b t :=
  hashOf_congr_tweak π x a b (congrArg (BitVec.ofNat 128) (Nat.mod_mod t _))

/-- Witness for the bound: two gates 2^32 tweaks apart share their tweak (the
hash inputs coincide), and after `n = 2^31` AND gates the `uint32` counter is
back at 0 while the `Nat` counter is 2^32.  Correctness (C01) does not depend
on tweaks being distinct - the theorems hold for every `H` - but this is the
size at which the model's counter and the code's counter part. -/
theorem C01_tweak_wrap_shares (π : BitVec 128 → BitVec 128) (x a b : BitVec 128) (t : Nat) :
    (hashOf π).h1 x (t + 2 ^ 32) = (hashOf π).h1 x t ∧
    (hashOf π).h2 a b (t + 2 ^ 32) = (hashOf π).h2 a b t ∧
    ∃ n, tweaksU32 (List.replicate n ⟨.and, 0, 1, 2⟩) 0 = 0 ∧
      tweakTotal (List.replicate n ⟨.and, 0, 1, 2⟩) = 2 ^ 32 := by
  have h := hashOf_congr_tweak π x a b
    (congrArg (BitVec.ofNat 128) (Nat.add_mod_right t (2 ^ 32)) : tweak (t + 2 ^ 32) = tweak t)
  exact ⟨h.1, h.2, 2 ^ 31, tweaksU32_replicate .., tweakTotal_replicate ..⟩

example : tweaksU32 (List.replicate 3 ⟨.and, 0, 1, 2⟩) 0 = 6 := by decide

/-- Local characterisation of a garbling (the tie at sizes where garbling the
whole circuit in the model does not fit the budget): in a circuit in which
every gate writes a fresh wire, the output pair and the table of gate `i` of
ANY garbling are `garbleCore` on the final pairs of the gate's input wires,
with the tweak the counter has when the loop reaches the gate.  The harness
samples gates of the real garbling (around every buffer boundary) and the
driver recomputes exactly this step. -/
theorem C01_garble_local (H : Hash L) (c : Circuit) (r : L) (inl : Nat → L)
    (hsa : c.singleAssign) (i : Nat) (h : i < c.gates.length) :
    c.localStep H r (c.garble H r inl).wires i =
      ((c.garble H r inl).wires.get (c.gates[i]).out, (c.garble H r inl).rows[i]?.getD []) ∧
    (tweakPrefix c.gates).getD i 0 = tweakTotal (c.gates.take i) :=
  ⟨garble_local c H r inl hsa i h, tweakPrefix_getD c.gates i h⟩

instance (c : Circuit) : Decidable c.singleAssign := by
  unfold Circuit.singleAssign; infer_instance

example : exampleCircuit.singleAssign := by decide
example : tweakPrefix exampleCircuit.gates = #[0, 2, 3, 4, 4, 4] := by decide +kernel

/-! ## The input width: every input wire gets its pair from the random stream

`Circuit.Garble` draws `R` and one zero-label per input wire from ONE stream
(Model/GarbleTape.lean): slot 0 is `R`, slot `i + 1` belongs to input wire `i`.
The theorems of the first section take `r` and `inl` as given; this section
states, for EVERY input width, that the garbling from a stream assigns every
input wire - the last one as well as the first - the pair `(slot, slot ⊕ R)`,
that the stream must hold `1 + nIn` labels and no more are looked at, and that
the number of labels fetched per read does not matter.  The harness
(harness/cmd/c01/ext.go, dimension `inputs`) runs circuits in which every input
wire reaches the outputs, checks `l1 = l0 ⊕ R` on every wire of the real
`Garbled` value and ties the wire pairs to `garbleSlotsTR` byte for byte. -/

/-- Every input wire is assigned, by construction: for every well-formed
circuit of any input width and every stream holding at least `1 + nIn` labels,
`Garble` succeeds, `R` is slot 0 after `SetS(true)`, and input wire `i` carries
exactly the pair `(slot (i+1), slot (i+1) ⊕ R)`. -/
theorem C01_every_input_wire_assigned (H : Hash L) (c : Circuit) (fixS : L → L) (tape : List L)
    (hwf : c.WF = true) (hlen : 1 + c.nIn ≤ tape.length) :
    ∃ G, c.garbleTape H fixS tape = some G ∧ G.r = fixS (tape[0]'(by omega)) ∧
      ∀ i (hi : i < c.nIn), G.wires.get i = ⟨tape[i + 1]'(by omega), tape[i + 1]'(by omega) ^^^ G.r⟩ := by
  have hr : (c.garbleSlots H fixS (fun k => tape.getD k default)).r = fixS (tape[0]'(by omega)) :=
    congrArg fixS (List.getElem_eq_getD default).symm
  refine ⟨_, garbleTape_some c H fixS tape hlen, hr, fun i hi => ?_⟩
  rw [List.getElem_eq_getD default, Circuit.garbleSlots, garble_input_wires H c _ _ hwf i hi]
  rfl

example : exampleCircuit.WF = true ∧ 1 + exampleCircuit.nIn ≤ [1#128, 2#128, 3#128].length := by decide

/-- With the select bit of `R` forced (`SetS(true)`), the two labels of every
input wire differ and are `R` apart - in particular no input wire is left with
the all-zero pair of a fresh buffer or with a pair that belongs to another `R`. -/
theorem C01_input_pairs_offset (H : Hash L) (c : Circuit) (fixS : L → L) (hfix : ∀ x, sbit (fixS x) = true)
    (tape : List L) (hwf : c.WF = true) (hlen : 1 + c.nIn ≤ tape.length) :
    ∃ G, c.garbleTape H fixS tape = some G ∧ sbit G.r = true ∧
      ∀ i, i < c.nIn → (G.wires.get i).l1 = (G.wires.get i).l0 ^^^ G.r ∧
        (G.wires.get i).l0 ≠ (G.wires.get i).l1 ∧
        ¬ ((G.wires.get i).l0 = LabelAlg.zero ∧ (G.wires.get i).l1 = LabelAlg.zero) := by
  obtain ⟨G, hG, hr, hw⟩ := C01_every_input_wire_assigned H c fixS tape hwf hlen
  have hs : sbit G.r = true := by rw [hr]; exact hfix _
  refine ⟨G, hG, hs, fun i hi => ?_⟩
  rw [hw i hi]
  have hne := ne_xor_of_sbit (tape[i + 1]'(by omega)) G.r hs
  exact ⟨rfl, hne, fun hz => hne (hz.1.trans hz.2.symm)⟩

example : ∀ x : BitVec 128, sbit (setS x) = true := setS_msb

/-- A stream shorter than `1 + nIn` labels makes `Garble` fail (no partly
assigned garbling is returned), whatever the input width. -/
theorem C01_short_stream_fails (H : Hash L) (c : Circuit) (fixS : L → L) (tape : List L)
    (hshort : tape.length < 1 + c.nIn) : c.garbleTape H fixS tape = none :=
  garbleTape_none c H fixS tape hshort

example : [1#128, 2#128].length < 1 + exampleCircuit.nIn := by decide

/-- The batch size of the reads is irrelevant: a garbler that fetches its
`1 + nIn` labels in batches of at most `b` labels per read (any `b > 0`, any
input width - in particular widths that are a multiple of `b`, one below, one
above) obtains the first `1 + nIn` labels of the stream and hence the same
garbling as the garbler that reads one label at a time. -/
theorem C01_batch_size_irrelevant (H : Hash L) (c : Circuit) (fixS : L → L) (tape : List L)
    (b : Nat) (hb : 0 < b) (hlen : 1 + c.nIn ≤ tape.length) :
    drawBatched b c.slotsUsed tape = tape.take (1 + c.nIn) ∧
    c.garbleTape H fixS (drawBatched b c.slotsUsed tape) = c.garbleTape H fixS tape := by
  have hd : drawBatched b c.slotsUsed tape = tape.take (1 + c.nIn) := by
    rw [drawBatched_eq_take b hb]; rfl
  refine ⟨hd, ?_⟩
  rw [hd, garbleTape_some c H fixS tape hlen,
    garbleTape_some c H fixS _ (by rw [List.length_take]; omega)]
  congr 1
  apply garbleSlots_congr
  intro k hk
  exact getD_take_lt tape _ k default hk

example : drawBatched 2 5 [1, 2, 3, 4, 5, 6, 7] = [1, 2, 3, 4, 5] ∧ drawBatched 4 4 [1, 2, 3, 4, 5] = [1, 2, 3, 4] ∧
    drawBatched 4 5 [1, 2, 3, 4, 5, 6] = [1, 2, 3, 4, 5] := by decide

/-- The slot-based garbling the driver executes (constant-stack gate loop) is
the model, for every circuit and stream. -/
theorem C01_driver_slots (H : Hash L) (c : Circuit) (fixS : L → L) (slot : Nat → L) :
    c.garbleSlotsTR H fixS slot = c.garbleSlots H fixS slot ∧
    (c.garbleSlots H fixS slot).r = fixS (slot 0) :=
  ⟨garbleSlotsTR_eq c H fixS slot, rfl⟩

example : (exampleCircuit.garbleSlotsTR (hashOf id) setS (fun k => BitVec.ofNat 128 k)).r = setS 0#128 := by
  rw [(C01_driver_slots _ _ _ _).1, (C01_driver_slots _ _ _ _).2]

end Mpc
